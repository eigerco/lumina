-- GENERATED by ./check from the theorem names in Props/C38.lean. Do not edit.
import Lumina.Props.C38

#print axioms Lumina.Props.C38.slow_sync_min_threshold
#print axioms Lumina.Props.C38.session_constants
#print axioms Lumina.Props.C38.accepted_batch_is_honest
#print axioms Lumina.Props.C38.no_batch_taken_on_faith
#print axioms Lumina.Props.C38.reaction_keeps_store_on_honest_chain
#print axioms Lumina.Props.C38.store_stays_on_honest_chain
#print axioms Lumina.Props.C38.store_stays_on_honest_chain_from
#print axioms Lumina.Props.C38.ex_link_down
#print axioms Lumina.Props.C38.ex_link_up
#print axioms Lumina.Props.C38.ex_honest_chain
#print axioms Lumina.Props.C38.convergence_variant_decreases_partial
#print axioms Lumina.Props.C38.convergence_progress_partial
#print axioms Lumina.Props.C38.honest_answer_is_accepted_partial
#print axioms Lumina.Props.C38.converges_when_honest_peers_answer_partial
#print axioms Lumina.Props.C38.variant_never_increases_whatever_the_event
#print axioms Lumina.Props.C38.honest_answer_strictly_decreases_variant
#print axioms Lumina.Props.C38.side_conditions_hold_along_every_run
#print axioms Lumina.Props.C38.converges_under_fairness_partial
#print axioms Lumina.Props.C38.every_known_head_is_reached_under_fairness_partial
#print axioms Lumina.Props.C38.trace_is_run
#print axioms Lumina.Props.C38.ex_ongoing
#print axioms Lumina.Props.C38.ex_admissible
#print axioms Lumina.Props.C38.ex_below
#print axioms Lumina.Props.C38.ex_synced_tail
#print axioms Lumina.Props.C38.ex_fair
#print axioms Lumina.Props.C38.traceP_is_runP
#print axioms Lumina.Props.C38.traceP_without_removals_is_trace
#print axioms Lumina.Props.C38.pruner_batches_are_admissible_removals
#print axioms Lumina.Props.C38.regime_from_cutoffs
#print axioms Lumina.Props.C38.safe_removals_never_touch_the_sampling_window
#print axioms Lumina.Props.C38.removal_stays_safe_under_interleaving
#print axioms Lumina.Props.C38.removal_leaves_variant_unchanged
#print axioms Lumina.Props.C38.variant_never_increases_with_pruning
#print axioms Lumina.Props.C38.honest_answer_strictly_decreases_variant_with_pruning
#print axioms Lumina.Props.C38.pruned_history_invariant
#print axioms Lumina.Props.C38.repaired_window_gate_costs_no_liveness
#print axioms Lumina.Props.C38.convergence_progress_with_pruning_partial
#print axioms Lumina.Props.C38.side_conditions_hold_along_every_run_with_pruning
#print axioms Lumina.Props.C38.store_stays_on_honest_chain_with_pruning_partial
#print axioms Lumina.Props.C38.converges_under_fairness_with_pruning_partial
#print axioms Lumina.Props.C38.every_known_head_is_reached_with_pruning_partial
#print axioms Lumina.Props.C38.exP_regime
#print axioms Lumina.Props.C38.exP_states
#print axioms Lumina.Props.C38.exP_ongoing
#print axioms Lumina.Props.C38.exP_span_wf
#print axioms Lumina.Props.C38.exP_admissible
#print axioms Lumina.Props.C38.exP_below
#print axioms Lumina.Props.C38.exP_synced_tail
#print axioms Lumina.Props.C38.exP_fair
#print axioms Lumina.Props.C38.stale_network_head_counterexample

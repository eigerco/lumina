-- GENERATED by ./check from the theorem names in Props/C01.lean. Do not edit.
import Lumina.Props.C01

#print axioms Lumina.Props.C01.consts_eq
#print axioms Lumina.Props.C01.commitOut_ok
#print axioms Lumina.Props.C01.validate_ok_iff
#print axioms Lumina.Props.C01.accepted_mutant_header_collision
#print axioms Lumina.Props.C01.accepted_mutant_dah_collision
#print axioms Lumina.Props.C01.accepted_mutant_validator_collision
#print axioms Lumina.Props.C01.mutation_rejects_header_field
#print axioms Lumina.Props.C01.mutation_rejects_dah
#print axioms Lumina.Props.C01.mutation_rejects_data_hash
#print axioms Lumina.Props.C01.mutation_rejects_validator
#print axioms Lumina.Props.C01.mutation_rejects_commit_block_hash
#print axioms Lumina.Props.C01.mutation_rejects_commit_height
#print axioms Lumina.Props.C01.tallied_entry_valid
#print axioms Lumina.Props.C01.preOK_setEntry
#print axioms Lumina.Props.C01.setEntry_get
#print axioms Lumina.Props.C01.both_valid
#print axioms Lumina.Props.C01.mutation_rejects_signature_partial
#print axioms Lumina.Props.C01.mutation_rejects_timestamp_partial
#print axioms Lumina.Props.C01.accepted_loop
#print axioms Lumina.Props.C01.mutation_rejects_signed_commit_field
#print axioms Lumina.Props.C01.map_factor
#print axioms Lumina.Props.C01.validate_ignores_entry_address
#print axioms Lumina.Props.C01.maxExt_eq
#print axioms Lumina.Props.C01.c03Input_eq
#print axioms Lumina.Props.C01.lightOf_eq
#print axioms Lumina.Props.C01.wellFormed_iff
#print axioms Lumina.Props.C01.bound_iff
#print axioms Lumina.Props.C01.widthOK_iff
#print axioms Lumina.Props.C01.honest_accepts
#print axioms Lumina.Props.C01.accepted_binds_structure
#print axioms Lumina.Props.C01.accepted_binds
#print axioms Lumina.Props.C01.tallied_preOK
#print axioms Lumina.Props.C01.mutation_rejects_signature_tallied
#print axioms Lumina.Props.C01.mutation_rejects_timestamp_tallied
#print axioms Lumina.Props.C01.wP_unique
#print axioms Lumina.Props.C01.wP_binds
#print axioms Lumina.Props.C01.wEH_accepted
#print axioms Lumina.Props.C01.mutation_sig_counterexample
#print axioms Lumina.Props.C01.mutation_ts_counterexample
#print axioms Lumina.Props.C01.mutation_addr_counterexample
#print axioms Lumina.Props.C01.injective_hypotheses_satisfiable
#print axioms Lumina.Props.C01.wEHinj_accepted

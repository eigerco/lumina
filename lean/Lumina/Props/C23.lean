/-
  C23 — Redb schema migration preserves stored ranges.

  Model: `Lumina/Model/RedbSchema.lean` (`openDb` = `RedbStore::new`: version gate, both
  migrations, table creation, one write transaction committed on `Ok` / aborted on `Err`).
  Spec : `Lumina/Spec/C23.lean` (`specOpen`, `specReopen`; schema layouts by version, written
  with the literal on-disk names).

  All theorems are for EVERY database snapshot: any schema version, any content of the v1
  table and of `STORE.RANGES` (legal or illegal vectors, any other keys), any combination of
  existing/missing tables.  No size bound.
-/
import Lumina.Proofs.RedbSchema

namespace Lumina.Props.C23
open Lumina.Model.RedbSchema Lumina.Gen.C23 Lumina.Proofs.RedbSchema
open Lumina.Spec.C23

/-- what the spec observes of the model's `RedbStore::new` -/
def obsOf (newId : Nat) (db : Db) : Obs :=
  let r := openDb newId db
  { ok := (match r.2 with
           | .ok _ => true
           | .error _ => false)
    after := r.1
    stored := toOpt (reportStored r.1)
    sampled := toOpt (reportSampled r.1) }

/-- the constants generated from the current source are the numbers / on-disk names the
    property and the old databases use -/
theorem consts_eq :
    SCHEMA_VERSION = 3 ∧ V1V2_GATE = 2 ∧ V1V2_FROM = 1 ∧ V1V2_TARGET = 2 ∧
    V2V3_GATE = 3 ∧ V2V3_FROM = 2 ∧ V2V3_TARGET = 3 ∧
    HEADER_RANGES_KEY = "KEY.HEADER_RANGES" ∧ SAMPLED_RANGES_KEY = "KEY.SAMPLED_RANGES" ∧
    PRUNED_RANGES_KEY = "KEY.PRUNED_RANGES" ∧
    V2_SAMPLED_RANGES_KEY = "KEY.ACCEPTED_SAMPING_RANGES" ∧
    RANGES_TABLE_NAME = "STORE.RANGES" ∧ V1_HEIGHT_RANGES_TABLE_NAME = "STORE.HEIGHT_RANGES" ∧
    SCHEMA_VERSION_TABLE_NAME = "STORE.SCHEMA_VERSION" :=
  ⟨rfl, rfl, rfl, rfl, rfl, rfl, rfl, rfl, rfl, rfl, rfl, rfl, rfl, rfl⟩

/-- the four keys are pairwise different (were the v2 and v3 sampled keys equal, the migration's
    final `remove` would delete the data it had just written) -/
theorem keys_distinct :
    V2_SAMPLED_RANGES_KEY ≠ SAMPLED_RANGES_KEY ∧ V2_SAMPLED_RANGES_KEY ≠ HEADER_RANGES_KEY ∧
    V2_SAMPLED_RANGES_KEY ≠ PRUNED_RANGES_KEY ∧ SAMPLED_RANGES_KEY ≠ HEADER_RANGES_KEY ∧
    SAMPLED_RANGES_KEY ≠ PRUNED_RANGES_KEY ∧ HEADER_RANGES_KEY ≠ PRUNED_RANGES_KEY :=
  ⟨hA_ne_S, hA_ne_H, hP_ne_A.symm, hS_ne_H, hP_ne_S.symm, hP_ne_H.symm⟩

/-! ### the property -/

set_option linter.unusedSimpArgs false

/-- **A database with a newer schema version is refused without modification.** -/
theorem newer_refused (newId : Nat) (db : Db) (v : Nat) (hv : db.version = some v) (hgt : v > 3) :
    openDb newId db = (db, .error (.incompatible v)) := by
  obtain ⟨k, rfl⟩ : ∃ k, v = k + 4 := ⟨v - 4, by omega⟩
  simp [openDb, openTx_eq, hv]

/-- whatever the reason, a refused open leaves the database exactly as it was (the single
    write transaction is aborted) -/
theorem refused_unchanged (newId : Nat) (db : Db) (e : Err) (h : (openDb newId db).2 = .error e) :
    (openDb newId db).1 = db := by
  unfold openDb at h ⊢
  split <;> simp_all

/-- **Opening an older (v1, v2) or current (v3) database whose sampled vector is readable
    succeeds, leaves it at version 3, and the stored and sampled ranges it held are reported
    unchanged** (a stored vector that was unreadable before stays unreadable). -/
theorem migrate_preserves (newId : Nat) (db : Db) (v : Nat) (hv : db.version = some v)
    (h1 : 1 ≤ v) (h3 : v ≤ 3) (hs : heldSampled db ≠ none) :
    ∃ db', openDb newId db = (db', .ok ()) ∧ db'.version = some 3 ∧
      toOpt (reportStored db') = heldStored db ∧ toOpt (reportSampled db') = heldSampled db := by
  have hv' : v = 1 ∨ v = 2 ∨ v = 3 := by omega
  rcases hv' with rfl | rfl | rfl
  · have hleg := legalA_of_held db (Or.inl hv) hs
    exact ⟨afterV1 newId db, by simp [openDb, openTx_eq, hv, hleg], by simp [afterV1, createTables],
      afterV1_reports newId db hv hleg⟩
  · have hleg := legalA_of_held db (Or.inr hv) hs
    exact ⟨afterV2 newId db, by simp [openDb, openTx_eq, hv, hleg], by simp [afterV2, createTables],
      afterV2_reports newId db hv hleg⟩
  · exact ⟨createTables newId db, by simp [openDb, openTx_eq, hv], by simp [createTables, hv],
      createTables_reports newId db hv⟩

/-- a v3 database opens whatever its vectors look like, and both reports are unchanged -/
theorem v3_opens (newId : Nat) (db : Db) (hv : db.version = some 3) :
    openDb newId db = (createTables newId db, .ok ()) ∧
      toOpt (reportStored (createTables newId db)) = heldStored db ∧
      toOpt (reportSampled (createTables newId db)) = heldSampled db :=
  ⟨by simp [openDb, openTx_eq, hv], createTables_reports newId db hv⟩

/-- an old database is refused only when the sampled vector it holds is unreadable (and then
    with a stored-data error); by `refused_unchanged` it is then not modified -/
theorem old_refused_only_if_unreadable (newId : Nat) (db : Db) (v : Nat) (hv : db.version = some v)
    (h1 : 1 ≤ v) (h3 : v ≤ 3) (e : Err) (h : (openDb newId db).2 = .error e) :
    heldSampled db = none ∧ e = .storedData := by
  have hv' : v = 1 ∨ v = 2 ∨ v = 3 := by omega
  rcases hv' with rfl | rfl | rfl
  · rw [heldSampled_v12 db (Or.inl hv)]
    cases hl : legalA db <;> simp [openDb, openTx_eq, hv, hl] at h ⊢
    exact h.symm
  · rw [heldSampled_v12 db (Or.inr hv)]
    cases hl : legalA db <;> simp [openDb, openTx_eq, hv, hl] at h ⊢
    exact h.symm
  · simp [openDb, openTx_eq, hv] at h

/-- **The property, as the spec states it, for every database and every generated identity.** -/
theorem spec_all (newId : Nat) (db : Db) : specOpen db (obsOf newId db) = true := by
  have old : ∀ v, db.version = some v → 1 ≤ v → v ≤ 2 → specOpen db (obsOf newId db) = true := by
    intro v hv h1 h2
    have hv12 : db.version = some 1 ∨ db.version = some 2 := by
      rcases (by omega : v = 1 ∨ v = 2) with rfl | rfl
      · exact Or.inl hv
      · exact Or.inr hv
    cases hl : legalA db with
    | true =>
      have hs : heldSampled db ≠ none := by rw [heldSampled_v12 db hv12, hl]; simp
      obtain ⟨db', hopen, hver, hst, hsa⟩ := migrate_preserves newId db v hv h1 (by omega) hs
      rcases hv12 with hv | hv <;> simp [specOpen, hv, obsOf, hopen, hver, hst, hsa]
    | false =>
      have hs : heldSampled db = none := by rw [heldSampled_v12 db hv12, hl]; simp
      rcases hv12 with hv | hv <;> simp [specOpen, hv, obsOf, openDb, openTx_eq, hl, hs]
  match hv : db.version with
  | none => simp [specOpen, hv, obsOf, openDb, openTx_eq, createTables]
  | some 0 => simp [specOpen, hv]
  | some 1 => exact old 1 hv (by omega) (by omega)
  | some 2 => exact old 2 hv (by omega) (by omega)
  | some 3 =>
    obtain ⟨hopen, hst, hsa⟩ := v3_opens newId db hv
    have hver : (createTables newId db).version = some 3 := by simp [createTables, hv]
    simp [specOpen, hv, obsOf, hopen, hst, hsa, hver]
  | some (v + 4) => simp [specOpen, hv, obsOf, newer_refused newId db (v + 4) hv (by omega)]

/-- **Opening is idempotent:** a database that was opened successfully opens again
    successfully, with nothing changed (whatever key the second open would have generated). -/
theorem open_idempotent (n1 n2 : Nat) (db db' : Db) (h : openDb n1 db = (db', .ok ())) :
    openDb n2 db' = (db', .ok ()) := by
  have hshape : Opened db' := by
    have h' : openTx n1 db = .ok db' := by
      unfold openDb at h; split at h <;> simp_all
    rw [openTx_eq] at h'
    split at h'
    · cases h'; exact createTables_opened _ _ rfl
    · cases h'
    · split at h' <;> cases h'; exact createTables_opened _ _ rfl
    · split at h' <;> cases h'; exact createTables_opened _ _ rfl
    · rename_i hv; cases h'; exact createTables_opened _ _ hv
    · cases h'
  simp [openDb, openTx_eq, hshape.1, createTables_fixed n2 db' hshape]

/-- the spec's re-open clause holds of the model -/
theorem reopen_spec (n1 n2 : Nat) (db : Db) (h : (obsOf n1 db).ok = true) :
    specReopen (obsOf n1 db).after (obsOf n2 (obsOf n1 db).after).ok (obsOf n2 (obsOf n1 db).after).after = true := by
  have hopen : openDb n1 db = ((openDb n1 db).1, .ok ()) := by
    simp only [obsOf] at h
    cases hr : (openDb n1 db).2 with
    | error e => rw [hr] at h; simp at h
    | ok u => cases u; exact Prod.ext rfl hr
  have h2 := open_idempotent n1 n2 db _ hopen
  simp [specReopen, obsOf, h2]

/-- the open never touches the pruned ranges or any unrelated key of `STORE.RANGES` -/
theorem other_keys_untouched (newId : Nat) (db : Db) (k : String)
    (hH : k ≠ HEADER_RANGES_KEY) (hS : k ≠ SAMPLED_RANGES_KEY) (hA : k ≠ V2_SAMPLED_RANGES_KEY) :
    ((openDb newId db).1.ranges.getD []).get k = (db.ranges.getD []).get k := by
  match hv : db.version with
  | none => simp [openDb, openTx_eq, hv, createTables]
  | some 0 => simp [openDb, openTx_eq, hv]
  | some 1 =>
    cases hl : legalA db <;>
      simp [openDb, openTx_eq, hv, hl, afterV1, createTables,
        get_remove_ne _ _ _ hA, get_insert_ne _ _ _ _ hS, get_insert_ne _ _ _ _ hH]
  | some 2 =>
    cases hl : legalA db <;>
      simp [openDb, openTx_eq, hv, hl, afterV2, createTables, get_remove_ne _ _ _ hA, get_insert_ne _ _ _ _ hS]
  | some 3 => simp [openDb, openTx_eq, hv, createTables]
  | some (v + 4) => simp [openDb, openTx_eq, hv]

/-- in particular the pruned ranges are reported unchanged -/
theorem pruned_unchanged (newId : Nat) (db : Db) :
    reportPruned (openDb newId db).1 = reportPruned db := by
  simp only [reportPruned, report, getRanges]
  rw [other_keys_untouched newId db PRUNED_RANGES_KEY hP_ne_H hP_ne_S hP_ne_A]

/-- a v1 table built by any sequence of B-tree inserts (as the driver and redb build it) is in
    key order, which is the order `migrate_v1_to_v2` reads it in -/
theorem v1_table_key_ordered (es : List (Nat × (Nat × Nat))) :
    KeyOrdered (es.foldl (fun t e => hrInsert t e.1 e.2) []) := by
  suffices h : ∀ t, KeyOrdered t → KeyOrdered (es.foldl (fun t e => hrInsert t e.1 e.2) t) from h [] trivial
  induction es with
  | nil => intro t ht; exact ht
  | cons e rest ih => intro t ht; exact ih _ (hrInsert_keyOrdered t e.1 e.2 ht)

/-! ### non-vacuity: concrete databases meeting the hypotheses above -/

/-- a v1 database with three ranges inserted out of key order -/
def exV1 : Db :=
  { version := some 1
    heightRanges := some ([(5, (7, 9)), (2, (1, 3)), (9, (20, 20))].foldl (fun t e => hrInsert t e.1 e.2) [])
    ranges := none, heights := true, headers := true, sampling := false, identity := none }

/-- a v2 database with stored and (old-key) sampled ranges and an unrelated key -/
def exV2 : Db :=
  { version := some 2, heightRanges := none
    ranges := some [("KEY.ACCEPTED_SAMPING_RANGES", [(123, 124)]), ("KEY.HEADER_RANGES", [(1, 200)]),
                    ("KEY.PRUNED_RANGES", [(201, 210)])]
    heights := true, headers := true, sampling := true, identity := some (some 7) }

example : heldSampled exV1 ≠ none ∧ heldStored exV1 = some [(1, 3), (7, 9), (20, 20)] := by decide +kernel
example : heldSampled exV2 = some [(123, 124)] ∧ heldStored exV2 = some [(1, 200)] := by decide +kernel
example : (obsOf 0 exV1).ok = true ∧ (obsOf 0 exV1).stored = some [(1, 3), (7, 9), (20, 20)] := by decide +kernel
example : (obsOf 0 exV2).sampled = some [(123, 124)] ∧ (obsOf 0 exV2).after.version = some 3 := by decide +kernel
/-- touching ranges `[1..3],[4..6]` are the set `[1..6]`: reported (and re-stored) in canonical form -/
example : (obsOf 0 { exV2 with ranges := some [("KEY.ACCEPTED_SAMPING_RANGES", [(1, 3), (4, 6), (9, 9)])] }).sampled
    = some [(1, 6), (9, 9)] := by decide +kernel
/-- a newer database (hypotheses of `newer_refused`) -/
example : ({ exV2 with version := some 5 } : Db).version = some 5 ∧ 5 > 3 := by decide
/-- an old database that IS refused: its sampled vector `[(5,4)]` is unreadable -/
example : (obsOf 0 { exV2 with ranges := some [("KEY.ACCEPTED_SAMPING_RANGES", [(5, 4)])] }).ok = false := by decide +kernel
/-- the spec is not trivially true: it rejects an observation that loses the sampled ranges -/
example : specOpen exV2 { (obsOf 0 exV2) with sampled := some [] } = false := by decide +kernel
/-- … and one that "refuses" a newer database but modifies it -/
example : specOpen { exV2 with version := some 4 }
    { ok := false, after := { exV2 with version := some 3 }, stored := none, sampled := none } = false := by decide +kernel

end Lumina.Props.C23

/-
  C09 — An EDS fetched over shrex matches the header's DAH.

  Model: `Lumina/Model/ShrexEds.lean` (`decodeAndVerify`, `encode` = the shrex `ResponseCodec` of
  `ExtendedDataSquare`), over `Lumina/Model/EdsCode.lean` (`ExtendedDataSquare::new` / `from_ods`) and the
  `Eds`/`Nmt` models.  Spec: `Lumina/Spec/C09.lean`, which does not mention the decoder model.

  Parameters: the hash `H` (no hypothesis for `decode_total`, `decode_sound`, `decode_complete`; for `accepted_unique`
  `HashOKOn H S`, no collision among the byte strings `S` hashed for the two returned squares) and the Reed–Solomon encoder `enc`, about which only its SHAPE is assumed
  (`EncShape`: `k` data shards give `k` parity shards).

  What "the extension of the payload" means: `decode_sound` says the returned square is `extendRaw enc k ods`, the three
  encoder passes of `from_ods` applied to the payload — by itself a statement about WHICH function of the payload is
  returned, not that this function is an erasure code.  That the extension is a two-dimensional code (every row and
  column a codeword, any half reconstructs) is C08 and needs the encoder to be LINEAR (`EncLinear`);
  `decode_returns_2d_code` states the composition explicitly.
-/
import Lumina.Gen.C09
import Lumina.Proofs.ShrexEds
import Lumina.Props.C08

namespace Lumina.Props.C09
open Lumina.Util Lumina.Model.Nmt Lumina.Model.Eds Lumina.Model.EdsCode Lumina.Model.ShrexEds
open Lumina.Proofs.Nmt Lumina.Proofs.Eds Lumina.Proofs.EdsCode Lumina.Proofs.EdsExtend Lumina.Proofs.ShrexEds
open Lumina.Spec.C09 (Obs specDecode specHonest)

/-- the constants the property talks about, re-read from /repo on every run -/
theorem consts_eq :
    Lumina.Gen.C09.SHARE_SIZE = 512 ∧ Lumina.Gen.C09.SHARE_SIZE = Lumina.Model.Eds.SHARE_SIZE ∧
    Lumina.Gen.C09.NS_SIZE = 29 ∧ Lumina.Gen.C09.NS_SIZE = Lumina.Model.Nmt.NS_SIZE ∧
    Lumina.Gen.C09.MIN_SQUARE_SIZE * 2 = MIN_EXTENDED_SQUARE_WIDTH ∧
    Lumina.Gen.C09.SHARE_VERSION_ONE = SHARE_VERSION_ONE ∧
    Lumina.Gen.C09.SQUARE_SIZE_UPPER_BOUNDS = (List.range 7).map (fun i => squareSizeUpperBound (i + 1)) := by
  decide

/-- what the harness / the spec observes of a decode outcome -/
def obsOf : Except DecErr Eds → Obs
  | .ok e => .ok e.width (e.shares.map Share.data)
  | .error .panic => .panic
  | .error _ => .err

/-- the reference extension of a payload: its 512-byte chunks as a `k × k` square, extended by the codec -/
def extOf (enc : List Bytes → List Bytes) (raw : Bytes) : List Bytes :=
  extendRaw enc (isqrt (chunks 512 raw).length) (chunks 512 raw)

/-- **No panic, for every byte string, every DAH, every app version, every codec, every hash.**  The decoder
    never reaches the `expect("EDS validated on construction")` of `from_eds` nor the `hash_nodes` panic of
    nmt-rs: what `ExtendedDataSquare::new` validated (namespace order along every row and column) is exactly what
    the tree construction needs. -/
theorem decode_total (H : HashFn) (enc : List Bytes → List Bytes) (raw : Bytes) (dah : Dah) (ver : Nat) :
    decodeAndVerify H enc raw dah ver ≠ .error .panic := by
  unfold decodeAndVerify
  split
  · simp
  · split
    · simp
    · cases hf : fromOds enc ver (chunks SHARE_SIZE raw) with
      | error er => simp
      | ok eds =>
        obtain ⟨_, _, hn⟩ := fromOds_ok_iff.mp hf
        obtain ⟨d, hd⟩ := hn.dah_total H
        simp only [hd]
        split <;> simp

/-- **Soundness (the property's first sentence), for every input.**  Whatever `decode_and_verify` returns satisfies
    the spec: it does not panic, and if it accepts then the payload is non-empty whole shares forming exactly the
    first quadrant of the returned square, the returned square is the codec's extension of the payload, and its
    row and column roots are exactly the header's. -/
theorem decode_sound (H : HashFn) (enc : List Bytes → List Bytes) (hs : ∀ k, EncShape enc k) (raw : Bytes) (dah : Dah)
    (ver : Nat) :
    specDecode H raw dah.rowRoots dah.colRoots (some (extOf enc raw)) (obsOf (decodeAndVerify H enc raw dah ver)) = true := by
  cases h : decodeAndVerify H enc raw dah ver with
  | error er =>
    cases er with
    | panic => exact (decode_total H enc raw dah ver h).elim
    | _ => rfl
  | ok e =>
    have ok := decode_ok_iff.mp h
    have x := ExtOK.of_fromOds (hs _) ok.ext
    have hcm := commits_of_dah x.newOK H ok.dah
    rw [← x.data] at hcm
    have hext : extOf enc raw = e.shares.map Share.data := (extendRaw_grid x.shape x.sq).trans x.data.symm
    have h512 : SHARE_SIZE = 512 := rfl
    simp only [h512] at *
    simp only [obsOf, specDecode, x.q0, hext, hcm, Bool.and_eq_true, beq_iff_eq, List.all_eq_true, Bool.not_eq_true', and_true]
    refine ⟨⟨chunks_flatten (by omega) raw, chunks_len (by omega) raw ok.whole⟩, ?_⟩
    cases hr : raw with
    | nil => exact (ok.nonempty hr).elim
    | cons a t => rfl

/-- **What an accepted payload is, in C08's terms** (composition with C08 `extend_spec`; needs the encoder to be linear):
    the returned square keeps the payload's shares as its first quadrant and every one of its rows and columns is a
    codeword of the encoder. -/
theorem decode_returns_2d_code (H : HashFn) (enc : List Bytes → List Bytes) (raw : Bytes) (dah : Dah) (ver : Nat) (e : Eds)
    (hs : EncShape enc (isqrt (chunks 512 raw).length))
    (L : Lumina.Proofs.EdsLinear.EncLinear enc (isqrt (chunks 512 raw).length) 512)
    (h : decodeAndVerify H enc raw dah ver = .ok e) :
    Lumina.Spec.C08.specExtend enc (chunks 512 raw) (.ok e.width (e.shares.map Share.data)) = true :=
  Lumina.Props.C08.extend_spec enc ver (chunks 512 raw) e hs L (decode_ok_iff.mp h).ext

/-- non-vacuity of the codec hypothesis: a (useless but shape-correct) encoder exists, so `decode_sound` is not
    vacuous; the real codec's outputs satisfy the shape on every correspondence line -/
example : ∀ k, EncShape (fun row => row) k := fun _ _ h => h

/-- **The accepted payload is THE square committed by the DAH.**  Whatever codecs, app versions and payloads two accepting
    runs of the decoder used: if they accepted against the same DAH, they accepted the same payload and returned the
    same square.  So "any other payload is rejected".  Hash hypothesis: 32-byte output and no collision among the byte
    strings hashed by `from_eds` for the two returned squares (an explicit finite list; reduction form below). -/
theorem accepted_unique {H : HashFn} {enc enc' : List Bytes → List Bytes} (hs : ∀ k, EncShape enc k)
    (hs' : ∀ k, EncShape enc' k) {raw raw' : Bytes} {dah : Dah} {ver ver' : Nat} {e e' : Eds}
    (h : decodeAndVerify H enc raw dah ver = .ok e) (h' : decodeAndVerify H enc' raw' dah ver' = .ok e')
    (hk : HashOKOn H (fun y => y ∈ Lumina.Proofs.Eds.edsInputs H e ++ Lumina.Proofs.Eds.edsInputs H e')) :
    raw = raw' ∧ e = e' := by
  have ok := decode_ok_iff.mp h
  have ok' := decode_ok_iff.mp h'
  have x := ExtOK.of_fromOds (hs _) ok.ext
  have x' := ExtOK.of_fromOds (hs' _) ok'.ext
  obtain ⟨_, he⟩ := dah_binds x.newOK x'.newOK ok.dah ok'.dah hk
  refine ⟨?_, he⟩
  -- the payload is the first quadrant of the returned square
  have h512 : 0 < SHARE_SIZE := by decide
  rw [← chunks_flatten h512 raw, ← chunks_flatten h512 raw', ← x.q0, ← x'.q0, he]

/-- reduction form: two DIFFERENT payloads accepted against one DAH yield an explicit collision of the (32-byte-output)
    hash among the byte strings hashed for the two returned squares -/
theorem accepted_unique_or_collision {H : HashFn} (hl : HashLen H) {enc enc' : List Bytes → List Bytes} (hs : ∀ k, EncShape enc k)
    (hs' : ∀ k, EncShape enc' k) {raw raw' : Bytes} {dah : Dah} {ver ver' : Nat} {e e' : Eds}
    (h : decodeAndVerify H enc raw dah ver = .ok e) (h' : decodeAndVerify H enc' raw' dah ver' = .ok e')
    (hne : raw ≠ raw') :
    CollisionIn H (fun y => y ∈ Lumina.Proofs.Eds.edsInputs H e ++ Lumina.Proofs.Eds.edsInputs H e') :=
  (or_collision hl fun hk => (accepted_unique hs hs' h h' hk).1).resolve_left hne

/-- **Completeness**: the honest payload — the original data square of a square built by `from_ods`, row-major —
    checked against that square's own DAH is accepted and the very same square is returned. -/
theorem decode_complete (H : HashFn) (enc : List Bytes → List Bytes) {ver : Nat} {ods : List Bytes} {e : Eds} {dah : Dah}
    (hall : ∀ s ∈ ods, s.length = SHARE_SIZE) (hf : fromOds enc ver ods = .ok e) (hd : Dah.ofEds H e = .ok dah) :
    decodeAndVerify H enc ods.flatten dah ver = .ok e ∧
    specHonest (obsOf (decodeAndVerify H enc ods.flatten dah ver)) = true := by
  have hch : chunks SHARE_SIZE ods.flatten = ods := chunks_of_flatten (by decide) ods hall
  have hn := (fromOds_ok_iff.mp hf).2.2
  -- the square is not empty: the extension of nothing has no shares, and an accepted square has at least 2 × 2
  have hne : ods ≠ [] := by
    rintro rfl
    have hs := hn.sq
    have h2 := Nat.mul_le_mul hn.two_le hn.two_le
    have h0 : (extendRaw enc (isqrt ([] : List Bytes).length) []).length = 0 := by
      simp [extendRaw, isqrt, sqrtAux]
    omega
  have hflen : ods.flatten.length = SHARE_SIZE * ods.length := flatten_length_const hall
  have hpos : 0 < ods.length := List.length_pos_iff.mpr hne
  have : decodeAndVerify H enc ods.flatten dah ver = .ok e := by
    refine decode_ok_iff.mpr ⟨fun h0 => ?_, by rw [hflen]; exact Nat.mul_mod_right _ _, by rw [hch]; exact hf, hd⟩
    rw [h0] at hflen
    simp only [List.length_nil, SHARE_SIZE] at hflen
    omega
  exact ⟨this, by rw [this]; rfl⟩

/-- non-vacuity of `decode_complete`/`accepted_unique`'s shape: the model accepts a concrete honest 1 × 1 square
    (evaluated with a toy hash and the identity "codec"; real squares with the real codec are accepted on every
    correspondence run) -/
example :
    let share : Bytes := List.replicate 29 0 ++ List.replicate 483 7
    (fromOds (fun row => row) 1 [share]).toOption.isSome = true ∧ (∀ s ∈ [share], s.length = SHARE_SIZE) := by
  decide +kernel

end Lumina.Props.C09

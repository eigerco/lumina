/-
  C22 — The persistent store survives crashes at any point.

  PARTIAL PROOF BY DESIGN.  Full statement (`FullStatement` below): for the REAL redb file
  format and any crash, reopening succeeds and shows the state after a prefix of the history
  containing every acknowledged operation, with consistent indexes.  What is PROVED here is
  lumina's part: because every store operation is exactly ONE write transaction
  (`Crash.writeTx`), then for every backend `B`, every history of arbitrary operations, every
  crash point (between operations, inside a closure, inside `commit`, inside `abort`):

      AtomicDurableCommit B  →  the reopened state is the state after a prefix of length
                                 `returned` or `returned + 1` of the history.

  `AtomicDurableCommit B` (redb + file system: committed ⇒ durable and entirely visible,
  uncommitted ⇒ invisible, crash inside commit ⇒ all or nothing) is an explicit HYPOTHESIS,
  not an axiom and not proved: no Lean model of lumina can exhibit a torn page.  The harness
  validates it against the real redb with a fault-injecting `StorageBackend`
  (harness/src/bin/c22.rs); that enumeration supports the hypothesis, it is not the proof.

  Operations are arbitrary functions `σ → Except ε σ`; the index-consistency clause is carried
  by an arbitrary invariant `Inv` preserved by the operations (for the real operations that
  preservation is C19–C21).

  SECTION `Redb` (C22 × C19/C20/C21): the same theorems INSTANTIATED with the faithful redb store
  model of `Model/Store.lean` (`Model/CrashRedb.lean`: state = identity row + `Store.Tables`,
  one operation = the closure of `RedbStore::insert / remove_height / mark_as_sampled /
  update_sampling_metadata`, reopen = the closure of `RedbStore::new`).  Under the same
  hypothesis `AtomicDurableCommit`, after any crash in any history the reopened store is the
  store model's state after a prefix containing every acknowledged operation, and in it the
  C19 range invariants, the C21 chain / hash-index invariants and `Spec.C22.consistent` (on
  the canonical dump) hold: `redb_crash_reopen_partial`, `redb_crash_reopen_history_partial`.

  SECTION `RedbProtocol`: for `redbBackend`, a model of redb 2.6.3's two-slot commit protocol and
  recovery (`Model/RedbCommit.lean`), `AtomicDurableCommit` is a THEOREM (`redb_protocol_atomic`);
  what is still assumed there is listed at the head of that section.  SECTION `AuditRaw`: every
  raw medium a crash can leave is recoverable, so the subtype of recoverable media that
  `redbBackend` works on excludes no crash image; and a backend modelling redb's `end_repair`
  that does NOT meet the assumption (`redb_end_repair_counterexample`).
-/
import Lumina.Proofs.Crash
import Lumina.Proofs.CrashRedb
import Lumina.Proofs.RedbCommit
import Lumina.Proofs.CrashAudit

namespace Lumina.Props.C22
open Lumina.Model.Crash Lumina.Proofs.Crash
open Lumina.Spec.C22 (specCrash specCrashSharp)

variable {D σ ε : Type}

/-- The full property, for a backend `B` standing for the real redb + file system: NO
    atomicity hypothesis.  Not provable in Lean for the real redb (it is a statement about
    redb's file format and the OS); proved below under `AtomicDurableCommit B`
    (`crash_prefix_partial`). -/
def FullStatement (B : Backend D σ) : Prop :=
  ∀ (d₀ : D) (ops : List (Op σ ε)) (d' : D) (n : Nat), CrashImage B d₀ ops d' n →
    ∃ k, n ≤ k ∧ k ≤ ops.length ∧ B.view d' = runAbs (B.view d₀) (ops.take k)

/-- without a crash the disk refines the abstract history: same final state, same results -/
theorem run_refines (B : Backend D σ) (h : AtomicDurableCommit B) (d : D) (ops : List (Op σ ε)) :
    B.view (runDisk B d ops) = runAbs (B.view d) ops ∧
    runResults B d ops = resultsAbs (B.view d) ops :=
  ⟨runDisk_view B h d ops, runResults_eq B h d ops⟩

/-- **crash_prefix_partial** (the proved part of C22).  Whatever the operations are and wherever the
    crash hits, the image left behind shows the state after the first `k` operations, where
    `k` is the number `n` of operations that had returned, or `n + 1` (the one in flight). -/
theorem crash_prefix_partial (B : Backend D σ) (h : AtomicDurableCommit B) (d₀ : D)
    (ops : List (Op σ ε)) (d' : D) (n : Nat) (hc : CrashImage B d₀ ops d' n) :
    ∃ k, n ≤ k ∧ k ≤ n + 1 ∧ k ≤ ops.length ∧ B.view d' = runAbs (B.view d₀) (ops.take k) := by
  cases hc with
  | idle pre post hops =>
    refine ⟨pre.length, Nat.le_refl _, Nat.le_succ _, by simp [hops], ?_⟩
    rw [hops, List.take_left' rfl, runDisk_view B h]
  | inClosure pre post op d' hops hcr =>
    refine ⟨pre.length, Nat.le_refl _, Nat.le_succ _, by simp [hops], ?_⟩
    rw [hops, List.take_left' rfl, h.crash_tx_invisible _ _ hcr, runDisk_view B h]
  | inAbort pre post op e d' hops hop hcr =>
    refine ⟨pre.length, Nat.le_refl _, Nat.le_succ _, by simp [hops], ?_⟩
    rw [hops, List.take_left' rfl, h.crash_abort_invisible _ _ hcr, runDisk_view B h]
  | inCommit pre post op w d' hops hop hcr =>
    rcases h.crash_commit_atomic _ _ _ hcr with hold | hnew
    · refine ⟨pre.length, Nat.le_refl _, Nat.le_succ _, by simp [hops], ?_⟩
      rw [hops, List.take_left' rfl, hold, runDisk_view B h]
    · refine ⟨pre.length + 1, Nat.le_succ _, Nat.le_refl _, by simp [hops], ?_⟩
      rw [hops, take_succ_append, runAbs_snoc, hnew]
      rw [runDisk_view B h] at hop
      simp [applyOp, hop]

/-- under the assumption the full statement holds -/
theorem full_statement_of_atomic (B : Backend D σ) (h : AtomicDurableCommit B) :
    FullStatement (ε := ε) B := by
  intro d₀ ops d' n hc
  obtain ⟨k, h1, _, h3, h4⟩ := crash_prefix_partial B h d₀ ops d' n hc
  exact ⟨k, h1, h3, h4⟩

/-- the spec's checker accepts every crash image of the model: the observed state is among the
    states after the prefixes of length ≥ `n` (even: among the first two of them) -/
theorem crash_spec [BEq σ] [LawfulBEq σ] (B : Backend D σ) (h : AtomicDurableCommit B) (d₀ : D)
    (ops : List (Op σ ε)) (d' : D) (n : Nat) (hc : CrashImage B d₀ ops d' n) :
    specCrashSharp (prefixStates (B.view d₀) ops) n true (B.view d') = true ∧
    specCrash (prefixStates (B.view d₀) ops) n true (B.view d') = true := by
  obtain ⟨k, h1, h2, h3, h4⟩ := crash_prefix_partial B h d₀ ops d' n hc
  have hget := prefixStates_get (B.view d₀) ops k h3
  rw [← h4] at hget
  have hmem : B.view d' ∈ ((prefixStates (B.view d₀) ops).drop n).take 2 := by
    rw [List.mem_iff_getElem?]
    refine ⟨k - n, ?_⟩
    rw [List.getElem?_take]
    have : k - n < 2 := by omega
    simp only [this, ↓reduceIte, List.getElem?_drop]
    rw [show n + (k - n) = k by omega]
    exact hget
  constructor
  · simp only [specCrashSharp, Bool.true_and, List.any_eq_true, beq_iff_eq]
    exact ⟨_, hmem, rfl⟩
  · simp only [specCrash, Bool.true_and, List.any_eq_true, beq_iff_eq]
    exact ⟨_, List.mem_of_mem_take hmem, rfl⟩

/-- what the callers saw before the crash is exactly what the abstract history returns for the
    operations that had returned: every acknowledged operation is inside the surviving prefix
    (`n ≤ k`) and was acknowledged with its abstract result -/
theorem acked_results (B : Backend D σ) (h : AtomicDurableCommit B) (d₀ : D) (pre post : List (Op σ ε)) :
    runResults B d₀ (pre ++ post) = resultsAbs (B.view d₀) (pre ++ post) ∧
    (runResults B d₀ pre) = resultsAbs (B.view d₀) pre :=
  ⟨runResults_eq B h d₀ _, runResults_eq B h d₀ _⟩

/-- **Reopening succeeds and the indexes are consistent.**  `Inv` is any invariant of the
    logical state that the initial state has and every operation of the history preserves
    (index consistency, by C19–C21); `openOp` is `RedbStore::new`'s own transaction, which
    succeeds and changes nothing on states satisfying `Inv` (C23: `open_idempotent`).  Then
    after ANY crash, reopening returns `Ok`, and the reopened store shows the state after a
    prefix of length `n` or `n+1`, which satisfies `Inv`. -/
theorem crash_reopen_partial (B : Backend D σ) (h : AtomicDurableCommit B) (d₀ : D)
    (ops : List (Op σ ε)) (d' : D) (n : Nat) (hc : CrashImage B d₀ ops d' n)
    (Inv : σ → Prop) (openOp : Op σ ε)
    (hinit : Inv (B.view d₀))
    (hpres : ∀ op ∈ ops, ∀ s s', Inv s → op s = .ok s' → Inv s')
    (hopen : ∀ s, Inv s → openOp s = .ok s) :
    (reopen B openOp d').2 = .ok () ∧
    ∃ k, n ≤ k ∧ k ≤ n + 1 ∧ k ≤ ops.length ∧
      B.view (reopen B openOp d').1 = runAbs (B.view d₀) (ops.take k) ∧
      Inv (B.view (reopen B openOp d').1) := by
  obtain ⟨k, h1, h2, h3, h4⟩ := crash_prefix_partial B h d₀ ops d' n hc
  have hinv : Inv (B.view d') := by
    rw [h4]
    exact runAbs_inv Inv _ (fun op ho => hpres op (List.mem_of_mem_take ho)) _ hinit
  have hop := hopen _ hinv
  have hview : B.view (reopen B openOp d').1 = B.view d' := by
    unfold reopen; rw [writeTx_view B h]; simp [applyOp, hop]
  refine ⟨?_, k, h1, h2, h3, ?_, ?_⟩
  · unfold reopen; rw [writeTx_result]; simp [resultOf, hop]
  · rw [hview, h4]
  · rw [hview]; exact hinv

/-! ### any number of crashes -/

/-- `Lives B d incs d'`: starting from image `d`, the process lives through the incarnations
    `incs` — in each one it runs some operations (the first of which is the reopen transaction)
    and crashes when `n` of them had returned — and ends with image `d'`. -/
inductive Lives (B : Backend D σ) : D → List (List (Op σ ε) × Nat) → D → Prop where
  | nil (d : D) : Lives B d [] d
  | cons (d d1 d2 : D) (ops : List (Op σ ε)) (n : Nat) (rest : List (List (Op σ ε) × Nat))
      (hc : CrashImage B d ops d1 n) (hr : Lives B d1 rest d2) : Lives B d ((ops, n) :: rest) d2

/-- `eff` is made of one surviving prefix per incarnation, each containing every operation that
    had returned in that incarnation and at most the one in flight -/
def SurvivingPrefixes : List (List (Op σ ε) × Nat) → List (Op σ ε) → Prop
  | [], eff => eff = []
  | (ops, n) :: rest, eff =>
    ∃ k eff', n ≤ k ∧ k ≤ n + 1 ∧ k ≤ ops.length ∧ SurvivingPrefixes rest eff' ∧ eff = ops.take k ++ eff'

/-- after any number of crash/reopen cycles the state is the result of running, in order, a
    surviving prefix of every incarnation's operations -/
theorem crash_multi_partial (B : Backend D σ) (h : AtomicDurableCommit B) (d d' : D)
    (incs : List (List (Op σ ε) × Nat)) (hl : Lives B d incs d') :
    ∃ eff, SurvivingPrefixes incs eff ∧ B.view d' = runAbs (B.view d) eff := by
  induction hl with
  | nil d => exact ⟨[], rfl, rfl⟩
  | cons d d1 d2 ops n rest hc _ ih =>
    obtain ⟨k, h1, h2, h3, h4⟩ := crash_prefix_partial B h d ops d1 n hc
    obtain ⟨eff', hs, hv⟩ := ih
    refine ⟨ops.take k ++ eff', ⟨k, eff', h1, h2, h3, hs, rfl⟩, ?_⟩
    rw [runAbs_append, ← h4, hv]

/-! ### the assumption is satisfiable, the theorem is not vacuous, the discipline matters -/

/-- the ideal backend meets the assumption -/
theorem ideal_atomic (σ : Type) : AtomicDurableCommit (idealBackend σ) where
  commit_visible := fun _ _ => rfl
  abort_invisible := fun _ => rfl
  crash_tx_invisible := fun _ _ h => by simpa [idealBackend] using h
  crash_commit_atomic := fun _ _ _ h => by simpa [idealBackend] using h
  crash_abort_invisible := fun _ _ h => by simpa [idealBackend] using h

/-- so does a backend whose images carry arbitrary uncommitted garbage -/
theorem journal_atomic (σ : Type) : AtomicDurableCommit (journalBackend σ) where
  commit_visible := fun _ _ => rfl
  abort_invisible := fun _ => rfl
  crash_tx_invisible := fun _ _ h => h
  crash_commit_atomic := fun d w d' h => by
    rcases h with h | h
    · exact Or.inl h
    · right; simp [journalBackend, h]
  crash_abort_invisible := fun _ _ h => h

/-- a backend that tears commits (keeps HALF of a pair) violates the assumption — the
    hypothesis has content -/
theorem torn_not_atomic :
    ¬ AtomicDurableCommit
      ({ idealBackend (Nat × Nat) with
         crashInCommit := fun d w d' => d' = (w.1, d.2) } : Backend (Nat × Nat) (Nat × Nat)) := by
  intro h
  have := h.crash_commit_atomic (0, 0) (1, 1) (1, 0) rfl
  simp [idealBackend] at this

/-- **The discipline matters**: an operation implemented as TWO transactions has, without a
    crash, the same effect as the single-transaction one, but the image between its two
    transactions is not the state after any prefix of the history — `crash_prefix_partial` is about
    `writeTx`, i.e. about lumina keeping each operation inside one transaction. -/
theorem two_transactions_counterexample :
    let B := idealBackend Nat
    let half : Op Nat Unit := fun s => .ok (s + 1)
    let whole : Op Nat Unit := fun s => .ok (s + 2)
    (writeTx2 B 0 half half).1 = (writeTx B 0 whole).1 ∧
    B.view (writeTx B 0 half).1 ∉ prefixStates 0 [whole] := by
  decide

/-- a concrete crash image meeting the hypotheses of `crash_prefix_partial`: three counter
    increments, crash inside the commit of the second one, new value already visible -/
example :
    let B := idealBackend Nat
    let inc : Op Nat Unit := fun s => .ok (s + 1)
    CrashImage B 0 [inc, inc, inc] 2 1 := by
  intro B inc
  exact CrashImage.inCommit (B := B) [inc] [inc] inc 2 2 rfl rfl (Or.inr rfl)

/-- … and a failing operation in flight (aborted), on the garbage-carrying backend -/
example :
    let B := journalBackend Nat
    let inc : Op Nat Unit := fun s => .ok (s + 1)
    let bad : Op Nat Unit := fun _ => .error ()
    CrashImage B (0, []) [inc, bad] (1, [7, 7]) 1 := by
  intro B inc bad
  exact CrashImage.inAbort (B := B) [inc] [] bad () (1, [7, 7]) rfl rfl rfl

/-! ## C22 × C19/C20/C21: the crash theorems instantiated with the redb store model -/

section Redb
open Lumina.Model Lumina.Model.Store Lumina.Model.CrashRedb
open Lumina.Spec.C19 (AbsStore)
open Lumina.Proofs.Store Lumina.Proofs.CrashRedb

/-- "header, hash and range indexes mutually consistent" for a state `db` of the redb store
    model, in the terms of the properties it comes from:
    C19 (sampled ⊆ stored, pruned ∩ stored = ∅ on the range table), C21 (headers stored at
    consecutive heights verify as adjacent; the hash index leads back to the same header) and
    C22's own decidable predicate on the canonical table dump (headers table = stored ranges,
    hash index = inverse of the headers table, neighbours hash-linked, sampled ⊆ stored,
    pruned disjoint, metadata only for stored heights, identity present). -/
structure StoreConsistent (v : Hdr → Hdr → Bool) (name : Hash → String) (parent : Hdr → Hash) (db : Db) : Prop where
  sampled_within_stored : ∀ h, Ranges.mem (CrashRedb.rawRanges db.tables .sampled) h →
      Ranges.mem (CrashRedb.rawRanges db.tables .header) h
  pruned_disjoint_stored : ∀ h, Ranges.mem (CrashRedb.rawRanges db.tables .pruned) h →
      ¬ Ranges.mem (CrashRedb.rawRanges db.tables .header) h
  adjacent_verify : ∀ h x y, RedbStore.getByHeight db.tables h = .ok x →
      RedbStore.getByHeight db.tables (h + 1) = .ok y → verifyAdjacent v x y = true
  hash_index : ∀ h x, RedbStore.getByHeight db.tables h = .ok x →
      x.height = h ∧ RedbStore.getByHash db.tables x.hash = .ok x ∧ RedbStore.containsHash db.tables x.hash = true
  dump_consistent : Lumina.Spec.C22.consistent (dumpOf name parent db) = true

/-- accepted adjacent headers are hash-linked: `ExtendedHeader::verify` of an adjacent pair
    checks `untrusted.last_block_id.hash == trusted.hash()`; `parent` is that projection of the
    header content.  Hypothesis on the verification oracle (it is what makes "verifies" imply
    the dump's "parent name = name of the header below"). -/
def HashLinked (v : Hdr → Hdr → Bool) (parent : Hdr → Hash) : Prop :=
  ∀ x y, x.height + 1 = y.height → v x y = true → parent y = x.hash

/-- **one transaction of the crash model is one call of the store model**: effect and result
    of `txOf v op` under `applyOp` / `resultOf` are those of `RedbStore.step v · op`, and a call
    that does not reach `write_tx` (a query, a batch rejected by the `VerifiedExtendedHeaders`
    conversion) leaves the tables alone. -/
theorem redb_tx_is_step (v : Hdr → Hdr → Bool) (op : Op) (db : Db) :
    applyOp db (txOf v op) = { db with tables := (RedbStore.step v db.tables op).1 } ∧
    (op.mutating = true →
      toRes (resultOf db (txOf v op)) (fun _ => Out.unit) = (RedbStore.step v db.tables op).2) ∧
    (issuesTx v op = false → (RedbStore.step v db.tables op).1 = db.tables) :=
  ⟨(txOf_step v op db).1, (txOf_step v op db).2, noTx_unchanged v op db.tables⟩

/-- without a crash: the disk shows the store model's state after the history, and every call
    was answered with the store model's result (under `AtomicDurableCommit`) -/
theorem redb_run_refines (B : Backend D Db) (hB : AtomicDurableCommit B) (v : Hdr → Hdr → Bool)
    (d : D) (ops : List Op) (hm : ∀ op ∈ ops, op.mutating = true) :
    B.view (runDisk B d (ops.map (txOf v))) =
      { B.view d with tables := (runOps (RedbStore.step v) (B.view d).tables ops).1 } ∧
    (runResults B d (ops.map (txOf v))).map (fun r => toRes r (fun _ => Out.unit)) =
      (runOps (RedbStore.step v) (B.view d).tables ops).2 := by
  constructor
  · rw [runDisk_view B hB, (run_txs v ops _).1]
  · rw [runResults_eq B hB, (run_txs v ops _).2 hm]

/-- **C19 + C21 on the redb store model, plus the bridge to `Spec.C22.consistent`**: every
    state the store model reaches by a history (no unvalidated header stored: `ValidRun`, as in
    C19/C21) has consistent indexes in all five senses of `StoreConsistent`. -/
theorem redb_reachable_consistent (v : Hdr → Hdr → Bool) (name : Hash → String) (parent : Hdr → Hash)
    (hlink : HashLinked v parent) (ops : List Op) (hw : AllWf ops)
    (hvr : ValidRun v Lumina.Spec.C19.init ops) (ident : Nat) (hid : ident ≠ 0) :
    StoreConsistent v name parent ⟨ident, (runOps (RedbStore.step v) RedbStore.new ops).1⟩ := by
  -- `hvr` is not needed: the redb store conforms to `stepS` whatever headers are stored
  obtain ⟨_, r, hi, hver⟩ := redb_runS_sim v ops hw _ _ rr_init absInv_init (absVer_init v)
  obtain ⟨hs, hp⟩ := r.ranges.sampled_sub_pruned_disjoint hi
  exact ⟨hs, hp, fun _ _ _ hx hy => (redb_adjacent r hi hver hx hy).2, fun h x => redb_hashIndex r hi h x,
    consistent_dump r hi v hver name parent hlink ident hid⟩

/-- **C22 for the redb store model** (PARTIAL: `AtomicDurableCommit B` is assumed).
    `d₀` is the disk of a store right after its first `RedbStore::new` (identity `id0`, tables
    empty); `ops` is ANY history of `Store` calls (batches valid or not, removals, marks,
    metadata updates), each run as its one write transaction; the process crashes anywhere
    (between calls, inside a closure, inside `commit`, inside `abort`) when `n` calls had
    returned, leaving `d'`.  Then `RedbStore::new` on `d'` returns `Ok`, and the store it opens
    is the store model's state after the first `k` calls, `n ≤ k ≤ n + 1` (every acknowledged
    call included, at most the one in flight in doubt), with the original identity, and its
    indexes are consistent (`StoreConsistent`: C19, C21, `Spec.C22.consistent`). -/
theorem redb_crash_reopen_partial (B : Backend D Db) (hB : AtomicDurableCommit B)
    (v : Hdr → Hdr → Bool) (name : Hash → String) (parent : Hdr → Hash) (hlink : HashLinked v parent)
    (d₀ : D) (id0 : Nat) (hid : id0 ≠ 0) (hd₀ : B.view d₀ = fresh id0)
    (ops : List Op) (hw : AllWf ops) (hvr : ValidRun v Lumina.Spec.C19.init ops)
    (d' : D) (n : Nat) (hc : CrashImage B d₀ (ops.map (txOf v)) d' n) (newId : Nat) :
    (reopen B (openTx newId) d').2 = .ok () ∧
    ∃ k, n ≤ k ∧ k ≤ n + 1 ∧ k ≤ ops.length ∧
      B.view (reopen B (openTx newId) d').1 =
        ⟨id0, (runOps (RedbStore.step v) RedbStore.new (ops.take k)).1⟩ ∧
      StoreConsistent v name parent (B.view (reopen B (openTx newId) d').1) := by
  obtain ⟨hok, k, h1, h2, h3, h4, _⟩ :=
    crash_reopen_partial B hB d₀ (ops.map (txOf v)) d' n hc (fun db => db.identity = id0) (openTx newId)
      (by rw [hd₀]; rfl)
      (by
        intro op hop s s' hs hos
        obtain ⟨o, _, rfl⟩ := List.mem_map.1 hop
        rw [txOf_identity v o s s' hos]; exact hs)
      (by intro s hs; exact openTx_id newId s (by rw [hs]; exact hid))
  have hview : B.view (reopen B (openTx newId) d').1 =
      ⟨id0, (runOps (RedbStore.step v) RedbStore.new (ops.take k)).1⟩ := by
    rw [h4, ← List.map_take, (run_txs v _ _).1, hd₀]; rfl
  refine ⟨hok, k, h1, h2, by simpa using h3, hview, ?_⟩
  rw [hview]
  exact redb_reachable_consistent v name parent hlink (ops.take k) (allWf_take hw k)
    (validRun_take v ops _ hvr k) id0 hid

/-- **the same for a history with queries and rejected batches in it**, read exactly: only the
    calls with `issuesTx` reach `write_tx` (the others never touch the file), so the crash
    history is `ops.filter (issuesTx v)`, `n` counts the transactions that had returned.  The
    reopened store is the store model's state after a prefix `ops.take j` of the WHOLE history
    whose transactions are the first `k` transactions, `n ≤ k ≤ n + 1`.  Hypothesis on the
    headers as in `C19.redb_conforms_validated_partial`: every header handed to `insert` is
    validated. -/
theorem redb_crash_reopen_history_partial (B : Backend D Db) (hB : AtomicDurableCommit B)
    (v : Hdr → Hdr → Bool) (name : Hash → String) (parent : Hdr → Hash) (hlink : HashLinked v parent)
    (d₀ : D) (id0 : Nat) (hid : id0 ≠ 0) (hd₀ : B.view d₀ = fresh id0)
    (ops : List Op) (hw : AllWf ops) (hval : AllValidated ops)
    (d' : D) (n : Nat) (hc : CrashImage B d₀ ((ops.filter (issuesTx v)).map (txOf v)) d' n) (newId : Nat) :
    (reopen B (openTx newId) d').2 = .ok () ∧
    ∃ k j, n ≤ k ∧ k ≤ n + 1 ∧ k ≤ (ops.filter (issuesTx v)).length ∧ j ≤ ops.length ∧
      (ops.take j).filter (issuesTx v) = (ops.filter (issuesTx v)).take k ∧
      B.view (reopen B (openTx newId) d').1 =
        ⟨id0, (runOps (RedbStore.step v) RedbStore.new (ops.take j)).1⟩ ∧
      StoreConsistent v name parent (B.view (reopen B (openTx newId) d').1) := by
  have hw' : AllWf (ops.filter (issuesTx v)) := fun o ho => hw o (List.mem_filter.1 ho).1
  have hval' : AllValidated (ops.filter (issuesTx v)) := fun o ho => hval o (List.mem_filter.1 ho).1
  obtain ⟨hok, k, h1, h2, h3, h4, h5⟩ :=
    redb_crash_reopen_partial B hB v name parent hlink d₀ id0 hid hd₀ _ hw'
      (validRun_of_validated v _ hval' _ storedValid_init) d' n hc newId
  obtain ⟨j, hj, ej⟩ := take_filter_exists (issuesTx v) ops k h3
  refine ⟨hok, k, j, h1, h2, h3, hj, ej, ?_, h5⟩
  rw [h4, ← ej, run_filter]

/-! ### non-vacuity of the instantiated theorems -/

/-- a verification oracle that is hash-linked: the content id of a header records the hash its
    `last_block_id` points to -/
def exV : Hdr → Hdr → Bool := fun a b => decide (b.id = a.hash)
def exParent : Hdr → Hash := fun x => x.id
def hd (i height hash : Nat) : Hdr := ⟨i, height, hash, true⟩
/-- accepted span, mark, metadata, a fork header (rejected: neighbours), a batch rejected by
    the conversion, a query, an accepted append, a removal -/
def exOps : List Op :=
  [ .insert [hd 0 1 101, hd 101 2 102], .mark 2, .updMeta 1 [5, 6], .insert [hd 7 3 110],
    .insert [hd 102 3 103, hd 9 5 105], .head, .insert [hd 102 3 103], .remove 1 ]

example : HashLinked exV exParent := by
  intro x y _ h; simpa [exV, exParent] using h
example : AllWf exOps := by unfold AllWf; decide
example : AllValidated exOps := by unfold AllValidated; decide
example : ValidRun exV Lumina.Spec.C19.init exOps :=
  validRun_of_validated exV exOps (by unfold AllValidated; decide) _ storedValid_init
example : exOps.map (issuesTx exV) = [true, true, true, true, false, false, true, true] := by decide +kernel
example : (runOps (RedbStore.step exV) RedbStore.new exOps).2 =
    [.ok .unit, .ok .unit, .ok .unit, .err .neighborsVerificationFailed, .err .headersVerificationFailed,
     .ok (.hdr (hd 101 2 102)), .ok .unit, .ok .unit] := by decide +kernel

/-- crash images of that history on the ideal backend: idle after 3 calls; inside the closure
    of the 4th -/
example : CrashImage (idealBackend Db) (fresh 7) (exOps.map (txOf exV))
    (runDisk (idealBackend Db) (fresh 7) ((exOps.take 3).map (txOf exV))) 3 :=
  CrashImage.idle ((exOps.take 3).map (txOf exV)) ((exOps.drop 3).map (txOf exV)) (by
    rw [← List.map_append, List.take_append_drop])
example : CrashImage (idealBackend Db) (fresh 7) (exOps.map (txOf exV))
    (runDisk (idealBackend Db) (fresh 7) ((exOps.take 3).map (txOf exV))) 3 :=
  CrashImage.inClosure (B := idealBackend Db) ((exOps.take 3).map (txOf exV)) ((exOps.drop 4).map (txOf exV))
    (txOf exV (.insert [hd 7 3 110])) _ rfl rfl

/-- … and inside `commit` of the first call, the new state already visible -/
example : CrashImage (idealBackend Db) (fresh 7) (exOps.map (txOf exV))
    (applyOp (fresh 7) (txOf exV (.insert [hd 0 1 101, hd 101 2 102]))) 0 :=
  CrashImage.inCommit (B := idealBackend Db) [] ((exOps.drop 1).map (txOf exV))
    (txOf exV (.insert [hd 0 1 101, hd 101 2 102]))
    (applyOp (fresh 7) (txOf exV (.insert [hd 0 1 101, hd 101 2 102]))) _ rfl (by rfl) (Or.inr rfl)

end Redb

/-! ## `AtomicDurableCommit` PROVED for a model of redb 2.6.3's commit protocol

  Model `Model/RedbCommit.lean`, lemmas `Proofs/RedbCommit.lean`.

  The hypothesis `AtomicDurableCommit B` of every theorem above is here a THEOREM for the backend
  `redbBackend` built from a transcription of redb's commit path and recovery:
  two commit slots + god byte (primary bit, two-phase flag), `commit_inner` (fill the secondary
  slot / write header / [sync if two-phase] / swap primary / write header / sync), recovery on
  open (`pick_primary_for_repair`, `verify_primary_checksums`, fall back to the other slot),
  over a storage model = the one of the fault-injecting harness: everything written before the
  last completed `sync_data` is durable; of the writes after it ANY SUBSET survives; a write of
  one REGION (god byte / one 128-byte slot / one page) is atomic — the header write is even
  allowed to tear between its three regions.

  What remains ASSUMED (explicit hypotheses / stated in `design_notes/C22.md`, "What remains
  assumed"):
    (i)   the protocol model transcribes redb faithfully (functions and lines listed at the top
          of `Model/RedbCommit.lean`); the B-tree + allocator layer is the parameter `plan` with
          hypothesis `PlanOK`: a transaction writes only pages NOT reachable from the committed
          roots, and once all its pages are written its new roots verify and hold the new state;
    (ii)  the storage / crash model (region-atomic writes, no bit rot, sync is a barrier);
    (iii) `Function.Injective H.page`: the page checksum (xxh3-128) is collision-free.
-/

section RedbProtocol
open Lumina.Model.RedbCommit Lumina.Proofs.RedbCommit

/-- **Crash atomicity of redb's one-phase durable commit** (the commit lumina uses), on the
    raw medium.  `d`: medium of an open, idle database (`Clean`); `pl`: the transaction.  For
    EVERY crash point and EVERY surviving subset of the unsynced writes (`CrashImg`), recovery
    SUCCEEDS and shows either exactly the content committed before or exactly the new state `w`
    — never a mixture.  And once `commit()` has returned (`commitDisk`), the medium is clean
    again and shows `w`. -/
theorem redb_protocol_commit_atomic {α C σ : Type} [DecidableEq C] (H : Sums α C)
    (hinj : Function.Injective H.page) (fuel : Nat) (dec : List α → σ) (d : Disk α C) (w : σ)
    (pl : Plan α C) (hc : Clean H fuel d) (hp : PlanOK H fuel dec d w pl) :
    (∀ x, CrashImg d (commitEpochs H d pl false) x →
      ∃ c, recover H fuel x = some c ∧ (some c = verify H fuel d d.primary ∨ dec c = w)) ∧
    Clean H fuel (commitDisk H d pl false) ∧
    ∃ c, recover H fuel (commitDisk H d pl false) = some c ∧ dec c = w :=
  commit_atomic H hinj fuel dec d w pl false hc hp

/-- the same for the TWO-PHASE commit (redb's own repair-on-open commit uses it) -/
theorem redb_protocol_commit2_atomic {α C σ : Type} [DecidableEq C] (H : Sums α C)
    (hinj : Function.Injective H.page) (fuel : Nat) (dec : List α → σ) (d : Disk α C) (w : σ)
    (pl : Plan α C) (hc : Clean H fuel d) (hp : PlanOK H fuel dec d w pl) :
    (∀ x, CrashImg d (commitEpochs H d pl true) x →
      ∃ c, recover H fuel x = some c ∧ (some c = verify H fuel d d.primary ∨ dec c = w)) ∧
    Clean H fuel (commitDisk H d pl true) ∧
    ∃ c, recover H fuel (commitDisk H d pl true) = some c ∧ dec c = w :=
  commit_atomic H hinj fuel dec d w pl true hc hp

/-- a transaction that has not reached `commit` is invisible: whatever dirty pages reached the
    medium (write-buffer eviction), recovery shows the committed content, and if the process
    lives on (abort), the database is still clean with the same content -/
theorem redb_protocol_uncommitted_invisible {α C : Type} [DecidableEq C] (H : Sums α C)
    (hinj : Function.Injective H.page) (fuel : Nat) (d : Disk α C) (hc : Clean H fuel d)
    (ws : List (Write α C)) (hws : ∀ w ∈ ws, FreePageWrite fuel d w) :
    recover H fuel (applyAll d ws) = verify H fuel d d.primary ∧
    Clean H fuel (applyAll d ws) ∧
    verify H fuel (applyAll d ws) (applyAll d ws).primary = verify H fuel d d.primary :=
  ⟨recover_free_writes H hinj fuel d hc ws hws, clean_free_writes H fuel d hc ws hws⟩

/-- redb's repair-on-open leaves a clean medium showing what recovery found -/
theorem redb_protocol_repair {α C : Type} [DecidableEq C] (H : Sums α C) (fuel : Nat)
    (d : Disk α C) (c : List α) (h : recover H fuel d = some c) :
    Clean H fuel (repair H fuel d) ∧
    verify H fuel (repair H fuel d) (repair H fuel d).primary = some c :=
  repair_clean H fuel d c h

/-- **`AtomicDurableCommit` holds for the redb protocol model.**  `redbBackend H fuel dec plan _`
    is the `Backend` whose images are media (+ "crashed since open" flag), whose `commit` is
    [repair-on-open if crashed;] the one-phase commit protocol, whose crash relations are the
    harness's fault model, and whose `view` is redb's recovery. -/
theorem redb_protocol_atomic {α C σ : Type} [DecidableEq C] (H : Sums α C)
    (hinj : Function.Injective H.page) (fuel : Nat) (dec : List α → σ)
    (plan : Disk α C → σ → Plan α C)
    (hplan : ∀ d, Clean H fuel d → ∀ w, PlanOK H fuel dec d w (plan d w)) :
    AtomicDurableCommit (redbBackend H fuel dec plan hplan) :=
  redbBackend_atomic H hinj fuel dec plan hplan

/-- **`crash_prefix_partial` on the protocol model**: the remaining assumptions are (i)–(iii)
    of the section header only.  Still `_partial`: the model is a transcription, the B-tree /
    allocator layer is the hypothesis `hplan`, crashes during repair-on-open are not modelled. -/
theorem crash_prefix_redb_protocol_partial {α C σ ε : Type} [DecidableEq C] (H : Sums α C)
    (hinj : Function.Injective H.page) (fuel : Nat) (dec : List α → σ)
    (plan : Disk α C → σ → Plan α C)
    (hplan : ∀ d, Clean H fuel d → ∀ w, PlanOK H fuel dec d w (plan d w))
    (d₀ : RD H fuel) (ops : List (Op σ ε)) (d' : RD H fuel) (n : Nat)
    (hc : CrashImage (redbBackend H fuel dec plan hplan) d₀ ops d' n) :
    ∃ k, n ≤ k ∧ k ≤ n + 1 ∧ k ≤ ops.length ∧
      (redbBackend H fuel dec plan hplan).view d' =
        runAbs ((redbBackend H fuel dec plan hplan).view d₀) (ops.take k) :=
  crash_prefix_partial _ (redb_protocol_atomic H hinj fuel dec plan hplan) d₀ ops d' n hc

/-- … and any number of crash / repair-on-open / continue cycles -/
theorem crash_multi_redb_protocol_partial {α C σ ε : Type} [DecidableEq C] (H : Sums α C)
    (hinj : Function.Injective H.page) (fuel : Nat) (dec : List α → σ)
    (plan : Disk α C → σ → Plan α C)
    (hplan : ∀ d, Clean H fuel d → ∀ w, PlanOK H fuel dec d w (plan d w))
    (d d' : RD H fuel) (incs : List (List (Op σ ε) × Nat))
    (hl : Lives (redbBackend H fuel dec plan hplan) d incs d') :
    ∃ eff, SurvivingPrefixes incs eff ∧
      (redbBackend H fuel dec plan hplan).view d' =
        runAbs ((redbBackend H fuel dec plan hplan).view d) eff :=
  crash_multi_partial _ (redb_protocol_atomic H hinj fuel dec plan hplan) d d' incs hl

section RedbProtocolStore
open Lumina.Model Lumina.Model.Store Lumina.Model.CrashRedb
open Lumina.Proofs.Store Lumina.Proofs.CrashRedb
open Lumina.Model.RedbCommit Lumina.Proofs.RedbCommit

/-- **C22 for the redb store model ON the redb protocol model**: `redb_crash_reopen_partial`
    (store operations of C19–C21, `RedbStore::new` on reopen, index consistency) with the
    backend instantiated by the commit-protocol model — no `AtomicDurableCommit` hypothesis;
    `dec` decodes tree content into the logical database `Db`, `plan`/`hplan` stand for redb's
    B-tree + allocator layer. -/
theorem redb_store_on_protocol_partial {α C : Type} [DecidableEq C] (H : Sums α C)
    (hinj : Function.Injective H.page) (fuel : Nat) (dec : List α → Db)
    (plan : Disk α C → Db → Plan α C)
    (hplan : ∀ d, Clean H fuel d → ∀ w, PlanOK H fuel dec d w (plan d w))
    (v : Hdr → Hdr → Bool) (name : Hash → String) (parent : Hdr → Hash) (hlink : HashLinked v parent)
    (d₀ : RD H fuel) (id0 : Nat) (hid : id0 ≠ 0)
    (hd₀ : (redbBackend H fuel dec plan hplan).view d₀ = CrashRedb.fresh id0)
    (ops : List Store.Op) (hw : AllWf ops) (hvr : ValidRun v Lumina.Spec.C19.init ops)
    (d' : RD H fuel) (n : Nat)
    (hc : CrashImage (redbBackend H fuel dec plan hplan) d₀ (ops.map (txOf v)) d' n) (newId : Nat) :
    (reopen (redbBackend H fuel dec plan hplan) (openTx newId) d').2 = .ok () ∧
    ∃ k, n ≤ k ∧ k ≤ n + 1 ∧ k ≤ ops.length ∧
      (redbBackend H fuel dec plan hplan).view (reopen (redbBackend H fuel dec plan hplan) (openTx newId) d').1 =
        ⟨id0, (runOps (RedbStore.step v) RedbStore.new (ops.take k)).1⟩ ∧
      StoreConsistent v name parent
        ((redbBackend H fuel dec plan hplan).view (reopen (redbBackend H fuel dec plan hplan) (openTx newId) d').1) :=
  redb_crash_reopen_partial _ (redb_protocol_atomic H hinj fuel dec plan hplan) v name parent hlink
    d₀ id0 hid hd₀ ops hw hvr d' n hc newId
end RedbProtocolStore

/-- **The page-allocation hypothesis has content.**  A transaction that overwrites a page
    reachable from the committed root (violating `PlanOK.free`; everything else as in the
    theorem: clean medium, newer transaction id, the new roots verify and hold the new state
    once all pages are written, collision-free checksums) is NOT crash-atomic: if the page write
    survives and the header write does not, recovery finds the committed tree broken, falls back
    to the older slot, and shows the EMPTY database — neither the committed `[1,2,3]` nor the
    new `[9]`. -/
theorem redb_protocol_inplace_counterexample :
    Clean Example.sums 1 Example.disk1 ∧
    verify Example.sums 1 Example.disk1 Example.disk1.primary = some [[1, 2, 3]] ∧
    (Example.disk1.slots Example.disk1.primary).txid < Example.inPlace.txid ∧
    readRoots Example.sums (applyAll Example.disk1 Example.inPlace.pageWrites).pages 1 Example.inPlace.roots = some [[9]] ∧
    ∃ x, CrashImg Example.disk1 (commitEpochs Example.sums Example.disk1 Example.inPlace false) x ∧
      recover Example.sums 1 x = some [] := by
  have hv : verify Example.sums 1 Example.disk1 Example.disk1.primary = some [[1, 2, 3]] := by
    simp [verify, Example.disk1, mkSlot, readRoots, readKids, readTree, Example.sums]
  refine ⟨⟨?_, ⟨_, hv⟩, ?_⟩, hv, ?_, ?_, applyAll Example.disk1 [.page 1 ⟨[9], []⟩], ?_, ?_⟩
  · simp [Example.disk1, Slot.corrupted, mkSlot]
  · right; left; simp [Example.disk1, mkSlot]
  · simp [Example.disk1, Example.inPlace, mkSlot]
  · simp [Example.disk1, Example.inPlace, Plan.pageWrites, applyAll, Write.apply, readRoots, readKids, readTree, Example.sums]
  · left
    refine ⟨1, _, ?_, rfl⟩
    simp [Example.inPlace, Plan.pageWrites]
  · simp [applyAll, Write.apply, Example.disk1, recover, recoverSlot, pickPrimary, verify, mkSlot, Slot.corrupted,
      readRoots, readKids, readTree, Example.sums]

/-! ### non-vacuity: the hypotheses (i)–(iii) are satisfiable, concrete crash images -/

/-- a collision-free checksum, a planner meeting `PlanOK` on every clean medium, a clean medium -/
example : Function.Injective Example.sums.page ∧
    (∀ d, Clean Example.sums 1 d → ∀ w, PlanOK Example.sums 1 List.flatten d w (Example.plan 1 d w)) ∧
    Clean Example.sums 1 Example.emptyDisk :=
  ⟨Example.sums_injective, fun d _ w => Example.plan_ok 0 d w, Example.emptyDisk_clean 1⟩

/-- the commit of state `[1,2,3]` on a fresh database: the header reached the medium, the data
    page did not ("hdr" mask of the harness) -/
example :
    let d := Example.emptyDisk
    let pl := Example.plan 1 d [1, 2, 3]
    let x := applyAll d (headerWrites (stage2 false (stage1 Example.sums d pl)))
    CrashImg d (commitEpochs Example.sums d pl false) x ∧
    recover Example.sums 1 x = some [] := by
  intro d pl x
  constructor
  · left
    refine ⟨(pl.pageWrites ++ headerWrites (stage1 Example.sums d pl) ++
      headerWrites (stage2 false (stage1 Example.sums d pl))).length, _, ?_, rfl⟩
    rw [List.take_length]
    exact List.sublist_append_right _ _
  · simp [x, d, pl, applyAll_headerWrites, recover, recoverSlot, pickPrimary, verify, stage1, stage2,
      Example.emptyDisk, Example.plan, mkSlot, Slot.corrupted, readRoots, readKids, readTree, Example.sums,
      liveRoots, liveKids, Example.fresh]

/-- … and the same commit with the page AND the new header on the medium (crash just before the
    `sync_data` returns): the new state is shown -/
example :
    let d := Example.emptyDisk
    let pl := Example.plan 1 d [1, 2, 3]
    let x := applyAll d (pl.pageWrites ++ headerWrites (stage2 false (stage1 Example.sums d pl)))
    CrashImg d (commitEpochs Example.sums d pl false) x ∧
    recover Example.sums 1 x = some [[1, 2, 3]] := by
  intro d pl x
  constructor
  · left
    refine ⟨(pl.pageWrites ++ headerWrites (stage1 Example.sums d pl) ++
      headerWrites (stage2 false (stage1 Example.sums d pl))).length, _, ?_, rfl⟩
    rw [List.take_length, List.append_assoc]
    exact List.Sublist.append_left (List.sublist_append_right _ _) _
  · simp only [x, applyAll_append, applyAll_headerWrites]
    simp [d, pl, recover, recoverSlot, pickPrimary, verify, stage1, stage2,
      Example.emptyDisk, Example.plan, mkSlot, Slot.corrupted, readRoots, readKids, readTree, Example.sums,
      liveRoots, liveKids, Example.fresh, Plan.pageWrites, applyAll, Write.apply]

end RedbProtocol

/-! ## The RAW medium, and non-vacuity of `redb_store_on_protocol_partial`

  The images of `redbBackend` are elements of the subtype
  `RD = {x // Good x}` (recoverable media), so inside `crash_prefix_redb_protocol_partial` /
  `redb_store_on_protocol_partial` "reopening succeeds" is carried by the type of `d'`.  The
  theorems below compose the raw-medium results of the section above with the backend: EVERY raw
  medium that a crash can leave (any `CrashImg` of the commit's write epochs — any prefix of the issue order, any
  subset of the unsynced region writes — and any set of early-evicted free-page writes of a
  running or aborting transaction) is recoverable, hence IS an element of `RD` related to the
  pre-crash image by the backend's crash relation.  The subtype excludes no crash image. -/

section AuditRaw
open Lumina.Model.RedbCommit Lumina.Proofs.RedbCommit Lumina.Proofs.CrashAudit

/-- crash inside `commit()`: the raw medium `y` is recoverable and is a `crashInCommit` image -/
theorem redb_protocol_raw_commit_crash_reopens {α C σ : Type} [DecidableEq C] (H : Sums α C)
    (hinj : Function.Injective H.page) (fuel : Nat) (dec : List α → σ)
    (plan : Disk α C → σ → Plan α C)
    (hplan : ∀ d, Clean H fuel d → ∀ w, PlanOK H fuel dec d w (plan d w))
    (x : RD H fuel) (w : σ) (y : Disk α C)
    (himg : CrashImg (opened H fuel x.1)
      (commitEpochs H (opened H fuel x.1) (plan (opened H fuel x.1) w) false) y) :
    (∃ c, recover H fuel y = some c) ∧
    ∃ d' : RD H fuel, d'.1 = (y, true) ∧ (redbBackend H fuel dec plan hplan).crashInCommit x w d' := by
  have hc := (opened_clean H fuel x.1 x.2).1
  have hg : Good H fuel (y, true) :=
    raw_commit_crash_good H hinj fuel dec _ w _ hc (hplan _ hc w) y himg
  exact ⟨by simpa [Good] using hg, ⟨(y, true), hg⟩, rfl, rfl, himg⟩

/-- crash while the closure runs or while `abort()` runs: whatever dirty pages were evicted to
    free pages, the raw medium is recoverable and is a `crashInTx` / `crashInAbort` image -/
theorem redb_protocol_raw_tx_crash_reopens {α C σ : Type} [DecidableEq C] (H : Sums α C)
    (hinj : Function.Injective H.page) (fuel : Nat) (dec : List α → σ)
    (plan : Disk α C → σ → Plan α C)
    (hplan : ∀ d, Clean H fuel d → ∀ w, PlanOK H fuel dec d w (plan d w))
    (x : RD H fuel) (ws : List (Write α C))
    (hws : ∀ w ∈ ws, FreePageWrite fuel (opened H fuel x.1) w) :
    (∃ c, recover H fuel (applyAll (opened H fuel x.1) ws) = some c) ∧
    ∃ d' : RD H fuel, d'.1 = (applyAll (opened H fuel x.1) ws, true) ∧
      (redbBackend H fuel dec plan hplan).crashInTx x d' ∧
      (redbBackend H fuel dec plan hplan).crashInAbort x d' := by
  have hc := (opened_clean H fuel x.1 x.2).1
  have hg : Good H fuel (applyAll (opened H fuel x.1) ws, true) := raw_tx_crash_good H hinj fuel _ hc ws hws
  exact ⟨by simpa [Good] using hg, ⟨(_, true), hg⟩, rfl, ⟨rfl, ws, hws, rfl⟩, ⟨rfl, ws, hws, rfl⟩⟩

open Lumina.Model Lumina.Model.Store Lumina.Model.CrashRedb
open Lumina.Proofs.Store Lumina.Proofs.CrashRedb

/-- **C22 on the RAW medium** (store model of C19–C21 on the commit-protocol model): the store
    has run the calls `pre`; call `op` is in flight and its `commit()` is cut by a crash that
    leaves the raw medium `y` (ANY crash image of the commit's writes — `y` is a plain `Disk`,
    no recoverability assumed).  Then recovery of `y` succeeds, `RedbStore::new` on it returns
    `Ok`, and the reopened store shows the state after `pre` or after `pre ++ [op]`, with
    consistent indexes.  Still `_partial`: hypotheses (i)–(iii) of the commit-protocol section. -/
theorem redb_store_on_protocol_raw_partial {α C : Type} [DecidableEq C] (H : Sums α C)
    (hinj : Function.Injective H.page) (fuel : Nat) (dec : List α → Db)
    (plan : Disk α C → Db → Plan α C)
    (hplan : ∀ d, Clean H fuel d → ∀ w, PlanOK H fuel dec d w (plan d w))
    (v : Hdr → Hdr → Bool) (name : Hash → String) (parent : Hdr → Hash) (hlink : HashLinked v parent)
    (d₀ : RD H fuel) (id0 : Nat) (hid : id0 ≠ 0)
    (hd₀ : (redbBackend H fuel dec plan hplan).view d₀ = CrashRedb.fresh id0)
    (pre post : List Store.Op) (op : Store.Op)
    (hw : AllWf (pre ++ op :: post)) (hvr : ValidRun v Lumina.Spec.C19.init (pre ++ op :: post))
    (w : Db)
    (hop : txOf v op ((redbBackend H fuel dec plan hplan).view
      (runDisk (redbBackend H fuel dec plan hplan) d₀ (pre.map (txOf v)))) = .ok w)
    (y : Disk α C)
    (himg : CrashImg
      (opened H fuel (runDisk (redbBackend H fuel dec plan hplan) d₀ (pre.map (txOf v))).1)
      (commitEpochs H (opened H fuel (runDisk (redbBackend H fuel dec plan hplan) d₀ (pre.map (txOf v))).1)
        (plan (opened H fuel (runDisk (redbBackend H fuel dec plan hplan) d₀ (pre.map (txOf v))).1) w) false) y)
    (newId : Nat) :
    (∃ c, recover H fuel y = some c) ∧
    ∃ d' : RD H fuel, d'.1 = (y, true) ∧
      (reopen (redbBackend H fuel dec plan hplan) (openTx newId) d').2 = .ok () ∧
      ∃ k, pre.length ≤ k ∧ k ≤ pre.length + 1 ∧
        (redbBackend H fuel dec plan hplan).view (reopen (redbBackend H fuel dec plan hplan) (openTx newId) d').1 =
          ⟨id0, (runOps (RedbStore.step v) RedbStore.new ((pre ++ op :: post).take k)).1⟩ ∧
        StoreConsistent v name parent
          ((redbBackend H fuel dec plan hplan).view (reopen (redbBackend H fuel dec plan hplan) (openTx newId) d').1) := by
  obtain ⟨hrec, d', hd', hcr⟩ := redb_protocol_raw_commit_crash_reopens H hinj fuel dec plan hplan
    (runDisk (redbBackend H fuel dec plan hplan) d₀ (pre.map (txOf v))) w y himg
  have hci : CrashImage (redbBackend H fuel dec plan hplan) d₀ ((pre ++ op :: post).map (txOf v)) d'
      (pre.map (txOf v)).length :=
    CrashImage.inCommit (pre.map (txOf v)) (post.map (txOf v)) (txOf v op) w d' (by simp) hop hcr
  rw [List.length_map] at hci
  obtain ⟨hok, k, h1, h2, _, h4, h5⟩ := redb_store_on_protocol_partial H hinj fuel dec plan hplan v name parent
    hlink d₀ id0 hid hd₀ (pre ++ op :: post) hw hvr d' pre.length hci newId
  exact ⟨hrec, d', hd', hok, k, h1, h2, h4, h5⟩

/-- **non-vacuity of the hypothesis set of `redb_store_on_protocol_partial`** (`dec`, `plan`,
    `hplan`, `hd₀`, together with a hash-linked oracle, a well-formed valid history and a crash
    image): pages carry a whole `Db` (`α := Db`), the checksum is the collision-free
    `Gen.sums Db`, the planner writes the new `Db` to one fresh page, the medium is a freshly
    created file showing `fresh 7`; the history is `exOps` of section `Redb`, crashed idle after
    3 calls. -/
example :
    let H := Gen.sums Db
    let dec := Gen.dec (CrashRedb.fresh 7)
    let plan := Gen.plan (β := Db) 1
    ∃ (hplan : ∀ d, Clean H 1 d → ∀ w, PlanOK H 1 dec d w (plan d w)) (d₀ d' : RD H 1),
      Function.Injective H.page ∧ HashLinked exV exParent ∧ (7 : Nat) ≠ 0 ∧
      (redbBackend H 1 dec plan hplan).view d₀ = CrashRedb.fresh 7 ∧
      AllWf exOps ∧ ValidRun exV Lumina.Spec.C19.init exOps ∧
      CrashImage (redbBackend H 1 dec plan hplan) d₀ (exOps.map (txOf exV)) d' 3 := by
  intro H dec plan
  have hplan : ∀ d, Clean H 1 d → ∀ w, PlanOK H 1 dec d w (plan d w) :=
    fun d _ w => Gen.plan_ok (CrashRedb.fresh 7) 0 d w
  refine ⟨hplan, Gen.emptyRD (CrashRedb.fresh 7) 1,
    runDisk (redbBackend H 1 dec plan hplan) (Gen.emptyRD (CrashRedb.fresh 7) 1) ((exOps.take 3).map (txOf exV)),
    Gen.sums_injective Db, ?_, by decide, Gen.emptyRD_view (CrashRedb.fresh 7) 0, by unfold AllWf; decide,
    validRun_of_validated exV exOps (by unfold AllValidated; decide) _ storedValid_init, ?_⟩
  · intro x y _ h; simpa [exV, exParent] using h
  · exact CrashImage.idle ((exOps.take 3).map (txOf exV)) ((exOps.drop 3).map (txOf exV)) (by
      rw [← List.map_append, List.take_append_drop])


/-- **Counterexample to the assumption for redb 2.6.3's `end_repair`** (known finding
    `C22/redb-end-repair-double-crash`, reproduced on the real redb by
    `corpus/C22/redb-end-repair-double-crash.ops`).  A medium left by a FIRST crash (database was
    open: header says recovery required, on-disk allocator state stale) shows its committed
    state; a SECOND crash inside the single flush of the repair, with the header write surviving
    and the allocator write lost, leaves a medium that cannot be opened at all.  So this backend
    does not satisfy `AtomicDurableCommit`, and the full statement of C22 fails for it: no prefix
    of the history explains "unopenable".  (`crash_prefix_partial` is untouched: it assumes
    `AtomicDurableCommit`.) -/
theorem redb_end_repair_counterexample :
    let B := endRepairBackend
    let m : Medium := ⟨5, false, true⟩        -- after the first crash
    let m' : Medium := ⟨5, false, false⟩      -- second crash inside `end_repair`: header kept, allocator state lost
    B.view m = some 5 ∧ B.crashInTx m m' ∧ B.view m' = none ∧
    ¬ AtomicDurableCommit B ∧ ¬ FullStatement (ε := Unit) B := by
  intro B m m'
  have hcr : B.crashInTx m m' := ⟨false, true, rfl⟩
  have hv : B.view m = some 5 := rfl
  have hv' : B.view m' = none := rfl
  refine ⟨hv, hcr, hv', ?_, ?_⟩
  · intro h
    have := h.crash_tx_invisible m m' hcr
    rw [hv, hv'] at this
    cases this
  · intro h
    let op : Op (Option Nat) Unit := fun s => .ok s
    obtain ⟨k, _, _, hk⟩ := h m [op] m' 0 (CrashImage.inClosure (B := B) [] [] op m' rfl hcr)
    have hrun : ∀ k, runAbs (B.view m) (([op] : List (Op (Option Nat) Unit)).take k) = some 5 := by
      intro k
      cases k with
      | zero => rfl
      | succ k => simp [List.take_succ_cons, runAbs, applyOp, op, hv]
    rw [hv', hrun k] at hk
    cases hk

end AuditRaw

end Lumina.Props.C22

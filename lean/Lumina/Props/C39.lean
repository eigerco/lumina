/-
  C39 — Peer tracker counts match peer states.

  Model: `Lumina/Model/PeerTracker.lean` (state machine `init` / `step : State → Event → State × Out`
  transcribing every `&mut self` method of `node/src/peer_tracker.rs`; passage of time is the
  event `advance`).  Spec: `Lumina/Spec/C39.lean` (decidable checkers over the OBSERVED tracker).
  `viewPeers` / `viewInfo` (`Model/PeerTrackerView.lean`) project a model state onto what the spec
  observes.  Every theorem quantifies over ALL event histories (`evs : List Event`, any length,
  any peer / connection / tag numbers, any agent strings).
-/
import Lumina.Proofs.PeerTracker

namespace Lumina.Props.C39
open Lumina.Model.PeerTracker Lumina.Proofs.PeerTracker Lumina.Spec.C39

/-- the generated constant is the number the code states: peers expire after 120 s -/
theorem expired_after_eq :
    Lumina.Gen.C39.EXPIRED_AFTER = 120 * 1000000000 ∧ expiredAfterSecs = 120 := by decide

/-- **the published peer statistics equal a recount of the tracked peers** — after any history -/
theorem info_matches_recount (evs : List Event) :
    specInfo (viewPeers (run init evs)) (viewInfo (run init evs).info) = true := by
  simp only [specInfo, viewPeers, recountObs_view, (inv_run init evs inv_init).info, beq_self_eq_true]

/-- **the per-tag protected counts equal the number of peers protected with that tag** — for
    every tag, after any history (`protectedLen` is the model of `protected_len`) -/
theorem protected_counts_match (evs : List Event) (tag : Nat) :
    specProtected (viewPeers (run init evs)) tag (protectedLen (run init evs) tag) = true := by
  simp only [specProtected, viewPeers, ← List.countP_eq_length_filter, List.countP_map, beq_iff_eq]
  exact (inv_run init evs inv_init).counts tag

/-- **garbage collection never forgets a connected or protected peer** — from ANY state (reachable
    or not) every connected or protected peer is still tracked, with unchanged observable
    state, after `gc` -/
theorem gc_never_forgets (s : State) :
    specGc (viewPeers s) (viewPeers (step s .gc).1) = true := by
  simp only [specGc, viewPeers, step, gc, List.all_eq_true, List.mem_map, forall_exists_index, and_imp,
    forall_apply_eq_imp_iff₂]
  intro p hp
  split
  · rename_i hk
    simp only [List.contains_eq_mem, List.mem_map, List.mem_filter, decide_eq_true_eq]
    refine ⟨p, ⟨hp, ?_⟩, rfl⟩
    rw [view_connected, Bool.or_eq_true] at hk
    exact hk.elim gcKeeps_of_connected gcKeeps_of_protected
  · rfl

/-- the same along histories: a `gc` appended to any history keeps those peers -/
theorem gc_never_forgets_history (evs : List Event) :
    specGc (viewPeers (run init evs)) (viewPeers (run init (evs ++ [.gc]))) = true := by
  simp only [run, List.foldl_append]
  exact gc_never_forgets _

/-- no peer is tracked twice, after any history -/
theorem tracked_peers_distinct (evs : List Event) :
    specDistinct (viewPeers (run init evs)) = true := by
  simp only [specDistinct, List.all_eq_true, beq_iff_eq]
  refine Lumina.Proofs.Util.filter_same_key_length (fun o : ObsPeer => o.id) _ ?_
  simp only [viewPeers, List.map_map]
  exact (inv_run init evs inv_init).nodup

/-- the `expect("protected flag was set but not counted")` and the `usize` underflow in `unprotect`
    are unreachable: no event panics after any history -/
theorem never_panics (evs : List Event) (e : Event) :
    (step (run init evs) e).2.panic = false :=
  (step_ok _ e (inv_run init evs inv_init)).2

/-- only garbage collection forgets peers: every other event keeps every tracked peer id -/
theorem only_gc_forgets (s : State) (e : Event) (he : e ≠ .gc) :
    ∀ x ∈ ids s.peers, x ∈ ids (step s e).1.peers := by
  intro x hx
  cases e with
  | gc => exact (he rfl).elim
  | addPeerId id =>
    simp only [step, addPeerId]
    split
    · exact hx
    · simp only [ids, List.map_append, List.mem_append]; exact Or.inl hx
  | setTrusted id v => simp only [step, setTrusted]; exact ids_sub_upsert hx fun _ => rfl
  | protect id tag => simp only [step, protect]; exact ids_sub_upsert hx fun _ => rfl
  | markArchival id => simp only [step, markArchival]; exact ids_sub_upsert hx fun _ => rfl
  | addConnection id c =>
    simp only [step, addConnection]
    split <;> (simp only; exact ids_sub_upsert hx fun _ => rfl)
  | unprotect id tag =>
    simp only [step, unprotect]
    split
    · exact hx
    · split
      · split <;> (simp only; exact ids_sub_modify hx fun _ => rfl)
      · simp only; exact ids_sub_modify hx fun _ => rfl
  | removeConnection id c =>
    simp only [step, removeConnection]
    split
    · exact hx
    · split <;> (simp only; exact ids_sub_modify hx fun _ => rfl)
  | agentVersion id a =>
    simp only [step, onAgentVersion]
    split
    · exact hx
    · split
      · simp only; exact ids_sub_modify hx fun _ => rfl
      · exact hx
  | ping id c r => simp only [step, onPing]; exact ids_sub_modify hx fun _ => rfl
  | advance secs => simp only [step, advance, ids, List.map_map]; exact hx

/-! ### non-vacuity: a concrete history exercising every kind of event -/

def sampleHistory : List Event :=
  [.addConnection 1 10, .addConnection 1 11, .setTrusted 1 true, .protect 2 0, .protect 1 0, .protect 1 3,
   .addConnection 2 20, .markArchival 2,
   .removeConnection 1 10, .addConnection 3 30, .removeConnection 3 30, .unprotect 1 0,
   .advance 200, .gc]

/-- after the sample history: peer 1 (connected, trusted, protected with tag 3) and peer 2
    (connected, archival, protected with tag 0) remain, peer 3 expired and was collected -/
example : ((run init sampleHistory).info, protectedLen (run init sampleHistory) 0,
           protectedLen (run init sampleHistory) 3, ids (run init sampleHistory).peers)
          = (⟨2, 1, 0, 1⟩, 1, 1, [1, 2]) := by decide +kernel

/-- `gc` really does forget expired, unprotected, disconnected peers (the theorem is not vacuous) -/
example : ids (run init (sampleHistory.dropLast)).peers = [1, 2, 3] := by decide +kernel

end Lumina.Props.C39

/-
  C46 — Public data types round-trip through their wire and JSON forms.  PARTIAL by design.

  PROVED here (for all valid values, no bound on list lengths): `fromRaw (toRaw x) = x` for the conversion
  layers lumina owns — namespaced hashes / DAH, shares (with the stated parity exception), namespaces (base64
  serde form, from C14), namespace proofs (both raw forms), merkle / row / share proofs, bad-encoding fraud
  proofs, block ranges' serde form (from C17), and the hex / base64 byte serializers of `proto/src/serializers`.

  Also (last two sections): `Blob` ↔ `RawBlob` (`Blob::from_raw`, commitment = C12's model or any
  function), `Blob` ↔ its JSON fields (`custom_serde::SerdeBlob` with `index_serde`, `signer_serde`, the
  `Namespace` / `Commitment` / `base64string` field forms, `validate_blob`), and the lumina-owned part of
  `ExtendedHeader` ↔ `RawExtendedHeader` (required messages in source order, `validate()` on decode, the inverse
  `From`, the `custom_serde` JSON layer) — with exact acceptance conditions (`…_accepts_iff`).

  NOT proved (correspondence only, see registry/C46.json): prost's and serde_json's own encoders/decoders, and
  tendermint's own conversions of Header / Commit / ValidatorSet inside ExtendedHeader (abstract parameters with
  an explicit round-trip hypothesis in `eh_roundtrip`).
-/
import Lumina.Proofs.RoundTrip
import Lumina.Proofs.Ranges
import Lumina.Proofs.RoundTripExt
import Lumina.Spec.C46
import Lumina.Gen.C46

namespace Lumina.Props.C46
open Lumina.Util Lumina.Model.Nmt Lumina.Model.Eds Lumina.Model.Decoders Lumina.Model.RoundTrip
open Lumina.Proofs.RoundTrip
open Lumina.Model
open Lumina.Spec.C46 (Obs specOK specShareOK)

/-- observation of a model round trip -/
def obsOpt {α} [DecidableEq α] (x : α) : Option α → Obs
  | some y => if y = x then .same else .differs
  | none => .decodeError

theorem same_of_eq {α} [DecidableEq α] {x : α} {o : Option α} (h : o = some x) : specOK (obsOpt x o) = true := by
  subst h; simp [obsOpt, specOK]

/-! ## constants -/

theorem ns_size_tied : Lumina.Gen.C46.NS_SIZE = NS_SIZE := rfl
theorem share_size_tied : Lumina.Gen.C46.SHARE_SIZE = SHARE_SIZE := rfl
theorem hash_size_tied : Lumina.Gen.C46.HASH_SIZE = HASH_LEN := rfl

/-! ## namespaced hashes, DAH -/

theorem nshash_roundtrip (h : NsHash) (w : h.WF) : specOK (obsOpt h (NsHash.ofBytes? h.toBytes)) = true :=
  same_of_eq (Lumina.Proofs.Nmt.ofBytes_toBytes w)

example : (⟨List.replicate 29 0, List.replicate 29 1, List.replicate 32 7⟩ : NsHash).WF := by decide

/-- every DAH (any number of roots) -/
theorem dah_roundtrip (d : Dah) (hr : ∀ h ∈ d.rowRoots, h.WF) (hc : ∀ h ∈ d.colRoots, h.WF) :
    specOK (obsOpt d (dahFromRaw (dahToRaw d))) = true :=
  same_of_eq (Lumina.Proofs.RoundTrip.dah_roundtrip d hr hc)

/-! ## shares -/

theorem share_roundtrip (s : Share) (h : ValidShare s) : specOK (obsOpt s (shareFromRaw (shareToRaw s))) = true :=
  same_of_eq (Lumina.Proofs.RoundTrip.share_roundtrip s h)

set_option maxRecDepth 100000 in
example : ValidShare ⟨List.replicate 512 0, false⟩ := ⟨rfl, by decide, ⟨List.replicate 29 0, by rfl⟩⟩

/-- the stated exception is real: a parity share comes back as the non-parity share with the same bytes -/
theorem share_parity_exception :
    shareFromRaw (shareToRaw ⟨List.replicate 512 0, true⟩) = some ⟨List.replicate 512 0, false⟩ := by
  decide +kernel

/-- FINDING (open): the same loss in the PROTOBUF form `shwap.Share` / `TryFrom<RawShare>`, which the property's
    exception (JSON only) does not cover -/
theorem share_parity_protobuf_counterexample :
    specOK (obsOpt (⟨List.replicate 512 0, true⟩ : Share) (shareFromRaw (shareToRaw ⟨List.replicate 512 0, true⟩))) = false := by
  -- what comes back differs from what went in by the parity flag alone
  rw [share_parity_exception, obsOpt, if_neg (by intro e; cases e)]; rfl

/-- the property's checker allows the loss in the JSON form: any observation of a parity share passes -/
theorem share_parity_allowed (o : Obs) : specShareOK true .json o = true := rfl

/-- the exception does not extend to the protobuf form -/
theorem share_parity_protobuf_not_excepted : specShareOK true .protobuf .differs = false := rfl

/-! ## namespaces (C14) -/

/-- base64 serde form of every valid namespace -/
theorem namespace_serde_roundtrip (ns : Bytes) (h : Namespace.fromRaw ns = .ok ns) :
    Namespace.deserialize (Namespace.serialize ns) = some ns :=
  Lumina.Proofs.Namespace.serde_roundtrip ns h

/-! ## namespace proofs -/

/-- `NamespaceProof` ↔ `proof.pb.Proof` (protobuf and JSON of samples, row namespace data, fraud proofs) -/
theorem nsproof_roundtrip (p : NsProof) (h : WFProof p) : proofFromRaw (proofToRaw p) = .ok p :=
  proof_roundtrip p h

example : WFProof ⟨3, 4, [⟨List.replicate 29 0, List.replicate 29 1, List.replicate 32 7⟩], true, false, none⟩ :=
  ⟨by decide, by decide, by decide +kernel, rfl⟩

/-- FINDING (open): an absence proof without a leaf — what nmt-rs `get_namespace_proof` returns for a namespace
    outside the root's range — has no wire representation: it decodes as a presence proof -/
theorem nsproof_absence_without_leaf_counterexample :
    (match proofFromRaw (proofToRaw ⟨0, 0, [], true, true, none⟩) with
     | .ok q => decide (q = (⟨0, 0, [], true, true, none⟩ : NsProof))
     | _ => true) = false := by decide

/-- `NamespaceProof` ↔ `celestia.core.v1.proof.NMTProof` (inside share proofs): proofs that ignore the max namespace -/
theorem nmtproof_roundtrip (p : NsProof) (h : WFProof p) (hi : p.ignoreMaxNs = true) :
    specOK (obsOpt p (nmtProofFromRaw (nmtProofToRaw p))) = true :=
  same_of_eq (Lumina.Proofs.RoundTrip.nmtproof_roundtrip p h hi)

/-- FINDING (open): the `NMTProof` form has no `is_max_namespace_ignored` field, a proof built with
    `ignore_max_ns = false` comes back with `true` -/
theorem nmtproof_ignore_max_ns_counterexample :
    specOK (obsOpt (⟨0, 1, [], false, false, none⟩ : NsProof)
      (nmtProofFromRaw (nmtProofToRaw ⟨0, 1, [], false, false, none⟩))) = false := by decide

/-! ## merkle, row and share proofs -/

theorem merkle_roundtrip (p : MerkleProof) (h : ValidMerkle p) :
    specOK (obsOpt p (merkleFromRaw (merkleToRaw p))) = true :=
  same_of_eq (Lumina.Proofs.RoundTrip.merkle_roundtrip p h)

example : ValidMerkle ⟨2, 5, List.replicate 32 1, [List.replicate 32 2]⟩ := by
  unfold ValidMerkle; decide +kernel

theorem rowproof_roundtrip (p : RowProof) (h : ValidRowProof p) :
    specOK (obsOpt p (rowProofFromRaw (rowProofToRaw p))) = true :=
  same_of_eq (Lumina.Proofs.RoundTrip.rowproof_roundtrip p h)

theorem shareproof_roundtrip (p : ShareProof) (h : ValidShareProof p) :
    specOK (obsOpt p (shareProofFromRaw (shareProofToRaw p))) = true :=
  same_of_eq (Lumina.Proofs.RoundTrip.shareproof_roundtrip p h)

/-- a namespaced hash, a merkle proof and an NMT proof used by the non-vacuity examples below -/
def exHash : NsHash := ⟨List.replicate 29 0, List.replicate 29 1, List.replicate 32 7⟩
def exMerkle : MerkleProof := ⟨2, 5, List.replicate 32 1, [List.replicate 32 2]⟩
def exProof : NsProof := ⟨3, 5, [exHash], true, false, none⟩

theorem exHash_wf : exHash.WF := by decide
theorem exMerkle_valid : ValidMerkle exMerkle := by
  unfold ValidMerkle; decide +kernel
theorem exProof_wf : WFProof exProof := ⟨by decide, by decide, by decide +kernel, rfl⟩

/-- a row proof for rows 2..3 with a root and a merkle proof per row -/
example : ValidRowProof ⟨[exHash, exHash], [exMerkle, exMerkle], 2, 3⟩ := by
  unfold ValidRowProof ValidMerkle; decide +kernel

set_option maxRecDepth 100000 in
/-- a share proof with two shares, one NMT proof and a one-row row proof -/
example : ValidShareProof ⟨[List.replicate 512 0, List.replicate 512 1], List.replicate 29 0, [exProof],
    ⟨[exHash], [exMerkle], 4, 4⟩⟩ := by
  refine ⟨by decide +kernel, by rfl, ?_, by unfold ValidRowProof ValidMerkle; decide +kernel⟩
  intro q hq; simp at hq; subst hq; exact ⟨exProof_wf, rfl⟩

/-! ## bad encoding fraud proofs -/

theorem befp_roundtrip (p : BefpFull) (h : ValidBefp p) : befpFromRawFull (befpToRaw p) = some p :=
  Lumina.Proofs.RoundTrip.befp_roundtrip p h

set_option maxRecDepth 100000 in
/-- a fraud proof with a header hash, one present share (namespace, 512-byte share, presence proof) and one absent -/
example : ValidBefp ⟨some (List.replicate 32 1),
    ⟨7, [some ⟨List.replicate 29 0, List.replicate 512 3, ⟨1, 2, [exHash], true, false, none⟩, .row⟩, none], 1, .col⟩⟩ := by
  refine ⟨?_, by decide, by decide, ?_⟩
  · intro h hh; simp at hh; subst hh; decide
  · intro s hs
    simp at hs
    subst hs
    refine ⟨by rfl, by decide, ⟨by decide, by decide, ?_, rfl⟩, rfl⟩
    intro x hx; simp at hx; subst hx; exact exHash_wf

/-! ## fraud proofs in JSON (`fraud_proof::Proof` ⇄ `RawFraudProof`) -/

/-- the JSON form of a fraud proof — type tag `"badencoding"` + base64 of the protobuf payload — decodes back to the
    proof, for every valid proof.  `hpb`: prost decodes what it encoded for this message (third party,
    correspondence only). -/
theorem fraud_proof_json_roundtrip (pb : PbCodec) (p : BefpFull) (hpb : PbRoundTripOn pb (befpToRaw p))
    (h : ValidBefp p) : fraudFromJson pb (fraudToJson pb p) = some p := by
  simp only [fraudFromJson, fraudToJson, Lumina.Proofs.Namespace.b64_roundtrip]
  exact fraud_raw_roundtrip pb p hpb h

/-- the serde-free half: `Proof` → `RawFraudProof` → `Proof` -/
theorem fraud_proof_raw_roundtrip (pb : PbCodec) (p : BefpFull) (hpb : PbRoundTripOn pb (befpToRaw p))
    (h : ValidBefp p) : fraudFromRaw pb (fraudToRaw pb p) = some p :=
  fraud_raw_roundtrip pb p hpb h

/-- the tag written is the one and only tag read -/
theorem fraud_proof_type_tag (pb : PbCodec) (p : BefpFull) : (fraudToJson pb p).proofType = "badencoding" := rfl

theorem fraud_proof_unknown_type_rejected (pb : PbCodec) (r : RawFraudProof) (h : r.proofType ≠ "badencoding") :
    fraudFromRaw pb r = none := by
  simp [fraudFromRaw, BEFP_TYPE, h]

/-- a codec that meets the hypothesis for a given message -/
example (r : RawBefp) : PbRoundTripOn ⟨fun _ => [1, 2, 3], fun _ => some r⟩ r := rfl

/-! ## block ranges (C17) -/

/-- the serde form of `BlockRanges` is the transparent `Vec` of its ranges; `Deserialize` is the validating
    `from_vec`: every value satisfying the representation invariant comes back -/
theorem block_ranges_serde_roundtrip (rs : Ranges.Ranges) (h : Ranges.Inv rs) : Ranges.fromVec rs = .ok rs :=
  Lumina.Proofs.Ranges.fromVec_of_inv h

example : Ranges.Inv [(1, 3), (6, 9)] := by
  refine ⟨by simp, ?_⟩
  intro r hr
  simp at hr
  rcases hr with e | e <;> subst e <;> decide

/-! ## byte serializers of proto/src/serializers/bytes.rs -/

theorem hexstring_roundtrip (bs : Bytes) : hexUpperDecode (hexUpperEncode bs) = some bs := by
  induction bs with
  | nil => rfl
  | cons b rest ih =>
    simp only [hexUpperEncode, hexUpperDecode]
    have hb := UInt8.toNat_lt b
    rw [hexUpperVal_digit _ (by omega), hexUpperVal_digit _ (by omega), ih]
    simp only [Option.some.injEq, List.cons.injEq, and_true]
    have : b.toNat / 16 * 16 + b.toNat % 16 = b.toNat := by omega
    rw [this]
    exact UInt8.ofNat_toNat

theorem base64string_roundtrip (bs : Bytes) : Namespace.b64Decode (Namespace.b64Encode bs) = some bs :=
  Lumina.Proofs.Namespace.b64_roundtrip bs

/-! ## blobs: `Blob` ↔ `RawBlob` (BlobProto), `Blob` ↔ JSON -/

/-- protobuf form, for ANY commitment function `commit` (`Commitment::from_blob`): a blob whose commitment is the
    one `commit` computes for app version `av` (i.e. `Blob::validate(av)` is `Ok`), without an index, comes back
    from `Blob::from_raw(RawBlob::from(b), av)` -/
theorem blob_pb_roundtrip {C E : Type} (commit : Bytes → Bytes → Nat → Option Bytes → Nat → Except E C) (av : Nat)
    (b : BlobV C) (h : ValidBlobPb commit av b) : blobFromRaw commit (blobToRaw b) av = .ok b :=
  Lumina.Proofs.RoundTrip.blob_pb_roundtrip commit av b h

/-- the same with C12's model of `Commitment::from_blob` (any hash functions): the commitment condition is
    `Blob::validate(av) = Ok(())` as modelled for C12 -/
theorem blob_pb_roundtrip_c12 {D : Type} [DecidableEq D] (H : Merkle.HashFns D) (h : Nmt.HashFn) (av : Nat) (b : BlobV D)
    (h1 : Namespace.fromRaw b.ns = .ok b.ns) (h2 : b.shareVersion ≤ 255)
    (h3 : ∀ s, b.signer = some s → s.length = ACC_ADDRESS_LEN) (h4 : b.index = none)
    (hval : Commitment.validate H h ⟨b.ns, b.data, b.shareVersion, b.signer⟩ b.commitment av = .ok) :
    blobFromRaw (Commitment.fromBlob H h) (blobToRaw b) av = .ok b :=
  Lumina.Proofs.RoundTrip.blob_pb_roundtrip _ av b ⟨h1, h2, h3, h4, (validate_ok_iff H h _ _ av).1 hval⟩

set_option maxRecDepth 100000 in
example : ValidBlobPb (fun _ d _ _ _ => (Except.ok d : Except Unit Bytes)) 3
    ⟨List.replicate 29 0, [1, 2, 3], 1, [1, 2, 3], none, some (List.replicate 20 9)⟩ := by
  refine ⟨by rfl, by decide, ?_, rfl, rfl⟩
  intro s hs; injection hs with hs; subst hs; rfl

/-- FINDING (open, `C46/blob-index-not-on-wire`): `BlobProto` has no `index` field.  EVERY otherwise valid blob
    that carries an index (a blob retrieved from chain) decodes from its own protobuf form to a DIFFERENT value:
    the same blob without the index. -/
theorem blob_index_not_on_wire_counterexample {C E : Type}
    (commit : Bytes → Bytes → Nat → Option Bytes → Nat → Except E C) (av : Nat) (b : BlobV C) (i : Nat)
    (hi : b.index = some i)
    (h1 : Namespace.fromRaw b.ns = .ok b.ns) (h2 : b.shareVersion ≤ 255)
    (h3 : ∀ s, b.signer = some s → s.length = ACC_ADDRESS_LEN)
    (h5 : commit b.ns b.data b.shareVersion b.signer av = .ok b.commitment) :
    blobFromRaw commit (blobToRaw b) av = .ok { b with index := none } ∧ ({ b with index := none } : BlobV C) ≠ b := by
  refine ⟨blob_pb_roundtrip_upto_index commit av b h1 h2 h3 h5, ?_⟩
  intro e
  have : ({ b with index := none } : BlobV C).index = b.index := by rw [e]
  rw [hi] at this
  cases this

set_option maxRecDepth 100000 in
/-- a concrete instance (hypotheses of the counterexample theorem are satisfiable) -/
example : (⟨List.replicate 29 0, [7], 0, [7], some 5, none⟩ : BlobV Bytes).index = some 5 ∧
    Namespace.fromRaw (List.replicate 29 0) = .ok (List.replicate 29 0) := ⟨rfl, by rfl⟩

/-- exactly which raw blobs `Blob::from_raw` accepts and what it makes of them; every other raw blob is rejected
    (namespace error, share version above 255, or an error of `Commitment::from_blob`, whose first step is
    `validate_blob(share_version, signer.is_some(), Some(app_version))`) -/
theorem blob_from_raw_accepts_iff {C E : Type}
    (commit : Bytes → Bytes → Nat → Option Bytes → Nat → Except E C) (r : RawBlob) (av : Nat) (b : BlobV C) :
    blobFromRaw commit r av = .ok b ↔
      ∃ ns c, Namespace.new (UInt8.ofNat r.namespaceVersion) r.namespaceId = .ok ns ∧
        r.shareVersion ≤ 255 ∧ commit ns r.data r.shareVersion (signerOfRaw r.signer) av = .ok c ∧
        b = { ns := ns, data := r.data, shareVersion := r.shareVersion, commitment := c, index := none,
              signer := signerOfRaw r.signer } := by
  unfold blobFromRaw
  constructor
  · intro e
    repeat' split at e
    all_goals try cases e
    dsimp only at e
    split at e <;> cases e
    exact ⟨_, _, ‹_›, by omega, ‹_›, rfl⟩
  · rintro ⟨ns, c, e1, e2, e3, rfl⟩
    simp only [e1, e3, if_neg (Nat.not_lt.mpr e2)]

/-- two consequences of the code as it is (observations, not violations of the round trip): `raw.namespace_version
    as u8` wraps, so version 256 is read as version 0; a `signer` that is not 20 bytes long is silently dropped -/
theorem blob_from_raw_lenient {C E : Type} (commit : Bytes → Bytes → Nat → Option Bytes → Nat → Except E C)
    (r : RawBlob) (av : Nat) :
    blobFromRaw commit { r with namespaceVersion := r.namespaceVersion + 256 } av = blobFromRaw commit r av ∧
    (r.signer.length ≠ ACC_ADDRESS_LEN → signerOfRaw r.signer = none) := by
  constructor
  · have : UInt8.ofNat (r.namespaceVersion + 256) = UInt8.ofNat r.namespaceVersion := by
      apply UInt8.toNat_inj.1
      simp [UInt8.toNat_ofNat']
    simp only [blobFromRaw, this]
  · intro h; simp [signerOfRaw, h]

/-- `validate_blob(share_version, has_signer, None)` accepts exactly: version 0 without signer, version 1 with -/
theorem validate_blob_no_app_spec (sv : Nat) (hs : Bool) :
    validateBlobNoApp sv hs = .ok () ↔ (sv = 0 ∧ hs = false) ∨ (sv = 1 ∧ hs = true) := by
  unfold validateBlobNoApp
  cases hs <;> by_cases h0 : sv = 0 <;> by_cases h1 : sv = 1 <;> simp [h0, h1] <;> omega

/-- JSON form (`custom_serde::SerdeBlob` and the field (de)serializers lumina owns): every blob the JSON form can
    carry serializes, and deserializes to itself — index and commitment included -/
theorem blob_json_roundtrip (b : BlobV Bytes) (h : ValidBlobJson b) :
    ∃ j, blobToJson b = some j ∧ blobFromJson j = .ok b :=
  Lumina.Proofs.RoundTrip.blob_json_roundtrip b h

set_option maxRecDepth 100000 in
example : ValidBlobJson ⟨List.replicate 29 0, [1, 2, 3], 1, List.replicate 32 4, some 77, some (List.replicate 20 9)⟩ := by
  refine ⟨by rfl, by rfl, Or.inr ⟨rfl, _, rfl, rfl⟩, ?_⟩
  intro i hi; injection hi with hi; subst hi; decide

/-- exactly which JSON objects `Deserialize for Blob` accepts: every field deserializer succeeds (valid base64
    namespace, base64 data, 32-byte base64 commitment, signer absent / null / empty or 20 bytes), `share_version`
    is a `u8`, and `validate_blob` accepts the (share version, signer) combination.  The commitment is NOT
    recomputed (a foreign 32-byte commitment is accepted; `Blob::validate` is the caller's job). -/
theorem blob_json_accepts_iff (j : JsonBlob) (b : BlobV Bytes) :
    blobFromJson j = .ok b ↔
      ∃ ns data c signer, Namespace.deserialize j.ns = some ns ∧ Namespace.b64Decode j.data = some data ∧
        commitmentFromWire j.commitment = some c ∧ signerFromWire j.signer = some signer ∧
        j.shareVersion ≤ 255 ∧ validateBlobNoApp j.shareVersion signer.isSome = .ok () ∧
        b = { ns := ns, data := data, shareVersion := j.shareVersion, commitment := c,
              index := (match j.index with | none => none | some v => indexFromWire v), signer := signer } := by
  unfold blobFromJson
  constructor
  · intro e
    repeat' split at e
    all_goals cases e
    all_goals exact ⟨_, _, _, _, ‹_›, ‹_›, ‹_›, ‹_›, by omega, ‹_›, by simp only [*]⟩
  · rintro ⟨ns, data, c, signer, e1, e2, e3, e4, e5, e6, rfl⟩
    simp only [e1, e2, e3, e4, e6, if_neg (Nat.not_lt.mpr e5)]
    rfl

/-! ## extended headers: the lumina-owned conversion layer -/

section ExtendedHeader
variable {H C V RH RC RV : Type}

/-- `ExtendedHeader::try_from(RawExtendedHeader::from(eh)) = Ok(eh)` for every header that passes `validate()`,
    GIVEN that tendermint's own conversions round-trip on its three components (explicit hypotheses: they are
    third-party code, observed by the correspondence) -/
theorem eh_roundtrip (T : TmConv H C V RH RC RV) (validate : Eh H C V → Bool) (eh : Eh H C V)
    (hh : T.hFrom (T.hTo eh.header) = some eh.header)
    (hc : T.cFrom (T.cTo eh.commit) = some eh.commit)
    (hv : T.vFrom (T.vTo eh.validatorSet) = some eh.validatorSet)
    (hr : ∀ x ∈ eh.dah.rowRoots, x.WF) (hcr : ∀ x ∈ eh.dah.colRoots, x.WF)
    (hval : validate eh = true) :
    ehFromRaw T validate (ehToRaw T eh) = .ok eh :=
  Lumina.Proofs.RoundTrip.eh_roundtrip T validate eh hh hc hv hr hcr hval

/-- a conversion record meeting the hypotheses (identity conversions on naturals) and a header for it -/
example : ehFromRaw (⟨id, some, id, some, id, some⟩ : TmConv Nat Nat Nat Nat Nat Nat) (fun eh => eh.header == 5)
    (ehToRaw ⟨id, some, id, some, id, some⟩ ⟨5, 6, 7, ⟨[], []⟩⟩) = .ok ⟨5, 6, 7, ⟨[], []⟩⟩ :=
  Lumina.Proofs.RoundTrip.eh_roundtrip _ _ _ rfl rfl rfl (by simp) (by simp) rfl

/-- exactly which raw headers are accepted: all four messages present, each converts, and the assembled header
    passes `validate()`; everything else is rejected -/
theorem eh_from_raw_accepts_iff (T : TmConv H C V RH RC RV) (validate : Eh H C V → Bool)
    (r : RawEh RH RC RV) (eh : Eh H C V) :
    ehFromRaw T validate r = .ok eh ↔
      ∃ rh rc rv rd, r.header = some rh ∧ r.commit = some rc ∧ r.validatorSet = some rv ∧ r.dah = some rd ∧
        T.hFrom rh = some eh.header ∧ T.cFrom rc = some eh.commit ∧ T.vFrom rv = some eh.validatorSet ∧
        dahFromRaw rd = some eh.dah ∧ validate eh = true :=
  ehFromRaw_ok_iff T validate r eh

/-- decoding validates: whatever `TryFrom<RawExtendedHeader>` returns passes `ExtendedHeader::validate`
    (the fact the store models of C19–C21 use as `decodeHeader`) -/
theorem eh_decoded_is_valid (T : TmConv H C V RH RC RV) (validate : Eh H C V → Bool)
    (r : RawEh RH RC RV) (eh : Eh H C V) (h : ehFromRaw T validate r = .ok eh) : validate eh = true := by
  obtain ⟨_, _, _, _, _, _, _, _, _, _, _, _, hv⟩ := (ehFromRaw_ok_iff T validate r eh).1 h
  exact hv

/-- the error for a missing message, in source order: the FIRST absent message decides, provided the messages
    before it convert -/
theorem eh_missing_message_rejected (T : TmConv H C V RH RC RV) (validate : Eh H C V → Bool) (r : RawEh RH RC RV) :
    (r.header = none → ehFromRaw T validate r = .error .missingHeader) ∧
    (∀ rh h, r.header = some rh → T.hFrom rh = some h → r.commit = none →
      ehFromRaw T validate r = .error .missingCommit) ∧
    (∀ rh h rc c, r.header = some rh → T.hFrom rh = some h → r.commit = some rc → T.cFrom rc = some c →
      r.validatorSet = none → ehFromRaw T validate r = .error .missingValidatorSet) ∧
    (∀ rh h rc c rv v, r.header = some rh → T.hFrom rh = some h → r.commit = some rc → T.cFrom rc = some c →
      r.validatorSet = some rv → T.vFrom rv = some v → r.dah = none →
      ehFromRaw T validate r = .error .missingDah) := by
  refine ⟨fun h => ?_, fun rh h e1 e2 e3 => ?_, fun rh h rc c e1 e2 e3 e4 e5 => ?_,
    fun rh h rc c rv v e1 e2 e3 e4 e5 e6 e7 => ?_⟩
  · simp [ehFromRaw, h]
  · simp [ehFromRaw, e1, e2, e3]
  · simp [ehFromRaw, e1, e2, e3, e4, e5]
  · simp [ehFromRaw, e1, e2, e3, e4, e5, e6, e7]

/-- a raw header whose four messages convert but whose assembly fails `validate()` is rejected -/
theorem eh_invalid_rejected (T : TmConv H C V RH RC RV) (validate : Eh H C V → Bool)
    (rh : RH) (rc : RC) (rv : RV) (rd : RawDah) (h : H) (c : C) (v : V) (d : Dah)
    (e1 : T.hFrom rh = some h) (e2 : T.cFrom rc = some c) (e3 : T.vFrom rv = some v) (e4 : dahFromRaw rd = some d)
    (hval : validate ⟨h, c, v, d⟩ = false) :
    ehFromRaw T validate ⟨some rh, some rc, some rv, some rd⟩ = .error .invalid := by
  simp [ehFromRaw, e1, e2, e3, e4, hval]

/-- the JSON layer lumina puts around the prost-generated structures (`custom_serde::SerdeExtendedHeader`,
    `SerdeCommit`) is a pair of mutually inverse field copies: it loses and adds nothing -/
theorem eh_serde_layer_roundtrip {B S : Type} (r : RawEh RH (RawCommit B S) RV) (s : SerdeEh RH B S RV) :
    rawEhOfSerde (serdeEhOfRaw r) = r ∧ serdeEhOfRaw (rawEhOfSerde s) = s := by
  constructor
  · obtain ⟨h, c, v, d⟩ := r
    cases c with
    | none => rfl
    | some c => rfl
  · obtain ⟨h, c, v, d⟩ := s
    cases c with
    | none => rfl
    | some c => rfl

end ExtendedHeader

end Lumina.Props.C46

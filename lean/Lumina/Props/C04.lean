/-
  C04 — A verified sample is the share at the requested coordinates.

  Model: `Lumina/Model/Sample.lean` (`verify` = `Sample::verify` after the `fix:` commit, `verifyUnfixed` = before),
  over the nmt-rs model `Lumina/Model/Nmt.lean` and the square/DAH model `Lumina/Model/Eds.lean`.
  Spec: `Lumina/Spec/C04.lean` (`specVerify`, `specHonest`), which does not mention the model.
  The hash is a parameter.  Soundness is stated under collision-freeness RELATIVE TO the byte strings actually hashed
  (`HashOKOn H (· ∈ hashedC04 H e s)`: the square's row/column trees and the verifier's run; satisfiable, see the
  non-vacuity instance) and as a reduction: accepting a wrong share yields an explicit collision among those inputs
  (`sample_forgery_yields_collision`).  Completeness needs only the 32-byte output length.
-/
import Lumina.Proofs.Sample
import Lumina.Gen.C04

namespace Lumina.Props.C04
open Lumina.Util Lumina.Model.Nmt Lumina.Model.Eds Lumina.Model.Sample
open Lumina.Proofs.Nmt Lumina.Proofs.Eds Lumina.Proofs.Sample Lumina.Spec.C04

/-- the sizes the model and the theorems use are the ones in the current source tree -/
theorem consts_eq :
    Lumina.Gen.C04.NS_SIZE = 29 ∧ Lumina.Gen.C04.NS_SIZE = Lumina.Model.Nmt.NS_SIZE ∧
    Lumina.Gen.C04.HASH_SIZE = Lumina.Model.Nmt.HASH_LEN ∧
    Lumina.Gen.C04.SHARE_SIZE = 512 ∧ Lumina.Gen.C04.SHARE_SIZE = Lumina.Model.Eds.SHARE_SIZE := by
  decide

/-- the byte strings hashed by the two computations `sample_sound` compares: everything hashed when the DAH of the
    square is computed (`edsInputs`: leaf and inner-node preimages of all row and column trees, and the empty string behind
    `EMPTY_ROOT`) and everything hashed while the verifier checks this sample (`sampleInputs`) -/
def hashedC04 (H : HashFn) (e : Eds) (s : Sample) : List Bytes := edsInputs H e ++ sampleInputs H s

/-- **Soundness, both proof axes, every square of power-of-two width, every sample, every coordinate.**
    `Sample::verify` (as fixed) accepts only if the sample's share is exactly the share at the requested row and
    column of the square whose DAH it is checked against.  Hypotheses: the hash has 32-byte output and NO COLLISION AMONG
    THE INPUTS ACTUALLY HASHED by the two computations (`hashedC04`, a finite explicit list — satisfiable, see the
    non-vacuity example); the sizes that the Rust array types guarantee (namespaced hashes are 29+29+32 bytes, shares are
    at least a namespace long). -/
theorem sample_sound {H : HashFn} {e : Eds} {k : Nat} (hw : e.width = 2 ^ k)
    (hsz : ∀ sh ∈ e.shares, NS_SIZE ≤ sh.data.length) {dah : Dah} (hd : Dah.ofEds H e = .ok dah)
    (s : Sample) (hss : NS_SIZE ≤ s.share.data.length) (hsib : ∀ p ∈ s.proof.siblings, p.WF) (row col : Nat)
    (hk : HashOKOn H (fun y => y ∈ hashedC04 H e s)) :
    specVerify e.width (rawSquare e) row col s.share.data (accepted (verify H s row col dah)) = true := by
  cases hv : verify H s row col dah with
  | error er => simp [accepted, specVerify]
  | ok u =>
    obtain ⟨hrs, hcs, hchk⟩ := verify_ok_iff.mp hv
    obtain ⟨_, hr⟩ := Option.isSome_iff_exists.mp hrs
    obtain ⟨_, hc⟩ := Option.isSome_iff_exists.mp hcs
    have hrow := ((dah_root?_iff (ax := .row) hd).mp hr).1
    have hcol := ((dah_root?_iff (ax := .col) hd).mp hc).1
    obtain ⟨sh, hsh, hdata, _⟩ := posChecked_sound hk hw hsz hd hrow hcol (share_ns_length hss) hsib
      (fun y hy => List.mem_append_left _ hy) (List.mem_append_right _ (by simp [sampleInputs]))
      (fun y hy => List.mem_append_right _ (List.mem_cons_of_mem _ hy)) hchk
    unfold Eds.share? at hsh
    simp only [accepted, specVerify, shareAt, hrow, hcol, and_self, ↓reduceIte, rawSquare, Bool.not_true,
      Bool.false_or, List.getElem?_map, hsh, Option.map_some, hdata, beq_self_eq_true]

/-- **Reduction form**: for ANY hash with 32-byte output, if `Sample::verify` accepts a share that is not the share at
    the requested coordinates, then two DIFFERENT byte strings among the explicitly listed inputs hashed by the DAH
    computation and by the verifier (`hashedC04`) have the same digest. -/
theorem sample_forgery_yields_collision {H : HashFn} (hl : HashLen H) {e : Eds} {k : Nat} (hw : e.width = 2 ^ k)
    (hsz : ∀ sh ∈ e.shares, NS_SIZE ≤ sh.data.length) {dah : Dah} (hd : Dah.ofEds H e = .ok dah)
    (s : Sample) (hss : NS_SIZE ≤ s.share.data.length) (hsib : ∀ p ∈ s.proof.siblings, p.WF) (row col : Nat)
    (hbad : specVerify e.width (rawSquare e) row col s.share.data (accepted (verify H s row col dah)) = false) :
    CollisionIn H (fun y => y ∈ hashedC04 H e s) :=
  (or_collision hl (sample_sound hw hsz hd s hss hsib row col)).resolve_left (Bool.eq_false_iff.mp hbad)

/-- **Completeness.**  For every valid square (what `ExtendedDataSquare::new` accepts), every coordinate inside
    it and both proof axes: `Sample::new` succeeds, encoding and decoding (`RawSample`) gives the sample back, and
    `Sample::verify` accepts it; the sample carries the share at the coordinate. -/
theorem sample_complete {H : HashFn} (hl : HashLen H) {e : Eds} {k : Nat} (hv : ValidSquare e k)
    {dah : Dah} (hd : Dah.ofEds H e = .ok dah) (row col : Nat) (hr : row < e.width) (hc : col < e.width) (ax : Axis) :
    ∃ s, Lumina.Model.Sample.new H e row col ax = .ok s ∧ fromRaw row col (toRaw s) = .ok s ∧
      specHonest e.width (rawSquare e) row col (some s.share.data) (accepted (verify H s row col dah)) = true := by
  obtain ⟨s, h1, h2, h3, h4⟩ := sample_complete_core hl hv hd row col hr hc ax
  refine ⟨s, h1, h2, ?_⟩
  unfold Eds.share? at h4
  simp [specHonest, shareAt, hr, hc, rawSquare, List.getElem?_map, h4, h3, accepted]

/-! ### The defect that was fixed: before the fix the full-strength statement was FALSE -/

/-- an injective toy hash (identity) for concrete evaluation -/
def toyH : HashFn := fun x => x
/-- 2×2 square with one-byte shares: (0,0) is original data, the rest parity -/
def cexEds : Eds := Eds.ofRaw 2 [[1], [2], [3], [4]]
def cexDah : Dah := match Dah.ofEds toyH cexEds with | .ok d => d | .error _ => default
/-- the honest sample of position (0,1), row proof -/
def cexSample : Sample := match Lumina.Model.Sample.new toyH cexEds 0 1 .row with | .ok s => s | .error _ => default

/-- `Sample::verify` as it was BEFORE the fix accepts the honest sample of (0,1) for the coordinates (0,0):
    the soundness statement fails for the unfixed model, even with an injective hash. -/
theorem sample_sound_unfixed_counterexample :
    Function.Injective toyH ∧ Dah.ofEds toyH cexEds = .ok cexDah ∧
    specVerify cexEds.width (rawSquare cexEds) 0 0 cexSample.share.data
      (accepted (verifyUnfixed toyH cexSample 0 0 cexDah)) = false :=
  ⟨fun _ _ h => h, rfl, by decide +kernel⟩

/-- … and the fixed `verify` rejects exactly that input while still accepting it at its own coordinates -/
theorem sample_fixed_on_counterexample :
    accepted (verify toyH cexSample 0 0 cexDah) = false ∧ accepted (verify toyH cexSample 0 1 cexDah) = true := by
  decide +kernel

/-! ### Non-vacuity -/

/-- a toy hash with 32-byte output -/
def toyH32 : HashFn := fun x => (x ++ List.replicate 32 0).take 32

theorem nonvacuity_toyH32_len : HashLen toyH32 := by
  intro x; simp [toyH32, HASH_LEN, List.length_take]

/-- 2×2 square of 512-byte shares; the original-data share has the all-zero (valid, version 0) namespace -/
def okEds : Eds := Eds.ofRaw 2 [List.replicate 512 0, List.replicate 512 1, List.replicate 512 2, List.replicate 512 3]
def okDah : Dah := match Dah.ofEds toyH32 okEds with | .ok d => d | .error _ => default

def isOkNs (r : Except Lumina.Model.Namespace.Err Bytes) : Bool := match r with | .ok _ => true | .error _ => false

theorem nonvacuity_okEds_valid : ValidSquare okEds 1 where
  width := rfl
  kpos := by decide
  kle := by decide
  flags := by
    have h : ∀ r, r < 2 → ∀ c, c < 2 →
        (match okEds.share? r c with | some sh => sh.isParity == !isOdsSquare r c okEds.width | none => true) = true := by
      decide +kernel
    intro r c sh hr hc hs
    have := h r hr c hc
    rw [hs] at this
    simpa using this
  size := by
    have h : okEds.shares.all (fun sh => sh.data.length == SHARE_SIZE) = true := by decide +kernel
    intro sh hm
    have := List.all_eq_true.mp h sh hm
    simpa using this
  ns := by
    have h : okEds.shares.all (fun sh => sh.isParity || isOkNs (Lumina.Model.Namespace.fromRaw (sh.data.take NS_SIZE))) = true := by
      decide +kernel
    intro sh hm hp
    have := List.all_eq_true.mp h sh hm
    simp only [hp, Bool.false_or] at this
    cases hf : Lumina.Model.Namespace.fromRaw (sh.data.take NS_SIZE) with
    | ok n => exact ⟨n, rfl⟩
    | error er => simp [hf, isOkNs] at this

set_option maxRecDepth 20000 in
/-- the hypotheses of `sample_complete` hold of a concrete hash, square and DAH -/
example : HashLen toyH32 ∧ ValidSquare okEds 1 ∧ Dah.ofEds toyH32 okEds = .ok okDah := ⟨nonvacuity_toyH32_len, nonvacuity_okEds_valid, rfl⟩

/-! ### Non-vacuity of `sample_sound`: ALL hypotheses hold on a concrete instance -/

def sumDah : Dah := match Dah.ofEds toySum okEds with | .ok d => d | .error _ => default
/-- the honest sample of position (0,1) of `okEds` (512-byte shares), row proof, under the toy hash -/
def sumSample : Sample :=
  match Lumina.Model.Sample.new toySum okEds 0 1 .row with | .ok s => s | .error _ => default

/-- evaluated once: the toy hash has no collision among the byte strings hashed for the row and column trees of this
    square.  The honest answers of the concrete instances over this square hash nothing else. -/
theorem toySum_nocoll_okEds : NoCollOn toySum (fun y => y ∈ edsInputs toySum okEds) := by
  rw [toySum_eq_lanes]
  exact noCollOn_of_codes (by decide +kernel)

/-- evaluated: `from_eds` succeeds on the square (seeing `.ok` needs no digest) -/
theorem sumDah_ok : Dah.ofEds toySum okEds = .ok sumDah := eq_ok_of_isOk (by decide +kernel)

/-- the toy hash has no collision among the 15 byte strings hashed for this square and this sample -/
theorem nonvacuity_toySum_nocoll : NoCollOn toySum (fun y => y ∈ hashedC04 toySum okEds sumSample) := by
  -- evaluated: what the verifier of the honest sample hashes, the row tree hashed already
  refine noCollOn_append_of_all toySum_nocoll_okEds ?_
  unfold sumSample
  rw [toySum_eq_lanes]
  decide +kernel

set_option maxRecDepth 100000 in
/-- `sample_sound` applied to a concrete accepted sample: every hypothesis (incl. relative collision-freeness) holds -/
example : accepted (verify toySum sumSample 0 1 sumDah) = true ∧
    specVerify okEds.width (rawSquare okEds) 0 1 sumSample.share.data (accepted (verify toySum sumSample 0 1 sumDah)) = true := by
  -- `sumSample` is what `Sample::new` returns; completeness says it is accepted, carries the share at (0,1) and is well-formed
  obtain ⟨s, hnew, _, hver, hsh, hwf⟩ :=
    sample_complete_wf toySum_len nonvacuity_okEds_valid sumDah_ok 0 1 (by decide) (by decide) .row
  have hs : sumSample = s := by unfold sumSample; rw [hnew]
  have hsz := nonvacuity_okEds_valid.hsz
  exact ⟨by rw [hs, hver]; rfl, sample_sound (k := 1) rfl hsz sumDah_ok sumSample
    (by rw [hs]; exact hsz _ (List.mem_of_getElem? hsh)) (hs ▸ hwf) 0 1 ⟨nonvacuity_toySum_nocoll, toySum_len⟩⟩

end Lumina.Props.C04

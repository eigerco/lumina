/-
  C29 — Header-ex server answers every request correctly without crashing.

  Model: Lumina/Model/HeaderExServer.lean (`serve false …` = the handler after the `fix:` commit
  that replaced `origin + amount` by `origin.saturating_add(amount)`; `serve true …` = before).
  Spec: Lumina/Spec/C29.lean.
-/
import Lumina.Proofs.HeaderExServer
import Lumina.Gen.C29

namespace Lumina.Props.C29
open Lumina.Util Lumina.Model.HeaderExServer Lumina.Proofs.HeaderExServer Lumina.Gen.C29
open Lumina.Model.Framing (HeaderRequest ReqData)
open Lumina.Spec.C29 (Entry Obs Req specServe storedAt storedWithHash isHead isRunFrom)

def obsOf : Outcome → Obs
  | .responses rs => .responses (rs.map toResp)
  | .panic => .panic
  | .nothing => .responses []

def reqOf (r : HeaderRequest) : Req :=
  match r.data with
  | .none => .noData r.amount
  | .origin o => .origin o r.amount
  | .hash h => .hash h r.amount

/-- stored heights are tendermint heights (at most `i64::MAX`) -/
def StoreInv (s : Store) : Prop := ∀ e ∈ s, e.height < 2 ^ 63

/-- request fields are `u64`s -/
def ReqInv (r : HeaderRequest) : Prop :=
  r.amount < 2 ^ 64 ∧ match r.data with | .origin o => o < 2 ^ 64 | _ => True

/-- the cap the property quotes -/
theorem consts_eq : MAX_HEADERS_AMOUNT_RESPONSE = 512 := by decide

/-- **every request, every store**: no panic, and the answer is the one the property prescribes
    (head / longest run capped at min(amount, 512) / by hash / single invalid) -/
theorem serve_spec (s : Store) (r : HeaderRequest) (hs : StoreInv s) (hr : ReqInv r) :
    specServe (s.map toEntry) (reqOf r) (obsOf (serve false MAX_HEADERS_AMOUNT_RESPONSE s false r)) = true := by
  rw [serve_false, consts_eq]
  obtain ⟨amount, data⟩ := r
  cases data with
  | none => rfl
  | hash h =>
    simp only [answer, reqOf, obsOf, specServe, storedWithHash_eq]
    by_cases hok : h.length = 32 ∧ amount = 1
    · simp only [if_pos hok]
      cases getByHash s h with
      | none => rfl
      | some e => simp only [respOf, List.map_cons, List.map_nil, toResp, Option.map_some, beq_self_eq_true]
    · simp only [if_neg hok]
      rfl
  | origin o =>
    by_cases ha0 : amount = 0
    · simp only [answer, reqOf, obsOf, specServe, ha0, ↓reduceIte]
      rfl
    · by_cases ho : o = 0
      · by_cases ha1 : amount = 1
        · -- head request
          simp only [answer, reqOf, obsOf, specServe, ho, ha1, ↓reduceIte]
          cases s with
          | nil => rfl
          | cons a t =>
            obtain ⟨m, hm, hmem, hall⟩ := getHead_cons t a
            simp only [hm, respOf, List.map_cons, List.isEmpty_cons, Bool.false_eq_true, ↓reduceIte]
            exact isHead_of_max (a :: t) m hmem hall
        · simp only [answer, reqOf, obsOf, specServe, ha0, ho, ha1, ↓reduceIte]
          rfl
      · -- height request
        simp only [answer, reqOf, obsOf, specServe, ha0, ho, ↓reduceIte, storedAt_eq]
        cases hg : getByHeight s o with
        | none =>
          have hc : ∀ n, collect s o n = [] := fun n => by cases n <;> simp [collect, hg]
          simp only [hc]
          rfl
        | some e =>
          have ⟨hmem, hh⟩ := getByHeight_height s o e hg
          have ho63 : o < 2 ^ 63 := hh ▸ hs e hmem
          -- `origin + min(amount, 512)` stays below `u64::MAX`: the saturation is never reached
          have hle : o + min amount 512 ≤ U64_MAX :=
            Nat.le_trans (Nat.add_le_add (Nat.le_of_lt ho63) (Nat.min_le_right ..)) (by decide)
          rw [Nat.min_eq_left hle, Nat.add_sub_cancel_left]
          obtain ⟨h1, h2, h3⟩ := collect_spec s (min amount 512) o
          rw [storedAt_eq] at h3
          have hne := collect_nonempty s o (min amount 512) e hg
            (Nat.lt_min.mpr ⟨Nat.pos_of_ne_zero ha0, by decide⟩)
          have hnotempty : (collect s o (min amount 512)).isEmpty = false := by
            cases hc : collect s o (min amount 512) with
            | nil => rw [hc] at hne; cases hne
            | cons a t => rfl
          simp only [hnotempty, Option.map_some, Option.isNone_some, Bool.false_eq_true, ↓reduceIte,
            List.length_map, h2, Bool.and_true, Bool.and_eq_true, decide_eq_true_eq, Bool.or_eq_true,
            beq_iff_eq, Option.isNone_iff_eq_none]
          exact ⟨⟨hne, h1⟩, h3⟩

/-- the same statement read as "never panics" -/
theorem serve_no_panic (s : Store) (r : HeaderRequest) (stopping : Bool) :
    serve false MAX_HEADERS_AMOUNT_RESPONSE s stopping r ≠ .panic := by
  cases stopping with
  | true => nofun
  | false => rw [serve_false]; nofun

/-- the handler BEFORE the fix: an origin within `amount` of `u64::MAX` overflows `origin + amount`
    (debug-build panic) — the finding repaired by the `fix:` commit -/
theorem unfixed_overflow_counterexample :
    serve true 512 [] false { amount := 1, data := .origin U64_MAX } = .panic := by decide

/-- once stopping, requests are dropped without an answer -/
theorem stopped_is_silent (c : Bool) (s : Store) (r : HeaderRequest) :
    serve c MAX_HEADERS_AMOUNT_RESPONSE s true r = .nothing := rfl

/-- non-vacuity: a store with a gap, a height request across it -/
example : StoreInv [⟨5, [1], [50]⟩, ⟨6, [2], [60]⟩, ⟨8, [3], [80]⟩] := by
  unfold StoreInv; decide
example : serve false 512 [⟨5, [1], [50]⟩, ⟨6, [2], [60]⟩, ⟨8, [3], [80]⟩] false ⟨10, .origin 5⟩ =
    .responses [.ok [50], .ok [60]] := by decide +kernel

end Lumina.Props.C29

/-
  C38 — The syncer keeps the store on the network's chain and converges.   (PARTIAL by design)

  Statement (properties.jsonl): "Running against peers that serve an honest chain plus arbitrary
  invalid, forked, truncated or failing responses, the node's store only ever contains headers
  of the honest chain, and once honest peers answer, every height in the sampling window up to
  the network head is eventually stored."

  Model: `Lumina.Model.SyncerLoop` — the syncer `Worker`'s reactions (`step`) composed from the
  abstract header store of C19/C20/C21 (`AbsStore.insert`: internal linking, placement,
  verification against the stored neighbours), the fetch decision of C24/C25
  (`SyncerGate.fetchDecision`) and what the p2p layer accepts (`p2pAccepts`: C26, C28 and
  `verify_adjacent_range`).

  SAFETY (proved, for every event sequence, by invariant):
    `store_stays_on_honest_chain`, from
      * `accepted_batch_is_honest`: a validated batch accepted by the store next to a stored
        honest header consists of honest headers (backward hash link / forward validator link),
      * `no_batch_taken_on_faith`: every batch the fetch decision schedules touches a stored header.
    Assumptions, explicit as hypotheses:
      `LinkDown` / `LinkUp` (what `verify` of ADJACENT headers binds: hash collision-freeness,
      consensus safety), heads handed over by trusted peers / header-sub are honest, batches
      passed the p2p layer (`p2pAccepts`), nothing is pruned above the stored head (`TopStored`,
      part of the start-state invariant; the runs of `store_stays_on_honest_chain` contain no
      pruning event).  WITH the pruner running
      (`store_stays_on_honest_chain_with_pruning_partial`): removals satisfying C35's per-height condition interleaved arbitrarily,
      regime pruning window ≥ sampling window and fresh network heads; `TopStored` is then proved.
      Outside both regimes (a removal of the highest synced header, e.g. after a chain halt longer
      than the pruning window) a forward batch is not adjacent to anything stored and BOTH stores
      insert it without verification — not covered, see design_notes/C38.md.

  CONVERGENCE (PARTIAL: proved under an explicit fairness hypothesis; first for runs in which
  nothing is pruned and the slow-sync throttle never arms, then — second half of the file,
  `converges_under_fairness_with_pruning_partial` — with the pruner's safe removals interleaved
  and the slow-sync height arming, when the pruning window is at least the sampling window).
    Building blocks: `convergence_variant_decreases_partial` (every accepted batch strictly
    decreases the number of missing heights, no insertion increases it),
    `convergence_progress_partial` (while a window height up to the head is missing, an idle
    connected worker schedules a request), `honest_answer_is_accepted_partial` (the honest headers
    of any scheduled range pass the p2p layer and the store and decrease the variant),
    `converges_when_honest_peers_answer_partial` (the run in which every scheduled request is
    answered honestly and nothing else happens reaches a full window in ≤ `missing` answers).
    ARBITRARY INTERLEAVINGS: `variant_never_increases_whatever_the_event` (the potential
    `Phi` = missing heights of `[1, M]` + staleness of the outstanding request is non-increasing
    under EVERY admissible event: adversarial answers, failures, disconnect / reconnect, heads,
    header-sub), `honest_answer_strictly_decreases_variant` (whenever an honest answer arrives),
    `side_conditions_hold_along_every_run`, and
    `converges_under_fairness_partial` / `every_known_head_is_reached_under_fairness_partial`: for
    EVERY infinite admissible event sequence satisfying `FairHonestAnswers` ("as long as the window
    is not full there is a later moment at which the connected worker is handed the honest answer
    to its outstanding request") the window up to the head is full again and again, and every
    head the worker ever knew is reached and stays reached.
  Environment assumptions (hypotheses, not provable about the node): honest peers do answer
  (`FairHonestAnswers`), tokio polls the worker and the timeouts of the header session / of
  `try_init` expire (the model is the sequence of HANDLED events), the announced heads stay below
  a bound during the run.  Still NOT proved — `ConvergenceFullStatement` as written (no side
  conditions at all: pruned heights inside the window, an armed slow-sync gate, non-monotone
  header ages); the regime with a pruning window smaller than the sampling window, where the
  slow-sync throttle hands progress over to the daser / pruner, is outside this model.
-/
import Lumina.Proofs.SyncerLoop
import Lumina.Proofs.SyncerFair
import Lumina.Proofs.ComposeSyncerPrune
import Lumina.Proofs.ComposeSyncerGate
import Lumina.Props.C35
import Lumina.Gen.C38

namespace Lumina.Props.C38
open Lumina.Model.Store (Hdr)
open Lumina.Spec.C19 (AbsStore)
open Lumina.Model.SyncerLoop Lumina.Proofs.SyncerLoop Lumina.Proofs.SyncerFair
open Lumina.Model.Ranges (mem U64_MAX)

/-- the constants the driver instantiates the models with are the ones in the source -/
theorem slow_sync_min_threshold : Lumina.Gen.C38.SLOW_SYNC_MIN_THRESHOLD = 50 := by decide
theorem session_constants :
    Lumina.Gen.C38.MIN_AMOUNT_PER_REQ = 8 ∧ Lumina.Gen.C38.MAX_AMOUNT_PER_REQ = 64 ∧
      Lumina.Gen.C38.MAX_CONCURRENT_REQS = 8 := by decide

/-! ### safety -/

/-- **An accepted batch is honest.**  A batch of validated headers that the store accepts
    (internally linked, placed, verified against its stored neighbours) while the store holds
    only honest headers consists of honest headers, provided it touches a stored header (or is
    trusted as a whole): the store stays on the honest chain. -/
theorem accepted_batch_is_honest (v : Hdr → Hdr → Bool) (c : Nat → Hdr) (hd : LinkDown v c) (hu : LinkUp v c)
    (a : AbsStore) (batch : List Hdr) (hall : AllOnChain c a) (hval : ∀ x ∈ batch, x.valid = true)
    (hn : (∀ x ∈ batch, OnChain c x) ∨
      (∀ first last, batch.head? = some first → batch.getLast? = some last →
        NbStored a first.height last.height)) :
    AllOnChain c (a.insert v batch).1 :=
  insert_onchain hd hu a batch hall hval hn

/-- **No batch is taken on faith.**  In every state whose highest synced height is stored (nothing
    pruned above the head) and whose store is non-empty, a batch scheduled by `fetch_next_batch`
    is a non-empty range of real heights that touches a stored header — so the store will verify it
    against that neighbour. -/
theorem no_batch_taken_on_faith (e : Env) (s : State) (r : Lumina.Model.Ranges.Range)
    (hi : Lumina.Proofs.Store.AbsInv s.store) (htop : TopStored s.store) (hne : s.store.hdrs ≠ [])
    (h : Lumina.Model.SyncerGate.fetchDecision e.slowMin (gateIn e s) = .ok (.request r)) :
    1 ≤ r.1 ∧ r.1 ≤ r.2 ∧ NbStored s.store r.1 r.2 :=
  request_has_stored_neighbour hi htop hne h

/-- **C38 safety, one reaction.** -/
theorem reaction_keeps_store_on_honest_chain (v : Hdr → Hdr → Bool) (c : Nat → Hdr)
    (hd : LinkDown v c) (hu : LinkUp v c) (e : Env) (hev : e.verify = v) (s : State) (hi : Inv c s)
    (ev : Ev) (hok : EvOk v c s ev) : Inv c (step e s ev).1 := by
  subst hev
  exact step_inv hd hu hi hok

/-- **C38 safety, every run.**  Start the worker with an empty store (any batch size) and let the
    environment produce ANY finite sequence of events — peer-count changes (disconnect /
    reconnect), network heads from trusted peers, header-sub announcements, and results of the
    ongoing request, each either a non-fatal error or ANY list of headers the p2p layer accepts
    (so: whatever invalid, forked, truncated, failing answers the peers gave before).  After every
    prefix of the run every stored header is the honest chain's header of its height. -/
theorem store_stays_on_honest_chain (v : Hdr → Hdr → Bool) (c : Nat → Hdr)
    (hd : LinkDown v c) (hu : LinkUp v c) (e : Env) (hev : e.verify = v) (bs : Nat)
    (evs : List Ev) (hr : RunOk v c e { batchSize := bs } evs) (k : Nat) :
    AllOnChain c (run e { batchSize := bs } (evs.take k)).store := by
  subst hev
  exact (run_inv hd hu _ _ (inv_init c bs) (runOk_take evs _ k hr)).onchain

/-- the same from any state that satisfies the invariant (e.g. a restarted node whose store is
    on the honest chain and has nothing pruned above its head) -/
theorem store_stays_on_honest_chain_from (v : Hdr → Hdr → Bool) (c : Nat → Hdr)
    (hd : LinkDown v c) (hu : LinkUp v c) (e : Env) (hev : e.verify = v) (s : State) (hi : Inv c s)
    (evs : List Ev) (hr : RunOk v c e s evs) (k : Nat) :
    AllOnChain c (run e s (evs.take k)).store := by
  subst hev
  exact (run_inv hd hu _ _ hi (runOk_take evs _ k hr)).onchain

/-! ### non-vacuity: a concrete world satisfying every hypothesis -/

/-- honest chain: header `h` has id = hash = `h` -/
def exChain (h : Nat) : Hdr := { id := h, height := h, hash := h, valid := true }
/-- `verify` accepts exactly adjacent honest headers -/
def exVerify (a b : Hdr) : Bool := a.height + 1 == b.height && a.hash == a.height && b.hash == b.height
def exEnv : Env :=
  { verify := exVerify, chain := { oldS := fun h => decide (h ≤ 3), oldP := fun _ => false }, slowMin := 50 }

theorem ex_link_down : LinkDown exVerify exChain := by
  intro a b hv _ ha _
  simp only [exVerify, Bool.and_eq_true, beq_iff_eq] at hv
  exact ⟨ha, by simp [exChain]; exact hv.1.2⟩

theorem ex_link_up : LinkUp exVerify exChain := by
  intro a b hv _ hb _
  simp only [exVerify, Bool.and_eq_true, beq_iff_eq] at hv
  exact ⟨hb, by simp [exChain]; exact hv.2⟩

theorem ex_honest_chain : HonestChain exVerify exChain where
  height := fun _ => rfl
  valid := fun _ => rfl
  hashInj := fun _ _ h => h
  verifies := by
    intro a b ha hb hh
    simp only [exVerify, Bool.and_eq_true, beq_iff_eq]
    exact ⟨⟨hh, by have := ha.2; simpa [exChain] using this⟩, by have := hb.2; simpa [exChain] using this⟩

example : LinkDown exVerify exChain := ex_link_down

example : LinkUp exVerify exChain := ex_link_up

/-- a run: one peer, network head 10, the worker requests 6..9 (batch size 4), the honest answer
    is stored, the next request is 2..5 -/
example :
    let evs : List Ev := [.peers 1, .netHead (exChain 10),
      .batch (some [exChain 6, exChain 7, exChain 8, exChain 9])]
    (run exEnv { batchSize := 4 } evs).store.storedRanges = [(6, 10)] ∧
    (run exEnv { batchSize := 4 } evs).ongoing = some (2, 5) := by decide +kernel

/-! ### convergence (partial) -/

/-- the full liveness statement, NOT proved: from EVERY state satisfying the safety invariant
    (whatever is pruned, whether or not the slow-sync gate is armed, whatever the ongoing batch)
    a run exists — the environment only has to let honest peers answer — after which no height of
    the sampling window up to the network head is missing.  Without side conditions this is out
    of reach of the model (pruned heights are never re-requested, an armed slow-sync gate waits
    for the daser, which is not part of it).  What IS proved: the honest schedule from a steady
    state (`converges_when_honest_peers_answer_partial`), and — for ARBITRARY interleavings of
    other events, with "honest peers eventually answer" as the explicit hypothesis
    `FairHonestAnswers` — `converges_under_fairness_partial` below. -/
def ConvergenceFullStatement : Prop :=
  ∀ (v : Hdr → Hdr → Bool) (c : Nat → Hdr) (e : Env) (s : State) (lo H : Nat),
    Inv c s → s.head = some H → s.phase = .connected → s.peers ≠ 0 →
    1 ≤ lo → e.chain.oldS lo = false →     -- `lo` = the first height inside the sampling window
    ∃ evs : List Ev, RunOk v c e s evs ∧ missing (run e s evs).store lo H = 0

/-- **Variant.**  `missing a lo hi` = number of heights of `[lo, hi]` that are not stored.
    No insertion increases it; an accepted non-empty batch whose first height lies in `[lo, hi]`
    strictly decreases it (so: finitely many accepted batches fill any fixed range). -/
theorem convergence_variant_decreases_partial (v : Hdr → Hdr → Bool) (a : AbsStore) (b : List Hdr)
    (lo hi : Nat) :
    missing (a.insert v b).1 lo hi ≤ missing a lo hi ∧
    (∀ l h, AbsStore.insertCheck v a b = .ok (some (l, h)) → lo ≤ l → l ≤ hi →
      missing (a.insert v b).1 lo hi < missing a lo hi) :=
  ⟨missing_insert_le v a b lo hi, fun l h hc h1 h2 => missing_insert_lt v a b lo hi l h hc h1 h2⟩

/-- **Progress.**  A worker with a connected peer, no ongoing batch, nothing pruned, the slow-sync
    gate not armed and batch size ≥ 1 schedules a request whenever some height `1 ≤ m ≤ head`
    inside the sampling window is not stored (header age monotone in the height). -/
theorem convergence_progress_partial (e : Env) (s : State) (H m : Nat)
    (hi : Lumina.Proofs.Store.AbsInv s.store) (hpr : s.store.pruned = [])
    (hong : s.ongoing = none) (hpeers : s.peers ≠ 0) (hhead : s.head = some H) (hH : H < U64_MAX)
    (hbs : 1 ≤ s.batchSize) (hslow : s.slowSync = none)
    (hmono : ∀ h1 h2, h1 ≤ h2 → e.chain.oldS h2 = true → e.chain.oldS h1 = true)
    (hm1 : 1 ≤ m) (hm2 : m ≤ H) (hm3 : s.store.stored m = false) (hm4 : e.chain.oldS m = false) :
    ∃ r, (fetchNextBatch e s).2 = some r :=
  fetch_progress hi hong hpeers hhead hH hbs hmono (by rw [hpr]; nofun) (by rw [hslow]; nofun)
    hm1 hm2 hm3 hm4

/-- **An honest answer always helps.**  Whatever request `fetch_next_batch` schedules in a state
    satisfying the invariant, the honest headers of exactly that range are admissible for the p2p
    layer, pass every check of the store's `insert`, and strictly decrease the number of missing
    heights of `[1, K]` (any `K` at or above the start of the batch). -/
theorem honest_answer_is_accepted_partial (v : Hdr → Hdr → Bool) (c : Nat → Hdr) (hc : HonestChain v c)
    (e : Env) (s : State) (hi : Inv c s) (hne : s.store.hdrs ≠ []) (r : Lumina.Model.Ranges.Range)
    (h : Lumina.Model.SyncerGate.fetchDecision e.slowMin (gateIn e s) = .ok (.request r))
    (K : Nat) (hK : r.1 ≤ K) :
    p2pAccepts v r (span c r.1 (r.2 + 1 - r.1)) = true ∧
    AbsStore.insertCheck v s.store (span c r.1 (r.2 + 1 - r.1)) = .ok (some (r.1, r.2)) ∧
    missing (s.store.insert v (span c r.1 (r.2 + 1 - r.1))).1 1 K < missing s.store 1 K :=
  honest_answer_progress hc hi hne h K hK

/-- **Convergence when honest peers answer** (the liveness half of C38 under its environment
    assumption, made explicit as the schedule).  From a steady state — connected, idle, store on
    the honest chain and not above the head `H`, nothing pruned, slow-sync not armed, batch size
    ≥ 1 — let the worker decide and let every request it schedules be answered with the honest
    headers of the requested range.  Then after at most `missing store 1 H` such answers the
    worker has nothing more to schedule and EVERY height of the sampling window up to the network
    head is stored; each event of the run is admissible.
    Partial: other events interleaving with the answers, the assumption that peers do answer,
    and the runtime are outside the theorem. -/
theorem converges_when_honest_peers_answer_partial (v : Hdr → Hdr → Bool) (c : Nat → Hdr)
    (hc : HonestChain v c) (e : Env) (hev : e.verify = v) (hP : ∀ h, e.chain.oldP h = false)
    (hmono : ∀ h1 h2, h1 ≤ h2 → e.chain.oldS h2 = true → e.chain.oldS h1 = true)
    (H : Nat) (s0 : State) (hs : Steady c e s0 H) :
    ∃ evs : List Ev, RunOk v c e (fetchNextBatch e s0).1 evs ∧
      evs.length ≤ missing s0.store 1 H ∧
      WindowFull e (run e (fetchNextBatch e s0).1 evs).store H ∧
      (run e (fetchNextBatch e s0).1 evs).ongoing = none := by
  subst hev
  exact honest_schedule_converges hc hP hmono H _ s0 hs (Nat.le_refl _)

/-- non-vacuity: the example world is an honest chain … -/
example : HonestChain exVerify exChain := ex_honest_chain

/-- … and the honest schedule from "head 10 stored, batch size 4, heights ≤ 3 outside the window"
    ends with 2..10 stored and nothing scheduled (the batch 2..5 straddles the window edge) -/
example :
    let evs : List Ev := [.peers 1, .netHead (exChain 10),
      .batch (some (span exChain 6 4)), .batch (some (span exChain 2 4))]
    (run exEnv { batchSize := 4 } evs).store.storedRanges = [(2, 10)] ∧
    (run exEnv { batchSize := 4 } evs).ongoing = none := by decide +kernel

/-! ### convergence under arbitrary interleavings, with fairness as an explicit hypothesis -/

/-- **The variant never increases, whatever the event.**  `Phi M s` = number of heights of `[1, M]`
    that are not stored, + 1 if the outstanding request already overlaps the store (a header-sub
    insertion can overtake an ongoing forward batch; the honest answer to such a request is then
    rejected with `HeaderRangeOverlap`).  In every state satisfying the safety invariant and the
    side conditions `Aux` (nothing pruned, slow-sync not armed, heads ≤ `M`) ANY admissible event —
    a disconnect / reconnect, a network head, a header-sub announcement, a failed request, ANY
    accepted answer (adversarial ones are rejected by the store and leave it unchanged, or store
    honest headers: safety) — leaves `Phi` where it is or decreases it. -/
theorem variant_never_increases_whatever_the_event (v : Hdr → Hdr → Bool) (c : Nat → Hdr) (e : Env)
    (M : Nat) (s : State) (hi : Inv c s) (ha : Aux M s) (ev : Ev) (hok : EvOk v c s ev) :
    Phi M (step e s ev).1 ≤ Phi M s :=
  step_phi_le hi ha hok

/-- **Every honest answer strictly decreases the variant**, whenever it arrives: the honest
    headers of the outstanding request either are accepted and store a missing height, or the
    request was stale and the worker replaces it by a fresh one. -/
theorem honest_answer_strictly_decreases_variant (v : Hdr → Hdr → Bool) (c : Nat → Hdr)
    (hc : HonestChain v c) (e : Env) (hev : e.verify = v) (M : Nat) (hM : M < U64_MAX) (s : State)
    (hi : Inv c s) (ha : Aux M s) (hph : s.phase = .connected) (r : Lumina.Model.Ranges.Range)
    (hon : s.ongoing = some r) :
    Phi M (step e s (.batch (some (span c r.1 (r.2 + 1 - r.1))))).1 < Phi M s := by
  subst hev
  exact honest_answer_phi_lt hc hM hi ha hph hon

/-- the side conditions are not assumed along the run: they hold initially (empty store, batch
    size ≥ 1) and every admissible event preserves them, together with the safety invariant and
    "a connected worker without an outstanding request has nothing to schedule" -/
theorem side_conditions_hold_along_every_run (v : Hdr → Hdr → Bool) (c : Nat → Hdr)
    (hd : LinkDown v c) (hu : LinkUp v c) (e : Env) (hev : e.verify = v)
    (hP : ∀ h, e.chain.oldP h = false) (M bs : Nat) (hbs : 1 ≤ bs) (evs : Nat → Ev)
    (hok : ∀ k, EvOk v c (trace e { batchSize := bs } evs k) (evs k)) (hbl : ∀ k, EvBelow M (evs k))
    (k : Nat) : Good c e M (trace e { batchSize := bs } evs k) := by
  subst hev
  exact trace_good hd hu hP (good_init c e M bs hbs) hok hbl k

/-- **"Honest peers eventually answer", as a hypothesis on the event sequence.**  As long as some
    height of the sampling window up to the head is not stored, there is a LATER moment `j` at
    which the worker is in `connected_event_loop` and the next event is the honest answer to its
    outstanding request (if it has one — that it has one is proved, not assumed).  Nothing is
    said about the other events: between two such moments the environment may interleave
    adversarial answers, failures, disconnects / reconnects, new heads and header-sub
    announcements at will, and it may cancel (disconnect) requests before they are answered. -/
def FairHonestAnswers (c : Nat → Hdr) (e : Env) (s0 : State) (evs : Nat → Ev) : Prop :=
  ∀ i, ¬ Synced e (trace e s0 evs i) → ∃ j, i ≤ j ∧ HonestAnswerAt c (trace e s0 evs j) (evs j)

/-- **C38 convergence under fairness** (the liveness half: "once honest peers answer, every
    height in the sampling window up to the network head is eventually stored").

    For EVERY infinite sequence of events `evs` — arbitrary interleavings of peer-count changes
    (disconnect / reconnect), network heads, header-sub announcements, failed requests and ANY
    answers the p2p layer accepts — that is admissible (`EvOk`: announced heads are honest,
    batches passed the p2p layer) and `FairHonestAnswers`: from every point `i` of the run there
    is a later point `k` at which EVERY height of the sampling window up to the subjective head is
    stored (`Synced`), and the store holds only honest headers all along
    (`store_stays_on_honest_chain`).  Proof: `Phi` never increases
    (`variant_never_increases_whatever_the_event`), strictly decreases at each fair moment
    (`honest_answer_strictly_decreases_variant`), and a connected worker whose window is not full
    always has an outstanding request (`Busy` + `convergence_progress_partial`).

    ENVIRONMENT ASSUMPTIONS (hypotheses; not provable about the node):
      * `FairHonestAnswers`: honest peers do answer — infinitely often while the window is not
        full, an outstanding request is answered with the honest headers of its range before the
        environment cancels it, at a moment when the worker is connected (a peer is connected and
        `try_init` obtained an acceptable head from trusted peers);
      * that each event is handled at all: tokio polls the worker, `select!` eventually takes
        the finished request, the timeouts / back-off of the header session and of `try_init`
        expire — the model is the sequence of HANDLED events;
      * `hbl`: the announced heads stay at or below some `M < 2^64 - 1` during the run (a head
        that moves up forever starves the backward sync: the worker always fetches forward
        first; `M` is a bound, the head may move below it).
    REGIME (why this stays `_partial`): `hP` — the pruning cutoff is older than every header, so
    the slow-sync throttle (which hands progress over to the daser / pruner) never arms; pruning
    is not an event of this model (`Aux.unpruned`); `hmono` — header age is monotone in the
    height; `LinkDown` / `LinkUp` / `HonestChain` as for safety. -/
theorem converges_under_fairness_partial (v : Hdr → Hdr → Bool) (c : Nat → Hdr) (hc : HonestChain v c)
    (hd : LinkDown v c) (hu : LinkUp v c) (e : Env) (hev : e.verify = v)
    (hP : ∀ h, e.chain.oldP h = false)
    (hmono : ∀ h1 h2, h1 ≤ h2 → e.chain.oldS h2 = true → e.chain.oldS h1 = true)
    (M : Nat) (hM : M < U64_MAX) (bs : Nat) (hbs : 1 ≤ bs) (evs : Nat → Ev)
    (hok : ∀ k, EvOk v c (trace e { batchSize := bs } evs k) (evs k)) (hbl : ∀ k, EvBelow M (evs k))
    (hfair : FairHonestAnswers c e { batchSize := bs } evs) :
    ∀ i, ∃ k, i ≤ k ∧ Synced e (trace e { batchSize := bs } evs k) := by
  subst hev
  exact fair_converges hc hd hu hP hmono hM (good_init c e M bs hbs) hok hbl hfair

/-- the same from any state satisfying the invariants (e.g. a later point of a run), and for the
    head the worker knew at an arbitrary point `i`: every height of the sampling window up to THAT
    head is stored from some point on, for ever (new heads may enlarge the window afterwards; the
    worker catches up with them in turn) -/
theorem every_known_head_is_reached_under_fairness_partial (v : Hdr → Hdr → Bool) (c : Nat → Hdr)
    (hc : HonestChain v c) (hd : LinkDown v c) (hu : LinkUp v c) (e : Env) (hev : e.verify = v)
    (hP : ∀ h, e.chain.oldP h = false)
    (hmono : ∀ h1 h2, h1 ≤ h2 → e.chain.oldS h2 = true → e.chain.oldS h1 = true)
    (M : Nat) (hM : M < U64_MAX) (s0 : State) (hg0 : Good c e M s0) (evs : Nat → Ev)
    (hok : ∀ k, EvOk v c (trace e s0 evs k) (evs k)) (hbl : ∀ k, EvBelow M (evs k))
    (hfair : FairHonestAnswers c e s0 evs) (i H : Nat) (hH : (trace e s0 evs i).head = some H) :
    ∃ k, i ≤ k ∧ ∀ k', k ≤ k' → WindowFull e (trace e s0 evs k').store H := by
  subst hev
  exact reached_forever (fair_converges hc hd hu hP hmono hM hg0 hok hbl hfair)
    (fun k => step_head_mono e _ (evs k)) (fun k m _ => step_stored_mono e _ (evs k) m) i H hH

/-- `trace` is the `run` of the safety theorems on the first `k` events -/
theorem trace_is_run (e : Env) (s0 : State) (evs : Nat → Ev) (k : Nat) :
    trace e s0 evs k = run e s0 ((List.range k).map evs) := by
  induction k with
  | zero => rfl
  | succ k ih => rw [List.range_succ, List.map_append, run_append, ← ih]; rfl

/-! non-vacuity of the fairness theorem: a concrete infinite run meeting every hypothesis, with an
    adversarial (forked, store-rejected) answer, a failure and a disconnect / reconnect
    interleaved with the honest answers -/

/-- a fork of height `h`: validated, internally consistent, different hash -/
def exFork (h : Nat) : Hdr := { id := 1000 + h, height := h, hash := 1000 + h, valid := true }

def exEvs : Nat → Ev
  | 0 => .peers 1
  | 1 => .netHead (exChain 6)                 -- connected; 5..5 requested (batch size 1)
  | 2 => .batch (some [exFork 5])             -- adversarial answer: passes the p2p layer, rejected by the store
  | 3 => .batch none                          -- the re-issued request fails
  | 4 => .batch (some (span exChain 5 1))     -- honest answer; 4..4 requested
  | 5 => .peers 0                             -- disconnect: 4..4 is cancelled
  | 6 => .peers 2
  | 7 => .netHead (exChain 6)                 -- reconnect; 4..4 re-issued
  | 8 => .batch (some (span exChain 4 1))     -- honest answer: 4..6 stored, heights ≤ 3 are outside the window
  | _ => .peers 2


/-- the outstanding requests of the example run (the forked answer and the failure leave the
    store unchanged and the request 5..5 is re-issued) -/
theorem ex_ongoing :
    (trace exEnv { batchSize := 1 } exEvs 2).ongoing = some (5, 5) ∧
    (trace exEnv { batchSize := 1 } exEvs 3).ongoing = some (5, 5) ∧
    (trace exEnv { batchSize := 1 } exEvs 3).store.storedRanges = [(6, 6)] ∧
    (trace exEnv { batchSize := 1 } exEvs 4).ongoing = some (5, 5) ∧
    (trace exEnv { batchSize := 1 } exEvs 4).phase = .connected ∧
    (trace exEnv { batchSize := 1 } exEvs 8).ongoing = some (4, 4) ∧
    (trace exEnv { batchSize := 1 } exEvs 8).phase = .connected := by decide +kernel

/-- every event of the example run is admissible … -/
theorem ex_admissible : ∀ k, EvOk exVerify exChain (trace exEnv { batchSize := 1 } exEvs k) (exEvs k)
  | 0 => trivial
  | 1 => ⟨⟨rfl, rfl⟩, by simp [HdrWf, exChain, Lumina.Model.Store.U64_MAX]⟩
  | 2 => evOk_batch ex_ongoing.1 (by decide)
          fun x hx => by simp at hx; subst hx; simp [HdrWf, exFork, Lumina.Model.Store.U64_MAX]
  | 3 => trivial
  | 4 => evOk_batch ex_ongoing.2.2.2.1 (by decide) (span_wf ex_honest_chain (by decide))
  | 5 => trivial
  | 6 => trivial
  | 7 => ⟨⟨rfl, rfl⟩, by simp [HdrWf, exChain, Lumina.Model.Store.U64_MAX]⟩
  | 8 => evOk_batch ex_ongoing.2.2.2.2.2.1 (by decide) (span_wf ex_honest_chain (by decide))
  | _ + 9 => trivial

/-- … its heads stay at or below 6 … -/
theorem ex_below : ∀ k, EvBelow 6 (exEvs k)
  | 0 => trivial
  | 1 => Nat.le_refl _
  | 2 => trivial
  | 3 => trivial
  | 4 => trivial
  | 5 => trivial
  | 6 => trivial
  | 7 => Nat.le_refl _
  | 8 => trivial
  | _ + 9 => trivial

/-- … from event 9 on the window 4..6 is full … -/
theorem ex_synced_tail : ∀ n, Synced exEnv (trace exEnv { batchSize := 1 } exEvs (n + 9))
  | 0 => ⟨6, by decide +kernel, fun m _ h2 h3 =>
      (by decide +kernel : ∀ m < 7, exEnv.chain.oldS m = false →
        (trace exEnv { batchSize := 1 } exEvs 9).store.stored m = true) m (by omega) h3⟩
  | n + 1 => synced_peers exEnv _ 2 (ex_synced_tail n)

/-- … and it is fair: at every point up to event 8 the honest answer of event 8 is still to come,
    and from event 9 on the window is full -/
theorem ex_fair : FairHonestAnswers exChain exEnv { batchSize := 1 } exEvs := by
  intro i hns
  by_cases h8 : i ≤ 8
  · exact ⟨8, h8, ex_ongoing.2.2.2.2.2.2, fun r hr => by
      rw [ex_ongoing.2.2.2.2.2.1] at hr; injection hr with hr; subst hr; rfl⟩
  · exfalso
    obtain ⟨n, rfl⟩ : ∃ n, i = n + 9 := ⟨i - 9, by omega⟩
    exact hns (ex_synced_tail n)

/-- so the theorem applies to it (and its conclusion is not reached before event 9) -/
example : ∀ i, ∃ k, i ≤ k ∧ Synced exEnv (trace exEnv { batchSize := 1 } exEvs k) :=
  converges_under_fairness_partial exVerify exChain ex_honest_chain ex_link_down ex_link_up exEnv rfl
    (fun _ => rfl) (fun h1 h2 hle h => by simp [exEnv] at h ⊢; omega) 6 (by decide) 1 (Nat.le_refl _)
    exEvs ex_admissible ex_below ex_fair

example : (trace exEnv { batchSize := 1 } exEvs 8).store.stored 4 = false := by decide +kernel

/-! ## C38 × C35 × C25: convergence with pruner removals interleaved

  The convergence theorems above are restricted to runs in which NOTHING IS PRUNED and the pruning
  cutoff is older than every header (`hP`, `Aux.unpruned`, `Aux.slow`).  Below the runs get a
  second kind of event, `EvP.prune h` = `Store::remove_height(h)` issued by the pruner
  (`stepP`, `traceP`; lemmas in `Proofs/SyncerGate.lean`, `ComposeSyncerGate.lean`,
  `ComposeSyncerPrune.lean`).  A removal is admissible when it satisfies the per-height safety
  condition C35 proves of every height of every pruner batch (`PruneSafe`;
  `pruner_batches_are_admissible_removals` is the bridge from `Props.C35.batch_safe_partial`).

  REGIME of the convergence result: `hwin` — a header outside the pruning window is outside the
  sampling window (pruning window ≥ sampling window; the defaults are 7 d + 1 h and 7 d;
  `regime_from_cutoffs`).  `hP` is NOT assumed: headers do leave the pruning window, the slow-sync height
  arms, heights are pruned.  In that regime safe removals never remove a height the window needs
  (`safe_removals_never_touch_the_sampling_window`), so the conclusion is about STORED heights, as
  above.  NOT covered (stated, not proved): pruning window < sampling window (e.g. the in-memory
  default 0) — there sampled in-window heights are removed and the slow-sync throttle hands
  progress to the daser / pruner, which this model does not contain; for that regime only the
  regime-free facts hold: the potential over SYNCED = stored ∪ pruned heights never increases and a
  removal leaves it unchanged (`removal_leaves_variant_unchanged`,
  `variant_never_increases_with_pruning`), `PrunedHist` is invariant, and the window gate incl. the
  C25 branch withholds nothing the window needs (`repaired_window_gate_costs_no_liveness`). -/

open Lumina.Proofs.ComposeSyncerPrune

/-- `traceP` is `runP` on the first `k` events, and without removals it is the `trace` above -/
theorem traceP_is_runP (e : Env) (s0 : State) (evs : Nat → EvP) (k : Nat) :
    traceP e s0 evs k = runP e s0 ((List.range k).map evs) := by
  induction k with
  | zero => rfl
  | succ k ih => rw [List.range_succ, List.map_append, runP_append, ← ih]; rfl

theorem traceP_without_removals_is_trace (e : Env) (s0 : State) (evs : Nat → Ev) :
    ∀ k, traceP e s0 (fun i => .ev (evs i)) k = trace e s0 evs k
  | 0 => rfl
  | k + 1 => by
    show (step e (traceP e s0 (fun i => .ev (evs i)) k) (evs k)).1 = (step e (trace e s0 evs k) (evs k)).1
    rw [traceP_without_removals_is_trace e s0 evs k]

/-- **Bridge from C35.**  Every height of every batch `get_next_prunable_batch` returns (C35's
    model, any well-formed store view, any cache that is right, any `Daser` oracle) is an
    admissible removal of the composed runs, when the pruner's view and the syncer model's store
    describe the same store and cutoffs. -/
theorem pruner_batches_are_admissible_removals (limit : Nat) (ps : Lumina.Model.Pruner.PStore)
    (w : Lumina.Model.Pruner.Worker) (sc pc : Nat) (refresh : Bool) (grant : Nat → Bool)
    (hs : Lumina.Proofs.Pruner.StoreInv ps) (hm : Lumina.Proofs.Pruner.ChainMono ps.time)
    (hc : Lumina.Proofs.Pruner.CacheOK ps.time w.cache sc pc) (batch : Lumina.Model.Ranges.Ranges)
    (w' : Lumina.Model.Pruner.Worker) (msgs : List Lumina.Model.Pruner.Msg)
    (hres : Lumina.Model.Pruner.getNextPrunableBatch limit ps w sc pc refresh grant = .ok (batch, w', msgs))
    (e : Env) (a : AbsStore) (hsame : SameStore ps sc pc e a) (h : Nat) (hmem : mem batch h) :
    PruneSafe e a h := by
  obtain ⟨k1, k2, k3, _⟩ := Lumina.Props.C35.batch_safe_partial limit ps w sc pc refresh grant hs hm hc batch w' msgs
    hres h hmem
  refine ⟨(hsame.stored h).1 k1, by rw [hsame.oldP]; exact decide_eq_true k2, ?_⟩
  rcases k3 with ⟨k4, _⟩ | ⟨_, k5⟩
  · left; rw [hsame.oldS]; exact decide_eq_true k4
  · exact Or.inr ⟨(hsame.synced _).2 (Classical.not_not.1 fun hn => k5 (Or.inl hn)),
      (hsame.synced _).2 (Classical.not_not.1 fun hn => k5 (Or.inr hn))⟩

/-- the regime hypotheses below, from the cutoffs: pruning cutoff ≤ sampling cutoff (pruning window
    ≥ sampling window) and header times increasing with the height -/
theorem regime_from_cutoffs (ps : Lumina.Model.Pruner.PStore) (sc pc : Nat) (e : Env) (a : AbsStore)
    (hsame : SameStore ps sc pc e a) (hm : Lumina.Proofs.Pruner.ChainMono ps.time)
    (h0 : ps.time 0 ≤ ps.time 1) (hcut : pc ≤ sc) :
    (∀ h, e.chain.oldP h = true → e.chain.oldS h = true) ∧
    (∀ h1 h2, h1 ≤ h2 → e.chain.oldS h2 = true → e.chain.oldS h1 = true) := by
  -- header times increase from height 0 on
  have ht : ∀ h1 h2, h1 ≤ h2 → ps.time h1 ≤ ps.time h2 := fun h1 h2 hle => by
    rcases Nat.eq_zero_or_pos h1 with rfl | h1p
    · rcases Nat.eq_zero_or_pos h2 with rfl | h2p
      · exact Nat.le_refl _
      · exact Nat.le_trans h0 (hm.le (Nat.le_refl 1) h2p)
    · exact hm.le h1p hle
  simp only [hsame.oldS, hsame.oldP, decide_eq_true_eq]
  exact ⟨fun h hp => by omega, fun h1 h2 hle ho => Nat.le_trans (ht h1 h2 hle) ho⟩

/-- **Safe removals never remove a height the window needs** (pruning window ≥ sampling window):
    a safely removable height is outside the sampling window, and every stored height inside the
    window is still stored after ANY admissible event of the composed system. -/
theorem safe_removals_never_touch_the_sampling_window (v : Hdr → Hdr → Bool) (c : Nat → Hdr) (e : Env)
    (hwin : ∀ h, e.chain.oldP h = true → e.chain.oldS h = true) (s : State) :
    (∀ h, PruneSafe e s.store h → e.chain.oldS h = true) ∧
    (∀ ev, EvOkP v c e s ev → ∀ k, s.store.stored k = true → e.chain.oldS k = false →
      (stepP e s ev).store.stored k = true) :=
  ⟨fun _ hp => pruneSafe_outside_window hwin hp,
   fun _ hok _ hk hkw => stepP_keeps_window_heights hwin hok hk hkw⟩

/-- **A safe removal stays safe** while the syncer inserts and the pruner removes other heights:
    batch computation on a snapshot + one-by-one removal interleaved with the syncer stays inside
    the admissible removals. -/
theorem removal_stays_safe_under_interleaving (e : Env) (s : State) (ev : EvP) (h : Nat)
    (hne : ev ≠ .prune h) (hp : PruneSafe e s.store h) : PruneSafe e (stepP e s ev).store h := by
  cases ev with
  | ev x =>
    show PruneSafe e (step e s x).1.store h
    rcases step_store_cases e s x with hc | hc <;> rw [hc]
    · exact hp
    · exact pruneSafe_mono (Lumina.Proofs.Store.insert_stored_mono _ _ _ h) (insert_synced_mono _ _ _) hp
  | prune k =>
    exact pruneSafe_mono (fun hs => (Lumina.Proofs.Store.remove_stored _ k h).2 ⟨hs, fun hc => hne (by rw [hc])⟩)
      (fun j hj => (remove_synced s.store k j).trans hj) hp

/-- **A removal leaves the variant unchanged** — `PhiP M s` = number of heights of `[1, M]` that are
    not SYNCED (neither stored nor pruned: the set `calculate_range_to_fetch` works on) + staleness
    of the outstanding request.  No assumption at all. -/
theorem removal_leaves_variant_unchanged (e : Env) (M : Nat) (s : State) (h : Nat) :
    PhiP M (stepP e s (.prune h)) = PhiP M s :=
  PhiP_prune e M s h

/-- **The variant never increases, whatever the event, with pruned heights around** (either window
    order; `AuxP` = `Aux` with "pruned heights ≤ `M`" in place of "nothing pruned" and without
    "slow-sync not armed"). -/
theorem variant_never_increases_with_pruning (v : Hdr → Hdr → Bool) (c : Nat → Hdr) (e : Env)
    (M : Nat) (s : State) (hi : Inv c s) (ha : AuxP M s) (ev : EvP)
    (hok : match ev with | .ev x => EvOk v c s x | .prune _ => True) :
    PhiP M (stepP e s ev) ≤ PhiP M s := by
  cases ev with
  | ev x => exact step_phiP_le hi ha hok
  | prune h => exact Nat.le_of_eq (PhiP_prune e M s h)

/-- **Every honest answer strictly decreases the variant, with pruned heights around.** -/
theorem honest_answer_strictly_decreases_variant_with_pruning (v : Hdr → Hdr → Bool) (c : Nat → Hdr)
    (hc : HonestChain v c) (e : Env) (hev : e.verify = v) (M : Nat) (hM : M < U64_MAX) (s : State)
    (hi : Inv c s) (ha : AuxP M s) (hph : s.phase = .connected) (r : Lumina.Model.Ranges.Range)
    (hon : s.ongoing = some r) :
    PhiP M (stepP e s (.ev (.batch (some (span c r.1 (r.2 + 1 - r.1)))))) < PhiP M s := by
  subst hev
  exact honest_answer_phiP_lt hc hM hi ha hph hon

/-- `PrunedHist` (every pruned height is outside the sampling window or has a synced height
    directly below it) holds along every run of syncer events and safe removals — either window
    order, no fairness -/
theorem pruned_history_invariant (v : Hdr → Hdr → Bool) (c : Nat → Hdr) (e : Env) (s0 : State)
    (h0 : PrunedHist e s0.store) (evs : Nat → EvP)
    (hok : ∀ k, EvOkP v c e (traceP e s0 evs k) (evs k)) : ∀ k, PrunedHist e (traceP e s0 evs k).store :=
  fun k => stays (P := fun s : State => PrunedHist e s.store) (fun k h => stepP_prunedHist h (hok k))
    (Nat.zero_le k) h0

/-- **The window gate of C25 costs no liveness** (either window order).  In every state whose pruned
    heights satisfy `PrunedHist`, if `fetch_next_batch` returns without a request because of the
    sampling-window gate — the height above the next batch is stored and outside the window, or
    (the `boundPruned` branch) it is a synced height that has since been pruned — then every
    height `1 ≤ m ≤ head` that is not synced lies outside the sampling window: the gate never
    blocks a batch that contains a height of the window. -/
theorem repaired_window_gate_costs_no_liveness (e : Env)
    (hmono : ∀ h1 h2, h1 ≤ h2 → e.chain.oldS h2 = true → e.chain.oldS h1 = true)
    (s : State) (hi : Lumina.Proofs.Store.AbsInv s.store) (hph : PrunedHist e s.store)
    (w : Lumina.Model.SyncerGate.Idle) (hw : w = .boundOutsideWindow ∨ w = .boundPruned)
    (hdec : Lumina.Model.SyncerGate.fetchDecision e.slowMin (gateIn e s) = .ok (.idle w))
    (H m : Nat) (hH : s.head = some H) (hm1 : 1 ≤ m) (hm2 : m ≤ H) (hm3 : syncedB s.store m = false) :
    e.chain.oldS m = true := by
  obtain ⟨ist, mst⟩ := storedRanges_spec hi
  obtain ⟨ipr, mpr⟩ := prunedRanges_spec hi
  refine Lumina.Proofs.ComposeSyncerGate.window_gate_blocks_only_outside_window (i := gateIn e s)
    (old := e.chain.oldS) ist ipr (fun _ => rfl) hmono ?_ hdec hw hH hm2 ?_
  · intro p hp
    refine (hph p ((mpr p).1 hp)).imp id fun h1 => ?_
    exact ((synced_iff _ _).1 h1).imp (mst _).2 (mpr _).2
  · rintro (h1 | h1)
    · rw [(synced_iff _ _).2 (Or.inl ((mst _).1 h1))] at hm3; cases hm3
    · rw [(synced_iff _ _).2 (Or.inr ((mpr _).1 h1))] at hm3; cases hm3

/-- **Progress with pruned heights and an armed slow-sync height** (pruning window ≥ sampling
    window).  In a state satisfying the invariants `G3` (safety invariant; some stored header, every
    pruned height and the slow-sync height on the right side of the window edge; bounds), a
    connected worker without an ongoing batch whose window up to the head is not fully stored
    schedules a request: neither the slow-sync throttle nor the window gate withholds it. -/
theorem convergence_progress_with_pruning_partial (c : Nat → Hdr) (e : Env)
    (hmono : ∀ h1 h2, h1 ≤ h2 → e.chain.oldS h2 = true → e.chain.oldS h1 = true)
    (M : Nat) (hM : M < U64_MAX) (s : State) (hg : G3 c e M s)
    (hph : s.phase = .connected) (hon : s.ongoing = none) (H : Nat) (hH : s.head = some H)
    (hnf : ¬ WindowFull e s.store H) : ∃ r, (fetchNextBatch e s).2 = some r :=
  not_full_requestsP hmono hM hg hph hon hH hnf

/-- the invariants are not assumed along the run: they hold initially (empty store, batch size ≥ 1)
    and every admissible event — the syncer's or a safe removal — preserves them -/
theorem side_conditions_hold_along_every_run_with_pruning (v : Hdr → Hdr → Bool) (c : Nat → Hdr)
    (hd : LinkDown v c) (hu : LinkUp v c) (e : Env) (hev : e.verify = v)
    (hwin : ∀ h, e.chain.oldP h = true → e.chain.oldS h = true)
    (hmono : ∀ h1 h2, h1 ≤ h2 → e.chain.oldS h2 = true → e.chain.oldS h1 = true)
    (M : Nat) (hM : M < U64_MAX) (bs : Nat) (hbs : 1 ≤ bs) (evs : Nat → EvP)
    (hok : ∀ k, EvOkP v c e (traceP e { batchSize := bs } evs k) (evs k))
    (hbl : ∀ k, EvBelowP M (evs k)) (k : Nat) : GoodP c e M (traceP e { batchSize := bs } evs k) := by
  subst hev
  exact traceP_good hwin hmono hd hu hM (good_initP c e M bs hbs) hok hbl k

/-- **C38 safety, with the pruner running.**  From the empty store, along EVERY sequence of the
    syncer's events and, interleaved arbitrarily, removals by the pruner that satisfy C35's
    per-height condition (`EvOkP`), after every step every stored header is the honest chain's
    header of its height — and nothing was pruned above the stored head (`TopStored` is not assumed:
    it is part of the invariant that is proved).  Regime: pruning window ≥ sampling
    window (`hwin`), header age monotone in the height, network heads handed over by trusted peers
    inside the sampling window (`HeadFresh`, part of `EvOkP`), heads ≤ `M`. -/
theorem store_stays_on_honest_chain_with_pruning_partial (v : Hdr → Hdr → Bool) (c : Nat → Hdr)
    (hd : LinkDown v c) (hu : LinkUp v c) (e : Env) (hev : e.verify = v)
    (hwin : ∀ h, e.chain.oldP h = true → e.chain.oldS h = true)
    (hmono : ∀ h1 h2, h1 ≤ h2 → e.chain.oldS h2 = true → e.chain.oldS h1 = true)
    (M : Nat) (hM : M < U64_MAX) (bs : Nat) (hbs : 1 ≤ bs) (evs : Nat → EvP)
    (hok : ∀ k, EvOkP v c e (traceP e { batchSize := bs } evs k) (evs k))
    (hbl : ∀ k, EvBelowP M (evs k)) (k : Nat) :
    AllOnChain c (traceP e { batchSize := bs } evs k).store ∧
      TopStored (traceP e { batchSize := bs } evs k).store :=
  let g := (side_conditions_hold_along_every_run_with_pruning v c hd hu e hev hwin hmono M hM bs hbs
    evs hok hbl k).g3.inv
  ⟨g.onchain, g.top⟩

/-- "honest peers eventually answer", for runs with removals (same wording as `FairHonestAnswers`) -/
def FairHonestAnswersP (c : Nat → Hdr) (e : Env) (s0 : State) (evs : Nat → EvP) : Prop :=
  ∀ i, ¬ Synced e (traceP e s0 evs i) → ∃ j, i ≤ j ∧ HonestAnswerAtP c (traceP e s0 evs j) (evs j)

/-- **C38 convergence under fairness, WITH PRUNING.**

    For EVERY infinite sequence of events — the syncer's events of `converges_under_fairness_partial`
    (peer-count changes, network heads, header-sub announcements, failed requests, ANY answers the
    p2p layer accepts) and, interleaved ARBITRARILY, removals `prune h` by the pruner — that is
    admissible (`EvOkP`) and fair (`FairHonestAnswersP`): from every point of the run there is a
    later point at which every height of the sampling window up to the subjective head is STORED.

    Hypotheses, spelled out:
      * `EvOkP`: syncer events as in `EvOk` (announced heads honest, batches passed the p2p layer);
        the network head handed over by trusted peers is inside the sampling window (`HeadFresh`:
        it is seconds old); every removal satisfies C35's per-height condition `PruneSafe` — what
        `Props.C35.batch_safe_partial` proves of every pruner batch (`pruner_batches_are_admissible_removals`);
      * `hwin` (REGIME): outside the pruning window ⇒ outside the sampling window, i.e. pruning
        window ≥ sampling window (defaults 7 d + 1 h / 7 d); `hmono`: header age monotone in the
        height; both time classes fixed during the run (as everywhere in C38);
      * `FairHonestAnswersP`, `hbl` (heads ≤ `M`), `HonestChain` / `LinkDown` / `LinkUp`: as before.
    NOT assumed, unlike there: `hP` (pruning cutoff older than every header), nothing pruned,
    slow-sync not armed.  Proof: the invariants `GoodP` hold along the run; `PhiP` (over synced heights)
    never increases, is unchanged by removals and strictly decreases at each fair moment; a
    connected worker whose window is not full has an outstanding request (`BusyW`), because neither
    the slow-sync throttle nor the window gate withholds a batch the window needs.

    Still `_partial`: the opposite window order (pruning window < sampling window) is not covered;
    the environment assumptions of `converges_under_fairness_partial` remain. -/
theorem converges_under_fairness_with_pruning_partial (v : Hdr → Hdr → Bool) (c : Nat → Hdr)
    (hc : HonestChain v c) (hd : LinkDown v c) (hu : LinkUp v c) (e : Env) (hev : e.verify = v)
    (hwin : ∀ h, e.chain.oldP h = true → e.chain.oldS h = true)
    (hmono : ∀ h1 h2, h1 ≤ h2 → e.chain.oldS h2 = true → e.chain.oldS h1 = true)
    (M : Nat) (hM : M < U64_MAX) (bs : Nat) (hbs : 1 ≤ bs) (evs : Nat → EvP)
    (hok : ∀ k, EvOkP v c e (traceP e { batchSize := bs } evs k) (evs k))
    (hbl : ∀ k, EvBelowP M (evs k))
    (hfair : FairHonestAnswersP c e { batchSize := bs } evs) :
    ∀ i, ∃ k, i ≤ k ∧ Synced e (traceP e { batchSize := bs } evs k) := by
  subst hev
  exact fair_convergesP hwin hmono hc hd hu hM (good_initP c e M bs hbs) hok hbl hfair

/-- the same from any state satisfying the invariants, for the head the worker knew at an arbitrary
    point `i`: every height of the sampling window up to THAT head is stored from some point on,
    FOR EVER — later safe removals never take it away again -/
theorem every_known_head_is_reached_with_pruning_partial (v : Hdr → Hdr → Bool) (c : Nat → Hdr)
    (hc : HonestChain v c) (hd : LinkDown v c) (hu : LinkUp v c) (e : Env) (hev : e.verify = v)
    (hwin : ∀ h, e.chain.oldP h = true → e.chain.oldS h = true)
    (hmono : ∀ h1 h2, h1 ≤ h2 → e.chain.oldS h2 = true → e.chain.oldS h1 = true)
    (M : Nat) (hM : M < U64_MAX) (s0 : State) (hg0 : GoodP c e M s0) (evs : Nat → EvP)
    (hok : ∀ k, EvOkP v c e (traceP e s0 evs k) (evs k)) (hbl : ∀ k, EvBelowP M (evs k))
    (hfair : FairHonestAnswersP c e s0 evs) (i H : Nat) (hH : (traceP e s0 evs i).head = some H) :
    ∃ k, i ≤ k ∧ ∀ k', k ≤ k' → WindowFull e (traceP e s0 evs k').store H := by
  subst hev
  exact reached_forever (fair_convergesP hwin hmono hc hd hu hM hg0 hok hbl hfair)
    (fun k => stepP_head_mono _ (evs k))
    (fun k _ hm hs => stepP_keeps_window_heights hwin (hok k) hs hm) i H hH

/-! non-vacuity: a concrete infinite fair run WITH A PRUNER REMOVAL while a request is outstanding,
    in which the slow-sync height arms and the C25 branch of the window gate fires -/

/-- headers of heights ≤ 3 are outside the sampling window, those ≤ 2 outside the pruning window -/
def exEnvP : Env :=
  { verify := exVerify, chain := { oldS := fun h => decide (h ≤ 3), oldP := fun h => decide (h ≤ 2) },
    slowMin := 50 }

def exEvsP : Nat → EvP
  | 0 => .ev (.peers 1)
  | 1 => .ev (.netHead (exChain 6))                  -- connected; 4..5 requested (batch size 2)
  | 2 => .ev (.batch (some (span exChain 4 2)))      -- honest answer; 2..3 requested (bound 4 is in the window)
  | 3 => .ev (.batch (some (span exChain 2 2)))      -- honest answer; 2 is outside the pruning window: slow-sync arms
  | 4 => .ev (.headerSub (exChain 8))                -- new head 8 (not adjacent to 6): 7..8 requested
  | 5 => .prune 2                                    -- the pruner removes height 2 while 7..8 is outstanding
  | 6 => .ev (.batch (some (span exChain 7 2)))      -- honest answer: 3..8 stored, 2 pruned; C25 gate: nothing below
  | _ => .ev (.peers 1)

theorem exP_regime :
    (∀ h, exEnvP.chain.oldP h = true → exEnvP.chain.oldS h = true) ∧
    (∀ h1 h2, h1 ≤ h2 → exEnvP.chain.oldS h2 = true → exEnvP.chain.oldS h1 = true) := by
  constructor
  · intro h hp; simp [exEnvP] at hp ⊢; omega
  · intro h1 h2 hle hp; simp [exEnvP] at hp ⊢; omega

/-- the run: what is stored / pruned / outstanding before events 5, 6 and 7 — the removal happens
    while the window 4..8 is not full and a request is outstanding; afterwards the decision is
    "nothing" because of the `boundPruned` branch of C25 -/
theorem exP_states :
    (traceP exEnvP { batchSize := 2 } exEvsP 4).slowSync = some 2 ∧
    (traceP exEnvP { batchSize := 2 } exEvsP 5).store.storedRanges = [(2, 6)] ∧
    (traceP exEnvP { batchSize := 2 } exEvsP 5).ongoing = some (7, 8) ∧
    (traceP exEnvP { batchSize := 2 } exEvsP 6).store.storedRanges = [(3, 6)] ∧
    (traceP exEnvP { batchSize := 2 } exEvsP 6).store.prunedRanges = [(2, 2)] ∧
    (traceP exEnvP { batchSize := 2 } exEvsP 7).store.storedRanges = [(3, 8)] ∧
    Lumina.Model.SyncerGate.fetchDecision 50 (gateIn exEnvP (traceP exEnvP { batchSize := 2 } exEvsP 7))
      = .ok (.idle .boundPruned) :=
  ⟨by decide +kernel, by decide +kernel, by decide +kernel, by decide +kernel, by decide +kernel, by decide +kernel, by rfl⟩

theorem exP_ongoing :
    (traceP exEnvP { batchSize := 2 } exEvsP 2).ongoing = some (4, 5) ∧
    (traceP exEnvP { batchSize := 2 } exEvsP 2).phase = .connected ∧
    (traceP exEnvP { batchSize := 2 } exEvsP 3).ongoing = some (2, 3) ∧
    (traceP exEnvP { batchSize := 2 } exEvsP 3).phase = .connected ∧
    (traceP exEnvP { batchSize := 2 } exEvsP 6).ongoing = some (7, 8) ∧
    (traceP exEnvP { batchSize := 2 } exEvsP 6).phase = .connected := by decide +kernel

theorem exP_span_wf (lo n : Nat) (h : lo + n ≤ 1000) : ∀ x ∈ span exChain lo n, HdrWf x :=
  span_wf ex_honest_chain (by simp only [U64_MAX]; omega)

/-- every event of the example run is admissible (the removal satisfies C35's condition) … -/
theorem exP_admissible : ∀ k, EvOkP exVerify exChain exEnvP (traceP exEnvP { batchSize := 2 } exEvsP k) (exEvsP k)
  | 0 => ⟨trivial, trivial⟩
  | 1 => ⟨⟨⟨rfl, rfl⟩, by simp [HdrWf, exChain, Lumina.Model.Store.U64_MAX]⟩,
          (by decide : exEnvP.chain.oldS (exChain 6).height = false)⟩
  | 2 => ⟨evOk_batch exP_ongoing.1 (by decide) (exP_span_wf 4 2 (by decide)), trivial⟩
  | 3 => ⟨evOk_batch exP_ongoing.2.2.1 (by decide) (exP_span_wf 2 2 (by decide)), trivial⟩
  | 4 => ⟨⟨⟨rfl, rfl⟩, by simp [HdrWf, exChain, Lumina.Model.Store.U64_MAX]⟩, trivial⟩
  | 5 => ⟨by decide, by decide, Or.inl (by decide)⟩
  | 6 => ⟨evOk_batch exP_ongoing.2.2.2.2.1 (by decide) (exP_span_wf 7 2 (by decide)), trivial⟩
  | _ + 7 => ⟨trivial, trivial⟩

theorem exP_below : ∀ k, EvBelowP 8 (exEvsP k)
  | 0 => trivial
  | 1 => by show 6 ≤ 8; omega
  | 2 => trivial
  | 3 => trivial
  | 4 => Nat.le_refl _
  | 5 => trivial
  | 6 => trivial
  | _ + 7 => trivial

theorem exP_synced_tail : ∀ n, Synced exEnvP (traceP exEnvP { batchSize := 2 } exEvsP (n + 7))
  | 0 => ⟨8, by decide +kernel, fun m _ h2 h3 =>
      (by decide +kernel : ∀ m < 9, exEnvP.chain.oldS m = false →
        (traceP exEnvP { batchSize := 2 } exEvsP 7).store.stored m = true) m (by omega) h3⟩
  | n + 1 => synced_peers exEnvP _ 1 (exP_synced_tail n)

/-- … and it is fair: at every point up to event 6 the honest answer of event 6 is still to come,
    and from event 7 on the window is full -/
theorem exP_fair : FairHonestAnswersP exChain exEnvP { batchSize := 2 } exEvsP := by
  intro i hns
  by_cases h6 : i ≤ 6
  · exact ⟨6, h6, exP_ongoing.2.2.2.2.2, fun r hr => by
      rw [exP_ongoing.2.2.2.2.1] at hr; injection hr with hr; subst hr; rfl⟩
  · exfalso
    obtain ⟨n, rfl⟩ : ∃ n, i = n + 7 := ⟨i - 7, by omega⟩
    exact hns (exP_synced_tail n)

/-- so the theorem applies to a run that contains a pruner removal -/
example : ∀ i, ∃ k, i ≤ k ∧ Synced exEnvP (traceP exEnvP { batchSize := 2 } exEvsP k) :=
  converges_under_fairness_with_pruning_partial exVerify exChain ex_honest_chain ex_link_down ex_link_up
    exEnvP rfl exP_regime.1 exP_regime.2 8 (by decide) 2 (by decide) exEvsP exP_admissible exP_below exP_fair

/-- the removal is real, and the window is NOT full when it happens (7 and 8 are missing) -/
example : (traceP exEnvP { batchSize := 2 } exEvsP 5).store.stored 2 = true ∧
    (traceP exEnvP { batchSize := 2 } exEvsP 6).store.stored 2 = false ∧
    (traceP exEnvP { batchSize := 2 } exEvsP 6).head = some 8 ∧
    (traceP exEnvP { batchSize := 2 } exEvsP 6).store.stored 7 = false := by decide +kernel

/-! ### the premise "trusted peers report a FRESH head" is necessary

  `store_stays_on_honest_chain_with_pruning_partial` admits the pruner's safe removals but requires
  the network head handed over by trusted peers to be inside the sampling window (`HeadFresh`, part
  of `EvOkP`).  Without it the conclusion is false — of the model and (replay
  `evidence/replays/C38-a48cf8a3a32c.ops`) of lumina: a head older than
  both windows is the only stored header, C35's condition lets the pruner remove it, the store is
  empty, and the batch above the pruned height has no stored neighbour: `check_insertion_constraints`
  returns `(false, false)` and the store inserts whatever validated, internally linked headers an
  untrusted peer sent.  The correspondence therefore refuses a network head outside the sampling
  window (`stale-head`): the event is outside the premises of C38. -/

/-- admissibility WITHOUT the freshness premise: the syncer's events as in `EvOk`, removals safe -/
def EvOkNoFresh (v : Hdr → Hdr → Bool) (c : Nat → Hdr) (e : Env) (s : State) : EvP → Prop
  | .ev x => EvOk v c s x
  | .prune h => PruneSafe e s.store h

/-- heights ≤ 5 are outside the sampling and the pruning window -/
def exEnvStale : Env :=
  { verify := exVerify, chain := { oldS := fun h => decide (h ≤ 5), oldP := fun h => decide (h ≤ 5) }, slowMin := 50 }

/-- trusted peers report the 5-old head 5; the pruner removes it; header-sub announces 6; an
    untrusted peer answers the request for 6 with a foreign header -/
def exStaleRun : List EvP :=
  [.ev (.peers 1), .ev (.netHead (exChain 5)), .prune 5, .ev (.headerSub (exChain 6)),
   .ev (.batch (some [exFork 6]))]

/-- **Without the freshness premise the store leaves the honest chain**: every event of
    `exStaleRun` is admissible but for `HeadFresh` (honest heads, a batch the p2p layer accepts, a
    removal satisfying C35's condition; the regime hypotheses pruning window ≥ sampling window and
    monotone header age hold), and the final store holds a header that is not the honest chain's. -/
theorem stale_network_head_counterexample :
    (∀ h, exEnvStale.chain.oldP h = true → exEnvStale.chain.oldS h = true) ∧
    (∀ h1 h2, h1 ≤ h2 → exEnvStale.chain.oldS h2 = true → exEnvStale.chain.oldS h1 = true) ∧
    (∀ k, k < exStaleRun.length →
      EvOkNoFresh exVerify exChain exEnvStale (runP exEnvStale { batchSize := 1 } (exStaleRun.take k))
        (exStaleRun.getD k (.prune 0))) ∧
    ¬ AllOnChain exChain (runP exEnvStale { batchSize := 1 } exStaleRun).store := by
  refine ⟨fun h hp => hp, ?_, ?_, ?_⟩
  · intro h1 h2 hle h
    simp only [exEnvStale, decide_eq_true_eq] at h ⊢
    omega
  · intro k hk
    have hk' : k = 0 ∨ k = 1 ∨ k = 2 ∨ k = 3 ∨ k = 4 := by
      simp only [exStaleRun, List.length_cons, List.length_nil] at hk; omega
    rcases hk' with rfl | rfl | rfl | rfl | rfl
    · trivial
    · exact ⟨⟨rfl, rfl⟩, by unfold HdrWf; decide⟩
    · show PruneSafe exEnvStale _ 5
      exact ⟨by decide, by decide, Or.inl (by decide)⟩
    · exact ⟨⟨rfl, rfl⟩, by unfold HdrWf; decide⟩
    · exact evOk_batch (c := exChain) (r := (6, 6)) (by decide +kernel) (by decide)
        (fun x hx => by simp at hx; subst hx; unfold HdrWf; decide)
  · intro hall
    have hmem : exFork 6 ∈ (runP exEnvStale { batchSize := 1 } exStaleRun).store.hdrs := by decide +kernel
    have := (hall _ hmem).2
    revert this
    decide

end Lumina.Props.C38

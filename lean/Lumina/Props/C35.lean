/-
  C35 — The pruner only removes blocks that are safe to remove.

  Property theorems about the model `Lumina/Model/Pruner.lean`
  (`getNextPrunableBatch` = `Worker::get_next_prunable_batch` incl. `update_cached_data` and the
  window-edge search of C36, `pruneBatch` = the removal loop of `Worker::run`, `runIteration` = one
  loop iteration), for EVERY well-formed store (any `BlockRanges` tables), every chain whose header
  times increase with height, every pair of cutoffs (both window orders), every cache-refresh
  pattern, every `Daser` oracle, and — `history_safe_partial` — every history of loop iterations
  interleaved with arbitrary changes of the store by the rest of the node, AS LONG AS THE CLOCK DOES NOT
  RUN BACKWARDS.

  PARTIAL.  The property as worded does not exclude a backward step of `Time::now()`.  The theorems
  named `…_partial` need the cached window edges to be right for the cutoffs of the call (`CacheOK`),
  which along a history is what non-decreasing cutoffs (`Admissible`) give.  Without it the property
  is FALSE of the current code: `history_safe_counterexample` (known finding
  `C35/backward-clock-stale-cached-edge`).  `FullStatement` below is the statement without the
  restriction.  The decidable checkers are those of `Lumina/Spec/C35.lean`, evaluated on the abstract
  view `viewOf` (the tables as lists of heights).
-/
import Lumina.Proofs.PrunerBatch
import Lumina.Gen.C35

namespace Lumina.Props.C35
open Lumina.Model.Ranges hiding Inv
open Lumina.Model.Pruner Lumina.Proofs.Pruner Lumina.Proofs.Ranges
open Lumina.Spec.C35

open Lumina.Model.Ranges renaming Inv → RInv

/-- the constant the model's `limit` is instantiated with, as regenerated from `pruner.rs` -/
theorem max_prunable_batch_size_is_512 : Lumina.Gen.C35.MAX_PRUNABLE_BATCH_SIZE = 512 := rfl

/-- a new `Worker` (`after_pruning_window = after_sampling_window = None`) has right cached edges
    for any cutoffs -/
theorem fresh_worker_cache_ok (T : Nat → Nat) (sc pc : Nat) : CacheOK T ({} : Worker).cache sc pc :=
  cacheOK_init T sc pc

/-- MAIN THEOREM (one call).  `get_next_prunable_batch` never fails and its batch passes the
    property's checker: every height of the batch is stored, outside the pruning window, and
    either outside the sampling window and sampled-or-granted, or sampled and not bordering an
    unsynced gap; no height the `Daser` refused is in it.  The cached edges stay right. -/
theorem batch_meets_spec_partial (limit : Nat) (s : PStore) (w : Worker) (sc pc : Nat) (refresh : Bool)
    (grant : Nat → Bool) (hs : StoreInv s) (hm : ChainMono s.time) (hc : CacheOK s.time w.cache sc pc) :
    ∃ batch w' msgs, getNextPrunableBatch limit s w sc pc refresh grant = .ok (batch, w', msgs) ∧
      CacheOK s.time w'.cache sc pc ∧
      batchOK (viewOf s sc pc) (answersOf msgs) (heights batch) = true := by
  obtain ⟨batch, w', tr, h1, h2, h3⟩ := getNextPrunableBatch_safe limit hs hm hc refresh grant
  exact ⟨batch, w', tr, h1, h2, batchOK_of_safe h3⟩

/-- the same in `Prop` form, for whatever the call returns -/
theorem batch_safe_partial (limit : Nat) (s : PStore) (w : Worker) (sc pc : Nat) (refresh : Bool)
    (grant : Nat → Bool) (hs : StoreInv s) (hm : ChainMono s.time) (hc : CacheOK s.time w.cache sc pc)
    (batch : Ranges) (w' : Worker) (msgs : List Msg)
    (hres : getNextPrunableBatch limit s w sc pc refresh grant = .ok (batch, w', msgs)) (h : Nat)
    (hmem : mem batch h) :
    mem s.stored h ∧ s.time h ≤ pc ∧
      ((s.time h ≤ sc ∧ (mem s.sampled h ∨ Msg.wantToPrune h true ∈ msgs)) ∨
       (mem s.sampled h ∧ ¬ BordersGap s h)) ∧
      Msg.wantToPrune h false ∉ msgs := by
  have h3 := batchSafe_of_eq limit hs hm hc hres
  obtain ⟨k1, k2, k3⟩ := h3.safe h hmem
  exact ⟨k1, k2, k3, fun hc' => h3.refused h hc' hmem⟩

/-- the pruner asks the `Daser` only about stored, unsampled heights, and the answers recorded in
    the trace are the `Daser`'s -/
theorem daser_asked_only_about_unsampled_partial (limit : Nat) (s : PStore) (w : Worker) (sc pc : Nat)
    (refresh : Bool) (grant : Nat → Bool) (hs : StoreInv s) (hm : ChainMono s.time)
    (hc : CacheOK s.time w.cache sc pc) (batch : Ranges) (w' : Worker) (msgs : List Msg)
    (hres : getNextPrunableBatch limit s w sc pc refresh grant = .ok (batch, w', msgs)) (h : Nat) (a : Bool)
    (hmsg : Msg.wantToPrune h a ∈ msgs) : a = grant h ∧ ¬ mem s.sampled h ∧ mem s.stored h :=
  (batchSafe_of_eq limit hs hm hc hres).asked h a hmsg

/-- REMOVAL ORDER (one loop iteration).  The iteration never fails; its effect trace is, for the
    heights of the batch in ascending order, "`blockstore.remove` of every CID of the header's
    sampling metadata, then `remove_height`": the order checker passes, exactly the heights of the
    batch are removed, and the store afterwards is the store before minus the batch. -/
theorem iteration_meets_spec_partial (limit : Nat) (s : PStore) (w : Worker) (sc pc : Nat) (refresh : Bool)
    (grant : Nat → Bool) (hs : StoreInv s) (hm : ChainMono s.time) (hc : CacheOK s.time w.cache sc pc) :
    ∃ s' w' batch msgs effs, runIteration limit s w sc pc refresh grant = .ok (s', w', batch, msgs, effs) ∧
      batchOK (viewOf s sc pc) (answersOf msgs) (heights batch) = true ∧
      orderOK s.cids (project effs) [] = true ∧
      removedHeights (project effs) = heights batch ∧
      StoreInv s' ∧ CacheOK s'.time w'.cache sc pc ∧
      (∀ x, mem s'.stored x ↔ mem s.stored x ∧ ¬ mem batch x) := by
  obtain ⟨s', w', batch, msgs, k1, k4, k5, kr⟩ := runIteration_safe limit hs hm hc refresh grant
  exact ⟨s', w', batch, msgs, _, k1, batchOK_of_safe k5, (batchEffs_spec s batch).1, (batchEffs_spec s batch).2,
    kr.inv, by rw [kr.time]; exact k4, kr.stored⟩

/-- every `remove_height h` in the trace of an iteration is preceded by `blockstore.remove c` for
    every CID `c` of `h`'s sampling metadata (the order checker, spelled out) -/
theorem cids_removed_before_header (s : PStore) (batch : Ranges) (pre post : List Eff) (h : Nat)
    (hsplit : batchEffs s batch = pre ++ Eff.removeHeight h :: post) (c : Nat) (hc : c ∈ s.cids h) :
    Eff.bsRemove c ∈ pre := by
  have hok := (batchEffs_spec s batch).1
  rw [hsplit, project_append] at hok
  rcases orderOK_sound s.cids h (project post) (project pre) [] hok c hc with h1 | h1
  · cases h1
  · exact mem_of_cid_mem_project h1

/-- HISTORIES.  From a fresh worker, along every admissible history (iterations of the pruner loop
    with arbitrary refresh flags and `Daser` answers, interleaved with arbitrary well-formed stores
    over the same chain produced by the rest of the node; cutoffs never decrease), no iteration
    fails and every iteration's batch and effect trace pass the property's checkers w.r.t. the
    store it started from. -/
theorem history_safe_partial (limit : Nat) (T : Nat → Nat) (hT : ChainMono T) (s0 : PStore) (hs : StoreInv s0)
    (ht : s0.time = T) (ops : List Op) (ha : Admissible T 0 0 ops) :
    ∃ fin outs, runOps limit { store := s0, worker := {}, sc := 0, pc := 0 } ops = some (fin, outs) ∧
      ∀ o ∈ outs,
        batchOK (viewOf o.before o.sc o.pc) (answersOf o.msgs) (heights o.batch) = true ∧
        orderOK o.before.cids (project o.effs) [] = true ∧
        removedHeights (project o.effs) = heights o.batch := by
  obtain ⟨fin, outs, h1, h2⟩ := runOps_safe limit T hT ops { store := s0, worker := {}, sc := 0, pc := 0 }
    hs ht (cacheOK_init T 0 0) ha
  refine ⟨fin, outs, h1, fun o ho => ?_⟩
  obtain ⟨k1, k2⟩ := h2 o ho
  rw [k2]
  exact ⟨batchOK_of_safe k1, batchEffs_spec _ _⟩

/-! ### the property without the monotone-clock restriction is false -/

/-- histories as in `Admissible`, but with no condition on the cutoffs -/
def AnyClock (T : Nat → Nat) : List Op → Prop
  | [] => True
  | .env s' :: ops => StoreInv s' ∧ s'.time = T ∧ AnyClock T ops
  | .iter _ _ _ _ :: ops => AnyClock T ops

/-- C35 at full strength: `history_safe_partial` for every history, whatever the clock does -/
def FullStatement : Prop :=
  ∀ (limit : Nat) (T : Nat → Nat), ChainMono T → ∀ (s0 : PStore), StoreInv s0 → s0.time = T →
    ∀ ops : List Op, AnyClock T ops →
    ∃ fin outs, runOps limit { store := s0, worker := {}, sc := 0, pc := 0 } ops = some (fin, outs) ∧
      ∀ o ∈ outs, batchOK (viewOf o.before o.sc o.pc) (answersOf o.msgs) (heights o.batch) = true

/-- ten headers with times 10·h, all stored, none sampled -/
def cexStore : PStore := { stored := [(1, 10)], time := fun h => 10 * h }

/-- first iteration with cutoffs 75 (the `Daser` refuses everything, nothing is removed, the cached
    edges become 7), then the clock steps back: cutoffs 30, the `Daser` grants -/
def cexOps : List Op := [.iter 75 75 true (fun _ => false), .iter 30 30 true (fun _ => true)]

/-- the batch of the second iteration and the checker's verdict on it -/
def cexSecond : Option (List Nat × Bool) :=
  match runOps 512 { store := cexStore, worker := {}, sc := 0, pc := 0 } cexOps with
  | some (_, [_, o2]) =>
    some (heights o2.batch, batchOK (viewOf o2.before o2.sc o2.pc) (answersOf o2.msgs) (heights o2.batch))
  | _ => none

unseal findSlowGo in
/-- COUNTEREXAMPLE (known finding `C35/backward-clock-stale-cached-edge`).  After a backward clock
    step the pruner's batch is `1..7` although headers 4..7 (times 40..70 > 30) are inside both
    windows: the cached edges (7, right for cutoff 75) are never lowered (`update_cached_data`
    only raises them, and `find_height_after_window_fast` trusts the previous answer). -/
theorem history_safe_counterexample : cexSecond = some ([1, 2, 3, 4, 5, 6, 7], false) := by rfl

/-- hence the statement without the monotone-clock restriction does not hold of the model (and,
    by the replay `corpus/C35/backward-clock.ops`, not of the real `Worker` either) -/
theorem fullStatement_counterexample : ¬ FullStatement := by
  intro h
  obtain ⟨fin, outs, h1, h2⟩ := h 512 cexStore.time (fun a b _ hab => by show 10 * a < 10 * b; omega)
    cexStore ⟨inv_of_invB (by decide), inv_of_invB (by decide), inv_of_invB (by decide)⟩ rfl cexOps
    trivial
  have hc := history_safe_counterexample
  unfold cexSecond at hc
  rw [h1] at hc
  match outs, h2, hc with
  | [_, o2], h2, hc =>
    simp only [Option.some.injEq, Prod.mk.injEq] at hc
    have := h2 o2 (by simp)
    rw [this] at hc
    exact absurd hc.2 (by decide)

/-! ### non-vacuity -/

/-- 12 headers, times 10·h; 1..4 and 6..9 stored, 5 pruned earlier, 10..12 never synced; 1..3, 6, 7 sampled -/
def exStore : PStore :=
  { stored := [(1, 4), (6, 9)], pruned := [(5, 5)], sampled := [(1, 3), (6, 7)],
    time := fun h => 10 * h, cids := fun h => if h = 2 then [7, 8] else [] }

example : StoreInv exStore := ⟨inv_of_invB (by decide), inv_of_invB (by decide), inv_of_invB (by decide)⟩
example : ChainMono exStore.time := fun a b _ hab => by show 10 * a < 10 * b; omega
-- a cache that is right for sampling cutoff 85 / pruning cutoff 75 (and not for pruning cutoff 65)
example : CacheOK exStore.time { afterSampling := some 8, afterPruning := some 7 } 85 75 :=
  ⟨fun p hp => by cases hp; exact ⟨by decide, by decide, by decide⟩,
   fun p hp => by cases hp; exact ⟨by decide, by decide, by decide⟩⟩
example : Admissible exStore.time 0 0
    [.iter 30 20 true (fun _ => true), .env exStore, .iter 85 75 false (fun h => h != 4)] :=
  ⟨by decide, by decide, ⟨inv_of_invB (by decide), inv_of_invB (by decide), inv_of_invB (by decide)⟩, rfl,
   by decide, by decide, trivial⟩
-- the checker accepts a safe batch and rejects unsafe ones
example : batchOK (viewOf exStore 85 75) [(4, true)] [2, 3, 4, 7] = true := by decide
-- 8 is inside the pruning window (time 80 > 75)
example : batchOK (viewOf exStore 85 75) [] [8] = false := by decide
-- 4 is unsampled and the Daser refused
example : batchOK (viewOf exStore 85 75) [(4, false)] [4] = false := by decide
-- with sampling cutoff 25 the heights from 3 up are inside the sampling window: removable only if sampled and not bordering
-- a never-synced height; 4 and 6 border only the pruned 5, but 9 + 1 was never synced
example : batchOK (viewOf { exStore with sampled := [(1, 4), (6, 9)] } 25 95) [] [9] = false := by decide
example : batchOK (viewOf { exStore with sampled := [(1, 4), (6, 9)] } 25 95) [] [3, 4, 6, 7, 8] = true := by decide
-- the order checker rejects a header removed before its CIDs
example : orderOK exStore.cids [Ev.cid 7, Ev.height 2, Ev.cid 8] [] = false := by decide
example : orderOK exStore.cids [Ev.cid 7, Ev.cid 8, Ev.height 2] [] = true := by decide

end Lumina.Props.C35

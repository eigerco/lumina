/-
  C41 — Closing the redb store waits for in-flight work without hanging.

  The model (`Lumina/Model/Counter.lean`) is the labelled transition system of
  `Counter::wait_guards` / `CounterGuard::drop` with an UNBOUNDED number of guards; an
  interleaving is any list of labels, `Reachable` is reachability by any interleaving.
  tokio's `Notify` is the hypothesis built into the `wake` step ("a `Notified` completes exactly
  when `notify_waiters` has been called since it was created").

  * safety            `wait_safe`, `wait_safe_holders`, and for ANY Notify semantics `wait_safe_any_notify`
  * no lost wake-up   `no_lost_wakeup_partial`, `deadlock_free_partial`
  * termination       `variant_strictly_decreases`, `schedules_are_bounded`, `wait_terminates_partial`,
                      `returns_once_finished_partial`
  * model ⊨ spec      `seq_history_spec_partial` (every sequential history, every poll, judged by `Spec.C41.specPoll`)
  * Notify hypothesis `notify_hypothesis_suffices` (explicit-hypothesis form: under
                      `∀ ep e, ready ep e = tokioReady ep e` the parametrised system `stepN ready` IS `step`, so
                      every `_partial` theorem holds of it), `lossy_notify_counterexample` (it is needed)
  * negative controls `notify_before_release_counterexample` (the swapped `drop` deadlocks),
                      `arm_after_check_counterexample` (`notified()` created after the count check deadlocks)

  `_partial` = proved for the model whose `wake` step is tokio's documented `Notify` semantics (not
  verified; FULL statement = the same for the real tokio `Notify`, `Arc` and scheduler).
-/
import Lumina.Proofs.Counter
import Lumina.Gen.C41

namespace Lumina.Props.C41
open Lumina.Model.Counter Lumina.Proofs.Counter
open Lumina.Spec.C41 (Hist specPoll)

/-- tie to the source text: the loop condition of `wait_guards` is `strong_count > 1`, which the
    model's `check` step transcribes as `holders s = 0` (`holders = strong_count - 1`) -/
theorem loop_condition_const : Lumina.Gen.C41.WAIT_WHILE_STRONG_COUNT_ABOVE = 1 := by decide

/-- SAFETY.  In every reachable state (any number of guards, any interleaving): if `wait_guards`
    has returned then every guard has released its count, i.e. every blocking task that held a
    guard has finished its database work (the guard is dropped after the transaction block). -/
theorem wait_safe {s : State} (h : Reachable s) (hd : s.waiter = .done) :
    ∀ g ∈ s.guards, g = .dec ∨ g = .notified :=
  (inv_reachable h).toSafeInv.released hd

/-- the same, as the quantity the code reads: `Arc::strong_count(&counter) - 1 = 0` -/
theorem wait_safe_holders {s : State} (h : Reachable s) (hd : s.waiter = .done) : holders s = 0 :=
  have inv := inv_reachable h
  holders_eq_zero.mpr ⟨inv.doneSafe hd, inv.noEarly⟩

/-- NO LOST WAKE-UP.  A waiter blocked on the `Notified` it created at epoch `e`, in a state where
    every guard has finished its drop, is enabled: the notification it waits for has happened. -/
theorem no_lost_wakeup_partial {s : State} (h : Reachable s) (e : Nat) (hw : s.waiter = .awaiting e)
    (hall : ∀ g ∈ s.guards, g = .notified) :
    step s .wake = some { s with waiter := .rearming } := by
  simp [step, hw, epoch_ne_of_finished h hw hall]

/-- DEADLOCK FREEDOM.  While a wait is in progress, some step of the protocol itself (a guard's
    `take`/`notify_waiters`, or the waiter's next statement) is enabled. -/
theorem deadlock_free_partial {s : State} (h : Reachable s) (hi : s.waiter ≠ .idle) (hd : s.waiter ≠ .done) :
    ∃ l, l.isExternal = false ∧ (step s l).isSome = true :=
  progress h hi hd

/-- VARIANT.  Every step other than creating a guard / dropping the future strictly decreases
    `variant` (no reachability hypothesis needed). -/
theorem variant_strictly_decreases {s s' : State} {l : Label} (hs : step s l = some s')
    (hl : l.isExternal = false) : variant s' < variant s :=
  variant_decreases hs hl

/-- every schedule of protocol steps from `s` has at most `variant s` steps -/
theorem schedules_are_bounded {s s' : State} {ls : List Label} (hr : run s ls = some s')
    (hl : ∀ l ∈ ls, l.isExternal = false) : ls.length ≤ variant s := by
  have := run_variant hr hl
  omega

/-- TERMINATION.  From any reachable state in which a wait is in progress, every MAXIMAL schedule
    (one that stops only when no protocol step is enabled — weak fairness) ends with the wait
    returned; together with `schedules_are_bounded` every fair schedule returns within
    `variant s` steps. -/
theorem wait_terminates_partial {s s' : State} {ls : List Label} (h : Reachable s) (hi : s.waiter ≠ .idle)
    (hr : run s ls = some s') (hl : ∀ l ∈ ls, l.isExternal = false)
    (hmax : ∀ l, l.isExternal = false → step s' l = none) : s'.waiter = .done :=
  maximal_done (reachable_run h hr) hmax

/-- "…and it does return once they have finished": when every guard's drop has completed, ONE
    poll of the wait future completes it, whatever the waiter's current program point. -/
theorem returns_once_finished_partial {s : State} (h : Reachable s) (hall : ∀ g ∈ s.guards, g = .notified)
    (hi : s.waiter ≠ .idle) : (poll s).waiter = .done :=
  poll_done_of_all_notified h hall hi

/-- MODEL ⊨ SPEC on sequential histories of any length: for every list of harness operations
    (guards handed out, whole and half drops, waits, polls, cancellations, misuse) every poll result
    of the model is accepted by the independent checker `specPoll` evaluated on the history of
    operations. -/
theorem seq_history_spec_partial (ops : List SeqOp) : seqSpecAll init Hist.empty ops = true := by
  suffices H : ∀ (s : State) (h : Hist), Reachable s → Agree s h → seqSpecAll s h ops = true from
    H _ _ Reachable.init agree_init
  induction ops with
  | nil => intros; rfl
  | cons op ops ih =>
    intro s h hr ha
    have ⟨hr', ha', hspec⟩ := seqStep_ok hr ha op
    simp only [seqSpecAll, Bool.and_eq_true]
    exact ⟨hspec, ih _ _ hr' ha'⟩

/-- SAFETY does not depend on `Notify` at all: for ANY semantics `ready` of the `Notified` future
    (even one that completes spuriously or never), `wait_guards` returns only after every guard
    has released its count. -/
theorem wait_safe_any_notify {ready : Nat → Nat → Bool} {s : State} (h : ReachableN ready s)
    (hd : s.waiter = .done) : ∀ g ∈ s.guards, g = .dec ∨ g = .notified :=
  (safe_reachableN h).released hd

/-- THE NOTIFY HYPOTHESIS, explicit: if the `Notified` future completes exactly when
    `notify_waiters` has been called since its creation, the parametrised system coincides with
    the model (`stepN ready = step`, same reachable states), so every theorem above named
    `_partial` holds of it. -/
theorem notify_hypothesis_suffices {ready : Nat → Nat → Bool}
    (hN : ∀ ep e, ready ep e = tokioReady ep e) :
    (∀ s l, stepN ready s l = step s l) ∧ (∀ s, ReachableN ready s → Reachable s) :=
  ⟨stepN_congr hN, fun _ h => reachableN_reachable hN h⟩

/-- … and the hypothesis is needed: with a `Notify` that loses one notification, the UNCHANGED
    code deadlocks with its only guard finished. -/
theorem lossy_notify_counterexample :
    ∃ (ls : List Label) (s : State), runN lossyReady init ls = some s ∧
      s.waiter = .awaiting 0 ∧ (∀ g ∈ s.guards, g = .notified) ∧
      (∀ l, l.isExternal = false → stepN lossyReady s l = none) := by
  refine ⟨[.newGuard, .call, .arm, .check, .decr 0, .notify 0],
    { guards := [.notified], epoch := 1, waiter := .awaiting 0 }, rfl, rfl, by simp, ?_⟩
  intro l hl
  cases l with
  | newGuard | cancel => cases hl
  | decr i | notify i => cases i <;> simp [stepN, step]
  | _ => rfl

/-- NEGATIVE CONTROL for the order inside `wait_guards` ("arm before check").  In the variant
    that creates the `Notified` only AFTER seeing `strong_count > 1`, the interleaving
      guard; wait called; W: check (count 2 ⇒ go on); G: release, notify; W: create Notified, await
    reaches a state where every guard has finished, the waiter is blocked on a `Notified` created
    after the last notification, and NO protocol step is enabled: the lost wake-up. -/
theorem arm_after_check_counterexample :
    ∃ (ls : List Label) (s : State), runLate init ls = some s ∧
      s.waiter = .awaiting 1 ∧ (∀ g ∈ s.guards, g = .notified) ∧
      (∀ l, l.isExternal = false → stepLate s l = none) := by
  refine ⟨[.newGuard, .call, .check, .decr 0, .notify 0, .rearm],
    { guards := [.notified], epoch := 1, waiter := .awaiting 1 }, rfl, rfl, by simp, ?_⟩
  intro l hl
  cases l with
  | newGuard | cancel => cases hl
  | decr i | notify i => cases i <;> simp [stepLate, step]
  | _ => rfl

/-- NEGATIVE CONTROL (non-vacuity).  In the variant whose `drop` calls `notify_waiters()` BEFORE
    releasing the count, the interleaving
      guard; wait called; G: notify; W: arm, check (count still 2 ⇒ block); G: release
    reaches a state where every guard has finished, the waiter is blocked, and NO protocol step is
    enabled: `wait_guards` hangs forever.  So `no_lost_wakeup_partial`/`deadlock_free_partial` are not vacuous:
    they fail for this model. -/
theorem notify_before_release_counterexample :
    ∃ (ls : List Label) (s : State), runBad init ls = some s ∧
      s.waiter = .awaiting 1 ∧ (∀ g ∈ s.guards, g = .notified) ∧
      (∀ l, l.isExternal = false → stepBad s l = none) := by
  refine ⟨[.newGuard, .call, .notify 0, .arm, .check, .decr 0],
    { guards := [.notified], epoch := 1, waiter := .awaiting 1 }, rfl, rfl, by simp, ?_⟩
  intro l hl
  cases l with
  | newGuard | cancel => cases hl
  | decr i | notify i => cases i <;> simp [stepBad]
  | _ => rfl

/-- the same wrong variant, judged by the spec: the sequential checker rejects the hang -/
theorem notify_before_release_spec_counterexample :
    specPoll { created := 1, released := [0], dropped := [0] } false = false := by decide

/-- non-vacuity of the hypotheses: a concrete reachable state with a blocked waiter and two guards,
    one released and one finished -/
example : Reachable { guards := [.dec, .notified], epoch := 1, waiter := .awaiting 0 } := by
  have h : run init [.newGuard, .newGuard, .call, .arm, .check, .decr 1, .notify 1, .decr 0] =
      some { guards := [.dec, .notified], epoch := 1, waiter := .awaiting 0 } := rfl
  exact reachable_run Reachable.init h

example : Reachable { guards := [.notified], epoch := 1, waiter := .done } := by
  have h : run init [.newGuard, .call, .arm, .check, .decr 0, .notify 0, .wake, .rearm, .check] =
      some { guards := [.notified], epoch := 1, waiter := .done } := rfl
  exact reachable_run Reachable.init h

end Lumina.Props.C41

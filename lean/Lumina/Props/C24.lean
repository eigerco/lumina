/-
  C24 — Syncer fetches missing, insertable heights nearest the head first.

  Model: `Lumina.Model.FetchRange.calculateRangeToFetch` / `nextBatch` (transcription of
  `calculate_range_to_fetch` and of `pruned_ranges + &store_ranges` in `Worker::fetch_next_batch`).
  Spec : `Lumina.Spec.C24` (clauses (a)–(f) + "no batch only when nothing to request").

  For EVERY synced value satisfying `Inv`, every head ≤ u64::MAX and every batch size.

  The full statement (`FullStatement`) is FALSE of the code: when the synced ranges reach above
  the subjective network head, the gap below the highest synced range is requested even where it
  lies above the head (clause (c)).  Hence `fetch_range_counterexample`, the full-strength
  `fetch_range_spec_partial` under the hypothesis "nothing synced above the head", and
  `fetch_range_except_head` (every other clause, no hypothesis).  See known_findings.json,
  fingerprint `C24/batch-above-head-store-ahead`.
-/
import Lumina.Proofs.FetchRange
import Lumina.Props.C18
import Lumina.Model.SyncerGate
import Lumina.Proofs.SyncerGate

namespace Lumina.Props.C24
open Lumina.Model.Ranges hiding Inv
open Lumina.Model.FetchRange
open Lumina.Proofs.Ranges Lumina.Proofs.FetchRange
open Lumina.Spec.C24

open Lumina.Model.Ranges renaming Inv → RInv

/-- the property at full strength -/
def FullStatement : Prop :=
  ∀ (synced : Ranges) (head limit : Nat), RInv synced → head ≤ U64_MAX →
    ∃ b, calculateRangeToFetch head synced limit = .ok b ∧ specFetch head synced limit b = true

/-- no `u64` overflow (`end + 1`, `penultimate_end + 1`) for any input -/
theorem fetch_range_no_panic {synced : Ranges} (hi : RInv synced) (head limit : Nat) (hh : head ≤ U64_MAX) :
    ∃ b, calculateRangeToFetch head synced limit = .ok b := by
  obtain ⟨b, e, _⟩ := calc_spec hi head limit hh
  exact ⟨b, e⟩

/-- **C24 under the hypothesis that nothing synced lies above the network head**: every clause -/
theorem fetch_range_spec_partial {synced : Ranges} (hi : RInv synced) (head limit : Nat)
    (hh : head ≤ U64_MAX) (hnot_ahead : ∀ x, mem synced x → x ≤ head) :
    ∃ b, calculateRangeToFetch head synced limit = .ok b ∧ specFetch head synced limit b = true := by
  obtain ⟨b, e, ⟨he, hn⟩ | ⟨hne, _, hc, _, hd | ⟨x, hx, hlt, _⟩⟩⟩ := calc_spec hi head limit hh
  · exact ⟨b, e, by simp [specFetch, failing_nobatch he hn]⟩
  · exact ⟨b, e, by simp [specFetch, hc.failing (Nat.not_lt.2 hne), hd]⟩
  · have := hnot_ahead x hx; omega

/-- **all inputs, every clause except (c)**; and (c) can only fail when some synced height lies
    above the head and the batch ends above the head -/
theorem fetch_range_except_head {synced : Ranges} (hi : RInv synced) (head limit : Nat) (hh : head ≤ U64_MAX) :
    ∃ b, calculateRangeToFetch head synced limit = .ok b ∧
      specFetchExceptHead head synced limit b = true ∧
      (specFetch head synced limit b = false → ∃ x, mem synced x ∧ head < x ∧ head < b.2) := by
  obtain ⟨b, e, ⟨he, hn⟩ | ⟨hne, _, hc, _, hd⟩⟩ := calc_spec hi head limit hh
  · exact ⟨b, e, by simp [specFetchExceptHead, failing_nobatch he hn],
      by simp [specFetch, failing_nobatch he hn]⟩
  · refine ⟨b, e, ?_, fun hf => hd.resolve_left fun hd => ?_⟩
    · rw [specFetchExceptHead, hc.failing (Nat.not_lt.2 hne)]; split <;> rfl
    · simp [specFetch, hc.failing (Nat.not_lt.2 hne), hd] at hf

/-- the code violates the full statement: head 5, synced {1..3, 10..20}, batch size 4 ↦ 6..=9 -/
theorem fetch_range_counterexample : ¬ FullStatement := by
  intro h
  obtain ⟨b, e, hs⟩ := h [(1, 3), (10, 20)] 5 4 (inv_of_invB (by decide)) (by decide)
  have e' : calculateRangeToFetch 5 [(1, 3), (10, 20)] 4 = .ok (6, 9) := rfl
  rw [e'] at e
  cases e
  revert hs
  decide

/-- a requested batch is made of heights that are neither stored nor pruned, and is at most the
    batch size (Prop form of clauses (a), (b)) -/
theorem fetch_range_missing_size {synced : Ranges} (hi : RInv synced) (head limit : Nat) (hh : head ≤ U64_MAX) :
    ∃ b, calculateRangeToFetch head synced limit = .ok b ∧
      (b.1 ≤ b.2 → (∀ h, b.1 ≤ h → h ≤ b.2 → ¬ mem synced h) ∧ b.2 + 1 - b.1 ≤ limit ∧ 1 ≤ b.1) := by
  obtain ⟨b, e, ho⟩ := calc_spec hi head limit hh
  refine ⟨b, e, fun hne => ?_⟩
  obtain ⟨he, _⟩ | ⟨_, _, hc, _⟩ := ho
  · omega
  · have k0 := hc.valid
    have k1 := hc.missing
    have k2 := hc.size
    simp only [clauseMissing, List.all_eq_true, Bool.or_eq_true, decide_eq_true_eq] at k1
    simp only [clauseSize, decide_eq_true_eq] at k2
    simp only [Lumina.Spec.C17.validR, Bool.and_eq_true, decide_eq_true_eq] at k0
    refine ⟨?_, k2, k0.1⟩
    rintro h h1 h2 ⟨x, hx, h3, h4⟩
    have := k1 x hx
    omega

/-- link to C18: a requested batch is admitted by `check_insertion_constraints` of the synced
    value, so that inserting it extends the synced data -/
theorem fetch_range_admitted {synced : Ranges} (hi : RInv synced) (head limit : Nat) (hh : head ≤ U64_MAX) :
    ∃ b, calculateRangeToFetch head synced limit = .ok b ∧
      (b.1 ≤ b.2 → ∃ p n, checkInsertionConstraints synced b = .ok (p, n)) := by
  obtain ⟨b, e, ho⟩ := calc_spec hi head limit hh
  refine ⟨b, e, fun hne => ?_⟩
  obtain ⟨he, _⟩ | ⟨_, hb2, hc, _⟩ := ho
  · omega
  · exact (Lumina.Props.C18.constraints_ok_iff hi b hb2).2 hc.insertable

/-- the same for `Worker::fetch_next_batch`'s `pruned_ranges + &store_ranges`: the synced set is
    the union of stored and pruned heights and the batch satisfies the spec with respect to it -/
theorem nextBatch_spec {stored pruned : Ranges} (hs : RInv stored) (hp : RInv pruned) (head limit : Nat)
    (hh : head ≤ U64_MAX) :
    ∃ synced b, add pruned stored = .ok synced ∧ RInv synced ∧
      (∀ h, mem synced h ↔ mem pruned h ∨ mem stored h) ∧
      nextBatch head stored pruned limit = .ok b ∧
      specFetchExceptHead head synced limit b = true ∧
      ((∀ x, mem stored x → x ≤ head) → (∀ x, mem pruned x → x ≤ head) →
        specFetch head synced limit b = true) := by
  obtain ⟨synced, e1, i1, m1⟩ := add_spec hp hs
  obtain ⟨b, e2, e3, e4⟩ := fetch_range_except_head i1 head limit hh
  refine ⟨synced, b, e1, i1, m1, by simp [nextBatch, e1, e2, ok_bind], e3, fun h1 h2 => ?_⟩
  by_cases hf : specFetch head synced limit b = true
  · exact hf
  · obtain ⟨x, hx, hlt, _⟩ := e4 (by simpa using hf)
    rcases (m1 x).1 hx with hx | hx
    · have := h2 x hx; omega
    · have := h1 x hx; omega


/-- clause (d) in Prop form: the batch lies above every synced height, or the height right above
    it is synced -/
theorem fetch_range_anchor {synced : Ranges} (hi : RInv synced) (head limit : Nat) (hh : head ≤ U64_MAX) :
    ∃ b, calculateRangeToFetch head synced limit = .ok b ∧
      (b.1 ≤ b.2 → (∀ x, mem synced x → x < b.1) ∨ mem synced (b.2 + 1)) := by
  obtain ⟨b, e, ho⟩ := calc_spec hi head limit hh
  refine ⟨b, e, fun hne => ?_⟩
  obtain ⟨he, _⟩ | ⟨_, _, _, ha, _⟩ := ho
  · omega
  · exact ha

open Lumina.Model.SyncerGate in
/-- **"so that inserting it extends stored data", at the level of `Worker::fetch_next_batch`
    and of the ranges the stores really check.**  Whenever the fetch decision (all gates of
    `fetch_next_batch`, after the C25 repair `339a537`) is to request a batch, that batch is
    admitted by `check_insertion_constraints` of the STORED header ranges (not merely of
    stored ∪ pruned), for every stored / pruned / sampled value satisfying `Inv`. -/
theorem fetchDecision_request_insertable {slowMin : Nat} {i : GateIn} {r : Range}
    (hs : RInv i.stored) (hp : RInv i.pruned) (hh : ∀ h, i.head = some h → h ≤ U64_MAX)
    (hd : fetchDecision slowMin i = .ok (.request r)) :
    ∃ p n, checkInsertionConstraints i.stored r = .ok (p, n) := by
  obtain ⟨_, synced, _, _, hcm, h1, h2, hle, hgap, hshape⟩ := Lumina.Proofs.SyncerGate.request_cases hs hp hd
  have hst : ∀ x, mem i.stored x → mem synced x := fun x hx => (hcm x).2 (Or.inr hx)
  apply (Lumina.Props.C18.constraints_ok_iff hs r (by omega)).2
  have hno : Lumina.Spec.C18.sharesHeight i.stored r = false := by
    rw [← Bool.not_eq_true]
    intro hsh
    obtain ⟨h, hmem, k1, k2⟩ := (Lumina.Props.C18.sharesHeight_iff hs h2).1 hsh
    exact hgap h k1 k2 (hst h hmem)
  have hpl : Lumina.Spec.C18.placementOk i.stored r = true := by
    simp only [Lumina.Spec.C18.placementOk, Lumina.Spec.C18.touchesStored, Lumina.Spec.C18.aboveStored,
      Bool.or_eq_true]
    rcases hshape with ⟨habove, _, _⟩ | ⟨_, _, ⟨hm, _⟩ | ⟨_, hpc⟩⟩
    · -- forward: above everything synced, in particular above everything stored
      exact Or.inl (Or.inr ((Lumina.Props.C18.aboveHighest_iff hs).2 fun h hmem => habove h (hst h hmem)))
    · -- backward: the gate only lets it through when the header above is stored
      exact Or.inr (Or.inr ((member_iff _ _).2 hm))
    · cases hpc
  simp [Lumina.Spec.C18.admitted, Lumina.Props.C18.validR_eq_valid, (valid_iff r).2 ⟨h1, h2⟩, hno, hpl]

/-- stored 900..=1000, pruned 800..=899, head 1000, batch size 512, everything inside the window -/
def prunedEdgeGate : Lumina.Model.SyncerGate.GateIn where
  ongoing := false
  connectedPeers := 1
  head := some 1000
  stored := [(900, 1000)]
  pruned := [(800, 899)]
  sampled := []
  batchSize := 512
  slowSync := none
  inWindow := fun _ => true

open Lumina.Model.SyncerGate in
/-- before the C25 repair the decision could request a batch the store then rejects
    (288..=799, `NoAdjacentNeighbors`); the repaired decision stays idle -/
theorem fetchDecisionOld_not_insertable_counterexample :
    fetchDecisionOld 50 prunedEdgeGate = .ok (.request (288, 799)) ∧
    checkInsertionConstraints prunedEdgeGate.stored (288, 799) = .error (.noAdjacent (288, 799)) ∧
    fetchDecision 50 prunedEdgeGate = .ok (.idle .boundPruned) := by
  refine ⟨rfl, rfl, rfl⟩

/-! ### non-vacuity -/

example : RInv [(256, 512)] := inv_of_invB (by decide)
example : calculateRangeToFetch 1024 [(256, 512)] 16 = .ok (513, 528) := rfl
example : calculateRangeToFetch 4000 [(2500, 2800), (3000, 4000)] 500 = .ok (2801, 2999) := rfl
example : specFetch 4000 [(2500, 2800), (3000, 4000)] 500 (2801, 2999) = true := by decide
example : ∀ x, mem [(2500, 2800), (3000, 4000)] x → x ≤ 4000 := by
  rintro x ⟨r, hr, h1, h2⟩
  simp at hr
  rcases hr with rfl | rfl <;> simp at h2 <;> omega

end Lumina.Props.C24

/-
  C03 — Commit verification enforces the voting-power thresholds.

  Model: Lumina/Model/Commit.lean (`verifyCommitLight`, `verifyCommitLightTrusting`,
  `votingPowerNeeded`), run against the real `ValidatorSetExt` by the correspondence check.
  Spec:  Lumina/Spec/C03.lean (`specLightSound`, `specLightExact`, `specTrustingSound`,
  `specTrustingExact`).

  All theorems hold for EVERY validator set (any size, any powers, duplicated validators
  allowed), EVERY commit (any length, flags, addresses) and EVERY signature oracle
  `ok : Nat → Nat → Bool` (`ok i j` = "the signature of commit entry j verifies under validator
  i's key for entry j's canonical vote").  The only hypothesis, where one is needed, is what
  tendermint's `Set::new` / decoding establish: the stored total is the sum of the powers
  (`vs.total = sumPowers vs.vals`) and, for the no-panic / "exactly when" statements, that it is
  at most `MAX_TOTAL_VOTING_POWER = i64::MAX / 8` (`vs.wf`).
-/
import Lumina.Proofs.Commit
import Lumina.Gen.C03

namespace Lumina.Props.C03
open Lumina.Model.Commit Lumina.Spec.C03 Lumina.Proofs.Commit Lumina.Gen.C03

/-- the trust levels in the source are the fractions the property states: light verification
    uses the literal `TrustLevelRatio::new(2, 3)`, `DEFAULT_TRUST_LEVEL` is 1/3 -/
theorem consts_eq :
    LIGHT_NUM = 2 ∧ LIGHT_DEN = 3 ∧ DEFAULT_TRUST_NUM = 1 ∧ DEFAULT_TRUST_DEN = 3 := by decide

/-- what the driver runs -/
def light (ok : Nat → Nat → Bool) (vs : ValSet) (h ch : Nat) (sigs : List CSig) : Outcome :=
  verifyCommitLight ok LIGHT_NUM LIGHT_DEN vs h ch sigs

def trusting (ok : Nat → Nat → Bool) (vs : ValSet) (sigs : List CSig) : Outcome :=
  verifyCommitLightTrusting ok DEFAULT_TRUST_NUM DEFAULT_TRUST_DEN vs sigs

/-- `tallied > voting_power_needed` with `voting_power_needed = ⌊n·T/d⌋` IS "strictly more than
    n/d of T": the floor loses nothing -/
theorem needed_strict (t n T d : Nat) (hd : 0 < d) : n * T / d < t ↔ n * T < d * t :=
  Lumina.Proofs.Commit.needed_strict t n T d hd

/-- `voting_power_needed` returns the floor, or an error on u64 overflow / zero denominator -/
theorem votingPowerNeeded_spec (n d T : Nat) :
    votingPowerNeeded n d T =
      if n * T ≥ 2 ^ 64 then .error .neededOverflow
      else if d = 0 then .error .neededDivZero else .ok (n * T / d) := by
  simp [votingPowerNeeded, U64_LIMIT]

/-- **light soundness, any trust level**: acceptance implies that the index-aligned validators
    with commit flag and valid signature carry strictly more than `n/d` of the stored total -/
theorem light_sound_level (ok : Nat → Nat → Bool) (n d : Nat) (vs : ValSet) (h ch : Nat)
    (sigs : List CSig) (hacc : verifyCommitLight ok n d vs h ch sigs = .ok) :
    d * validPowerLight (specInput vs h ch sigs) ok > n * vs.total := by
  obtain ⟨-, -, hd, -, hloop⟩ := verifyCommitLight_ok_iff.mp hacc
  have := (lightLoop_bound ok _ 0 0 vs.vals sigs).1 hloop
  rw [Nat.zero_add, ← validPowerLight_eq ok vs h ch sigs] at this
  exact (needed_strict _ n vs.total d hd).mp this

/-- **Light commit verification never accepts a commit unless validators with valid signatures
    for that block carry strictly more than two thirds of the set's total power; a validator is
    never counted twice** (the spec sums over validator indices). -/
theorem light_sound (ok : Nat → Nat → Bool) (vs : ValSet) (h ch : Nat) (sigs : List CSig)
    (hT : vs.total = sumPowers vs.vals) :
    specLightSound (specInput vs h ch sigs) ok (decide (light ok vs h ch sigs = .ok)) = true := by
  unfold specLightSound
  rw [total_eq, ← hT]
  exact imp_spec (light_sound_level ok 2 3 vs h ch sigs)

/-- **When the commit is for the right height with one entry per validator and all its
    block-commit signatures are valid, it is accepted exactly when the signing power exceeds
    two thirds** (and the verdict is then never a panic). -/
theorem light_exact (ok : Nat → Nat → Bool) (vs : ValSet) (h ch : Nat) (sigs : List CSig)
    (hwf : vs.wf = true) :
    specLightExact (specInput vs h ch sigs) ok (decide (light ok vs h ch sigs = .ok)) = true := by
  refine iff_spec fun hw => (light_ok_iff ok 2 3 vs h ch sigs hwf hw).trans ?_
  have := wf_elim hwf
  rw [total_eq, ← this.1]
  omega

/-- on a set as tendermint builds it, the u64 tally of light verification cannot overflow:
    the verdict is never a (debug-build) panic, for any commit -/
theorem light_no_panic (ok : Nat → Nat → Bool) (n d : Nat) (vs : ValSet) (h ch : Nat) (sigs : List CSig)
    (hwf : vs.wf = true) : verifyCommitLight ok n d vs h ch sigs ≠ .panic :=
  verifyCommitLight_ne_panic ok n d vs h ch sigs hwf

/-- **trusting soundness, any trust level** -/
theorem trusting_sound_level (ok : Nat → Nat → Bool) (n d : Nat) (vs : ValSet) (sigs : List CSig)
    (hacc : verifyCommitLightTrusting ok n d vs sigs = .ok) :
    d * validPowerTrusting (specInput vs 0 0 sigs) ok > n * vs.total := by
  obtain ⟨hd, -, hloop⟩ := verifyCommitLightTrusting_ok_iff.mp hacc
  exact (needed_strict _ n vs.total d hd).mp (trustLoop_ok_validPower ok _ vs sigs hloop)

/-- **Trusting verification never accepts unless distinct trusted validators with valid
    signatures carry strictly more than one third; a validator is never counted twice** -/
theorem trusting_sound (ok : Nat → Nat → Bool) (vs : ValSet) (sigs : List CSig)
    (hT : vs.total = sumPowers vs.vals) :
    specTrustingSound (specInput vs 0 0 sigs) ok (decide (trusting ok vs sigs = .ok)) = true := by
  unfold specTrustingSound
  rw [total_eq, ← hT]
  exact imp_spec (trusting_sound_level ok 1 3 vs sigs)

/-- on a set as tendermint builds it, the u64 tally of trusting verification cannot overflow
    either (each trusted validator is tallied at most once), for any commit and trust level -/
theorem trusting_no_panic (ok : Nat → Nat → Bool) (n d : Nat) (vs : ValSet) (sigs : List CSig)
    (hwf : vs.wf = true) : verifyCommitLightTrusting ok n d vs sigs ≠ .panic := by
  have := wf_elim hwf
  exact viaNeeded_ne_panic fun _ => trustLoop_ne_panic ok _ vs.vals sigs (by omega)

/-- **When every block-commit entry carries a signature, the entries of trusted validators carry
    VALID signatures of those validators and no trusted validator is duplicated among the entries,
    trusting verification accepts exactly when the DISTINCT trusted signers' power exceeds one
    third of the trusted set's total** (and the verdict is then `NotEnoughVotingPower` or `Ok`,
    never a panic).  The early exit is covered: the loop may stop before reading the whole commit,
    the verdict is still the comparison of the WHOLE commit's trusted signing power with the
    threshold.  There is no height hypothesis: `verify_commit_light_trusting` takes no height.
    Duplicates are NOT ignored by the code: see `trusting_double_vote`. -/
theorem trusting_exact (ok : Nat → Nat → Bool) (vs : ValSet) (sigs : List CSig) (hwf : vs.wf = true) :
    specTrustingExact (specInput vs 0 0 sigs) ok (decide (trusting ok vs sigs = .ok)) = true := by
  have hT := wf_elim hwf
  unfold specTrustingExact
  rw [total_eq, ← hT.1]
  refine iff_spec fun hw => (trusting_ok_iff ok 1 3 vs sigs hwf hw).trans ?_
  omega

/-- trusting soundness at ANY trust level, in spec form (what the driver evaluates on the
    implementation for the op lines whose level is not 1/3) -/
theorem trusting_sound_level_spec (ok : Nat → Nat → Bool) (n d : Nat) (vs : ValSet) (sigs : List CSig)
    (hT : vs.total = sumPowers vs.vals) :
    specTrustingSoundLevel n d (specInput vs 0 0 sigs) ok
      (decide (verifyCommitLightTrusting ok n d vs sigs = .ok)) = true := by
  unfold specTrustingSoundLevel
  rw [total_eq, ← hT]
  exact imp_spec (trusting_sound_level ok n d vs sigs)

/-- the "exactly when" clause of trusting verification at ANY trust level `n/d`: accepted iff the
    level is usable (`d ≠ 0`, `n·total < 2^64`) and the distinct trusted signers carry strictly
    more than `n/d` of the total -/
theorem trusting_exact_level (ok : Nat → Nat → Bool) (n d : Nat) (vs : ValSet) (sigs : List CSig)
    (hwf : vs.wf = true) :
    specTrustingExactLevel n d (specInput vs 0 0 sigs) ok
      (decide (verifyCommitLightTrusting ok n d vs sigs = .ok)) = true := by
  unfold specTrustingExactLevel
  rw [total_eq, ← (wf_elim hwf).1, ← Bool.decide_and, ← Bool.decide_and]
  exact iff_spec fun hw => (trusting_ok_iff ok n d vs sigs hwf hw).trans (and_assoc ..).symm

/-- **A duplicated trusted validator is an ERROR, not a skipped entry.**  Let the commit be
    `pre ++ d :: rest` where `pre` satisfies the hypothesis of `trusting_exact` and `d` is a
    block-commit entry (carrying a signature, valid or not) whose address is that of a trusted
    validator who already has a block-commit entry in `pre`.  Then, whatever follows, the
    verdict is `Ok` if the distinct trusted signers of `pre` alone already exceed one third (the
    early exit happens before `d` is read), and the "Double vote" error otherwise — never
    `NotEnoughVotingPower`, and `rest` is never counted. -/
theorem trusting_double_vote (ok : Nat → Nat → Bool) (vs : ValSet) (pre rest : List CSig) (d : CSig)
    (hwf : vs.wf = true) (hpre : wellFormedTrusting (specInput vs 0 0 pre) ok = true)
    (hd : d.flag = .commit) (hsig : d.hasSig = true)
    (hdup : ∃ s ∈ pre, s.flag = .commit ∧ s.addr = d.addr) (htr : d.addr ∈ vs.vals.map (·.addr)) :
    trusting ok vs (pre ++ d :: rest) =
      if 3 * trustedSigningPower (specInput vs 0 0 pre) > 1 * total (specInput vs 0 0 pre) then .ok
      else .err .doubleVote := by
  have hT := wf_elim hwf
  obtain ⟨vi, v, hf⟩ := findValidatorFrom_isSome d.addr vs.vals 0 htr
  have hmem : vi ∈ (owners vs.vals pre).reverse := by
    obtain ⟨s, hs, hc, ha⟩ := hdup
    exact List.mem_reverse.mpr ((mem_owners vs.vals vi pre).mpr ⟨s, hs, hc, v, by rw [ha]; exact hf⟩)
  show verifyCommitLightTrusting ok 1 3 vs _ = _
  rw [trusting_prefix ok 1 3 vs pre (d :: rest) hwf hpre,
    votingPowerNeeded_ok_iff.mpr ⟨by decide, by omega, rfl⟩, total_eq, ← hT.1]
  simp only
  rw [trustLoop_double ok _ vs.vals _ _ _ d rest vi v hd hsig hf hmem]
  simp only [needed_strict _ 1 _ 3 (by decide), gt_iff_lt]

/-! ### non-vacuity -/

def v (a : UInt8) (p : Nat) : Validator := { addr := [a], power := p }
def c (a : UInt8) : CSig := { flag := .commit, addr := [a], hasSig := true }
def exSet : ValSet := { vals := [v 1 1, v 2 1, v 3 1], total := 3 }

-- a well-formed set; three equal validators: two signers are exactly 2/3 → rejected, three → accepted
example : exSet.wf = true := by decide +kernel
example : light (fun _ _ => true) exSet 5 5 [c 1, c 2, ⟨.absent, [], false⟩] = .err (.notEnough 2 2) := by decide +kernel
example : light (fun _ _ => true) exSet 5 5 [c 1, c 2, c 3] = .ok := by decide +kernel
example : wellFormedLight (specInput exSet 5 5 [c 1, c 2, c 3]) (fun _ _ => true) = true := by decide +kernel
-- trusting: one of three is exactly 1/3 → rejected; two → accepted; the same validator twice → double vote
example : trusting (fun _ _ => true) exSet [c 2] = .err (.notEnough 1 1) := by decide +kernel
example : trusting (fun _ _ => true) exSet [c 9, c 2, c 3] = .ok := by decide +kernel
example : trusting (fun _ _ => true) exSet [c 2, c 2] = .err .doubleVote := by decide +kernel
-- `trusting_exact`: its hypothesis holds for a commit with an unknown signer, an absent entry and two
-- distinct trusted signers (accepted: 2/3 > 1/3) and for one trusted signer (rejected: exactly 1/3)
example : wellFormedTrusting (specInput exSet 0 0 [c 9, ⟨.absent, [], false⟩, c 2, c 3]) (fun _ _ => true) = true := by decide +kernel
example : trustedSigningPower (specInput exSet 0 0 [c 9, ⟨.absent, [], false⟩, c 2, c 3]) = 2 := by decide +kernel
example : wellFormedTrusting (specInput exSet 0 0 [c 2]) (fun _ _ => true) = true := by decide +kernel
-- a duplicated trusted validator falsifies the hypothesis (and the code answers "Double vote")
example : wellFormedTrusting (specInput exSet 0 0 [c 2, c 2]) (fun _ _ => true) = false := by decide +kernel
-- `trusting_double_vote`: early exit before the duplicate → accepted; otherwise the double-vote error
def exSet5 : ValSet := { vals := [v 1 1, v 2 1, v 3 1, v 4 1, v 5 1], total := 5 }
example : trusting (fun _ _ => true) exSet5 ([c 2, c 3] ++ c 2 :: [c 4]) = .ok := by decide +kernel
example : trusting (fun _ _ => true) exSet5 ([c 2] ++ c 2 :: [c 3, c 4]) = .err .doubleVote := by decide +kernel

end Lumina.Props.C03

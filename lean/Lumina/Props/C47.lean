/-
  C47 — Bech32 addresses round-trip and reject wrong kinds.

  Model: `Lumina/Model/Bech32.lean` (bech32 0.11.0 encode/decode + `types/src/state/address.rs`).
  Spec:  `Lumina/Spec/C47.lean` (BIP-173 reference formulation, literal prefixes, 20 bytes).
  All theorems quantify over ALL 20-byte ids / ALL strings (lists of code points), no bound.
-/
import Lumina.Proofs.Bech32
import Lumina.Gen.C47

namespace Lumina.Props.C47
open Lumina.Util Lumina.Model.Bech32 Lumina.Proofs.Bech32
open Lumina.Spec.C47 (K Obs specDisplay specRoundTrip specParse specCorrupt)

def obsOf : Except Err (Kind × Bytes) → Obs
  | .ok (k, id) => .ok (specKind k) id
  | .error _ => .err

/-- the prefixes in `/repo/types/src/consts.rs` (regenerated on every run) are the ones the
    property names, and the model's prefixes are exactly those -/
theorem consts_eq :
    Lumina.Gen.C47.PREFIX_ACCOUNT = "celestia" ∧
    Lumina.Gen.C47.PREFIX_ACCOUNT ++ Lumina.Gen.C47.PREFIX_VALIDATOR ++ Lumina.Gen.C47.PREFIX_OPERATOR = "celestiavaloper" ∧
    Lumina.Gen.C47.PREFIX_ACCOUNT ++ Lumina.Gen.C47.PREFIX_VALIDATOR ++ Lumina.Gen.C47.PREFIX_CONSENSUS = "celestiavalcons" ∧
    Lumina.Gen.C47.SIGNER_SIZE = 20 ∧ ADDRESS_SIZE = 20 ∧
    (∀ k, (specKind k).pfx = k.pfx) := by
  exact ⟨by decide, by decide, by decide, by decide, by decide, specKind_pfx⟩

/-- parsing a displayed address with `string_to_kind_and_id` gives back kind and id -/
theorem stringToKindAndId_addressToString (k : Kind) (id : Bytes) (h : id.length = 20) :
    stringToKindAndId (addressToString k id) = .ok (k, id) := by
  have hlen : (bytesToFes (id.map UInt8.toNat)).length = 32 := by simp [bytesToFes_length, h]
  have hk := pfx_length k
  rw [stringToKindAndId, addressToString, decode_encode k.pfx _ (pfx_noUpper k) (pfx_hrpParse k) Lumina.Proofs.Digits.toNat_lt_of_mem
    (by omega)]
  simp [kindOfStr_pfx, ADDRESS_SIZE, h, Function.comp_def, UInt8.ofNat_toNat]

/-- **display, then parse back to the same address; other kinds are rejected** — every 20-byte id,
    every kind, every parser (`Address`, `AccAddress`, `ValAddress`, `ConsAddress`) -/
theorem roundtrip_spec (k : Kind) (id : Bytes) (h : id.length = 20) (as : Option Kind) :
    specRoundTrip (specKind k) id (as.map specKind) (obsOf (parse as (addressToString k id))) = true := by
  rw [parse_eq, stringToKindAndId_addressToString k id h]
  cases as with
  | none => simp [specRoundTrip, obsOf]
  | some k' =>
    by_cases hk : k' = k
    · subst hk; simp [specRoundTrip, obsOf]
    · have : specKind k' ≠ specKind k := by
        cases k <;> cases k' <;> simp_all [specKind]
      simp [specRoundTrip, obsOf, hk, this]

example : ∃ id : Bytes, id.length = 20 := ⟨List.replicate 20 7, rfl⟩

/-- **displayed as bech32 with their own prefix**: prefix, `1`, 38 lower-case alphabet characters,
    valid under the BIP-173 REFERENCE checksum -/
theorem display_spec (k : Kind) (id : Bytes) (h : id.length = 20) :
    specDisplay (specKind k) (addressToString k id) = true := by
  obtain ⟨full, hs, hlen, hlt, hres⟩ := display_structure k id h
  have hvals : (full.map charOfFe).map Lumina.Spec.C47.charValue = full := by
    rw [List.map_map]
    exact (List.map_congr_left fun v hv => (charOfFe_facts v (hlt v hv)).2.2.2.2.2).trans (List.map_id _)
  have hall : ∀ v ∈ full, Lumina.Spec.C47.charset.contains (charOfFe v) = true :=
    fun v hv => (charOfFe_facts v (hlt v hv)).2.2.2.2.1
  simp only [specDisplay, Lumina.Spec.C47.checksumBech32, specKind_pfx, hs, List.take_left, drop_sep, List.drop_left, hvals,
    polymod_pfx k full hlt, hres, List.head?_cons, List.length_map, hlen, List.all_map, BECH32_TARGET,
    beq_self_eq_true, Bool.true_and, Bool.and_true]
  exact List.all_eq_true.mpr hall

/-- **parsing rejects other prefixes, bad checksums, wrong lengths and wrong kinds** — every
    string, every parser: whatever is accepted is literally `prefix-of-its-kind ++ "1" ++ data`,
    `data` bech32 characters with a valid (BIP-173 or BIP-350) reference checksum over (prefix,
    data) and exactly 20 bytes of payload; typed parsers accept only their own kind -/
theorem parse_spec (as : Option Kind) (s : Str) :
    specParse (as.map specKind) s (obsOf (parse as s)) = true := by
  rw [parse_eq]
  cases hst : stringToKindAndId s with
  | error e => rfl
  | ok r =>
    obtain ⟨k, id⟩ := r
    by_cases hask : as = none ∨ as = some k
    · obtain ⟨d, rfl, -, hvalid, h6, hres, hlen, rfl⟩ := stringToKindAndId_ok s k id hst
      have hask' : (as.map specKind == none || as.map specKind == some (specKind k)) = true := by
        rcases hask with rfl | rfl <;> simp
      have hvals : ∀ l : Str, (∀ c ∈ l, c ∈ d) → l.map Lumina.Spec.C47.charValue = l.map feOfCharUnchecked ∧
          ∀ x ∈ l.map feOfCharUnchecked, x < 32 := fun l hl =>
        ⟨List.map_congr_left fun c hc => (validChar c (hvalid c (hl c hc))).2.2.1,
          fun x hx => by obtain ⟨c, hc, rfl⟩ := List.mem_map.mp hx; exact (validChar c (hvalid c (hl c hc))).1⟩
      have hall : d.all Lumina.Spec.C47.isBech32Char = true :=
        List.all_eq_true.mpr fun c hc => (validChar c (hvalid c hc)).2.1
      have hck : Lumina.Spec.C47.checksumOK k.pfx d = true := by
        rw [Lumina.Spec.C47.checksumOK, (hvals d fun _ => id).1, polymod_pfx k _ (hvals d fun _ => id).2]
        rcases hres with h | h <;> rw [h] <;> decide
      have hpay := hvals (d.take (d.length - 6)) fun c => List.mem_of_mem_take
      have hd : 5 * (d.length - 6) / 8 = 20 := by
        rw [← hlen, fesToBytes_length, List.length_map, List.length_take, Nat.min_eq_left (by omega)]
      simp only [if_pos hask, obsOf, specParse, specKind_pfx, hask', List.take_left, drop_sep, List.drop_left, hall, h6, hck, hd,
        hlen, hpay.1, ← fesToBytes_eq_regroup8 _ hpay.2, List.head?_cons, List.length_map, decide_true,
        beq_self_eq_true, Bool.and_self]
    · obtain ⟨k', rfl⟩ : ∃ k', as = some k' := by cases as <;> simp_all
      have hne : k' ≠ k := by simpa using hask
      simp [hne, obsOf, specParse]

/-- **all single-character corruptions are rejected** — every kind, every 20-byte id, every
    position (prefix, separator, data, checksum) and every replacement code point (other alphabet
    characters, upper case, `1`, non-alphabet, non-ASCII).  Uses GF(2)-linearity of the checksum
    engine and the complete syndrome table of single errors over the 38 data+checksum positions,
    which also shows that no single error turns the bech32 checksum into a valid bech32m one. -/
theorem single_char_corruption_spec (k : Kind) (id : Bytes) (h : id.length = 20) (pos c : Nat) :
    specCorrupt (addressToString k id) pos c (obsOf (parse none (addressToString k id)))
      (obsOf (parse none ((addressToString k id).set pos c))) = true := by
  rw [parse_eq, parse_eq, stringToKindAndId_addressToString k id h]
  simp only [obsOf, specCorrupt, true_or, ↓reduceIte]
  split
  · rename_i hcond
    simp only [Bool.and_eq_true, decide_eq_true_eq, bne_iff_ne, ne_eq] at hcond
    obtain ⟨⟨-, hpos⟩, hne⟩ := hcond
    obtain ⟨e, he⟩ := corrupt_rejected k id h pos c hpos fun hh => hne (by simp [List.getD, hh])
    simp [he]
  · rfl

/-- the payload clause of `specParse` bites: for "celestia1qypqxpq9qcrsszg2pvxq6rs0zqg3yyc5wgawu3" the spec accepts the
    id 01 02 … 14 (hex) and rejects any other 20-byte id (here: the last byte changed) -/
example :
    specParse none (Lumina.Spec.C47.str "celestia1qypqxpq9qcrsszg2pvxq6rs0zqg3yyc5wgawu3")
      (.ok .account [1, 2, 3, 4, 5, 6, 7, 8, 9, 10, 11, 12, 13, 14, 15, 16, 17, 18, 19, 20]) = true ∧
    specParse none (Lumina.Spec.C47.str "celestia1qypqxpq9qcrsszg2pvxq6rs0zqg3yyc5wgawu3")
      (.ok .account [1, 2, 3, 4, 5, 6, 7, 8, 9, 10, 11, 12, 13, 14, 15, 16, 17, 18, 19, 21]) = false := by
  decide +kernel

/-- the same for the three typed parsers: a single-character corruption of a displayed address
    is rejected by `AccAddress`, `ValAddress` and `ConsAddress` parsing as well -/
theorem single_char_corruption_all_parsers (k : Kind) (id : Bytes) (h : id.length = 20) (pos c : Nat)
    (hpos : pos < (addressToString k id).length) (hc : (addressToString k id)[pos]? ≠ some c)
    (as : Option Kind) :
    obsOf (parse as ((addressToString k id).set pos c)) = .err := by
  obtain ⟨e, he⟩ := corrupt_rejected k id h pos c hpos hc
  rw [parse_eq, he]
  rfl

end Lumina.Props.C47

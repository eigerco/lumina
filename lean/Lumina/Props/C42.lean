/-
  C42 — Task join handles resolve exactly when the task ends.   (PARTIAL)

  Model: `Lumina/Model/Tasks.lean`; any number of tasks and cancellation tokens; `Reachable` =
  reachability by ANY list of labels.  What is NOT proved (hypothesis of the whole development, see
  the model's header): that rustc/tokio drop the task future's locals exactly at the `ended`
  transitions — in the model this is the guard-drop step being enabled exactly there.

  FULL STATEMENT (not provable in Lean, it is about rustc/tokio):
    for the real `spawn`/`spawn_cancellable`, `JoinHandle::join` completes iff the task's future
    has completed, panicked, been abandoned by `select!` on cancellation, or been dropped.
-/
import Lumina.Proofs.Tasks

namespace Lumina.Props.C42
open Lumina.Model.Tasks Lumina.Proofs.Tasks
open Lumina.Spec.C42 (Ev specSafe specLive)

/-- "A join handle resolves only after its spawned task has finished, panicked or been cancelled" -/
theorem resolved_only_after_end_partial {s : State} (h : Reachable s) (i : Nat)
    (hj : joinResolves s i = true) : ∃ t how, s.tasks[i]? = some t ∧ t.pc = .ended how := by
  obtain ⟨t, ht, htr⟩ := joinResolves_iff.1 hj
  obtain ⟨how, hpc⟩ := isEnded_iff.1 ((inv_reachable h i t ht).trigEnded htr)
  exact ⟨t, how, ht, hpc⟩

/-- "…and always resolves after that": in an ended state the guard-drop step is enabled and
    resolves the handle -/
theorem ended_then_resolves_partial {s : State} {i : Nat} {t : MTask} {how : End}
    (ht : s.tasks[i]? = some t) (hpc : t.pc = .ended how) (hn : t.triggered = false) :
    ∃ s', step s (.dropGuard i) = some s' ∧ joinResolves s' i = true := by
  refine ⟨setTask s i { t with triggered := true }, by simp [step, ht, hpc, hn], ?_⟩
  simp [joinResolves, getElem?_setTask_self ht]

/-- a resolved handle stays resolved ("this must return immediately") under every later step -/
theorem resolved_is_stable_partial {s s' : State} {l : Label} (hs : step s l = some s') (i : Nat)
    (hj : joinResolves s i = true) : joinResolves s' i = true := by
  obtain ⟨t, ht, htr⟩ := joinResolves_iff.1 hj
  exact joinResolves_iff.2 ((Step.of_step hs).keeps Move.triggered ht htr)

/-- "a cancellable task stops when its token is cancelled": its next poll ends it, WITHOUT polling
    the inner future (biased `select!`) -/
theorem cancel_stops_partial {s : State} {i : Nat} {t : MTask} (ht : s.tasks[i]? = some t)
    (hc : t.cancellable = true) (htok : s.cancelled.contains t.tok = true) (hpc : t.pc = .ready) :
    step s (.begin i) = some (setTask s i { t with pc := .ended .cancelled }) := by
  have hm : t.tok ∈ s.cancelled := by simpa using htok
  simp [step, ht, hpc, isCancelled, hc, hm]

/-- … and at most ONE poll of the inner future can begin after the cancellation (the one whose
    cancellation check preceded it), in every reachable state -/
theorem at_most_one_late_poll_partial {s : State} (h : Reachable s) {i : Nat} {t : MTask}
    (ht : s.tasks[i]? = some t) : t.latePolls ≤ 1 ∧ (isCancelled s t = false → t.latePolls = 0) :=
  let g := inv_reachable h i t ht
  ⟨g.lateLe, g.lateZero⟩

/-- every step of a task whose token is cancelled strictly decreases `remaining` (≤ 3) … -/
theorem cancelled_task_variant_partial {s s' : State} {i : Nat} {t t' : MTask} {l : Label}
    (ht : s.tasks[i]? = some t) (hcan : isCancelled s t = true)
    (hl : l = .begin i ∨ (∃ b, l = .inner i b) ∨ l = .abort i ∨ l = .dropGuard i)
    (hs : step s l = some s') (ht' : s'.tasks[i]? = some t') : remaining t' < remaining t :=
  ((Step.of_step hs).moved hl ht ht').remaining_lt hcan

/-- … and while `remaining > 0` one of its steps is enabled: under weak fairness its join handle
    resolves within 3 of its own steps -/
theorem cancelled_task_progress_partial {s : State} {i : Nat} {t : MTask}
    (ht : s.tasks[i]? = some t) (hr : 0 < remaining t) :
    (step s (.begin i)).isSome = true ∨ (∃ b, (step s (.inner i b)).isSome = true) ∨
      (step s (.dropGuard i)).isSome = true := by
  cases hpc : t.pc with
  | ready =>
    left
    simp only [step, ht, hpc, ↓reduceIte]
    split <;> simp
  | checked =>
    right; left
    exact ⟨.ready, by simp [step, ht, hpc]⟩
  | ended how =>
    right; right
    have : t.triggered = false := by
      cases h : t.triggered with
      | false => rfl
      | true => simp [remaining, hpc, h] at hr
    simp [step, ht, hpc, this]

/-- after the end nothing happens to the task any more: its state stays `ended` and the inner
    future is never polled again -/
theorem ended_is_final_partial {s s' : State} {l : Label} {i : Nat} {t t' : MTask} {how : End}
    (ht : s.tasks[i]? = some t) (hpc : t.pc = .ended how) (hs : step s l = some s')
    (ht' : s'.tasks[i]? = some t') : t'.pc = .ended how ∧ t'.polls = t.polls := by
  obtain ⟨u', hu', h⟩ := (Step.of_step hs).keeps Move.of_ended ht ⟨hpc, rfl⟩
  cases hu'.symm.trans ht'
  exact h

/-- MODEL ⊨ SPEC (clause 1, over histories): for EVERY run of the model (any number of tasks, any
    interleaving, any length) the trace of events an observer sees — spawns, polls of the inner
    futures, their drops (`ended`), completed cancellations, and joins returning as early as the
    token allows — passes the independent checker `Spec.C42.specSafe`: no `joined i` before
    `ended i`. -/
theorem trace_spec_safe_partial {ls : List Label} {s : State} {tr : List Ev}
    (h : traceOf init ls = some (s, tr)) : specSafe [] tr = true :=
  trace_safe (s := init) (seen := []) (fun i t ht _ => by simp [init] at ht) h

/-- MODEL ⊨ SPEC (clause 2, over histories): for every run that ends with no ended task left
    unresolved (the drop of the task's locals has run for all of them — weak fairness of the
    `dropGuard` steps), the trace passes `Spec.C42.specLive`: every `ended i` has its `joined i`. -/
theorem trace_spec_live_partial {ls : List Label} {s : State} {tr : List Ev}
    (h : traceOf init ls = some (s, tr))
    (hq : ∀ (i : Nat) (t : MTask), s.tasks[i]? = some t → isEnded t.pc = true → t.triggered = true) :
    specLive tr = true := by
  have inv := live_run (pre := []) ⟨by simp, fun i t ht _ => by simp [init] at ht⟩ h
  exact LiveInv.specLive inv hq

/-- non-vacuity of `trace_spec_live_partial`: a run with a finished, a panicked and a cancelled
    task, all resolved -/
example : ∃ s tr, traceOf init [.spawn false 0, .spawn false 0, .spawn true 1, .begin 0, .inner 0 .ready,
      .begin 1, .inner 1 .panic, .cancel 1, .begin 2, .dropGuard 0, .dropGuard 2, .dropGuard 1] = some (s, tr) ∧
    tr = [.spawn 0 false 0, .spawn 1 false 0, .spawn 2 true 1, .poll 0, .ended 0, .poll 1, .ended 1,
          .cancelDone 1, .ended 2, .joined 0, .joined 2, .joined 1] ∧
    Lumina.Spec.C42.specTrace tr = true :=
  ⟨_, _, rfl, rfl, by decide +kernel⟩

/-- NEGATIVE CONTROL (non-vacuity): with `let _ = guard;` (the guard dropped at the task's first
    poll instead of living in the future) the join handle resolves while the task is running -/
theorem guard_dropped_early_counterexample :
    ∃ (ls : List Label) (s : State) (t : MTask), runBad init ls = some s ∧ s.tasks[0]? = some t ∧
      joinResolves s 0 = true ∧ t.pc = .checked := by
  exact ⟨[.spawn false 0, .begin 0], _, _, rfl, rfl, rfl, rfl⟩

/-- a state with a cancelled task that received its one late poll, an ended-but-unresolved task,
    and a resolved one -/
def exampleState : State :=
  { tasks := [{ cancellable := true, tok := 0, pc := .ready, triggered := false, polls := 1, latePolls := 1 },
              { cancellable := false, tok := 0, pc := .ended .panicked, triggered := false, polls := 1, latePolls := 0 },
              { cancellable := true, tok := 0, pc := .ended .cancelled, triggered := true, polls := 0, latePolls := 0 }],
    cancelled := [0] }

/-- non-vacuity of the hypotheses: that state is reachable -/
example : Reachable exampleState := by
  have h : run init [.spawn true 0, .spawn false 0, .spawn true 0, .begin 0, .begin 1, .cancel 0,
      .inner 0 .pending, .inner 1 .panic, .begin 2, .dropGuard 2] = some exampleState := by decide +kernel
  exact reachable_run Reachable.init h

end Lumina.Props.C42

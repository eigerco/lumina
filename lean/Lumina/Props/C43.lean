/-
  C43 — Transaction submission keeps account sequences consistent.

  Model: `Lumina/Model/TxSeq.lean` (the client protocol: OnceCells, account mutex with FIFO hand-off,
  sign / estimate / broadcast loop, confirmation with rollback and re-broadcast), inputs = starts
  and node answers in ANY order (= any interleaving of any number of submissions, any answer
  script).  All theorems quantify over all input sequences `ops : List Op` from the initial state.
-/
import Lumina.Proofs.TxSeq
import Lumina.Proofs.TxSeqLedger
import Lumina.Gen.C43

namespace Lumina.Props.C43
open Lumina.Model.TxSeq Lumina.Proofs.TxSeq Lumina.Proofs.TxSeqLedger

/-
  FULL STATEMENT, proved as ONE theorem (`ledger_accepts_every_run`): "for every input history, the observer's ledger
  of `Lumina/Spec/C43.lean` (`ledgerStep`, the checker that the correspondence run evaluates on the IMPLEMENTATION's
  lines) accepts every line the model prints".  It rests on the bookkeeping equality between the ledger's own maps
  (`believed`, `lastSigned`, `accepted`, `prev`) and the model state (`Rel`, an invariant over arbitrary histories:
  `ledger_bookkeeping`), i.e. that the ledger CLASSIFIES each answer the way `believedAfter` does.
  The ledger's rules are also proved one by one on the model's own events (they read more directly):
    * rule "signed with the believed sequence", "advance by one per accepted broadcast", "resync on
      mismatch", "rollback on non-sequence rejection"   — `seq_discipline` (+ `believedAfter`)
    * rule "never re-signed after acceptance"            — `never_resigned`
    * rule "pending broadcast/simulation = last signed"  — `broadcast_is_last_signed`
    * rule "evicted ⇒ re-broadcast of the accepted transaction" — `evicted_rebroadcast`,
      `rebroadcast_answer_signs_nothing`
    * the message parser behind "resync to the node's expected value" — `extractSequence_grammar`
-/

/-- the message pattern regenerated from `/repo/grpc/src/client.rs` is the one the model parses -/
theorem consts_eq : Lumina.Gen.C43.SEQUENCE_ERROR_PAT.toList = SEQUENCE_ERROR_PAT := rfl

theorem noWrong_run (ops : List Op) : NoWrong (run {} ops) :=
  ops.foldlRecOn _ noWrong_init fun st h op _ => let ⟨_, hi⟩ := inv_step st op h; hi.2.2

/-- **every transaction is signed with the sequence the client believes current; the believed
    sequence advances by one per accepted broadcast, is resynchronised by a mismatch to the node's
    expected value, is set by the account query, and is rolled back to the rejected transaction's
    sequence by a rejection that is not about the sequence — and changes in no other way.**
    For every input history `ops` and every next input `op`: replaying the events of the step
    (signatures, finished submissions) from `believedAfter` (the answer rules) succeeds — each
    signature carries exactly the believed sequence of its moment — and ends in the model's
    believed sequence.  Any number of concurrent submissions, any interleaving, any answers. -/
theorem seq_discipline (ops : List Op) (op : Op) :
    let st := run {} ops
    replay (fun j => (getSub (step st op) j).accSeq) (believedAfter st op) (step st op).events
      = some (step st op).seq := by
  intro st
  obtain ⟨g, h1, h2, -⟩ := inv_step st op (noWrong_run ops)
  have : g = fun j => (getSub (step st op) j).accSeq := funext (fun j => (h1 j).symm)
  rw [← this]; exact h2

/-- non-vacuity: a history with two concurrent submissions, a mismatch, an accepted broadcast, a
    rejection with rollback: the second submission signs with 8, then (resync) 4, the third with
    the rolled-back 4 -/
example :
    let ops : List Op := [.start 0 (some 100) (some 2), .ans 0 .ok, .ans 0 (.okSeq 7), .start 1 none none,
      .ans 0 .ok, .ans 1 (.mis 4), .ans 1 (.okEst 4 10), .ans 1 .cache, .ans 1 (.rejected 5)]
    (run {} ops).seq = 4 ∧ (step (run {} ops) (.start 2 (some 1) (some 4))).events.length = 1 := by
  decide +kernel

/-- **an evicted (or unknown) transaction is re-broadcast, never re-signed**: when the status
    query of submission `i` is answered EVICTED / UNKNOWN, nothing is signed in that step, the
    table of signed transactions and the believed sequence are unchanged, and the submission's
    next request is the re-broadcast of its accepted transaction (same id = same bytes). -/
theorem evicted_rebroadcast (st : St) (i : Nat) (a : Ans) (h : (getSub st i).phase = .reqT)
    (ha : a = .evicted ∨ a = .unknown) :
    let st' := step st (.ans i a)
    st'.events = [] ∧ st'.txs = st.txs ∧ st'.seq = st.seq ∧
    (∃ nf, (getSub st' i).phase = .reqRB nf) ∧ (getSub st' i).acc = (getSub st i).acc :=
  evicted_rb st i a h ha

/-- and the answer to that re-broadcast never leads to a signature either -/
theorem rebroadcast_answer_signs_nothing (st : St) (i : Nat) (nf : Bool) (a : Ans)
    (h : (getSub st i).phase = .reqRB nf) :
    ∀ e ∈ (step st (.ans i a)).events, ∃ r, e = .finished i r := by
  have hp : (getSub { st with events := [] } i).phase = .reqRB nf := h
  simp only [step, answer, hp]
  unfold ansRB
  split <;> simp [setPhase, setSub, finish, emit]

/-- **never re-signed**: in every reachable state, every signature made during a step is for a
    submission that had NO accepted broadcast before the step — once the broadcast of a submission
    has been accepted (success or mempool-cache hit), the client never signs for it again,
    whatever the node answers afterwards (pending, evicted, unknown, rejected, errors) and whatever
    the other submissions do. -/
theorem never_resigned (ops : List Op) (op : Op) (j k : Nat) (tx : Tx)
    (h : Event.sign j k tx ∈ (step (run {} ops) op).events) :
    (getSub (run {} ops) j).acc = none :=
  (w_step (wf_run ops) op).sg j k tx h

/-- reachable states are well formed: a submission sits in the mutex queue exactly when it waits
    for the mutex, in a `OnceCell` queue exactly when it waits for that cell (each at most once),
    and a submission has an accepted transaction only in the confirmation phases -/
theorem reachable_wf (ops : List Op) : WF (run {} ops) := wf_run ops

/-- **the pending broadcast / simulation is the transaction just signed**: after any step, a
    submission whose request inside the critical section carries transaction `k` signed `k` as its
    last signature of the step, or signed nothing in this step and had the same request pending
    before.  Together with `seq_discipline`: every transaction broadcast inside the critical
    section was signed with the sequence believed current at that moment. -/
theorem broadcast_is_last_signed (st : St) (op : Op) (j k : Nat)
    (h : (getSub (step st op) j).phase = .reqB k ∨ (getSub (step st op) j).phase = .reqE k) :
    lastSign j (step st op).events = some k ∨
    (lastSign j (step st op).events = none ∧ (getSub st j).phase = (getSub (step st op) j).phase) :=
  pb_step st op j k h

/-- **`extract_sequence` on the message grammar**: for every message
    `pre ++ "account sequence mismatch, expected " ++ digits ++ "," ++ rest` in which the pattern does
    not occur earlier, the parser returns the decimal value of `digits` when it fits a `u64`, and
    fails when it does not -/
theorem extractSequence_grammar (pre ds post : List Char)
    (hfirst : ∀ k < pre.length, SEQUENCE_ERROR_PAT.isPrefixOf (pre.drop k ++ SEQUENCE_ERROR_PAT) = false)
    (hds : ds ≠ []) (hdig : ∀ c ∈ ds, isDigit c = true) :
    extractSequence (pre ++ SEQUENCE_ERROR_PAT ++ (ds ++ ',' :: post)) =
      (let v := ds.foldl (fun a c => a * 10 + (c.toNat - 48)) 0
       if v ≤ 18446744073709551615 then some v else none) := by
  unfold extractSequence
  rw [splitOnce_first _ _ _ (by decide) hfirst]
  simp only [splitOnce_comma ds post hdig]
  unfold parseU64
  have hplus := stripPlus_id ds hdig
  simp only [hplus]
  have : ds.isEmpty = false := by
    cases ds with
    | nil => exact absurd rfl hds
    | cons _ _ => rfl
  simp [this, digitsVal_eq ds 0 hdig]

example : extractSequence ("rpc error: code = Unknown desc = account sequence mismatch, expected 12, got 10: incorrect account sequence".toList) = some 12 := by
  -- a literal is `String.ofList` of its characters: `toList` (quadratic for the kernel) is never run
  rw [String.toList_ofList]
  decide +kernel

/-! ### the single-theorem form -/

/-- **The observer's ledger accepts every run of the client model.**  For EVERY input history `ops` (any number of
    concurrent submissions, any interleaving, any node answers), replaying `Spec.C43.ledgerStep` from the empty ledger
    over the lines the model prints — `oLine`: the events of each step in order and, per started submission, its pending
    request / `wait` / result, sorted by submission (the abstraction the driver's `render`/`parseLine` realise through
    strings), with the input classified by `oAnswered` (the driver's `oAns`) — never fails: every signature carries the
    believed sequence, nothing is re-signed after acceptance, every pending broadcast / simulation is the last signed
    transaction, every status query and re-broadcast is for the byte-identical accepted transaction, an evicted
    transaction's next request is its re-broadcast. -/
theorem ledger_accepts_every_run (ops : List Op) : specRun {} {} ops = true :=
  specRun_ok ops {} {} rel_init y_init wf_init noWrong_init

/-- **The bookkeeping equality, for every history**: the ledger obtained by replaying the run exists (no line is
    rejected) and its maps are the model's: `believed` = the client's believed sequence (unknown exactly while the
    account is unknown); `accepted` = the submissions with an accepted broadcast, each with that transaction's id and
    signed sequence; `lastSigned` of a submission with a broadcast / simulation pending = that transaction (as stored in
    the table of signed transactions); `prev` = the observed pending requests. -/
theorem ledger_bookkeeping (ops : List Op) :
    ∃ l, ledgerRun {} {} ops = some l ∧
      (l.believed = if (run {} ops).acct.ready then some (run {} ops).seq else none) ∧
      l.prev = oStates (run {} ops) ∧
      (∀ j, match (getSub (run {} ops) j).acc with
        | some k => ∃ tx, l.accepted.lookup j = some tx ∧ tx.id = k ∧ tx.seq = (getSub (run {} ops) j).accSeq
        | none => l.accepted.lookup j = none) ∧
      (∀ j k, isTxReq (getSub (run {} ops) j).phase k →
        ∃ otx tx, l.lastSigned.lookup j = some otx ∧ otx.id = k ∧ (run {} ops).txs[k]? = some tx ∧ otx.seq = tx.seq) := by
  obtain ⟨l, h1, h2⟩ := ledgerRun_rel ops {} {} rel_init y_init wf_init noWrong_init
  exact ⟨l, h1, h2.bel, h2.prev, h2.acc, h2.ls⟩

/-- non-vacuity: on the concrete history of `seq_discipline`'s example (two concurrent submissions, a mismatch, an
    accepted broadcast, a mempool-cache hit, a rejection with rollback, a third submission) the ledger is evaluated
    (`decide`) and accepts every line; and the ledger is not trivially accepting: the same kind of line with a signature
    carrying another sequence, or with a pending broadcast of another transaction, is rejected -/
example :
    let ops : List Op := [.start 0 (some 100) (some 2), .ans 0 .ok, .ans 0 (.okSeq 7), .start 1 none none,
      .ans 0 .ok, .ans 1 (.mis 4), .ans 1 (.okEst 4 10), .ans 1 .cache, .ans 1 (.rejected 5), .start 2 (some 1) (some 4)]
    specRun {} {} ops = true ∧ (ledgerRun {} {} ops).isSome = true := by
  decide +kernel

open Lumina.Spec.C43 in
example :
    let l : Ledger := { believed := some 7, prev := [(0, .G)] }
    (match ledgerStep l none { events := [.sign ⟨0, 8, 100, 50, 0⟩], states := [(0, .B 0)] } with
     | .ok _ => true | .error _ => false) = false ∧
    (match ledgerStep l none { events := [.sign ⟨0, 7, 100, 50, 0⟩], states := [(0, .B 1)] } with
     | .ok _ => true | .error _ => false) = false ∧
    (match ledgerStep l none { events := [.sign ⟨0, 7, 100, 50, 0⟩], states := [(0, .B 0)] } with
     | .ok _ => true | .error _ => false) = true := by
  decide

end Lumina.Props.C43

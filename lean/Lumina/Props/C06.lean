/-
  C06 — Namespace data is sound and complete.

  Model: `Lumina/Model/NsData.lean` (`rowVerify` = `RowNamespaceData::verify`, `verify` = `NamespaceData::verify`,
  `getNamespaceData` = `ExtendedDataSquare::get_namespace_data`) over the nmt-rs model (`verify_complete_namespace`
  with presence and absence proofs, completeness check, `compute_tree_size`, lumina's `validate_shape` wrapper).
  Spec: `Lumina/Spec/C06.lean` (brute-force scan of the square; model-free).
  Soundness holds under collision-freeness of the hash RELATIVE TO the byte strings actually hashed
  (`HashOKOn H (· ∈ hashedC06 H e rows ns)`: the square's row/column trees and the `hash_leaf`/`hash_nodes` calls of the
  verification of the given rows), and as a reduction: an accepted wrong answer yields an explicit collision among those
  inputs.  Completeness (`FullCompleteness`, `nsdata_complete`) rests on the multi-leaf range-proof completeness of
  `Proofs/NmtMulti*.lean`; its only hash assumption is collision-freeness on the square's own inputs (`edsInputs`).
-/
import Lumina.Proofs.NsData
import Lumina.Proofs.NmtMultiNsData
import Lumina.Props.C04
import Lumina.Gen.C06

namespace Lumina.Props.C06
open Lumina.Util Lumina.Model.Nmt Lumina.Model.Eds Lumina.Model.NsData
open Lumina.Proofs.Nmt Lumina.Proofs.NmtRange Lumina.Proofs.Eds Lumina.Proofs.Sample Lumina.Proofs.NsData
open Lumina.Spec.C06 (specVerify specRow specHonest expected rowCovers rowShares)

/-- the sizes the model uses are the ones in the current source tree -/
theorem consts_eq :
    Lumina.Gen.C06.NS_SIZE = 29 ∧ Lumina.Gen.C06.NS_SIZE = Lumina.Model.Nmt.NS_SIZE ∧
    Lumina.Gen.C06.HASH_SIZE = Lumina.Model.Nmt.HASH_LEN ∧ Lumina.Gen.C06.SHARE_SIZE = Lumina.Model.Eds.SHARE_SIZE := by
  decide

/-- the byte strings hashed by the two computations the soundness theorems compare: all row and column trees of the
    square (and the empty string, preimage of `EMPTY_ROOT`), and the `hash_leaf` / `hash_nodes` calls of
    `verify_complete_namespace` over the given rows -/
def hashedC06 (H : HashFn) (e : Eds) (rows : List RowNsData) (ns : Bytes) : List Bytes :=
  edsInputs H e ++ nsDataInputs H rows ns

/-- **Soundness of `NamespaceData::verify`** — every square (any width), its DAH, every 29-byte namespace, every list of
    rows with any proofs (presence or absence, any range, any siblings, any flags): accepted ⇒ the rows are, in row
    order, exactly the rows whose root range covers the namespace, each holding exactly the namespace's shares of that
    row (no shares where the row has none).  Hypotheses: the hash has 32-byte output and no collision among
    `hashedC06 H e rows ns` (a finite, explicitly computed list — satisfiable, see the non-vacuity instance below);
    quadrant parity flags and share sizes (`SquareShape`, established by `ExtendedDataSquare::new`); sizes guaranteed
    by the Rust types (`ProofOK`). -/
theorem nsdata_sound {H : HashFn} {e : Eds} (hsq : SquareShape e) {dah : Dah}
    (hd : Dah.ofEds H e = .ok dah) {ns : Bytes} (hns : ns.length = NS_SIZE)
    (rows : List RowNsData) (hp : ∀ d ∈ rows, ProofOK d.proof)
    (hk : HashOKOn H (fun y => y ∈ hashedC06 H e rows ns)) :
    specVerify e.width (rawSquare e) ns (rows.map (fun d => d.shares.map Share.data))
      (accepted (verify H rows ns dah)) = true := by
  cases hv : verify H rows ns dah with
  | error er => simp [accepted, specVerify]
  | ok u =>
    have hS : ∀ y ∈ edsInputs H e, y ∈ hashedC06 H e rows ns := fun y hy => List.mem_append_left _ hy
    have hV : ∀ y ∈ nsDataInputs H rows ns, y ∈ hashedC06 H e rows ns := fun y hy => List.mem_append_right _ hy
    have := verify_sound_model_on hk hd hsq.size hns hS hV hp hv
    simp [accepted, specVerify, this, expected_eq_on hk hsq hd hS hns]

/-- **Soundness as a reduction** (no assumption on the hash beyond its output length): an accepted answer that is not the
    namespace's data yields an explicit collision `x ≠ y`, `H x = H y` with `x`, `y` among the byte strings hashed for
    the square's trees and by the verification. -/
theorem nsdata_forgery_yields_collision {H : HashFn} (hl : HashLen H) {e : Eds} (hsq : SquareShape e) {dah : Dah}
    (hd : Dah.ofEds H e = .ok dah) {ns : Bytes} (hns : ns.length = NS_SIZE)
    (rows : List RowNsData) (hp : ∀ d ∈ rows, ProofOK d.proof)
    (hbad : specVerify e.width (rawSquare e) ns (rows.map (fun d => d.shares.map Share.data))
      (accepted (verify H rows ns dah)) = false) :
    CollisionIn H (fun y => y ∈ hashedC06 H e rows ns) :=
  (or_collision hl (nsdata_sound hsq hd hns rows hp)).resolve_left (Bool.eq_false_iff.mp hbad)

/-- **Soundness of a single `RowNamespaceData::verify`**: accepted ⇒ the row exists and, if its root range covers the
    namespace, the shares are exactly the namespace's shares of that row; otherwise no shares are accepted. -/
theorem row_nsdata_sound {H : HashFn} {e : Eds} (hsq : SquareShape e) {dah : Dah}
    (hd : Dah.ofEds H e = .ok dah) {ns : Bytes} (hns : ns.length = NS_SIZE) (d : RowNsData) (hp : ProofOK d.proof)
    (row : Nat) (hk : HashOKOn H (fun y => y ∈ hashedC06 H e [d] ns)) :
    specRow e.width (rawSquare e) ns row (d.shares.map Share.data) (accepted (rowVerify H d ns row dah)) = true := by
  cases hv : rowVerify H d ns row dah with
  | error er => simp [accepted, specRow]
  | ok u =>
    obtain ⟨hwpt, root, hroot?, hl⟩ := rowVerify_ok_iff.mp hv
    have hrow := ((dah_root?_iff (ax := .row) hd).mp hroot?).1
    have hS : ∀ y ∈ edsInputs H e, y ∈ hashedC06 H e [d] ns := fun y hy => List.mem_append_left _ hy
    have hV : ∀ y ∈ vcnInputs H d.proof (d.shares.map Share.data) ns, y ∈ hashedC06 H e [d] ns := fun y hy =>
      List.mem_append_right _ (by unfold nsDataInputs; rw [List.flatMap_cons]; exact List.mem_append_left _ hy)
    have hcov := rowCovers_eq_on hk hsq hd hS hrow hns
    have hrc := dah_rowContains?_eq H hroot? ns
    by_cases hc : root.contains H ns = true
    · obtain ⟨shares, hax, hdat⟩ := rowVerify_sound_on hk hd hsq.size hS hV hns hp (by rw [hrc, hc]) hv
      have hcov' : rowCovers e.width (rawSquare e) row ns = true := by rw [hcov, hrc, hc]; rfl
      simp only [accepted, specRow, hrow, decide_true, hcov', ↓reduceIte, Bool.not_true, Bool.false_or, Bool.true_and,
        rowShares_eq hsq hrow hax, hdat, List.filter_map, List.map_map]
      simp [Function.comp_def]
    · have hc' : root.contains H ns = false := by simpa using hc
      have hcov' : rowCovers e.width (rawSquare e) row ns = false := by rw [hcov, hrc, hc']; rfl
      -- only an absence proof with no shares can be accepted
      have hempty : d.shares = [] := by
        by_cases hab : d.proof.isAbsence = true
        · rw [hab] at hwpt; exact List.isEmpty_iff.mp hwpt
        · exfalso
          have hab' : d.proof.isAbsence = false := by simpa using hab
          have hne' : (d.shares.map Share.data).isEmpty = false := by rw [List.isEmpty_map, hwpt, hab']
          have hvc := luminaVCN_ok hl
          unfold verifyCompleteNamespace at hvc
          split at hvc
          · cases hvc
          · unfold verifyNamespace at hvc
            simp [hne', hab', hc'] at hvc
      simp [accepted, specRow, hrow, hcov', hempty]

/-- the single-row soundness as a reduction: an accepted wrong row answer yields an explicit collision among the inputs
    hashed for the square and by this verification -/
theorem row_nsdata_forgery_yields_collision {H : HashFn} (hl : HashLen H) {e : Eds} (hsq : SquareShape e) {dah : Dah}
    (hd : Dah.ofEds H e = .ok dah) {ns : Bytes} (hns : ns.length = NS_SIZE) (d : RowNsData) (hp : ProofOK d.proof)
    (row : Nat)
    (hbad : specRow e.width (rawSquare e) ns row (d.shares.map Share.data) (accepted (rowVerify H d ns row dah)) = false) :
    CollisionIn H (fun y => y ∈ hashedC06 H e [d] ns) :=
  (or_collision hl (row_nsdata_sound hsq hd hns d hp row)).resolve_left (Bool.eq_false_iff.mp hbad)

/-- The full completeness statement of the property: on every valid square of width at most 65535 (`square_width` is a
    `u16`; `NamespaceData::verify` itself refuses more row roots) `get_namespace_data` never fails, returns exactly the
    brute-force scan of the square, and `NamespaceData::verify` accepts it.  The hash hypothesis (no collision among the
    inputs hashed for the square's own trees and the empty string, `edsInputs`) is needed only for "returns exactly the
    scan" (a row root that collides with `EMPTY_ROOT` is reported as not containing anything by
    `NamespacedHash::contains`); producing the data and accepting it need no hypothesis on the hash
    (`nsdata_get_verifies`).  Proved: `nsdata_complete`. -/
def FullCompleteness : Prop :=
  ∀ (H : HashFn) (e : Eds) (dah : Dah) (ns : Bytes), HashOKOn H (fun y => y ∈ edsInputs H e) → SquareShape e → e.width ≤ 65535 →
    Dah.ofEds H e = .ok dah → ns.length = NS_SIZE →
    ∃ rows, getNamespaceData H e ns dah = .ok rows ∧
      specHonest e.width (rawSquare e) ns (rows.map (fun p => (p.1, p.2.shares.map Share.data)))
        (accepted (verify H (rows.map Prod.snd) ns dah)) = true

/-- **Completeness, first part** (used by `nsdata_complete`): whatever
    `get_namespace_data` returns equals the brute-force scan of the square (the rows whose root range covers the
    namespace, in order, with exactly the namespace's shares). -/
theorem nsdata_complete_partial {H : HashFn} {e : Eds} (hk : HashOKOn H (fun y => y ∈ edsInputs H e))
    (hsq : SquareShape e) {dah : Dah}
    (hd : Dah.ofEds H e = .ok dah) {ns : Bytes} (hns : ns.length = NS_SIZE)
    {rows : List (Nat × RowNsData)} (hget : getNamespaceData H e ns dah = .ok rows) :
    rows.map (fun p => (p.1, p.2.shares.map Share.data)) = expected e.width (rawSquare e) ns := by
  unfold getNamespaceData at hget
  rw [getNamespaceDataAux_data _ rows hget, expected_eq'_on hk hsq hd (fun _ h => h) hns]

/-- the first completeness part as a reduction: the answer is the scan, or there is an explicit collision among the
    inputs hashed for the square's own trees (and the empty string) -/
theorem nsdata_complete_partial_or_collision {H : HashFn} (hl : HashLen H) {e : Eds} (hsq : SquareShape e) {dah : Dah}
    (hd : Dah.ofEds H e = .ok dah) {ns : Bytes} (hns : ns.length = NS_SIZE)
    {rows : List (Nat × RowNsData)} (hget : getNamespaceData H e ns dah = .ok rows) :
    rows.map (fun p => (p.1, p.2.shares.map Share.data)) = expected e.width (rawSquare e) ns ∨
      CollisionIn H (fun y => y ∈ edsInputs H e) :=
  or_collision hl fun hk => nsdata_complete_partial hk hsq hd hns hget

/-- **Completeness, second part — no hypothesis on the hash**: on a square whose DAH exists (every axis namespace-ordered),
    with shares of at least 29 bytes and width ≤ 65535, `get_namespace_data` never fails and `NamespaceData::verify`
    accepts what it returns.  Rests on the completeness of MULTI-leaf range proofs for arbitrary tree sizes
    (`NmtMulti.range_complete_split`: `build_range_proof` ⇒ `check_range_proof` with the tree size that `compute_tree_size`
    derives, which need not be the real one), presence and absence proofs, nmt-rs' completeness check and lumina's
    `validate_shape`. -/
theorem nsdata_get_verifies {H : HashFn} {e : Eds} (hsq : SquareShape e) (hw : e.width ≤ 65535) {dah : Dah}
    (hd : Dah.ofEds H e = .ok dah) {ns : Bytes} (hns : ns.length = NS_SIZE) :
    ∃ rows, getNamespaceData H e ns dah = .ok rows ∧ accepted (verify H (rows.map Prod.snd) ns dah) = true := by
  obtain ⟨rows, hget, hv⟩ := Lumina.Proofs.NmtMulti.getNamespaceData_complete hd hsq.size hw hns
  exact ⟨rows, hget, by rw [hv]; rfl⟩

/-- **Completeness of namespace data, full statement** (`FullCompleteness`) -/
theorem nsdata_complete : FullCompleteness := by
  intro H e dah ns hk hsq hw hd hns
  obtain ⟨rows, hget, hacc⟩ := nsdata_get_verifies hsq hw hd hns
  refine ⟨rows, hget, ?_⟩
  have hdat := nsdata_complete_partial hk hsq hd hns hget
  simp [specHonest, hacc, hdat]

/-- full completeness as a reduction: complete, or an explicit collision among the inputs hashed for the square's trees -/
theorem nsdata_complete_or_collision {H : HashFn} (hl : HashLen H) {e : Eds} (hsq : SquareShape e) (hw : e.width ≤ 65535)
    {dah : Dah} (hd : Dah.ofEds H e = .ok dah) {ns : Bytes} (hns : ns.length = NS_SIZE) :
    (∃ rows, getNamespaceData H e ns dah = .ok rows ∧
      specHonest e.width (rawSquare e) ns (rows.map (fun p => (p.1, p.2.shares.map Share.data)))
        (accepted (verify H (rows.map Prod.snd) ns dah)) = true) ∨ CollisionIn H (fun y => y ∈ edsInputs H e) :=
  or_collision hl fun hk => nsdata_complete H e dah ns hk hsq hw hd hns

/-! ### Non-vacuity (concrete 2×2 square of 512-byte shares, toy 32-byte hash from `Props/C04`) -/

open Lumina.Props.C04 (toyH32 okEds okDah nonvacuity_okEds_valid nonvacuity_toyH32_len)

def ns0 : Bytes := List.replicate 29 0
def okRows : List (Nat × RowNsData) :=
  match getNamespaceData toyH32 okEds ns0 okDah with
  | .ok r => r
  | .error _ => []

/-- the hypotheses other than the one on the hash hold of a concrete square (`SquareShape`, width 2 ≤ 65535, DAH exists, 29-byte
    namespace), and its own namespace data is produced and accepted -/
theorem nonvacuity_okEds_shape : SquareShape okEds :=
  nonvacuity_okEds_valid.shape

theorem proofOK_of_dec {rows : List RowNsData} (h : rows.all (fun d =>
      d.proof.siblings.all (fun x => decide x.WF) &&
      (match d.proof.leaf with | some l => decide l.WF | none => true) &&
      decide (d.proof.start ≤ U32_MAX) && decide (d.proof.end_ ≤ U32_MAX)) = true) :
    ∀ d ∈ rows, ProofOK d.proof := by
  intro d hd
  have := List.all_eq_true.mp h d hd
  simp only [Bool.and_eq_true, List.all_eq_true, decide_eq_true_eq] at this
  obtain ⟨⟨⟨h1, h2⟩, h3⟩, h4⟩ := this
  refine ⟨h1, ?_, h3, h4⟩
  intro l hl
  rw [hl] at h2
  simpa using h2

set_option maxRecDepth 40000 in
example : HashLen toyH32 ∧ okEds.width ≤ 65535 ∧ Dah.ofEds toyH32 okEds = .ok okDah ∧ ns0.length = NS_SIZE ∧ okRows.length = 1 ∧
    (∀ d ∈ okRows.map Prod.snd, ProofOK d.proof) ∧
    accepted (verify toyH32 (okRows.map Prod.snd) ns0 okDah) = true := by
  refine ⟨nonvacuity_toyH32_len, by decide, rfl, rfl, by decide +kernel, ?_, by decide +kernel⟩
  exact proofOK_of_dec (by decide +kernel)

/-! ### Non-vacuity of `nsdata_sound` / `row_nsdata_sound`: ALL hypotheses hold on a concrete accepted answer -/

open Lumina.Proofs.Sample (toySum toySum_len)

def sumDah : Dah := match Dah.ofEds toySum okEds with | .ok d => d | .error _ => default
/-- what `get_namespace_data` returns for namespace 0 of the concrete square under the toy hash (one row, one share) -/
def sumRows : List RowNsData :=
  match getNamespaceData toySum okEds ns0 sumDah with
  | .ok r => r.map Prod.snd
  | .error _ => []

/-- the answer evaluated once; `nonvacuity_toySum_nocoll` and the example below are its parts (one row, accepted, a proof of
    the sizes the Rust types guarantee, and verifying it hashes nothing that the trees of the square did not) -/
theorem sumRows_evaluated : sumRows.length = 1 ∧ accepted (verify toySum sumRows ns0 sumDah) = true ∧
    sumRows.all (fun d =>
      d.proof.siblings.all (fun x => decide x.WF) &&
      (match d.proof.leaf with | some l => decide l.WF | none => true) &&
      decide (d.proof.start ≤ U32_MAX) && decide (d.proof.end_ ≤ U32_MAX)) = true ∧
    (nsDataInputs toySum sumRows ns0).all (fun y => decide (y ∈ edsInputs toySum okEds)) = true := by
  -- `sumRows` is a `match` on a computation: comparing it with its unfolded body, the kernel runs the scrutinee,
  -- `get_namespace_data` under `toySum` as it is defined, where `toySum_eq_lanes` cannot help; so it is unfolded only here
  unfold sumRows sumDah
  rw [toySum_eq_lanes]
  decide +kernel

/-- the toy hash has no collision among the byte strings hashed for this square and this answer -/
theorem nonvacuity_toySum_nocoll : NoCollOn toySum (fun y => y ∈ hashedC06 toySum okEds sumRows ns0) :=
  noCollOn_append_of_all Lumina.Props.C04.toySum_nocoll_okEds sumRows_evaluated.2.2.2

set_option maxRecDepth 100000 in
/-- `nsdata_sound` applied to a concrete ACCEPTED presence answer: every hypothesis (incl. relative collision-freeness)
    holds -/
example : sumRows.length = 1 ∧ accepted (verify toySum sumRows ns0 sumDah) = true ∧
    specVerify okEds.width (rawSquare okEds) ns0 (sumRows.map (fun d => d.shares.map Share.data))
      (accepted (verify toySum sumRows ns0 sumDah)) = true :=
  let ⟨hlen, hacc, hok, _⟩ := sumRows_evaluated
  ⟨hlen, hacc, nsdata_sound nonvacuity_okEds_shape Lumina.Props.C04.sumDah_ok rfl sumRows (proofOK_of_dec hok)
    ⟨nonvacuity_toySum_nocoll, toySum_len⟩⟩

/-- **non-vacuity of `nsdata_complete`**: all hypotheses of `FullCompleteness`, including the one on the hash (the toy hash
    has no collision among `edsInputs`, `C04.toySum_nocoll_okEds`), hold of the concrete square; the theorem,
    applied, yields namespace data that equals the brute-force scan and is accepted -/
example : ∃ rows, getNamespaceData toySum okEds ns0 sumDah = .ok rows ∧
    specHonest okEds.width (rawSquare okEds) ns0 (rows.map (fun p => (p.1, p.2.shares.map Share.data)))
      (accepted (verify toySum (rows.map Prod.snd) ns0 sumDah)) = true :=
  nsdata_complete toySum okEds sumDah ns0 ⟨Lumina.Props.C04.toySum_nocoll_okEds, toySum_len⟩
    nonvacuity_okEds_shape (by decide) Lumina.Props.C04.sumDah_ok rfl

/-! ### Non-vacuity with an ABSENCE proof (4×4 square; a 2×2 square has only one original-data share per row) -/

def nsN (n : UInt8) : Bytes := List.replicate 28 0 ++ [n]
def dsh (n t : UInt8) : Bytes := nsN n ++ [t]
def psh (t : UInt8) : Bytes := List.replicate 29 9 ++ [t]
/-- 4×4 square of 30-byte shares; original data 2×2 with namespaces 0, 2 / 3, 4 (the parity quadrants hold arbitrary bytes:
    the soundness theorem does not need them to be Reed–Solomon parity) -/
def absEds : Eds := Eds.ofRaw 4 [dsh 0 1, dsh 2 2, psh 3, psh 4,
                                 dsh 3 5, dsh 4 6, psh 7, psh 8,
                                 psh 10, psh 11, psh 12, psh 13,
                                 psh 14, psh 15, psh 16, psh 17]
def absDah : Dah := match Dah.ofEds toySum absEds with | .ok d => d | .error _ => default
/-- what `get_namespace_data` returns for namespace 1: row 0 covers it (0 ≤ 1 ≤ 2) but holds no share of it -/
def absRows : List RowNsData :=
  match getNamespaceData toySum absEds (nsN 1) absDah with
  | .ok r => r.map Prod.snd
  | .error _ => []

theorem nonvacuity_absEds_shape : SquareShape absEds := by
  refine ⟨?_, ?_⟩
  · have h : ∀ r, r < 4 → ∀ c, c < 4 →
        (match absEds.share? r c with | some sh => sh.isParity == !isOdsSquare r c absEds.width | none => true) = true := by
      decide +kernel
    intro r c sh hr hc hs
    have := h r hr c hc
    rw [hs] at this
    simpa using this
  · have h : absEds.shares.all (fun sh => decide (NS_SIZE ≤ sh.data.length)) = true := by decide +kernel
    intro sh hm; simpa using List.all_eq_true.mp h sh hm

/-- the absence answer evaluated once; the theorem and the example below are its parts (the collision check in the form
    `noCollOn_of_codes` takes) -/
theorem absRows_evaluated : Dah.ofEds toySum absEds = .ok absDah ∧
    ((hashedC06 toySum absEds absRows (nsN 1)).map fun a => (bytesCode (toySum a), bytesCode a)).all (fun p =>
      ((hashedC06 toySum absEds absRows (nsN 1)).map fun a => (bytesCode (toySum a), bytesCode a)).all
        (fun q => p.1 != q.1 || p.2 == q.2)) = true ∧
    absRows.length = 1 ∧ (absRows.all (fun d => d.proof.isAbsence)) = true ∧
    accepted (verify toySum absRows (nsN 1) absDah) = true ∧
    absRows.all (fun d =>
      d.proof.siblings.all (fun x => decide x.WF) &&
      (match d.proof.leaf with | some l => decide l.WF | none => true) &&
      decide (d.proof.start ≤ U32_MAX) && decide (d.proof.end_ ≤ U32_MAX)) = true := by
  -- that `from_eds` succeeds is seen with the rest (`eq_ok_of_isOk`)
  refine ⟨eq_ok_of_isOk (And.left ?h), And.right ?h⟩
  unfold absRows absDah
  rw [toySum_eq_lanes]
  decide +kernel

/-- the toy hash has no collision among the 59 byte strings hashed for this square and this absence answer -/
theorem nonvacuity_toySum_nocoll_abs : NoCollOn toySum (fun y => y ∈ hashedC06 toySum absEds absRows (nsN 1)) :=
  noCollOn_of_codes absRows_evaluated.2.1

set_option maxRecDepth 100000 in
/-- `nsdata_sound` applied to a concrete ACCEPTED ABSENCE answer (one row, absence proof, no shares) -/
example : absRows.length = 1 ∧ (absRows.all (fun d => d.proof.isAbsence)) = true ∧
    accepted (verify toySum absRows (nsN 1) absDah) = true ∧
    specVerify absEds.width (rawSquare absEds) (nsN 1) (absRows.map (fun d => d.shares.map Share.data))
      (accepted (verify toySum absRows (nsN 1) absDah)) = true :=
  let ⟨hdah, _, hlen, habs, hacc, hok⟩ := absRows_evaluated
  ⟨hlen, habs, hacc, nsdata_sound nonvacuity_absEds_shape hdah rfl absRows (proofOK_of_dec hok)
    ⟨nonvacuity_toySum_nocoll_abs, toySum_len⟩⟩

end Lumina.Props.C06

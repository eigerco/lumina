/-
  C40 — Shrex peer pools contain only peers that announced the right data.

  Model: `Lumina/Model/Pools.lean` (`PoolTracker`: `add_peer_for_hash` = `notify`, `get_pool`,
  `remove_peer`, `poll` with its pending events / header tasks / timeouts / store errors,
  `validate_pool`, `try_update_subjective_head`; the `FuturesUnordered` queue and the store's `Notify`
  are modelled, so every schedule of task completions is a history).  Spec: `Lumina/Spec/C40.lean`.
  `view` (`Model/PoolsView.lean`) projects a model state onto what the spec observes.
  History theorems quantify over ALL event lists (notifications, header arrivals, timeouts, store errors,
  removals, polls in any interleaving); the blocking theorems hold for ANY state whatsoever.
-/
import Lumina.Proofs.Pools

namespace Lumina.Props.C40
open Lumina.Model.Pools Lumina.Proofs.Pools Lumina.Spec.C40

/-- the generated constants are the numbers the property states: window 10, validation timeout 120 s -/
theorem consts_eq :
    Lumina.Gen.C40.ROOT_HASH_WINDOW = 10 ∧ Lumina.Gen.C40.POOL_VALIDATION_TIMEOUT = 120 * 1000000000 := by
  decide

/-- **a peer is offered for a height only if it announced the data hash of the stored header at that
    height**: whenever `get_pool(h)` answers with peers, `h` was validated with the data hash `x` of a
    header that a header task delivered for height `h` (`arrived`), and every offered peer sent a
    notification carrying `x` (`announced`) -/
theorem offered_only_if_announced (evs : List Event) (h : Nat) (ps : List Nat)
    (hg : getPool (run init evs) h = .ok ps) :
    ∃ x, (h, x) ∈ (run init evs).arrived ∧ ∀ p ∈ ps, ∃ h', (p, x, h') ∈ (run init evs).announced :=
  (poolsInv_run_any evs).offered hg

/-- what a header task delivers is the data hash of a header the store holds for that height
    (`EvP P` : every `store h x` event satisfies `P h x`; take `P h x := x = dataHash h`) -/
theorem arrived_is_stored_header (P : Nat → Nat → Prop) (hP : InjP P) (evs : List Event)
    (hev : ∀ e ∈ evs, EvP P e) : ∀ t ∈ (run init evs).arrived, P t.1 t.2 :=
  (poolsInv_run evs hev).arrived

/-- the same in the spec's form, for a store whose headers have pairwise distinct data hashes:
    every validated height carries the stored header's hash and offers only announcers of it -/
theorem offered_spec (dataHash : Nat → Nat) (hinj : Function.Injective dataHash) (evs : List Event)
    (hev : ∀ e ∈ evs, EvP (fun h x => x = dataHash h) e) (h : Nat) (ps : List Nat)
    (hg : getPool (run init evs) h = .ok ps) :
    ∀ p ∈ ps, ∃ h', (p, dataHash h, h') ∈ (run init evs).announced := by
  obtain ⟨x, hx, hall⟩ := offered_only_if_announced evs h ps hg
  have : x = dataHash h := (poolsInv_run evs hev).arrived _ hx
  subst this
  exact hall

/-- **peers that announced another hash for a validated height are blocked** (at notification time):
    from ANY state, a notification for a height that is validated with a different hash queues a
    `BlockPeers` naming the peer -/
theorem wrong_hash_blocked (s : State) (p x h : Nat) (hpos : 0 < h) :
    specNotifyWrongHash (view s) (view (notify s p x h)) p x h = true := by
  unfold specNotifyWrongHash
  split
  · rfl
  · rename_i hi
    split
    · rename_i y hl
      split
      · rename_i hne
        exact notify_newlyBlocked p x h hpos (by simpa using hi) (by rw [hl]; exact .inl (by simpa using hne))
      · rfl
    · rfl

/-- **… or announced twice, are blocked**: from ANY state, a notification by a peer that is already
    counted for that height — it voted while the height was unvalidated, or it sits in the validated
    pool of that height — queues a `BlockPeers` naming the peer -/
theorem announced_twice_blocked (s : State) (p x h : Nat) (hpos : 0 < h) :
    specNotifyTwice (view s) (view (notify s p x h)) p h = true := by
  unfold specNotifyTwice
  split
  · rfl
  · rename_i hi
    have hi' : ignored (view s) h = false := by simpa using hi
    split
    · rename_i voted _ hl
      split
      · rename_i hv
        exact notify_newlyBlocked p x h hpos hi' (by rw [hl]; simpa using hv)
      · rfl
    · rename_i y hl
      split
      · rename_i hm
        exact notify_newlyBlocked p x h hpos hi' (by rw [hl]; exact .inr (by simpa using hm))
      · rfl
    · rfl

/-- **peers that announced another hash for a validated height are blocked** (at validation time): when
    `validate_pool` turns the candidates of a height into a validated pool, every voter of another hash
    is named in a queued `BlockPeers`, the height becomes validated with the header's hash, and exactly
    the voters of that hash are offered -/
theorem validation_blocks_other_hashes (s : State) (x h : Nat) (voted : List Nat) (cands : List (Nat × List Nat))
    (hg : alGet s.hashPools h = some (.candidates voted cands)) :
    (∀ c ∈ cands, c.1 ≠ x → ∀ p ∈ c.2, ∃ bs, Ev.blockPeers bs ∈ (validatePool s x h).pendingEvents ∧ p ∈ bs) ∧
    alGet (validatePool s x h).hashPools h = some (.validated x) ∧
    alGet (validatePool s x h).validatedPools x = some ((alGet cands x).getD []) :=
  ⟨validatePool_blocks s x h voted cands hg, by simp [validatePool, hg, alGet_alSet]⟩

/-- the same inside `poll`: when `poll` (with an empty event queue) consumes the arrival of header `h`
    with data hash `x` while height `h ≥ 1` is still unvalidated, it answers `Ready(None)` and every voter
    of another hash is named in a `BlockPeers` of the resulting queue -/
theorem poll_validation_blocks_other_hashes (s : State) (h x : Nat) (voted : List Nat)
    (cands : List (Nat × List Nat)) (hq : s.pendingEvents = [])
    (hres : (pollNext s.stored s.queue s.waiters).2.2 = some (.ok h x))
    (hg : alGet s.hashPools h = some (.candidates voted cands)) (hpos : 0 < h) :
    (poll s).2 = .readyNone ∧
    ∀ c ∈ cands, c.1 ≠ x → ∀ p ∈ c.2, ∃ bs, Ev.blockPeers bs ∈ (poll s).1.pendingEvents ∧ p ∈ bs := by
  have hpoll : poll s = (validatePool (tryUpdateSubjectiveHead
      { s with queue := (pollNext s.stored s.queue s.waiters).1, waiters := (pollNext s.stored s.queue s.waiters).2.1,
               arrived := s.arrived ++ [(h, x)] } h) x h, .readyNone) := by
    simp [poll, pollLoop, hq, hres]
  rw [hpoll]
  exact ⟨rfl, validatePool_blocks _ x h voted cands (by rw [tryUpdate_keeps_own_pool]; exact hg)⟩

/-! #### the blocking clauses read over whole histories

  `State.blocked` logs every peer named in a `BlockPeers` the tracker ever queued (it is appended exactly
  where the model pushes a `BlockPeers`), `State.removed` every peer `remove_peer` was called for from
  outside (the shrex client blocked it). -/

/-- FULL STATEMENT (history reading of "peers that announced another hash for a validated height are
    blocked"): after ANY history, a peer that announced `(x, h)` while `h` is now validated with another
    hash was named in a `BlockPeers` or removed.  It is FALSE of lumina (see the counterexample below). -/
def WrongHashBlockedAlways : Prop :=
  ∀ (evs : List Event) (p x h y : Nat), (p, x, h) ∈ (run init evs).announced →
    alGet (run init evs).hashPools h = some (.validated y) → y ≠ x →
    p ∈ (run init evs).blocked ∨ p ∈ (run init evs).removed

/-- the history reading holds for every history in which no header task fails (`NoFail`: no injected
    `Timeout` / `StoreError`; every other interleaving of notifications, header arrivals, removals and
    polls is allowed) -/
theorem wrong_hash_blocked_history_partial (evs : List Event) (hn : ∀ e ∈ evs, NoFail e)
    (p x h y : Nat) (ha : (p, x, h) ∈ (run init evs).announced)
    (hv : alGet (run init evs).hashPools h = some (.validated y)) (hne : y ≠ x) :
    p ∈ (run init evs).blocked ∨ p ∈ (run init evs).removed :=
  ((hinv_run evs hn).h _ ha).resolve_right fun hs => hne ((stand_validated hv).1 hs)

/-- … and it is false in general (known finding `C40/wrong-hash-vote-forgotten-by-store-error`): peer 2
    announces hash 9 for height 11; the header task of 11 ends in a store error and `poll` drops the pool
    without blocking anybody; peer 0 announces the right hash, the header arrives, 11 is validated with
    1011 and offers peer 0 — peer 2 was never blocked nor removed -/
theorem wrong_hash_history_counterexample : ¬ WrongHashBlockedAlways := by
  intro h
  have := h [.store 10 1010, .poll, .notify 2 9 11, .taskStoreErr 11, .poll, .notify 0 1011 11,
    .store 11 1011, .poll, .poll, .poll] 2 9 11 1011 (by decide +kernel) (by decide +kernel) (by decide +kernel)
  revert this
  decide +kernel

/-- the same store-error path forgets that a peer already announced (known finding
    `C40/repeat-after-store-error-not-blocked`): peer 0 announces for 11, the pool is dropped after a store
    error, peer 0 announces for 11 again and simply votes again -/
theorem announced_twice_history_counterexample :
    let s := run init [.store 10 1010, .poll, .notify 0 1011 11, .taskStoreErr 11, .poll, .notify 0 1011 11]
    s.announced = [(0, 1011, 11), (0, 1011, 11)] ∧ s.blocked = [] ∧ s.removed = [] ∧ s.pendingEvents = [] ∧
    alGet s.hashPools 11 = some (.candidates [0] [(1011, [0])]) := by decide +kernel

/-- a queued `BlockPeers` is delivered by `poll` before anything else, and the blocked peers are then
    gone from every pool the tracker offers -/
theorem blocked_peers_leave_all_pools (s : State) (ps : List Nat) (rest : List Ev)
    (hq : s.pendingEvents = .blockPeers ps :: rest) :
    (poll s).2 = .readyEv (.blockPeers ps) ∧
    ∀ p ∈ ps, ∀ e ∈ (poll s).1.validatedPools, p ∉ e.2 := by
  have hpoll : poll s = (ps.foldl removePeer { s with pendingEvents := rest }, .readyEv (.blockPeers ps)) := by
    simp [poll, pollLoop, hq]
  rw [hpoll]
  exact ⟨rfl, foldl_removePeer_absent ps _⟩

/-- **pools for heights more than ten below the newest validated height are dropped**: after any history
    every tracked height `h` satisfies `h + 10 > newest validated height` (and nothing is tracked before
    a first height is validated) -/
theorem stale_pools_dropped (evs : List Event) : specWindow (view (run init evs)) = true :=
  (poolsInv_run_any evs).window

/-- **pool queries never panic when data hashes differ across heights**: if the stored headers' data
    hashes are a function of the height and pairwise distinct (`InjP P`, every `store h x` satisfies
    `P h x`), then after any history `get_pool` never hits its `expect` -/
theorem get_pool_never_panics (P : Nat → Nat → Prop) (hP : InjP P) (evs : List Event)
    (hev : ∀ e ∈ evs, EvP P e) (h : Nat) : getPool (run init evs) h ≠ .panic := by
  intro hpanic
  obtain ⟨x, h', hne, h1, h2⟩ := getPool_panic_shares_hash evs h hpanic
  have ha := arrived_is_stored_header P hP evs hev
  exact hne ((hP _ _ _ _ (ha _ h2) (ha _ h1)).2 rfl)

/-- the precondition is needed: when two heights share a data hash, evicting the first one's pool makes
    `get_pool` of the second panic (heights 11 and 12 with the same hash 7, then a head at 21) -/
theorem get_pool_panics_when_hashes_collide :
    getPool (run init [.store 10 1, .poll, .notify 0 7 11, .notify 1 7 12, .store 11 7, .store 12 7, .poll, .poll,
      .poll, .poll, .store 21 2, .notify 0 2 21, .poll]) 12 = .panic := by decide +kernel

/-! ### the defect that was repaired (lumina commit "fix: block a peer that announces twice for an
    already validated height") -/

/-- the `Validated` arm of `add_peer_for_hash` as it was before the fix -/
def voteBeforeFix (s : State) (peer hash height : Nat) : State :=
  match alGet s.hashPools height with
  | some (.validated vh) =>
    if vh == hash then
      { s with validatedPools := alPush s.validatedPools hash peer,
               pendingEvents := s.pendingEvents ++ [.addPeers [peer]] }
    else { s with pendingEvents := s.pendingEvents ++ [.blockPeers [peer]] }
  | _ => vote s peer hash height

/-- height 11 is validated with hash 7 and offers peer 0; peer 0 announces (7, 11) again: before the
    fix it is offered twice and not blocked, after the fix it is blocked -/
theorem before_fix_counterexample :
    let s := run init [.store 10 1, .poll, .notify 0 7 11, .store 11 7, .poll, .poll]
    getPool s 11 = .ok [0] ∧
    specNotifyTwice (view s) (view (voteBeforeFix s 0 7 11)) 0 11 = false ∧
    getPool (voteBeforeFix s 0 7 11) 11 = .ok [0, 0] ∧
    specNotifyTwice (view s) (view (notify s 0 7 11)) 0 11 = true := by decide +kernel

/-! ### non-vacuity -/

/-- a history in which peers 0 and 1 announce the right hash, peer 2 a wrong one, peer 3 announces twice:
    0 and 1 are offered, 2 and 3 are blocked -/
example :
    let s := run init [.store 10 1, .poll, .notify 0 7 11, .notify 2 9 11, .notify 3 7 11, .notify 3 7 11,
      .notify 1 7 11, .poll, .store 11 7, .poll, .poll, .poll]
    getPool s 11 = .ok [0, 1] ∧ s.subjectiveHead = some 11 ∧ s.pendingEvents = [] := by decide +kernel

/-- the hypotheses of `get_pool_never_panics` / `offered_spec` are satisfiable: the harness's plain chain
    (`dataHash h = 1000 + h`) is injective, and the history above only stores such headers when its
    hashes are renamed accordingly -/
example : InjP (fun h x => x = 1000 + h) := by
  intro h1 x1 h2 x2 e1 e2
  subst e1; subst e2
  omega

example : ∀ e ∈ [Event.store 10 1010, .poll, .notify 0 1011 11, .store 11 1011, .poll, .poll],
    EvP (fun h x => x = 1000 + h) e := by
  intro e he
  simp only [List.mem_cons, List.not_mem_nil, or_false] at he
  rcases he with rfl | rfl | rfl | rfl | rfl | rfl <;> simp [EvP]

example : getPool (run init [Event.store 10 1010, .poll, .notify 0 1011 11, .store 11 1011, .poll, .poll]) 11
    = .ok [0] := by decide +kernel

/-- the hypotheses of `poll_validation_blocks_other_hashes` are met by a concrete state: header 11 (hash 7)
    is in the store, its task is queued, peer 2 voted hash 9 -/
example :
    let s := run init [.store 10 1, .poll, .notify 0 7 11, .notify 2 9 11, .store 11 7]
    s.pendingEvents = [] ∧ (pollNext s.stored s.queue s.waiters).2.2 = some (.ok 11 7) ∧
    alGet s.hashPools 11 = some (.candidates [0, 2] [(7, [0]), (9, [2])]) ∧
    (poll s).1.pendingEvents = [.addPeers [0], .blockPeers [2]] := by decide +kernel

/-- `wrong_hash_blocked_history_partial` is not vacuous: a failure-free history in which peer 2's wrong
    vote is blocked at validation -/
example :
    let evs : List Event := [.store 10 1010, .poll, .notify 2 9 11, .notify 0 1011 11, .store 11 1011, .poll]
    (∀ e ∈ evs, NoFail e) ∧ (2, 9, 11) ∈ (run init evs).announced ∧
    alGet (run init evs).hashPools 11 = some (.validated 1011) ∧ (run init evs).blocked = [2] := by
  refine ⟨?_, by decide +kernel, by decide +kernel, by decide +kernel⟩
  intro e he
  simp only [List.mem_cons, List.not_mem_nil, or_false] at he
  rcases he with rfl | rfl | rfl | rfl | rfl | rfl <;> trivial

end Lumina.Props.C40

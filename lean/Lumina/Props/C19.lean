/-
  C19 — Header stores conform to one abstract store model.

  `AbsStore` (Spec/C19.lean) is the specification; `MemStore` / `RedbStore` (Model/Store.lean)
  transcribe the two implementations.  For EVERY history of calls (valid or invalid batches,
  removals, sampling marks, metadata updates, every query; no bound on length or heights) the
  results of both models are the results of the abstract store, which keeps the invariants the
  property names.  `v` is the header-verification oracle (`ExtendedHeader::verify`), arbitrary.
-/
import Lumina.Proofs.StoreStrict
import Lumina.Gen.C19

open Lumina.Model.Store Lumina.Spec.C19
open Lumina.Model
open Lumina.Proofs.Store

namespace Lumina.Props.C19

/-- the models are of schema version 3 of the redb store -/
theorem schema_version : Lumina.Gen.C19.SCHEMA_VERSION = 3 := by decide

/-- IN-MEMORY STORE: for every history, every call (mutation or query) returns exactly what the
    abstract store returns: same values, same error kinds. -/
theorem mem_conforms (v : Hdr → Hdr → Bool) (ops : List Op) (hw : AllWf ops) :
    (runOps (MemStore.step v) MemStore.new ops).2 = (runOps (AbsStore.step v) init ops).2 :=
  (mem_run_sim v ops hw _ _ rm_init absInv_init).1

/-- the same as `specOK` verdicts: every observed result of the in-memory model passes the spec -/
theorem mem_specOK (v : Hdr → Hdr → Bool) (ops : List Op) (hw : AllWf ops) :
    (List.zipWith specOK (runOps (AbsStore.step v) init ops).2
        (runOps (MemStore.step v) MemStore.new ops).2).all id = true ∧
    (runOps (MemStore.step v) MemStore.new ops).2.length = ops.length := by
  rw [mem_conforms v ops hw]
  constructor
  · generalize (runOps (AbsStore.step v) init ops).2 = l
    induction l with
    | nil => rfl
    | cons a r ih => simp [List.zipWith, specOK]
  · generalize Lumina.Spec.C19.init = a
    induction ops generalizing a with
    | nil => rfl
    | cons op rest ih =>
      rw [runOps_cons]
      simp [ih (fun o ho => hw o (List.mem_cons_of_mem _ ho))]

/-- the FULL statement of C19 for the redb store and for the agreement of the two backends:
    no precondition on the headers.  Both are FALSE of the code (`redb_conforms_full_false`,
    `stores_agree_full_false`; open finding `C19/redb/unvalidated-header-stored`). -/
def RedbConformsFull : Prop := ∀ (v : Hdr → Hdr → Bool) (ops : List Op), AllWf ops →
  (runOps (RedbStore.step v) RedbStore.new ops).2 = (runOps (AbsStore.step v) init ops).2
def StoresAgreeFull : Prop := ∀ (v : Hdr → Hdr → Bool) (ops : List Op), AllWf ops →
  (runOps (MemStore.step v) MemStore.new ops).2 = (runOps (RedbStore.step v) RedbStore.new ops).2

/-- REDB STORE, PARTIAL: the same, as long as no unvalidated header is ever stored (`ValidRun`;
    the redb store re-validates on every read, `Store::insert` does not validate).  Without the
    hypothesis the statement fails: `stores_disagree_counterexample`. -/
theorem redb_conforms_partial (v : Hdr → Hdr → Bool) (ops : List Op) (hw : AllWf ops)
    (hv : ValidRun v init ops) :
    (runOps (RedbStore.step v) RedbStore.new ops).2 = (runOps (AbsStore.step v) init ops).2 :=
  (redb_run_sim v ops hw _ _ rr_init absInv_init hv).1

/-- PARTIAL: in particular when every header handed to `insert` is validated -/
theorem redb_conforms_validated_partial (v : Hdr → Hdr → Bool) (ops : List Op) (hw : AllWf ops)
    (hv : AllValidated ops) :
    (runOps (RedbStore.step v) RedbStore.new ops).2 = (runOps (AbsStore.step v) init ops).2 :=
  redb_conforms_partial v ops hw (validRun_of_validated v ops hv _ storedValid_init)

/-- PARTIAL: the two backends answer every history in which only validated headers get stored
    identically -/
theorem stores_agree_partial (v : Hdr → Hdr → Bool) (ops : List Op) (hw : AllWf ops) (hv : ValidRun v init ops) :
    (runOps (MemStore.step v) MemStore.new ops).2 = (runOps (RedbStore.step v) RedbStore.new ops).2 := by
  rw [mem_conforms v ops hw, redb_conforms_partial v ops hw hv]

/-- the abstract store keeps the invariants the property names along every history: sampled ⊆
    stored, pruned ∩ stored = ∅, both indexes single-valued, no height 0, metadata only for
    stored heights -/
theorem abs_invariants (v : Hdr → Hdr → Bool) (ops : List Op) (hw : AllWf ops) :
    invOK (runOps (AbsStore.step v) init ops).1 = true :=
  invOK_of_absInv _ (abs_run_inv v ops hw _ absInv_init (absVer_init v)).1

/-- … and so do the range indexes of the in-memory store itself -/
theorem mem_sampled_within_stored_pruned_disjoint (v : Hdr → Hdr → Bool) (ops : List Op) (hw : AllWf ops) :
    let m := (runOps (MemStore.step v) MemStore.new ops).1
    (∀ h, Ranges.mem m.sampledRanges h → Ranges.mem m.headerRanges h) ∧
    (∀ h, Ranges.mem m.prunedRanges h → ¬ Ranges.mem m.headerRanges h) := by
  obtain ⟨_, r, hi⟩ := mem_run_sim v ops hw _ _ rm_init absInv_init
  exact r.ranges.sampled_sub_pruned_disjoint hi

/-- sampling metadata accumulates every added CID: after a successful update of a stored height
    the metadata of that height contains every new CID and every CID it contained before -/
theorem meta_accumulates (a : AbsStore) (h : Nat) (cids : List Cid) (hs : a.stored h = true) :
    ∃ l, (a.updateMeta h cids).1.metaOf h = some l ∧ (a.updateMeta h cids).2 = .ok .unit ∧
      (∀ c ∈ cids, c ∈ l) ∧ (∀ l0, a.metaOf h = some l0 → ∀ c ∈ l0, c ∈ l) := by
  rw [updateMeta_ok a h cids hs]
  refine ⟨metaEntry a h cids, by rw [updated_metaOf]; simp, rfl, fun c hc => ?_, fun l0 h0 c hc => ?_⟩
  · unfold metaEntry
    cases a.metaOf h with
    | none => exact hc
    | some prev => exact (mem_appendDedup _ _ c).2 (Or.inr hc)
  · simp only [metaEntry, h0]
    exact (mem_appendDedup _ _ c).2 (Or.inl hc)

/-- the same on the in-memory store after ANY history: if `update_sampling_metadata(h, cids)`
    succeeds, `get_sampling_metadata(h)` afterwards returns a list that contains every new CID and
    every CID it returned before -/
theorem mem_meta_accumulates (v : Hdr → Hdr → Bool) (ops : List Op) (hw : AllWf ops) (h : Nat) (cids : List Cid)
    (hh : h ≤ U64_MAX) :
    let m := (runOps (MemStore.step v) MemStore.new ops).1
    (MemStore.step v m (.updMeta h cids)).2 = .ok .unit →
    ∃ l, (MemStore.step v (MemStore.step v m (.updMeta h cids)).1 (.getMeta h)).2 = .ok (.md (some l)) ∧
      (∀ c ∈ cids, c ∈ l) ∧
      ∀ l0, (MemStore.step v m (.getMeta h)).2 = .ok (.md (some l0)) → ∀ c ∈ l0, c ∈ l := by
  intro m hok
  obtain ⟨_, r, hi⟩ := mem_run_sim v ops hw _ _ rm_init absInv_init
  have wf1 : (Op.updMeta h cids).wf = true := by simp [Op.wf, hh]
  obtain ⟨e1, r1, _⟩ := mem_step_sim r hi v (.updMeta h cids) wf1
  have hi1 := abs_step_inv v _ (.updMeta h cids) hi wf1
  obtain ⟨e2, _, _⟩ := mem_step_sim r1 hi1 v (.getMeta h) rfl
  obtain ⟨e0, _, _⟩ := mem_step_sim r hi v (.getMeta h) rfl
  generalize (runOps (AbsStore.step v) init ops).1 = a at *
  rw [e1] at hok
  have hs : a.stored h = true := by
    cases hst : a.stored h with
    | true => rfl
    | false => simp [AbsStore.step, AbsStore.updateMeta, hst] at hok
  obtain ⟨l, hl, _, c1, c2⟩ := meta_accumulates a h cids hs
  refine ⟨l, ?_, c1, ?_⟩
  · rw [e2]
    have hs' : (a.updateMeta h cids).1.stored h = true := by
      unfold AbsStore.stored AbsStore.atHeight
      rw [updateMeta_hdrs]; exact hs
    simp only [AbsStore.step, hs', if_true, hl]
  · intro l0 h0
    rw [e0] at h0
    simp only [AbsStore.step, hs, if_true] at h0
    injection h0 with h0; injection h0 with h0
    exact c2 l0 h0

/-- the abstract store never answers `panic`, hence (by conformance) neither model reaches a
    `debug_assert!` / `expect` / `panic!` / arithmetic overflow of the store code in any history -/
theorem abs_never_panics (v : Hdr → Hdr → Bool) (a : AbsStore) (op : Op) :
    (AbsStore.step v a op).2 ≠ .err .panic :=
  Lumina.Proofs.Store.abs_never_panics v a op

theorem mem_never_panics (v : Hdr → Hdr → Bool) (ops : List Op) (hw : AllWf ops) :
    ∀ r ∈ (runOps (MemStore.step v) MemStore.new ops).2, r ≠ .err .panic := by
  rw [mem_conforms v ops hw]
  generalize Lumina.Spec.C19.init = a
  induction ops generalizing a with
  | nil => intro r hr; cases hr
  | cons op rest ih =>
    rw [runOps_cons]
    intro r hr
    rcases List.mem_cons.1 hr with e | e
    · rw [e]; exact abs_never_panics v a op
    · exact ih (fun o ho => hw o (List.mem_cons_of_mem _ ho)) _ r e

/-- REDB STORE, FULL characterisation (no hypothesis on the headers): in every history the redb
    store answers exactly like `stepS` (Proofs/StoreRedb.lean) = the abstract store in which a
    stored header is read back through `decode`: an unvalidated stored header answers
    `StoredDataError` when read, when it is the neighbour of an insertion and when it is to be
    removed (nothing changes then); everything else is the specification (`stepS_cases`: a call
    on `stepS` does what `AbsStore.step` does, or is refused with `StoredDataError` and changes
    nothing, and then an unvalidated header is stored).  This pins the open finding down: the redb
    store deviates from the abstract store at these reads and nowhere else. -/
theorem redb_conforms_strict (v : Hdr → Hdr → Bool) (ops : List Op) (hw : AllWf ops) :
    (runOps (RedbStore.step v) RedbStore.new ops).2 = (runOps (stepS v) init ops).2 :=
  (redb_runS_sim v ops hw _ _ rr_init absInv_init (absVer_init v)).1

/-- … and the states it reaches keep the invariants the property names -/
theorem redb_strict_invariants (v : Hdr → Hdr → Bool) (ops : List Op) (hw : AllWf ops) :
    invOK (runOps (stepS v) init ops).1 = true :=
  invOK_of_absInv _ (redb_runS_sim v ops hw _ _ rr_init absInv_init (absVer_init v)).2.2.1

/-- the range table of the redb store keeps sampled within stored and pruned disjoint from
    stored in EVERY history (no hypothesis on the headers) -/
theorem redb_sampled_within_stored_pruned_disjoint (v : Hdr → Hdr → Bool) (ops : List Op) (hw : AllWf ops) :
    let t := (runOps (RedbStore.step v) RedbStore.new ops).1
    (∀ h, Ranges.mem (rawRanges t .sampled) h → Ranges.mem (rawRanges t .header) h) ∧
    (∀ h, Ranges.mem (rawRanges t .pruned) h → ¬ Ranges.mem (rawRanges t .header) h) := by
  obtain ⟨_, r, hi, _⟩ := redb_runS_sim v ops hw _ _ rr_init absInv_init (absVer_init v)
  exact r.ranges.sampled_sub_pruned_disjoint hi

/-! ### the open finding: an unvalidated header accepted by `insert`

A single header is internally verified (`From<ExtendedHeader>`), an empty store accepts any valid
range: both stores take it.  The redb store then cannot read it back (decoding validates), cannot
remove it, and refuses the honest chain below it; the in-memory store behaves like the abstract
store throughout. -/

def cexV : Hdr → Hdr → Bool := fun a b => decide (b.id = a.id + 1)
/-- header 3 does not pass `validate` (e.g. a copy of a header claiming another height) -/
def cexOps : List Op :=
  [ .insert [⟨3, 5, 100, false⟩], .getByHeight 5, .hasAt 5, .remove 5,
    .insert [⟨0, 1, 100, true⟩, ⟨1, 2, 101, true⟩, ⟨2, 3, 102, true⟩] ]

/-- COUNTEREXAMPLE to the full statement: the two store models (transcriptions of the real
    stores, confirmed by `corpus/C19/unvalidated-header-in-redb.ops` against the real code)
    answer this 5-call history differently -/
theorem stores_disagree_counterexample :
    AllWf cexOps ∧
    (runOps (MemStore.step cexV) MemStore.new cexOps).2 =
      [.ok .unit, .ok (.hdr ⟨3, 5, 100, false⟩), .ok (.bool true), .ok .unit, .ok .unit] ∧
    (runOps (RedbStore.step cexV) RedbStore.new cexOps).2 =
      [.ok .unit, .err .storedDataError, .ok (.bool true), .err .storedDataError,
       .err (.constraintsNotMet .noAdjacent)] := by
  refine ⟨by unfold AllWf; decide, by decide +kernel, by decide +kernel⟩

/-- the strict abstract store predicts exactly these answers of the redb store (non-vacuity of
    `redb_conforms_strict` on a history with an unvalidated header) -/
example : (runOps (stepS cexV) init cexOps).2 =
    [.ok .unit, .err .storedDataError, .ok (.bool true), .err .storedDataError,
     .err (.constraintsNotMet .noAdjacent)] := by decide +kernel

theorem stores_agree_full_false : ¬ StoresAgreeFull := by
  intro h
  have := h cexV cexOps stores_disagree_counterexample.1
  rw [stores_disagree_counterexample.2.1, stores_disagree_counterexample.2.2] at this
  exact absurd this (by decide)

theorem redb_conforms_full_false : ¬ RedbConformsFull := by
  intro h
  have h1 := h cexV cexOps stores_disagree_counterexample.1
  have h2 := mem_conforms cexV cexOps stores_disagree_counterexample.1
  rw [← h2, stores_disagree_counterexample.2.1, stores_disagree_counterexample.2.2] at h1
  exact absurd h1 (by decide)

/-! ### non-vacuity: a concrete history with a fork, a gap fill, rejected batches of every kind,
    a removal, a re-insertion, sampling marks and metadata -/

def exV : Hdr → Hdr → Bool := fun a b => decide (b.id = a.id + 1) || decide (a.id = 2 ∧ b.id = 10)
def hd (i height hash : Nat) : Hdr := ⟨i, height, hash, true⟩
def exOps : List Op :=
  [ .insert [hd 1 1 101, hd 2 2 102],            -- ok
    .insert [hd 4 4 104],                         -- ok: new head with a gap
    .insert [hd 10 3 110],                        -- fork header: verifies below, not above → Neighbors…
    .insert [hd 3 3 103],                         -- ok: gap fill
    .insert [hd 2 2 102],                         -- Overlap
    .insert [hd 5 5 105, hd 7 7 107],             -- HeadersVerificationFailed
    .insert [hd 5 5 105, hd 6 6 101],             -- HashExists
    .insert [⟨9, 0, 109, true⟩],                  -- Invalid
    .mark 2, .updMeta 2 [7, 7, 8], .updMeta 2 [8, 9], .getMeta 2,
    .remove 1, .remove 1, .insert [hd 1 1 101], .prunedRanges, .sampledRanges, .storedRanges,
    .head, .getByHash 103, .getRange (.included 2) .unbounded, .mark 9 ]

example : AllWf exOps := by unfold AllWf; decide
example : AllValidated exOps := by unfold AllValidated; decide
example : (runOps (MemStore.step exV) MemStore.new exOps).2 =
    [ .ok .unit, .ok .unit, .err .neighborsVerificationFailed, .ok .unit,
      .err (.constraintsNotMet .overlap), .err .headersVerificationFailed, .err (.hashExists 101),
      .err (.constraintsNotMet .invalid),
      .ok .unit, .ok .unit, .ok .unit, .ok (.md (some [7, 7, 8, 9])),
      .ok .unit, .err .notFound, .ok .unit, .ok (.ranges []), .ok (.ranges [(2, 2)]), .ok (.ranges [(1, 4)]),
      .ok (.hdr (hd 4 4 104)), .ok (.hdr (hd 3 3 103)), .ok (.hdrs [hd 2 2 102, hd 3 3 103, hd 4 4 104]),
      .err .notFound ] := by decide +kernel
example : (runOps (RedbStore.step exV) RedbStore.new exOps).2 =
    (runOps (AbsStore.step exV) init exOps).2 := by decide +kernel

end Lumina.Props.C19

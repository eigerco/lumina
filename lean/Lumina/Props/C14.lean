/-
  C14 — Namespaces are validated, ordered and round-trip.

  Every theorem is of the form `spec… input (model input) = true` for ALL inputs (no bound on
  byte-string length), where `spec…` (Lumina/Spec/C14.lean) is the property stated without
  reference to the model, and the model (Lumina/Model/Namespace.lean) is what the
  correspondence check runs against the real `celestia_types::nmt::Namespace`.
-/
import Lumina.Proofs.Namespace

namespace Lumina.Props.C14
open Lumina.Util Lumina.Model.Namespace Lumina.Gen.C14 Lumina.Proofs.Namespace
open Lumina.Spec.C14

def obsOf : Except Err Ns → Obs
  | .ok b => .ok b
  | .error _ => .err

/-- the generated constants are the numbers the property states -/
theorem consts_eq :
    NS_SIZE = 29 ∧ NS_ID_SIZE = 28 ∧ NS_ID_V0_SIZE = 10 ∧ NS_VER_SIZE = 1 ∧
    MAX_PRIMARY_RESERVED = maxPrimaryReserved ∧ MIN_SECONDARY_RESERVED = minSecondaryReserved := by
  decide

/-- `new_v0` on a full 28-byte id: accepted iff the 18-byte prefix is zero; result is `0 :: id` -/
theorem newV0_full (id : Bytes) (h : id.length = 28) :
    newV0 id = if (id.take 18).all (fun x => x == 0) then .ok (0 :: id) else .error .invalidV0 :=
  newV0_of_length id h

/-- `new_v255` on a full 28-byte id: accepted iff the 27-byte prefix is 0xff; result is `255 :: id` -/
theorem newV255_full (id : Bytes) (h : id.length = 28) :
    newV255 id = if (id.take 27).all (fun x => x == 255) then .ok (255 :: id) else .error .invalidV255 :=
  newV255_of_length id h

/-- **constructed from raw bytes only if …; byte form round-trips** — all byte strings -/
theorem fromRaw_spec (bs : Bytes) : specFromRaw bs (obsOf (fromRaw bs)) = true := by
  cases hr : fromRaw bs with
  | ok x =>
    obtain ⟨hv, rfl⟩ := fromRaw_ok_iff.mp hr
    simp [obsOf, specFromRaw, hv]
  | error e =>
    have hv : validRaw bs = false := by
      cases hv : validRaw bs
      · rfl
      · rw [fromRaw_ok_iff.mpr ⟨hv, rfl⟩] at hr; cases hr
    simp [obsOf, specFromRaw, hv]

/-- `new version id`, every version and every id length (shorthand included) -/
theorem new_spec (v : UInt8) (id : Bytes) : specNew v id (obsOf (new v id)) = true := by
  by_cases hid : id.length = 28
  · simpa [fromRaw, NS_SIZE, hid, specNew, specFromRaw] using fromRaw_spec (v :: id)
  · unfold new
    by_cases hv0 : v = 0
    · subst hv0
      simp only [↓reduceIte, newV0, NS_ID_SIZE, hid, NS_ID_V0_SIZE, NS_SIZE]
      by_cases hs : id.length ≤ 10
      · simp [hs, obsOf, specNew, hid]
      · simp [hs, obsOf, specNew, hid]
    · by_cases hv255 : v = 255
      · subst hv255
        simp [newV255, NS_ID_SIZE, hid, obsOf, specNew]
      · simp [hv0, hv255, obsOf, specNew, hid]

/-- version-0 shorthand round trip -/
theorem idV0_spec (ns : Ns) (h : ns.length = 29) : specIdV0 ns (idV0 ns) = true := by
  cases ns with
  | nil => simp at h
  | cons v t =>
    by_cases hv : v = 0
    · simp [idV0, version, specIdV0, hv, NS_SIZE, NS_ID_V0_SIZE]
    · simp [idV0, version, specIdV0, hv]

/-- ordering is the lexicographic byte order — all byte strings -/
theorem cmp_spec (a b : Bytes) : specCmp a b (cmp a b) = true := by
  unfold specCmp
  rcases cmp_cases a b with ⟨h, h'⟩ | ⟨h, h'⟩ | ⟨h, h'⟩ <;> rw [h] <;> simpa using h'

/-- reserved exactly when ≤ MAX_PRIMARY_RESERVED or ≥ MIN_SECONDARY_RESERVED -/
theorem isReserved_spec (ns : Ns) : specIsReserved ns (isReserved ns) = true := by
  have hc := consts_eq
  rw [specIsReserved, isReserved, hc.2.2.2.2.1, hc.2.2.2.2.2, le_eq, ge_eq]
  exact beq_self_eq_true _

def obsOfOpt : Option Ns → Obs
  | some b => .ok b
  | none => .err

/-- serde form (canonical base64 string) round-trips for every valid namespace; the base64
    round trip itself (`b64_roundtrip`) holds for byte strings of every length -/
theorem serde_spec (ns : Ns) (h : obsOf (fromRaw ns) = .ok ns) :
    specSerde ns (obsOfOpt (deserialize (serialize ns))) = true := by
  have hr : fromRaw ns = .ok ns := by
    cases hh : fromRaw ns with
    | ok x => rw [hh] at h; simp only [obsOf, Obs.ok.injEq] at h; rw [h]
    | error e => rw [hh] at h; simp [obsOf] at h
  simp [serde_roundtrip ns hr, obsOfOpt, specSerde]

/-- non-vacuity: a concrete valid namespace, a concrete rejected one, a concrete reserved one -/
example : obsOf (fromRaw (List.replicate 19 0 ++ [1,2,3,4,5,6,7,8,9,10])) = .ok (List.replicate 19 0 ++ [1,2,3,4,5,6,7,8,9,10]) := by decide
example : obsOf (fromRaw (0 :: 1 :: List.replicate 27 0)) = .err := by decide
example : isReserved (List.replicate 28 0 ++ [4]) = true ∧ isReserved (List.replicate 27 0 ++ [1, 0]) = false := by decide

end Lumina.Props.C14

/-
  C20 — Failed store operations leave the store unchanged.

  For both store models: whenever a call returns an error, the STATE after the call is the
  state before it (hence every query answers the same, and a rejected batch can be corrected
  and inserted again).  In-memory store: for every reachable state (any history), proved for
  the code AFTER the `fix:` commit f29ec8a (hash pre-check in `insert`); the code before it
  violates the property (`mem_prefix_counterexample`).  Redb store: for every state whatsoever,
  from `write_tx` as written (commit only when the closure returned `Ok`) and the redb contract
  that `abort` discards the transaction's working copy (`RedbStore.WriteTxn`).
-/
import Lumina.Proofs.StoreHist
import Lumina.Gen.C20

open Lumina.Model.Store Lumina.Spec.C19
open Lumina.Model
open Lumina.Proofs.Store

namespace Lumina.Props.C20

/-- the models are of schema version 3 of the redb store -/
theorem schema_version : Lumina.Gen.C20.SCHEMA_VERSION = 3 := by decide

/-- IN-MEMORY STORE: after any history, a call that fails (any error kind: constraints,
    neighbour verification, header verification, duplicate hash anywhere in the batch, not
    found) leaves the state exactly as it was. -/
theorem mem_failed_op_unchanged (v : Hdr → Hdr → Bool) (ops : List Op) (op : Op)
    (hw : AllWf ops) (hop : op.wf = true) :
    let m := (runOps (MemStore.step v) MemStore.new ops).1
    (MemStore.step v m op).2.isErr = true → (MemStore.step v m op).1 = m := by
  obtain ⟨_, r, hi⟩ := mem_run_sim v ops hw _ _ rm_init absInv_init
  exact (mem_step_sim r hi v op hop).2.2

/-- … therefore every query answers the same before and after the failed call -/
theorem mem_failed_op_observations_unchanged (v : Hdr → Hdr → Bool) (ops : List Op) (op q : Op)
    (hw : AllWf ops) (hop : op.wf = true) :
    let m := (runOps (MemStore.step v) MemStore.new ops).1
    (MemStore.step v m op).2.isErr = true →
      (MemStore.step v (MemStore.step v m op).1 q).2 = (MemStore.step v m q).2 := by
  intro m h
  rw [mem_failed_op_unchanged v ops op hw hop h]

/-- … and a rejected batch can be corrected and re-inserted: the store behaves on the next
    call as if the failed call had never been made -/
theorem mem_failed_op_then (v : Hdr → Hdr → Bool) (ops : List Op) (op next : Op)
    (hw : AllWf ops) (hop : op.wf = true) :
    let m := (runOps (MemStore.step v) MemStore.new ops).1
    (MemStore.step v m op).2.isErr = true →
      MemStore.step v (MemStore.step v m op).1 next = MemStore.step v m next := by
  intro m h
  rw [mem_failed_op_unchanged v ops op hw hop h]

/-- REDB STORE: in ANY state a failed call leaves the committed tables unchanged.  Stated on
    `RedbStore.stepL`, the transcription of `write_tx` as written (begin, run the closure on the
    transaction, `if res.is_ok() { commit } else { abort }`), for EVERY `dirty` = whatever the
    failing closure had already written into the transaction.  Uses lumina's branch and the redb
    contract `WriteTxn.abort` (abort discards the working copy; crash behaviour is C22). -/
theorem redb_failed_op_unchanged (dirty : Tables → Tables) (v : Hdr → Hdr → Bool) (t : Tables) (op : Op) :
    (RedbStore.stepL dirty v t op).2.isErr = true → (RedbStore.stepL dirty v t op).1 = t := by
  intro h
  rw [stepL_eq_step] at h ⊢
  exact redb_err_unchanged v t op h

/-- `write_tx` as written realises the all-or-nothing summary `RedbStore.step` that the
    refinement theorems of C19/C21 and the driver use, whatever a failing closure leaves behind -/
theorem redb_write_tx_realises_summary (dirty : Tables → Tables) (v : Hdr → Hdr → Bool) (t : Tables) (op : Op) :
    RedbStore.stepL dirty v t op = RedbStore.step v t op :=
  stepL_eq_step dirty v t op

/-- … hence the statement on the summary too -/
theorem redb_summary_failed_op_unchanged (v : Hdr → Hdr → Bool) (t : Tables) (op : Op) :
    (RedbStore.step v t op).2.isErr = true → (RedbStore.step v t op).1 = t :=
  redb_err_unchanged v t op

/-- the in-memory store never panics (a panic could leave a partial mutation behind) -/
theorem mem_no_panic (v : Hdr → Hdr → Bool) (ops : List Op) (op : Op)
    (hw : AllWf ops) (hop : op.wf = true) :
    (MemStore.step v (runOps (MemStore.step v) MemStore.new ops).1 op).2 ≠ .err .panic := by
  obtain ⟨_, r, hi⟩ := mem_run_sim v ops hw _ _ rm_init absInv_init
  rw [(mem_step_sim r hi v op hop).1]
  exact abs_never_panics v _ op

/-! ### the finding (code before the `fix:` commit) and non-vacuity -/

def cexV : Hdr → Hdr → Bool := fun _ _ => true
def hd (i height hash : Nat) : Hdr := ⟨i, height, hash, true⟩
/-- heights 1, 2 stored -/
def cexStore : MemStore := (MemStore.stepWith false cexV MemStore.new (.insert [hd 0 1 100, hd 1 2 101])).1
/-- a batch 3..4 whose second header repeats the hash of the stored header 1 -/
def cexBatch : List Hdr := [hd 2 3 102, hd 3 4 100]

/-- FINDING (code before the fix, `precheck = false`): the in-memory store rejects the batch
    with `HashExists`, but `get_by_height(3)` answers differently afterwards. -/
theorem mem_prefix_counterexample :
    (MemStore.stepWith false cexV cexStore (.insert cexBatch)).2 = .err (.hashExists 100) ∧
    (MemStore.stepWith false cexV (MemStore.stepWith false cexV cexStore (.insert cexBatch)).1 (.getByHeight 3)).2
      = .ok (.hdr (hd 2 3 102)) ∧
    (MemStore.stepWith false cexV cexStore (.getByHeight 3)).2 = .err .notFound := by
  decide +kernel

/-- the same call on the fixed code: same error, state untouched -/
example : (MemStore.step cexV cexStore (.insert cexBatch)).2 = .err (.hashExists 100) ∧
    (MemStore.step cexV cexStore (.insert cexBatch)).1.headers = cexStore.headers ∧
    (MemStore.step cexV (MemStore.step cexV cexStore (.insert cexBatch)).1 (.getByHeight 3)).2 = .err .notFound := by
  decide +kernel

/-- failing calls of every kind exist (the hypotheses of the theorems are not vacuous) -/
example : (MemStore.step cexV cexStore (.insert [hd 1 2 101])).2 = .err (.constraintsNotMet .overlap) ∧
    (MemStore.step cexV cexStore (.insert [hd 7 9 107, hd 9 11 109])).2 = .err .headersVerificationFailed ∧
    (MemStore.step (fun _ _ => false) cexStore (.insert [hd 2 3 102])).2 = .err .neighborsVerificationFailed ∧
    (MemStore.step cexV cexStore (.remove 7)).2 = .err .notFound ∧
    (RedbStore.stepL id cexV RedbStore.new (.mark 3)).2 = .err .notFound := by
  decide +kernel

/-- the redb theorem is about lumina's branch, not true by construction: a `write_tx` that
    committed on the error path too would publish the partial writes of a failing closure -/
def writeTxCommitAlways {α : Type} (dirty : Tables → Tables) (f : Tables → Except Err (Tables × α)) (t : Tables) :
    Tables × Except Err α :=
  let (tx, res) := (RedbStore.beginWrite t).run f dirty
  (tx.commit, res)

example : ∃ (dirty : Tables → Tables) (t : Tables),
    (toRes (writeTxCommitAlways dirty (RedbStore.removeHeightTx 7) t).2 (fun _ => Out.unit)).isErr = true ∧
    (writeTxCommitAlways dirty (RedbStore.removeHeightTx 7) t).1 ≠ t :=
  ⟨fun t => { t with headers := [(9, hd 9 9 109)] }, RedbStore.new, by decide +kernel, by
    intro h
    have : (writeTxCommitAlways (fun t => { t with headers := [(9, hd 9 9 109)] })
        (RedbStore.removeHeightTx 7) RedbStore.new).1.headers = RedbStore.new.headers := by rw [h]
    revert this; decide +kernel⟩

end Lumina.Props.C20

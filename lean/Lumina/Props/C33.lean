/-
  C33 — Data sampling marks a block sampled only after full success.

  Property theorems over the worker model `Lumina.Model.Daser` (transcription of
  `/repo/node/src/daser.rs`), for ALL states reachable by ANY history of stimuli (network answers —
  success or timeout — to any pending request in any order, store inserts and removals, peer-count
  changes, pruner commands) and ANY raw draws of the random number generator.  The property is the
  monitor `Lumina.Spec.C33`; `view33` is what the monitor sees of a state.
  Lemmas: `Lumina/Proofs/Daser.lean`, `Lumina/Proofs/DaserIndexes.lean`; for the history form
  `Lumina/Proofs/DaserSampled.lean`, `Lumina/Proofs/SampledShares.lean`.
-/
import Lumina.Gen.C33
import Lumina.Proofs.Daser
import Lumina.Proofs.DaserSampled
import Lumina.Proofs.SampledShares

namespace Lumina.Props.C33
open Lumina.Model.Daser Lumina.Proofs.Daser Lumina.Proofs.DaserIndexes
open Lumina.Spec.C33

/-- at most 16 shares are sampled per block, the number the property states -/
theorem max_samples_is_16 : Lumina.Gen.C33.MAX_SAMPLES_NEEDED = 16 := by decide

/-- (used by the shared invariant; the number itself is C34's subject) -/
theorem pruner_threshold_is_512 : Lumina.Gen.C33.PRUNER_THRESHOLD = 512 := by decide

/-- a freshly created worker (any limits, any header chain) satisfies the invariant -/
theorem init_ok (limit extra : Nat) (hdr : Nat → Hdr) :
    StateOK (init { limit := limit, extra := extra, maxSamples := Lumina.Gen.C33.MAX_SAMPLES_NEEDED,
                    prunerThreshold := Lumina.Gen.C33.PRUNER_THRESHOLD } hdr) :=
  ⟨inv_init _ _, pruner_threshold_is_512, max_samples_is_16⟩

/-! ### `random_indexes`, every width -/

/-- whatever the generator draws: if `random_indexes(w, 16)` returns, the indexes are pairwise distinct,
    inside the `w × w` square, and there are exactly `min (w², 16)` of them -/
theorem random_indexes_ok (w : Nat) (draws : List (Nat × Nat)) (out : List Share)
    (h : randomIndexes w Lumina.Gen.C33.MAX_SAMPLES_NEEDED draws = some out) :
    out.Nodup ∧ (∀ p ∈ out, p.1 < w ∧ p.2 < w) ∧ out.length = min (w * w) 16 :=
  randomIndexes_spec w 16 draws out h

/-- squares with at most 16 cells are sampled completely, without randomness -/
theorem random_indexes_whole_square (w : Nat) (draws : List (Nat × Nat)) (h : w * w ≤ 16) :
    randomIndexes w Lumina.Gen.C33.MAX_SAMPLES_NEEDED draws = some (fullGrid w) ∧
    ∀ p, p ∈ fullGrid w ↔ p.1 < w ∧ p.2 < w :=
  ⟨randomIndexes_small w 16 draws h, mem_fullGrid w⟩

/-- the `while indexes.len() < 16` loop can always exit: for every wider square there are draws on which
    it terminates (the size argument: `w² > 16` distinct cells exist, each iteration adds at most one) -/
theorem random_indexes_can_exit (w : Nat) (h : 16 < w * w) :
    ∃ draws, (randomIndexes w Lumina.Gen.C33.MAX_SAMPLES_NEEDED draws).isSome = true :=
  randomIndexes_can_exit w 16 h

/-! ### the worker -/

/-- **one stimulus.**  From any state satisfying the invariant, for any stimulus with `u64` arguments and
    any raw draws: the invariant holds afterwards and the C33 monitor accepts every action of the worker:
    every `mark_as_sampled` directly follows a `SamplingResult` without timeout of a block with nothing
    pending; every request is for a share already recorded in the block's sampling metadata; the chosen
    shares are distinct, in-square and `min (w², 16)` many. -/
theorem step_accepted (s : State) (ev : Ev) (rnd : List (List (Nat × Nat))) (hs : StateOK s) (hwf : EvWF ev) :
    specOK (view33 s) ev (step s ev rnd).2 = true ∧ StateOK (step s ev rnd).1 :=
  ⟨(step_ok hs ev hwf rnd).2.2, (step_ok hs ev hwf rnd).1⟩

/-- **every history**, in whatever order the network answers and whatever else happens meanwhile -/
theorem history_accepted (limit extra : Nat) (hdr : Nat → Hdr)
    (evs : List (Ev × List (List (Nat × Nat)))) (hwf : ∀ e ∈ evs, EvWF e.1) :
    accepts33 (init { limit := limit, extra := extra, maxSamples := Lumina.Gen.C33.MAX_SAMPLES_NEEDED,
                      prunerThreshold := Lumina.Gen.C33.PRUNER_THRESHOLD } hdr) evs = true :=
  (run_ok evs _ (init_ok limit extra hdr) hwf).2.1

/-- **answers that are neither a sample nor a timeout** (a P2p error, bytes that are not a `Block`, a block for a
    different CID, a container that does not decode to the requested sample): what the worker does.  If the request
    was pending, the worker stops with `FatalDaserError` — nothing else is observable, in particular no
    `mark_as_sampled` — and is dead afterwards with no sampling in progress; otherwise nothing happens. -/
theorem bad_answer_stops_worker (s : State) (h : Nat) (p : Share) (hs : StateOK s) :
    (onBadAnswer s h p = (s, []) ∨
     (onBadAnswer s h p).2 = [Tok.fatal] ∧ (onBadAnswer s h p).1.w.dead = true ∧ (onBadAnswer s h p).1.w.futs = [] ∧
       (onBadAnswer s h p).1.store = s.store) ∧
    (∀ x, Tok.mark x ∉ (onBadAnswer s h p).2) ∧
    specBadAnswer (view33 s) (onBadAnswer s h p).2 = true ∧ StateOK (onBadAnswer s h p).1 := by
  obtain ⟨h1, _, h3, h4⟩ := onBadAnswer_ok hs h p
  refine ⟨?_, ?_, h3, h1⟩
  · rcases h4 with h4 | h4
    · exact Or.inl h4
    · right; rw [h4]; exact ⟨rfl, rfl, rfl, rfl⟩
  · intro x
    rcases h4 with h4 | h4 <;> rw [h4] <;> simp

/-- once dead the worker marks nothing, whatever happens -/
theorem dead_worker_marks_nothing (s : State) (st : Stim) (hd : s.w.dead = true) (x : Nat) :
    Tok.mark x ∉ (stepX s st).2 := by
  cases st with
  | ev e rnd =>
    simp only [stepX, step, hd, if_true]
    exact (Lumina.Proofs.DaserSampled.stepDead_futs s e).2.2.2 x
  | badAnswer h p => simp [stepX, onBadAnswer, hd]

/-- **every history, including such answers**: the C33 monitor accepts everything -/
theorem history_with_bad_answers_accepted (limit extra : Nat) (hdr : Nat → Hdr) (sts : List Stim)
    (hwf : ∀ st ∈ sts, StimWF st) :
    acceptsX33 (init { limit := limit, extra := extra, maxSamples := Lumina.Gen.C33.MAX_SAMPLES_NEEDED,
                       prunerThreshold := Lumina.Gen.C33.PRUNER_THRESHOLD } hdr) sts = true :=
  (runX_ok sts _ (init_ok limit extra hdr) hwf).2.1

/-! ### what acceptance by the monitor means, action by action -/

/-- `sharesOK`, spelled out -/
theorem sharesOK_spelled_out (w : Nat) (shares : List Share) (h : sharesOK w shares = true) :
    shares.Nodup ∧ (∀ p ∈ shares, p.1 < w ∧ p.2 < w) ∧ shares.length = min (w * w) 16 :=
  (sharesOK_iff w shares).1 h

/-- an accepted `mark_as_sampled(h)`: block `h` is the one that has just finished with every share retrieved -/
theorem accepted_mark (v : View) (h : Nat) (ts : List Tok) (hacc : (walk v (Tok.mark h :: ts)).isSome = true) :
    v.justOk = some h := by
  simp only [walk, onTok] at hacc
  by_cases hj : v.justOk = some h
  · exact hj
  · have : (v.justOk == some h) = false := by simpa using hj
    simp [this] at hacc

/-- an accepted `SamplingResult(h, timed_out)`: nothing of block `h` is pending, and `timed_out` says
    whether some share timed out; only a result without timeout arms `mark_as_sampled` -/
theorem accepted_result (v : View) (h : Nat) (to : Bool) (ts : List Tok)
    (hacc : (walk v (Tok.result h to :: ts)).isSome = true) :
    ∃ b, findBlk v h = some b ∧ b.pending = [] ∧ b.anyTimeout = to := by
  simp only [walk, onTok] at hacc
  cases hb : findBlk v h with
  | none => rw [hb] at hacc; simp at hacc
  | some b =>
    rw [hb] at hacc
    refine ⟨b, rfl, ?_⟩
    by_cases hc : (b.pending.isEmpty && to == b.anyTimeout) = true
    · simp only [Bool.and_eq_true, List.isEmpty_iff, beq_iff_eq] at hc
      exact ⟨hc.1, hc.2.symm⟩
    · simp [hc] at hacc

/-- accepted requests of block `h`: exactly the chosen shares, each already recorded in `h`'s sampling metadata -/
theorem accepted_requests (v : View) (h : Nat) (shares : List Share) (ts : List Tok)
    (hacc : (walk v (Tok.req h shares :: ts)).isSome = true) :
    ∃ b, findBlk v h = some b ∧ sameSet shares b.chosen = true ∧ shares.Nodup ∧ ∀ p ∈ shares, p ∈ v.recorded h := by
  simp only [walk, onTok] at hacc
  cases hb : findBlk v h with
  | none => rw [hb] at hacc; simp at hacc
  | some b =>
    rw [hb] at hacc
    refine ⟨b, rfl, ?_⟩
    dsimp only at hacc
    split at hacc
    · simp at hacc
    · rename_i v' heq
      split at heq
      · rename_i hc
        simp only [Bool.and_eq_true, decide_eq_true_eq, List.all_eq_true, List.contains_iff_mem] at hc
        exact ⟨hc.1.1, hc.1.2, hc.2⟩
      · simp at heq

/-- an accepted `update_sampling_metadata(h, cids)`: the chosen shares are distinct, inside the square of
    `h`'s header and `min (w², 16)` many, and `h` is not already being sampled -/
theorem accepted_choice (v : View) (h : Nat) (cids : List Share) (ts : List Tok)
    (hacc : (walk v (Tok.metaUpd h cids :: ts)).isSome = true) :
    sharesOK (v.width h) cids = true ∧ findBlk v h = none := by
  simp only [walk, onTok] at hacc
  by_cases hc : (sharesOK (v.width h) cids && (findBlk v h).isNone) = true
  · simp only [Bool.and_eq_true, Option.isNone_iff_eq_none] at hc
    exact hc
  · simp [hc] at hacc

/-! ### non-vacuity: concrete histories -/

def cfg0 : Cfg := { limit := 2, extra := 0, maxSamples := Lumina.Gen.C33.MAX_SAMPLES_NEEDED,
                    prunerThreshold := Lumina.Gen.C33.PRUNER_THRESHOLD }
/-- heights 1, 2: width 2 (whole square sampled); height 3: width 5 (16 of 25 cells) -/
def hdr0 : Nat → Hdr := fun h => { width := if h = 3 then 5 else 2, fresh := true }
def s0 : State := init cfg0 hdr0
def g2 : List Share := [(0,0),(0,1),(1,0),(1,1)]
/-- raw draws for the 5 × 5 block: a repeated cell and out-of-range values are reduced mod 5 and deduplicated -/
def draws3 : List (Nat × Nat) :=
  [(0,0),(5,5),(0,1),(0,2),(0,3),(0,4),(1,0),(1,1),(1,2),(1,3),(1,4),(2,0),(2,1),(2,2),(2,3),(7,4),(3,0),(9,9)]
def sel3 : List Share :=
  [(0,0),(0,1),(0,2),(0,3),(0,4),(1,0),(1,1),(1,2),(1,3),(1,4),(2,0),(2,1),(2,2),(2,3),(2,4),(3,0)]

example : randomIndexes 5 16 draws3 = some sel3 := by decide +kernel

/-- blocks 3 and 2 are started; 2 is answered completely and successfully → marked; one share of 3 times out,
    the other 15 succeed → `SamplingResult(3, timed_out)` and no mark -/
def h1 : List (Ev × List (List (Nat × Nat))) :=
  [(.insert 1 3, []), (.peers 1, [draws3, []]),
   (.answer 2 (0,0) false, []), (.answer 2 (1,1) false, []), (.answer 2 (0,1) false, []), (.answer 2 (1,0) false, [[]])] ++
  (sel3.map (fun p => (Ev.answer 3 p (p == (1,3)), ([[]] : List (List (Nat × Nat))))))

set_option maxRecDepth 100000 in
example : (run s0 h1).2.take 6 =
    [[], [Tok.scan, Tok.metaUpd 3 sel3, Tok.metaUpd 2 g2, Tok.started 3 5 sel3, Tok.started 2 2 g2, Tok.req 3 sel3, Tok.req 2 g2],
     [Tok.share 2 (0,0) false], [Tok.share 2 (1,1) false], [Tok.share 2 (0,1) false],
     [Tok.share 2 (1,0) false, Tok.result 2 false, Tok.mark 2, Tok.metaUpd 1 g2, Tok.started 1 2 g2, Tok.req 1 g2]] := by decide +kernel

set_option maxRecDepth 100000 in
example : ((run s0 h1).2.getLast?) = some [Tok.share 3 (3,0) false, Tok.result 3 true] := by decide +kernel

set_option maxRecDepth 100000 in
example : accepts33 s0 h1 = true := by decide +kernel

set_option maxRecDepth 100000 in
/-- a bad answer for the LAST pending share of block 2 (the other three succeeded): the worker dies, block 2 is not marked -/
example : (onBadAnswer (run s0 (h1.take 5)).1 2 (1,0)).2 = [Tok.fatal] ∧
    (onBadAnswer (run s0 (h1.take 5)).1 2 (1,0)).1.w.dead = true := by decide +kernel

/-- the monitor is not trivially accepting: a mark without a preceding successful result, a request for an
    unrecorded share, and a choice with a repeated share are all rejected -/
example : specOK (view33 (run s0 (h1.take 3)).1) (.answer 2 (1,1) false) [Tok.share 2 (1,1) false, Tok.mark 2] = false := by decide +kernel
example : specOK (view33 (run s0 (h1.take 2)).1) (.peers 1) [Tok.req 2 [(0,0),(0,1),(1,0),(4,4)]] = false := by decide +kernel
example : specOK (view33 s0) (.peers 1) [Tok.metaUpd 2 [(0,0),(0,0),(1,0),(1,1)]] = false := by decide +kernel
example : specOK (view33 s0) (.peers 1) [Tok.metaUpd 3 g2] = false := by decide +kernel

/-! ### the history form of "marked only after full success", and its composition with C10

`mark_all_retrieved` needs no assumption: it is a ghost-history invariant of the worker model
(`Proofs/DaserSampled.lean`), the temporal reading of what the monitor checks step by step (`accepted_mark`,
`accepted_result`, `accepted_choice`).  `sampled_shares_checked` combines it with C10's `mh_sample_sound` under ONE
explicit assumption about third-party code, `BeetswapContract`, and collision-freeness of the hash relative to the inputs
actually hashed (`HashOKOn H S`). -/

open Lumina.Proofs.DaserSampled in
/-- **every history, whole-history form.**  Whenever the worker calls `mark_as_sampled(h)` — in reaction to stimulus `ev`
    after ANY history `pre` (answers in any order, timeouts, store changes, reconnections, any draws) — there is a set
    of shares of block `h`, pairwise distinct, inside the square of `h`'s header, `min (w², 16)` many, EACH of which was
    answered successfully (`Ok(sample)`, not a timeout) by the network while its request was outstanding, at some
    point of the history up to and including `ev` (`hits`). -/
theorem mark_all_retrieved (limit extra : Nat) (hdr : Nat → Hdr)
    (pre : List (Ev × List (List (Nat × Nat)))) (ev : Ev) (rnd : List (List (Nat × Nat))) (h : Nat)
    (hm : Tok.mark h ∈ (step (run (init { limit := limit, extra := extra, maxSamples := Lumina.Gen.C33.MAX_SAMPLES_NEEDED, prunerThreshold := Lumina.Gen.C33.PRUNER_THRESHOLD } hdr) pre).1
        ev rnd).2) :
    ∃ shares : List Share, shares.Nodup ∧ (∀ p ∈ shares, p.1 < (hdr h).width ∧ p.2 < (hdr h).width) ∧
      shares.length = min ((hdr h).width * (hdr h).width) 16 ∧
      ∀ p ∈ shares, (h, p) ∈ hits (init { limit := limit, extra := extra, maxSamples := Lumina.Gen.C33.MAX_SAMPLES_NEEDED, prunerThreshold := Lumina.Gen.C33.PRUNER_THRESHOLD } hdr)
        (pre ++ [(ev, rnd)]) := by
  generalize hs0 : init _ hdr = s0 at hm ⊢
  have h16 : s0.cfg.maxSamples = 16 := by rw [← hs0]; exact max_samples_is_16
  have hhdr : s0.hdr = hdr := by rw [← hs0]; rfl
  have h0 : FutsOK s0 [] := by
    intro f hf; rw [← hs0] at hf; simp [init, Worker.init] at hf
  obtain ⟨h1, h2, h3⟩ := run_futsOK pre s0 [] h16 h0
  obtain ⟨_, _, _, h4⟩ := step_futsOK (run s0 pre).1 ev rnd _ (by rw [h3]; exact h16) h1
  obtain ⟨shares, hok, hall⟩ := h4 h hm
  rw [h2, hhdr] at hok
  obtain ⟨k1, k2, k3⟩ := sharesOK_spelled_out _ _ hok
  refine ⟨shares, k1, k2, k3, fun p hp => ?_⟩
  rw [hits_append]
  simpa using hall p hp

open Lumina.Model.ShwapHasher Lumina.Proofs.SampledShares in
/-- **The beetswap contract** — an ASSUMPTION about third-party code (beetswap's bitswap client), not proved here: a
    sample request is answered successfully only with a block for which the registered multihasher
    (`ShwapMultihasher`, the subject of C10) yielded exactly the multihash of the REQUESTED CID
    (`sample_cid(row, col, height)`), run against a header store each of whose headers commits to the square `sq` of
    its height.  (beetswap hashes every received block with the multihasher registered for the block's multihash
    code, rebuilds the CID from the result and resolves a query only if that CID is on its wantlist.)
    `S` is the set of byte strings the hash is assumed collision-free on: the contract also says that
    what was hashed for those stores' squares (`StoreCommits`) and by the verification of the delivered block
    (`sampleBlockInputs`) lies in `S` — i.e. `S` ⊇ the union, over the successful answers of the history, of the inputs
    actually hashed. -/
def BeetswapContract (H : Lumina.Model.Nmt.HashFn) (S : Lumina.Util.Bytes → Prop) (P : Params)
    (sq : Nat → Lumina.Model.Eds.Eds) (kk : Nat → Nat) (answered : List (Nat × Share)) : Prop :=
  ∀ hp ∈ answered, ∃ store blk, StoreCommits H S sq kk store ∧
    multihash H P store Lumina.Gen.C15.SAMPLE_ID_MULTIHASH_CODE blk = .ok (mhBytes (sampleCid hp.1 hp.2)) ∧
    ∀ y ∈ sampleBlockInputs H P blk, S y

open Lumina.Model.ShwapHasher Lumina.Proofs.SampledShares Lumina.Proofs.DaserSampled in
/-- **A block marked sampled really had its shares checked** (C33 × C10), modest form.  Hypotheses: the hash has
    32-byte output and NO COLLISION AMONG the byte strings of `S` (`HashOKOn H S` — satisfiable, see the instance below;
    injectivity on all byte strings would be contradictory); the beetswap contract for the
    successful answers of the history, which ties `S` to what was actually hashed; heights are `u64` and square widths
    `u16` values (the Rust types).  Then whenever the worker marks height `h` as sampled there are `min (w², 16)`
    pairwise distinct in-square coordinates of `h`'s square for each of which a block was delivered whose decoded sample
    carries exactly the COMMITTED share at that coordinate (the share of the square that the stored header's DAH commits
    to).  What is NOT claimed: anything about beetswap itself, or that the store consulted by the multihasher and the
    header chain `hdr` the worker reads describe the same headers (both are parameters). -/
theorem sampled_shares_checked {H : Lumina.Model.Nmt.HashFn} {S : Lumina.Util.Bytes → Prop}
    (hk : Lumina.Proofs.Nmt.HashOKOn H S) (P : Params)
    (sq : Nat → Lumina.Model.Eds.Eds) (kk : Nat → Nat) (limit extra : Nat) (hdr : Nat → Hdr)
    (hwid : ∀ x, (hdr x).width ≤ 65536)
    (pre : List (Ev × List (List (Nat × Nat)))) (ev : Ev) (rnd : List (List (Nat × Nat))) (h : Nat) (hh : h < 2 ^ 64)
    (hbs : BeetswapContract H S P sq kk (hits (init { limit := limit, extra := extra, maxSamples := Lumina.Gen.C33.MAX_SAMPLES_NEEDED, prunerThreshold := Lumina.Gen.C33.PRUNER_THRESHOLD } hdr)
        (pre ++ [(ev, rnd)])))
    (hm : Tok.mark h ∈ (step (run (init { limit := limit, extra := extra, maxSamples := Lumina.Gen.C33.MAX_SAMPLES_NEEDED, prunerThreshold := Lumina.Gen.C33.PRUNER_THRESHOLD } hdr) pre).1
        ev rnd).2) :
    ∃ shares : List Share, shares.Nodup ∧ (∀ p ∈ shares, p.1 < (hdr h).width ∧ p.2 < (hdr h).width) ∧
      shares.length = min ((hdr h).width * (hdr h).width) 16 ∧
      ∀ p ∈ shares, ∃ blk, CarriesCommittedShare P sq h p blk := by
  obtain ⟨shares, k1, k2, k3, k4⟩ := mark_all_retrieved limit extra hdr pre ev rnd h hm
  refine ⟨shares, k1, k2, k3, fun p hp => ?_⟩
  obtain ⟨store, blk, hst, hok, hV⟩ := hbs (h, p) (k4 p hp)
  have hw := hwid h
  have hp12 := k2 p hp
  exact ⟨blk, accepted_block_is_committed_share hk P hst hh (by omega) (by omega) hok hV⟩

/-! ### non-vacuity of `mark_all_retrieved` and `sampled_shares_checked`

In the concrete history `h1` block 2 IS marked (premise `hm`), with the four hits of its 2 × 2 square.  For
`sampled_shares_checked` a complete concrete instance: the toy hash `toySum` (`Proofs/Sample.lean`; it has collisions, but none among the
inputs below — `decide`), the 2 × 2 square `okEds` committed at height 2, four honest SAMPLE blocks (one per cell, built by
`Sample::new`), toy protobuf parameters.  Every hypothesis holds — relative collision-freeness on the 21 hashed inputs, the
beetswap contract for the four hits — and the theorem, applied, yields four distinct coordinates with their committed
shares. -/

theorem nonvacuity_marked : Tok.mark 2 ∈ (step (run s0 (h1.take 5)).1 (.answer 2 (1,0) false) [[]]).2 ∧
    Lumina.Proofs.DaserSampled.hits s0 (h1.take 5 ++ [(.answer 2 (1,0) false, [[]])]) =
      [(2,(0,0)), (2,(1,1)), (2,(0,1)), (2,(1,0))] := by decide +kernel

open Lumina.Model.Decoders Lumina.Model.ShwapId in
/-- the honest SAMPLE block for cell `(k / 2, k % 2)` of `okEds` at height 2, as `shwap.Sample` -/
def cellRaw (k : Nat) : RawSample :=
  match Lumina.Model.Sample.new Lumina.Proofs.Sample.toySum Lumina.Props.C04.okEds (k / 2) (k % 2) .row with
  | .ok s => ⟨some s.share.data,
      some ⟨s.proof.start, s.proof.end_, s.proof.siblings.map Lumina.Model.Nmt.NsHash.toBytes, [], s.proof.ignoreMaxNs⟩, 0⟩
  | .error _ => ⟨none, none, 0⟩

open Lumina.Model.ShwapHasher Lumina.Model.ShwapId in
/-- block `[k]` carries the sample of cell `k` -/
def cellP : Params where
  decodeBlock := fun b => match b with
    | [k] => some ((SampleId.mk ⟨⟨2⟩, k.toNat / 2⟩ (k.toNat % 2)).toCid.toBytes, [k])
    | _ => none
  decodeSample := fun c => match c with
    | [k] => some (cellRaw k.toNat)
    | _ => none
  decodeRow := fun _ => none
  decodeRnd := fun _ => none
  codec := ⟨fun s _ => s, fun s _ => s⟩

def cellStore : Nat → Option Lumina.Model.Eds.Dah := fun h => if h = 2 then some Lumina.Props.C10.okSumDah else none

/-- everything hashed for the committed square and by the verification of the four blocks -/
def cellHashed : List Lumina.Util.Bytes :=
  Lumina.Proofs.Eds.edsInputs Lumina.Proofs.Sample.toySum Lumina.Props.C04.okEds ++
    ([0, 1, 2, 3] : List UInt8).flatMap (fun k =>
      Lumina.Proofs.SampledShares.sampleBlockInputs Lumina.Proofs.Sample.toySum cellP [k])

open Lumina.Model.ShwapHasher Lumina.Proofs.SampledShares Lumina.Props.C10 in
/-- the four blocks of `cellP` evaluated once; `nonvacuity_cellHashed` and `nonvacuity_cells_accepted` below are its parts
    (the verifiers hash nothing that the trees of the square did not, and accept each block for its cell) -/
theorem cells_evaluated :
    ((([0, 1, 2, 3] : List UInt8).flatMap (fun k =>
        Lumina.Proofs.SampledShares.sampleBlockInputs Lumina.Proofs.Sample.toySum cellP [k])).all
      (fun y => decide (y ∈ Lumina.Proofs.Eds.edsInputs Lumina.Proofs.Sample.toySum Lumina.Props.C04.okEds)) = true ∧
      cellHashed.length = 21) ∧
    ∀ k ∈ ([0, 1, 2, 3] : List UInt8),
      yields (multihash Lumina.Proofs.Sample.toySum cellP cellStore Lumina.Gen.C15.SAMPLE_ID_MULTIHASH_CODE [k])
        (sampleCid 2 (k.toNat / 2, k.toNat % 2)) = true := by
  unfold cellHashed cellP cellRaw cellStore okSumDah
  rw [Lumina.Proofs.Sample.toySum_eq_lanes]
  decide +kernel

theorem nonvacuity_cellHashed :
    Lumina.Proofs.Nmt.NoCollOn Lumina.Proofs.Sample.toySum (fun y => y ∈ cellHashed) ∧ cellHashed.length = 21 :=
  ⟨Lumina.Proofs.Sample.noCollOn_append_of_all Lumina.Props.C04.toySum_nocoll_okEds cells_evaluated.1.1, cells_evaluated.1.2⟩

open Lumina.Model.ShwapHasher Lumina.Proofs.SampledShares Lumina.Props.C10 in
theorem nonvacuity_cells_accepted : ∀ k ∈ ([0, 1, 2, 3] : List UInt8),
    yields (multihash Lumina.Proofs.Sample.toySum cellP cellStore Lumina.Gen.C15.SAMPLE_ID_MULTIHASH_CODE [k])
      (sampleCid 2 (k.toNat / 2, k.toNat % 2)) = true :=
  cells_evaluated.2

open Lumina.Model.ShwapHasher Lumina.Proofs.SampledShares Lumina.Props.C10 Lumina.Proofs.Sample Lumina.Props.C04 in
/-- the beetswap contract holds of the four hits of the concrete history -/
theorem nonvacuity_contract :
    BeetswapContract toySum (fun y => y ∈ cellHashed) cellP (fun _ => okEds) (fun _ => 1)
      [(2,(0,0)), (2,(1,1)), (2,(0,1)), (2,(1,0))] := by
  have hstore : StoreCommits toySum (fun y => y ∈ cellHashed) (fun _ => okEds) (fun _ => 1) cellStore := by
    intro h d hs
    have hd : d = okSumDah := by
      by_cases h1 : h = 2
      · simp [cellStore, h1] at hs; exact hs.symm
      · simp [cellStore, h1] at hs
    subst hd
    exact ⟨sumDah_ok, rfl, Lumina.Props.C06.nonvacuity_okEds_shape.size, fun y hy => List.mem_append_left _ hy⟩
  have cell : ∀ k ∈ ([0, 1, 2, 3] : List UInt8), ∃ store blk,
      StoreCommits toySum (fun y => y ∈ cellHashed) (fun _ => okEds) (fun _ => 1) store ∧
      multihash toySum cellP store Lumina.Gen.C15.SAMPLE_ID_MULTIHASH_CODE blk =
        .ok (mhBytes (sampleCid 2 (k.toNat / 2, k.toNat % 2))) ∧
      ∀ y ∈ sampleBlockInputs toySum cellP blk, y ∈ cellHashed := by
    intro k hk
    refine ⟨cellStore, [k], hstore, yields_ok (nonvacuity_cells_accepted k hk), fun y hy => ?_⟩
    exact List.mem_append_right _ (List.mem_flatMap.mpr ⟨k, hk, hy⟩)
  intro hp hmem
  simp only [List.mem_cons, List.not_mem_nil, or_false] at hmem
  rcases hmem with rfl | rfl | rfl | rfl
  · exact cell 0 (by decide)
  · exact cell 3 (by decide)
  · exact cell 1 (by decide)
  · exact cell 2 (by decide)

open Lumina.Proofs.SampledShares Lumina.Proofs.Sample Lumina.Props.C04 in
/-- **`sampled_shares_checked` applied**: block 2 of the concrete history is marked, and the theorem gives four distinct
    cells of the committed square, each with a delivered block that carries the committed share -/
example : ∃ shares : List Share, shares.Nodup ∧ shares.length = 4 ∧
    ∀ p ∈ shares, ∃ blk, CarriesCommittedShare cellP (fun _ => okEds) 2 p blk := by
  have hbs : BeetswapContract toySum (fun y => y ∈ cellHashed) cellP (fun _ => okEds) (fun _ => 1)
      (Lumina.Proofs.DaserSampled.hits s0 (h1.take 5 ++ [(.answer 2 (1,0) false, [[]])])) := by
    rw [nonvacuity_marked.2]; exact nonvacuity_contract
  obtain ⟨shares, k1, _, k3, k4⟩ :=
    sampled_shares_checked ⟨nonvacuity_cellHashed.1, toySum_len⟩ cellP (fun _ => okEds) (fun _ => 1) 2 0 hdr0
      (fun x => by simp only [hdr0]; split <;> omega) (h1.take 5) (.answer 2 (1,0) false) [[]] 2 (by decide) hbs
      nonvacuity_marked.1
  exact ⟨shares, k1, by rw [k3]; decide, k4⟩

end Lumina.Props.C33

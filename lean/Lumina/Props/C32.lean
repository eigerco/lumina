/-
  C32 — Header-ex requests are retried boundedly and answered once.

  Model: Lumina/Model/Retry.lean (`run evs` = the client after an ARBITRARY sequence of events:
  requests, scheduling rounds with any peer population and any peer choice, responses / failures
  for any (request, attempt) — stale and duplicated ones included —, callers going away, stop).
  Spec: Lumina/Spec/C32.lean.
-/
import Lumina.Proofs.Retry
import Lumina.Gen.C32

namespace Lumina.Props.C32
open Lumina.Model.Retry Lumina.Proofs.Retry
open Lumina.Spec.C32 (specSends specAnswers specScheduleProgress specStopProgress specOutcomeAnswers
  specRequestAnswers specStopAnswers specQuietStep)

/-- "three" is `MAX_TRIES` -/
theorem consts_eq : Lumina.Gen.C32.MAX_TRIES = 3 ∧ Lumina.Gen.C32.MAX_TRIES = MAX_TRIES := by decide

/-- **at most three sends, at most one answer** — counted in the emitted trace, for every request id and
    every event sequence -/
theorem sends_le_three_answers_le_one (evs : List Ev) (i : Nat) :
    sendsOf i (run evs).2 ≤ 3 ∧ answersOf i (run evs).2 ≤ 1 := by
  have hs := run_inv evs
  have hnd := ids_nodup _ hs
  obtain ⟨h1, h2⟩ := run_tinv evs i
  rw [h1, h2]
  exact ⟨tally_le _ i 3 _ hnd (fun r hr => (hs.recs r hr).sendsLe),
    tally_le _ i 1 _ hnd (fun r hr => (hs.recs r hr).answersLe)⟩

/-- every step of every run: the requests it sends go to connected peers only, never exceed three per
    request, the third goes to an archival peer, nothing is sent for an answered request -/
theorem sends_spec (evs : List Ev) (ev : Ev) :
    specSends (knownFor (run evs).1 ev) ((step (run evs).1 ev).2.filterMap sentOf) = true :=
  step_sends_spec _ ev (run_inv evs)

/-- every step of every run: no caller is answered twice -/
theorem answers_spec (evs : List Ev) (ev : Ev) :
    specAnswers (knownFor (run evs).1 ev) ((step (run evs).1 ev).2.filterMap answeredOf) = true :=
  step_answers_spec _ ev (run_inv evs)

/-- **answered whenever peers of the required kind are connected** (1): at a scheduling step every waiting
    request whose caller is still there is sent, provided a connected peer exists (an archival one for
    the third attempt) — whatever the history, the peer population and the shuffle -/
theorem schedule_progress (evs : List Ev) (peers : List Peer) (choice : Nat → Nat) :
    specScheduleProgress (knownFor (run evs).1 (.schedule peers choice))
      (peers.any (·.connected)) (peers.any (fun p => p.connected && p.archival))
      ((step (run evs).1 (.schedule peers choice)).2.filterMap sentOf) = true :=
  schedule_progress_spec _ peers choice (run_inv evs)

/-- (2): the outcome of the outstanding attempt answers the request (one answer: the valid response or
    the final error) or puts it back in the queue with a strictly smaller measure; (3) a scheduling step
    with a suitable peer strictly decreases the measure too; the measure is at most 7: a request is
    answered after at most three send/outcome cycles -/
theorem bounded_progress (evs : List Ev) (r : Rec) (hr : r ∈ (run evs).1.recs) :
    (r.phase ≠ .done → pot r ≤ 7) ∧
    (r.phase = .inflight → ∀ res,
      let r' := (stepRec (.outcome r.id r.sends res) r).1
      (r'.phase = .done ∧ (r.closed = false → r'.answers = 1 ∧
          (stepRec (.outcome r.id r.sends res) r).2 = [.answer r.id (answerOf res)])) ∨
      (r'.phase = .pending ∧ pot r' < pot r)) ∧
    (r.phase = .pending → r.closed = false → ∀ peers choice p, p ∈ peers → kindOk r.kind p = true →
      pot (stepRec (.schedule peers choice) r).1 < pot r) := by
  have hi := (run_inv evs).recs r hr
  exact ⟨pot_le r hi, fun hp res => outcome_settles r res hi hp,
    fun hp hc peers choice p hpm hk => schedule_decreases r peers choice hi hp hc p hpm hk⟩

/-- **… or the client stops**: at stop every caller that is still there and unanswered is answered -/
theorem stop_progress (evs : List Ev) :
    specStopProgress (knownFor (run evs).1 .stop) ((step (run evs).1 .stop).2.filterMap answeredOf) = true :=
  stop_progress_spec _ (run_inv evs)

/-- **the first valid response or the final error**, for every history: when an outcome arrives, the answers
    given in that step are exactly — that outcome, to that caller, if it is for the outstanding attempt of a
    request whose caller is still there and it is a valid response or the third attempt failed; nothing for a
    stale or duplicated outcome, a retried error or a caller that went away -/
theorem outcome_answers (evs : List Ev) (id att : Nat) (res : Res) :
    specOutcomeAnswers (knownFor (run evs).1 (.outcome id att res)) id
      (match (run evs).1.recs.find? (fun r => r.id == id) with | some r => att == r.sends | none => false)
      (resKind res) ((step (run evs).1 (.outcome id att res)).2.filterMap answerPairOf) = true :=
  outcome_answers_spec _ id att res (run_inv evs)

/-- what callers are told in the other steps: a new request is answered at once only after stop (cancelled)
    or when invalid; at stop every answer is `RequestCancelled`; scheduling and a caller going away answer nobody -/
theorem other_answers (evs : List Ev) :
    (∀ v, specRequestAnswers (run evs).1.recs.length (run evs).1.stopped v
        ((step (run evs).1 (.request v)).2.filterMap answerPairOf) = true) ∧
    specStopAnswers ((step (run evs).1 .stop).2.filterMap answerPairOf) = true ∧
    (∀ p c, specQuietStep ((step (run evs).1 (.schedule p c)).2.filterMap answerPairOf) = true) ∧
    (∀ i, specQuietStep ((step (run evs).1 (.close i)).2.filterMap answerPairOf) = true) :=
  ⟨fun v => request_answers_spec _ v, stop_answers_spec _,
   fun p c => quiet_steps_spec _ _ (Or.inl ⟨p, c, rfl⟩), fun i => quiet_steps_spec _ _ (Or.inr ⟨i, rfl⟩)⟩

/-- a valid response is the answer: the first `ok` outcome of the outstanding attempt is delivered as is -/
theorem first_valid_response_is_the_answer (r : Rec) (hp : r.phase = .inflight) (hc : r.closed = false) :
    (stepRec (.outcome r.id r.sends .ok) r).2 = [.answer r.id .ok] := by
  rw [outcome_outs, if_pos ⟨⟨rfl, hp, rfl⟩, (canRetry_eq_false r .ok).mpr (.inr (.inr rfl)), hc⟩]
  rfl

/-- non-vacuity: a request that fails three times is sent any, any, archival and answered once with the
    last error -/
example :
    let arch : Peer := ⟨true, false, true⟩
    (run [.request true, .schedule [arch] id, .outcome 0 1 .headerNotFound, .schedule [arch] id,
          .outcome 0 2 .outboundFailure, .schedule [arch] id, .outcome 0 3 .invalidResponse,
          .schedule [arch] id]).2 =
      [.sent 0 1 .any 2 arch, .sent 0 2 .any 1 arch, .sent 0 3 .archival 0 arch, .answer 0 .invalidResponse] := by
  decide

end Lumina.Props.C32

/-
  C01 — Header validation binds signatures, validator set and DAH.

  Model: `validate` in Lumina/Model/HeaderVerify.lean (transcription of
  `ExtendedHeader::validate` and the `validate_basic`s it calls), run against the real code by
  the correspondence check.  Spec: Lumina/Spec/C01.lean.  What acceptance by `validate` gives, check
  by check: Lumina/Proofs/HeaderValidate.lean.

  Idealised primitives are EXPLICIT HYPOTHESES, never axioms:
    `Function.Injective P.hHeader / P.hValset / P.hDah`  — collision-freeness of the three hashes
    `SigBindsMsg P`  — a signature valid for one signed content is not valid for another (same key)
    `SigUnique P`    — at most one valid signature per (key, content)
  All theorems hold for every header, every validator-set size, every signature type `S`.

  THE PROPERTY AS WORDED IS FALSE of the current code in two places (both intended CometBFT
  light-client semantics, recorded as open findings):
    * signature / timestamp of a commit entry the 2/3 tally does not consume
      (`FullStatementSig`, `mutation_sig_counterexample`; proved part: `…_partial`),
    * validator address of ANY commit entry (`FullStatementAddr`, `mutation_addr_counterexample`,
      `validate_ignores_entry_address`).
-/
import Lumina.Props.C03
import Lumina.Model.HeaderVerifyBridge
import Lumina.Model.C01Consts
import Lumina.Proofs.InjectiveWitness
import Lumina.Proofs.HeaderValidate

namespace Lumina.Props.C01
open Lumina.Model.Commit Lumina.Model.HeaderVerify Lumina.Gen.C01 Lumina.Proofs.Commit
open Lumina.Spec.C01

/-- the constants of the source are the numbers the property (and the spec) state -/
theorem consts_eq :
    BLOCK_PROTOCOL = 11 ∧ MAX_CHAIN_ID_LEN = 50 ∧ GENESIS_HEIGHT = 1 ∧ MIN_EXTENDED_SQUARE_WIDTH = 2 ∧
    LIGHT_NUM = 2 ∧ LIGHT_DEN = 3 ∧ EXT_FACTOR = 2 ∧
    squareUpperOfSource = [(1, 128), (2, 128), (3, 128), (4, 128), (5, 128), (6, 512), (7, 512)] := by
  decide

def SigBindsMsg {S : Type} (P : Prims S) : Prop :=
  ∀ pk m m' s, P.sigValid pk m s = true → P.sigValid pk m' s = true → m = m'

def SigUnique {S : Type} (P : Prims S) : Prop :=
  ∀ pk m s s', P.sigValid pk m s = true → P.sigValid pk m s' = true → s = s'

theorem commitOut_ok (o : Outcome) : commitOut o = .ok ↔ o = .ok :=
  Lumina.Proofs.HeaderValidate.commitOut_ok o

/-- the light-verification call inside `validate` -/
def lightOf {S : Type} (P : Prims S) (c : Consts) (eh : ExtHeader S) : Outcome :=
  verifyCommitLight (sigOracle P eh) c.lightNum c.lightDen eh.valset.toValSet
    eh.header.height eh.commit.height (eh.commit.sigs.map EntryF.toCSig)

/-- **`validate` accepts exactly when** every one of its checks holds (so dropping any comparison
    changes the model and is caught by the correspondence) -/
theorem validate_ok_iff {S : Type} (P : Prims S) (c : Consts) (eh : ExtHeader S) :
    validate P c eh = .ok ↔
      (headerValidateBasic c eh.header = none ∧ commitValidateBasic c eh.commit = none ∧
       valSetValidateBasicE eh.valset = none ∧
       P.hValset eh.valset.hashed = eh.header.validatorsHash ∧
       P.hDah (eh.dah.rows ++ eh.dah.cols) = eh.header.dataHash.getD none ∧
       eh.commit.height = eh.header.height ∧
       eh.commit.blockId.hash = P.hHeader eh.header.canon ∧
       lightOf P c eh = .ok ∧
       ∃ maxW, c.maxExtWidth? eh.header.versionApp = some maxW ∧
         dahValidateBasic c.minExtWidth maxW eh.dah = none) :=
  (Lumina.Proofs.HeaderValidate.validate_ok_iff P c eh).trans
    ⟨fun ⟨h1, h2, h3, h4, h5, h6, h7, h8, h9⟩ => ⟨h1, h2, h3, h4, h5, h6, h7, h8, h9⟩,
     fun ⟨h1, h2, h3, h4, h5, h6, h7, h8, h9⟩ => ⟨h1, h2, h3, h4, h5, h6, h7, h8, h9⟩⟩

/-! ### reduction forms: an accepted mutant EXHIBITS a collision (no hypothesis on the hashes)

  `Function.Injective` on a hash is an idealisation (it IS satisfiable for the digest type used
  here, see `injective_hypotheses_satisfiable` below, but not by SHA-256).  The following forms
  assume nothing about the hashes: if a mutant in one of the hash-protected families is accepted
  next to the original, the two explicit inputs below are a collision of the respective hash. -/

theorem accepted_mutant_header_collision {S : Type} (P : Prims S) (c : Consts) (eh eh' : ExtHeader S)
    (hacc : validate P c eh = .ok) (hacc' : validate P c eh' = .ok)
    (hsame : eh'.commit.blockId.hash = eh.commit.blockId.hash)
    (hdiff : eh'.header.canon ≠ eh.header.canon) :
    eh'.header.canon ≠ eh.header.canon ∧ P.hHeader eh'.header.canon = P.hHeader eh.header.canon := by
  have a := (Lumina.Proofs.HeaderValidate.validate_ok_iff P c eh).mp hacc
  have a' := (Lumina.Proofs.HeaderValidate.validate_ok_iff P c eh').mp hacc'
  exact ⟨hdiff, by rw [← a'.blockHash, ← a.blockHash, hsame]⟩

theorem accepted_mutant_dah_collision {S : Type} (P : Prims S) (c : Consts) (eh eh' : ExtHeader S)
    (hacc : validate P c eh = .ok) (hacc' : validate P c eh' = .ok)
    (hsame : eh'.header.dataHash.getD none = eh.header.dataHash.getD none)
    (hdiff : eh'.dah ≠ eh.dah) :
    eh'.dah.rows ++ eh'.dah.cols ≠ eh.dah.rows ++ eh.dah.cols ∧
      P.hDah (eh'.dah.rows ++ eh'.dah.cols) = P.hDah (eh.dah.rows ++ eh.dah.cols) := by
  have a := (Lumina.Proofs.HeaderValidate.validate_ok_iff P c eh).mp hacc
  have a' := (Lumina.Proofs.HeaderValidate.validate_ok_iff P c eh').mp hacc'
  exact ⟨fun hcat => hdiff (Lumina.Proofs.HeaderValidate.dah_eq_of_append a.dah_square a'.dah_square hcat),
    by rw [a'.dahHash, a.dahHash, hsame]⟩

theorem accepted_mutant_validator_collision {S : Type} (P : Prims S) (c : Consts) (eh eh' : ExtHeader S)
    (hacc : validate P c eh = .ok) (hacc' : validate P c eh' = .ok)
    (hsame : eh'.header.validatorsHash = eh.header.validatorsHash)
    (hdiff : eh'.valset.hashed ≠ eh.valset.hashed) :
    eh'.valset.hashed ≠ eh.valset.hashed ∧ P.hValset eh'.valset.hashed = P.hValset eh.valset.hashed := by
  have a := (Lumina.Proofs.HeaderValidate.validate_ok_iff P c eh).mp hacc
  have a' := (Lumina.Proofs.HeaderValidate.validate_ok_iff P c eh').mp hacc'
  exact ⟨hdiff, by rw [a'.valsetHash, a.valsetHash, hsame]⟩

/-! ### mutation families decided by hashes and plain comparisons

  For the three hashed parts: a collision-free hash turns the collision above into a rejection. -/

/-- **any field covered by the block hash** (the 14 header fields, as `Header::hash` sees them):
    two accepted headers with the same commit block hash have the same hashed header content -/
theorem mutation_rejects_header_field {S : Type} (P : Prims S) (c : Consts) (eh eh' : ExtHeader S)
    (hinj : Function.Injective P.hHeader)
    (hacc : validate P c eh = .ok)
    (hsame : eh'.commit.blockId.hash = eh.commit.blockId.hash)
    (hdiff : eh'.header.canon ≠ eh.header.canon) :
    validate P c eh' ≠ .ok :=
  fun hacc' => hdiff (hinj (accepted_mutant_header_collision P c eh eh' hacc hacc' hsame hdiff).2)

/-- **any DAH row or column root** (and any other change of the DAH), data hash unchanged -/
theorem mutation_rejects_dah {S : Type} (P : Prims S) (c : Consts) (eh eh' : ExtHeader S)
    (hinj : Function.Injective P.hDah)
    (hacc : validate P c eh = .ok)
    (hsame : eh'.header.dataHash.getD none = eh.header.dataHash.getD none)
    (hdiff : eh'.dah ≠ eh.dah) :
    validate P c eh' ≠ .ok := by
  intro hacc'
  obtain ⟨hne, heq⟩ := accepted_mutant_dah_collision P c eh eh' hacc hacc' hsame hdiff
  exact hne (hinj heq)

/-- **the data hash**: with the DAH unchanged, a different data hash is rejected -/
theorem mutation_rejects_data_hash {S : Type} (P : Prims S) (c : Consts) (eh eh' : ExtHeader S)
    (hacc : validate P c eh = .ok)
    (hsame : eh'.dah = eh.dah)
    (hdiff : eh'.header.dataHash.getD none ≠ eh.header.dataHash.getD none) :
    validate P c eh' ≠ .ok := by
  intro hacc'
  have a := (Lumina.Proofs.HeaderValidate.validate_ok_iff P c eh).mp hacc
  have a' := (Lumina.Proofs.HeaderValidate.validate_ok_iff P c eh').mp hacc'
  exact hdiff (by rw [← a'.dahHash, hsame, a.dahHash])

/-- **any validator key or power**, validators hash unchanged -/
theorem mutation_rejects_validator {S : Type} (P : Prims S) (c : Consts) (eh eh' : ExtHeader S)
    (hinj : Function.Injective P.hValset)
    (hacc : validate P c eh = .ok)
    (hsame : eh'.header.validatorsHash = eh.header.validatorsHash)
    (hdiff : eh'.valset.hashed ≠ eh.valset.hashed) :
    validate P c eh' ≠ .ok :=
  fun hacc' => hdiff (hinj (accepted_mutant_validator_collision P c eh eh' hacc hacc' hsame hdiff).2)

/-- **the commit's block id hash**, header unchanged (no hypothesis needed) -/
theorem mutation_rejects_commit_block_hash {S : Type} (P : Prims S) (c : Consts) (eh eh' : ExtHeader S)
    (hacc : validate P c eh = .ok)
    (hsame : eh'.header = eh.header)
    (hdiff : eh'.commit.blockId.hash ≠ eh.commit.blockId.hash) :
    validate P c eh' ≠ .ok := by
  intro hacc'
  have a := (Lumina.Proofs.HeaderValidate.validate_ok_iff P c eh).mp hacc
  have a' := (Lumina.Proofs.HeaderValidate.validate_ok_iff P c eh').mp hacc'
  exact hdiff (by rw [a'.blockHash, hsame, ← a.blockHash])

/-- **the commit's height**, header unchanged (no hypothesis needed) -/
theorem mutation_rejects_commit_height {S : Type} (P : Prims S) (c : Consts) (eh eh' : ExtHeader S)
    (hacc : validate P c eh = .ok)
    (hsame : eh'.header = eh.header)
    (hdiff : eh'.commit.height ≠ eh.commit.height) :
    validate P c eh' ≠ .ok := by
  intro hacc'
  have a := (Lumina.Proofs.HeaderValidate.validate_ok_iff P c eh).mp hacc
  have a' := (Lumina.Proofs.HeaderValidate.validate_ok_iff P c eh').mp hacc'
  exact hdiff (by rw [a'.commitHeight, hsame, ← a.commitHeight])

/-! ### commit entries: what the 2/3 tally consumes is bound -/

/-- model-level "entry k is consumed by the tally": the commit power before it has not exceeded
    the threshold -/
def preOK {S : Type} (c : Consts) (eh : ExtHeader S) (k : Nat) : Prop :=
  commitPow (eh.valset.toValSet.vals.take k) ((eh.commit.sigs.map EntryF.toCSig).take k) ≤
    c.lightNum * eh.valset.total / c.lightDen

/-- in an accepted header, every block-commit entry the tally consumes carries a signature that
    verifies under the index-aligned validator's key for that entry's vote -/
theorem tallied_entry_valid {S : Type} (P : Prims S) (c : Consts) (eh : ExtHeader S) (k : Nat)
    (e : EntryF S) (hacc : validate P c eh = .ok) (he : eh.commit.sigs[k]? = some e)
    (hflag : e.flag = .commit) (hpre : preOK c eh k) :
    ∃ v s, eh.valset.vals[k]? = some v ∧ e.sig = some s ∧
      P.sigValid v.pk (voteMsg eh e) s = true :=
  Lumina.Proofs.HeaderValidate.consumed_entry_valid
    ((Lumina.Proofs.HeaderValidate.validate_ok_iff P c eh).mp hacc) he hflag hpre

/-- replace commit entry `k` -/
def setEntry {S : Type} (eh : ExtHeader S) (k : Nat) (e' : EntryF S) : ExtHeader S :=
  { eh with commit := { eh.commit with sigs := eh.commit.sigs.set k e' } }

theorem preOK_setEntry {S : Type} (c : Consts) (eh : ExtHeader S) (k : Nat) (e' : EntryF S) :
    preOK c (setEntry eh k e') k ↔ preOK c eh k := by
  unfold preOK setEntry
  simp [List.take_set_of_le]

theorem setEntry_get {S : Type} (eh : ExtHeader S) (k : Nat) (e e' : EntryF S)
    (he : eh.commit.sigs[k]? = some e) : (setEntry eh k e').commit.sigs[k]? = some e' := by
  rcases List.getElem?_eq_some_iff.mp he with ⟨hk, _⟩
  simp [setEntry, hk]

/-- the two accepted headers of a single-entry mutation both carry a valid signature at a
    consumed position `k`, under the same key -/
theorem both_valid {S : Type} (P : Prims S) (c : Consts) (eh : ExtHeader S) (k : Nat) (e e' : EntryF S)
    (hacc : validate P c eh = .ok) (hacc' : validate P c (setEntry eh k e') = .ok)
    (he : eh.commit.sigs[k]? = some e) (hflag : e.flag = .commit) (hflag' : e'.flag = .commit)
    (hpre : preOK c eh k) :
    ∃ (v : ValK) (s s' : S), e.sig = some s ∧ e'.sig = some s' ∧
      P.sigValid v.pk (voteMsg eh e) s = true ∧ P.sigValid v.pk (voteMsg eh e') s' = true :=
  Lumina.Proofs.HeaderValidate.consumed_pair_valid (eh' := setEntry eh k e')
    ((Lumina.Proofs.HeaderValidate.validate_ok_iff P c eh).mp hacc)
    ((Lumina.Proofs.HeaderValidate.validate_ok_iff P c _).mp hacc') rfl he (setEntry_get eh k e e' he)
    hflag hflag' hpre ((preOK_setEntry c eh k e').mpr hpre)

/-- **any commit signature — of an entry the tally consumes** (`_partial`: see `FullStatementSig`) -/
theorem mutation_rejects_signature_partial {S : Type} (P : Prims S) (c : Consts) (eh : ExtHeader S)
    (k : Nat) (e e' : EntryF S) (hu : SigUnique P)
    (hacc : validate P c eh = .ok) (he : eh.commit.sigs[k]? = some e) (hflag : e.flag = .commit)
    (hpre : preOK c eh k)
    (hsame : e'.flag = e.flag ∧ e'.ts = e.ts) (hdiff : e'.sig ≠ e.sig) :
    validate P c (setEntry eh k e') ≠ .ok := by
  intro hacc'
  obtain ⟨v, s, s', hs, hs', hval, hval'⟩ :=
    both_valid P c eh k e e' hacc hacc' he hflag (by rw [hsame.1, hflag]) hpre
  have hm : voteMsg eh e' = voteMsg eh e := by simp [voteMsg, hsame.2]
  rw [hm] at hval'
  exact hdiff (by rw [hs, hs', hu _ _ _ _ hval hval'])

/-- **any commit timestamp — of an entry the tally consumes** -/
theorem mutation_rejects_timestamp_partial {S : Type} (P : Prims S) (c : Consts) (eh : ExtHeader S)
    (k : Nat) (e e' : EntryF S) (hb : SigBindsMsg P)
    (hacc : validate P c eh = .ok) (he : eh.commit.sigs[k]? = some e) (hflag : e.flag = .commit)
    (hpre : preOK c eh k)
    (hsame : e'.flag = e.flag ∧ e'.sig = e.sig) (hdiff : e'.ts ≠ e.ts) :
    validate P c (setEntry eh k e') ≠ .ok := by
  intro hacc'
  obtain ⟨v, s, s', hs, hs', hval, hval'⟩ :=
    both_valid P c eh k e e' hacc hacc' he hflag (by rw [hsame.1, hflag]) hpre
  obtain rfl : s' = s := Option.some.inj (by rw [← hs', ← hs, hsame.2])
  exact hdiff (congrArg VoteMsg.ts (hb _ _ _ _ hval hval')).symm

/-- an accepted header's light loop ran to acceptance -/
theorem accepted_loop {S : Type} (P : Prims S) (c : Consts) (eh : ExtHeader S)
    (hacc : validate P c eh = .ok) :
    eh.valset.toValSet.vals.length = (eh.commit.sigs.map EntryF.toCSig).length ∧
    lightLoop (sigOracle P eh) (c.lightNum * eh.valset.total / c.lightDen) 0 0
      eh.valset.toValSet.vals (eh.commit.sigs.map EntryF.toCSig) = .ok :=
  have ⟨hlen, _, _, _, hloop⟩ := verifyCommitLight_ok_iff.mp
    ((Lumina.Proofs.HeaderValidate.validate_ok_iff P c eh).mp hacc).light
  ⟨hlen, hloop⟩

/-- **the commit's round, the rest of its block id (part-set header), and the chain id, height
    and block hash as signed**: two accepted headers with the same validator set and the same
    commit entries agree on everything the votes sign -/
theorem mutation_rejects_signed_commit_field {S : Type} (P : Prims S) (c : Consts) (eh eh' : ExtHeader S)
    (hb : SigBindsMsg P)
    (hacc : validate P c eh = .ok)
    (hvals : eh'.valset = eh.valset) (hsigs : eh'.commit.sigs = eh.commit.sigs)
    (hdiff : eh'.commit.round ≠ eh.commit.round ∨ eh'.commit.blockId ≠ eh.commit.blockId ∨
             eh'.header.chainId ≠ eh.header.chainId ∨ eh'.commit.height ≠ eh.commit.height) :
    validate P c eh' ≠ .ok := by
  intro hacc'
  -- the first block-commit entry is consumed in both headers: nothing is tallied before it
  obtain ⟨k, hk, -, hflag, hpre⟩ := lightLoop_ok_exists _ _ _ 0 0 _ (accepted_loop P c eh hacc).2
  have hk' : k < eh.commit.sigs.length := by simpa using hk
  have he : eh.commit.sigs[k]? = some eh.commit.sigs[k] := List.getElem?_eq_getElem hk'
  have hf : (eh.commit.sigs[k]).flag = .commit := by simpa [EntryF.toCSig] using hflag
  have hp : preOK c eh k := by unfold preOK; rw [hpre]; exact Nat.zero_le _
  have hp' : preOK c eh' k := by unfold preOK; rw [hvals, hsigs, hpre]; exact Nat.zero_le _
  obtain ⟨v, s, s', hs, hs', hval, hval'⟩ := Lumina.Proofs.HeaderValidate.consumed_pair_valid
    ((Lumina.Proofs.HeaderValidate.validate_ok_iff P c eh).mp hacc)
    ((Lumina.Proofs.HeaderValidate.validate_ok_iff P c eh').mp hacc') hvals he (by rw [hsigs]; exact he) hf hf hp hp'
  obtain rfl : s' = s := Option.some.inj (hs'.symm.trans hs)
  have hm := hb _ _ _ _ hval hval'
  simp only [voteMsg, VoteMsg.mk.injEq] at hm
  obtain ⟨h1, h2, h3, h4, -⟩ := hm
  rcases hdiff with h | h | h | h
  · exact h h3.symm
  · exact h h4.symm
  · exact h h1.symm
  · exact h h2.symm

/-! ### the validator address of a commit entry is bound by nothing -/

/-- everything of a commit entry except the validator address -/
def entryKey {S : Type} (e : EntryF S) : Flag × Int × Option S := (e.flag, e.ts, e.sig)

/-- replace the commit entries -/
def withSigs {S : Type} (eh : ExtHeader S) (sigs' : List (EntryF S)) : ExtHeader S :=
  { eh with commit := { eh.commit with sigs := sigs' } }

theorem map_factor {α β γ : Type} (key : α → β) (g : β → γ) (l l' : List α)
    (h : l'.map key = l.map key) : l'.map (fun a => g (key a)) = l.map (fun a => g (key a)) :=
  Lumina.Proofs.HeaderValidate.map_factor key g l l' h

/-- **FINDING (address)**: `validate` never reads the validator address of a commit entry: the
    verdict (including the error kind) is the same for any two headers that differ only in the
    addresses written in their commit entries -/
theorem validate_ignores_entry_address {S : Type} (P : Prims S) (c : Consts) (eh : ExtHeader S)
    (sigs' : List (EntryF S)) (h : sigs'.map entryKey = eh.commit.sigs.map entryKey) :
    validate P c (withSigs eh sigs') = validate P c eh :=
  Lumina.Proofs.HeaderValidate.validate_congr_entries h P c eh

/-! ### acceptance of honest headers; what acceptance binds -/

theorem maxExt_eq (app : Nat) :
    sourceConsts.maxExtWidth? app = (squareUpper app).map (2 * ·) := by
  have hs : sourceConsts.squareUpper = _ := consts_eq.2.2.2.2.2.2.2
  have he : sourceConsts.extFactor = 2 := consts_eq.2.2.2.2.2.2.1
  rw [Consts.maxExtWidth?, hs, he]
  match app with
  | 0 | 1 | 2 | 3 | 4 | 5 | 6 | 7 => decide
  | n + 8 =>
    rw [squareUpper, if_neg (by omega), if_neg (by omega)]
    simp [List.lookup]

theorem c03Input_eq {S : Type} (P : Prims S) (eh : ExtHeader S) :
    c03Input (toView P eh) =
      specInput eh.valset.toValSet eh.header.height eh.commit.height (eh.commit.sigs.map EntryF.toCSig) := rfl

theorem lightOf_eq {S : Type} (P : Prims S) (eh : ExtHeader S) :
    lightOf P sourceConsts eh =
      Lumina.Props.C03.light (sigOracle P eh) eh.valset.toValSet eh.header.height eh.commit.height
        (eh.commit.sigs.map EntryF.toCSig) := rfl

/-- the `validate_basic` level, spec ⇔ model -/
theorem wellFormed_iff {S : Type} (P : Prims S) (eh : ExtHeader S)
    (hch : eh.commit.height = eh.header.height) :
    wellFormed (toView P eh) = true ↔
      (headerValidateBasic sourceConsts eh.header = none ∧
       commitValidateBasic sourceConsts eh.commit = none ∧
       valSetValidateBasicE eh.valset = none) := by
  have hc : sourceConsts.blockProtocol = 11 ∧ sourceConsts.maxChainIdLen = 50 ∧
      sourceConsts.genesisHeight = 1 := by decide
  rw [Lumina.Proofs.HeaderValidate.headerValidateBasic_none,
    Lumina.Proofs.HeaderValidate.commitValidateBasic_none,
    Lumina.Proofs.HeaderValidate.valSetValidateBasicE_none, hch, hc.1, hc.2.1, hc.2.2]
  simp only [wellFormed, toView, SetK.toValSet, List.map_map, List.isEmpty_map, Bool.and_eq_true,
    beq_iff_eq, decide_eq_true_eq, Bool.not_eq_true', Lumina.Proofs.HeaderValidate.eq_decide_iff,
    Nat.one_le_iff_ne_zero, and_assoc]
  -- the spec states the commit clauses outright, `validate_basic` under `height ≥ 1`
  constructor
  · rintro ⟨h1, h2, h3, h4, h5, h6, h7, h89⟩
    exact ⟨h1, h2, h3, h4, fun _ => ⟨h5, h6, h7⟩, h89⟩
  · rintro ⟨h1, h2, h3, h4, h567, h89⟩
    exact ⟨h1, h2, h3, h4, (h567 h3).1, (h567 h3).2.1, (h567 h3).2.2, h89⟩

theorem bound_iff {S : Type} (P : Prims S) (eh : ExtHeader S) :
    bound (toView P eh) = true ↔
      (P.hValset eh.valset.hashed = eh.header.validatorsHash ∧
       P.hDah (eh.dah.rows ++ eh.dah.cols) = eh.header.dataHash.getD none ∧
       eh.commit.height = eh.header.height ∧
       eh.commit.blockId.hash = P.hHeader eh.header.canon) := by
  simp [bound, toView, and_assoc]

theorem widthOK_iff {S : Type} (P : Prims S) (eh : ExtHeader S) :
    widthOK (toView P eh) = true ↔
      ∃ maxW, sourceConsts.maxExtWidth? eh.header.versionApp = some maxW ∧
        dahValidateBasic sourceConsts.minExtWidth maxW eh.dah = none := by
  have hmin : sourceConsts.minExtWidth = 2 := by decide
  simp only [maxExt_eq, hmin, Lumina.Proofs.HeaderValidate.dahValidateBasic_none]
  cases hsq : squareUpper eh.header.versionApp with
  | none => simp [widthOK, show squareUpper (toView P eh).versionApp = none from hsq]
  | some w =>
    -- `toView` is unfolded only after the `decide`s are gone: their instances mention it too
    simp only [widthOK, show squareUpper (toView P eh).versionApp = some w from hsq,
      Bool.and_eq_true, beq_iff_eq, decide_eq_true_eq, Option.map_some, Option.some.injEq,
      exists_eq_left', and_assoc]
    simp only [toView, eq_comm (a := eh.dah.rows.length)]

/-- **A header produced and signed by a validator set holding the voting power is accepted by
    header validation** — for every validator-set size, powers, app version and square width. -/
theorem honest_accepts {S : Type} (P : Prims S) (eh : ExtHeader S) :
    specHonestAccepted (toView P eh) (sigOracle P eh)
      (decide (validate P sourceConsts eh = .ok)) = true := by
  unfold specHonestAccepted
  by_cases hh : honest (toView P eh) (sigOracle P eh) = true
  case neg => simp [hh]
  suffices hacc : validate P sourceConsts eh = .ok by simp [hacc]
  simp only [honest, Bool.and_eq_true, decide_eq_true_eq, beq_iff_eq] at hh
  obtain ⟨⟨⟨⟨⟨⟨hwf, hb⟩, hwl⟩, hpow⟩, hw⟩, htot⟩, hmax⟩ := hh
  obtain ⟨hb4, hb5, hb6, hb7⟩ := (bound_iff P eh).mp hb
  obtain ⟨h1, h2, h3⟩ := (wellFormed_iff P eh hb6).mp hwf
  have hvs : eh.valset.toValSet.wf = true := by
    simp only [ValSet.wf, Bool.and_eq_true, beq_iff_eq, decide_eq_true_eq]
    exact ⟨htot, hmax⟩
  have hex := Lumina.Props.C03.light_exact (sigOracle P eh) eh.valset.toValSet eh.header.height
    eh.commit.height (eh.commit.sigs.map EntryF.toCSig) hvs
  simp only [Lumina.Spec.C03.specLightExact, ← c03Input_eq P eh, hwl, Bool.not_true, Bool.false_or,
    beq_iff_eq] at hex
  exact (validate_ok_iff P sourceConsts eh).mpr ⟨h1, h2, h3, hb4, hb5, hb6, hb7,
    of_decide_eq_true (hex.trans (decide_eq_true hpow)), (widthOK_iff P eh).mp hw⟩

/-- the structural part of `accepted_binds` needs no hypothesis on the stored total -/
theorem accepted_binds_structure {S : Type} (P : Prims S) (eh : ExtHeader S) :
    specAcceptedStructure (toView P eh) (decide (validate P sourceConsts eh = .ok)) = true := by
  unfold specAcceptedStructure
  by_cases hacc : validate P sourceConsts eh = .ok
  case neg => simp [hacc]
  have a := (Lumina.Proofs.HeaderValidate.validate_ok_iff P sourceConsts eh).mp hacc
  have hb := (bound_iff P eh).mpr ⟨a.valsetHash, a.dahHash, a.commitHeight, a.blockHash⟩
  have hwf := (wellFormed_iff P eh a.commitHeight).mpr ⟨a.headerBasic, a.commitBasic, a.valsetBasic⟩
  have hw := (widthOK_iff P eh).mpr a.width
  simp [hacc, hb, hwf, hw]

/-- **Validation binds**: an accepted header is well formed, names exactly this validator set and
    this DAH, its commit is for exactly this header, and validators with valid signatures for its
    block carry more than two thirds of the set's power. -/
theorem accepted_binds {S : Type} (P : Prims S) (eh : ExtHeader S)
    (hT : eh.valset.total = sumPowers eh.valset.toValSet.vals) :
    specAcceptedBinds (toView P eh) (sigOracle P eh)
      (decide (validate P sourceConsts eh = .ok)) = true := by
  have hstr := accepted_binds_structure P eh
  unfold specAcceptedStructure at hstr
  unfold specAcceptedBinds
  by_cases hacc : validate P sourceConsts eh = .ok
  case neg => simp [hacc]
  have hl : lightOf P sourceConsts eh = .ok :=
    ((Lumina.Proofs.HeaderValidate.validate_ok_iff P sourceConsts eh).mp hacc).light
  have hs := Lumina.Props.C03.light_sound (sigOracle P eh) eh.valset.toValSet eh.header.height
    eh.commit.height (eh.commit.sigs.map EntryF.toCSig) hT
  rw [← lightOf_eq, hl, ← c03Input_eq P eh] at hs
  simp only [hacc, decide_true, Bool.not_true, Bool.false_or] at hstr hs ⊢
  rw [hstr, hs]
  rfl

/-- the spec's "entry k is consumed by the 2/3 tally" is the model's `preOK` -/
theorem tallied_preOK {S : Type} (P : Prims S) (eh : ExtHeader S) (k : Nat)
    (ht : tallied (toView P eh) k = true) : preOK sourceConsts eh k := by
  simp only [tallied, Bool.and_eq_true, decide_eq_true_eq] at ht
  obtain ⟨⟨-, hk⟩, hp⟩ := ht
  have hk' : k < eh.valset.toValSet.vals.length := by simpa [toView] using hk
  have hc : sourceConsts.lightNum = 2 ∧ sourceConsts.lightDen = 3 := by decide
  unfold preOK
  rw [commitPow_take_eq _ _ k (Nat.le_of_lt hk'), hc.1, hc.2, Nat.le_div_iff_mul_le (by decide),
    Nat.mul_comm]
  exact hp

/-- **any commit signature of an entry the 2/3 tally consumes** (spec-level form of
    `mutation_rejects_signature_partial`, in the terms the driver classifies with) -/
theorem mutation_rejects_signature_tallied {S : Type} (P : Prims S) (eh : ExtHeader S)
    (k : Nat) (e e' : EntryF S) (hu : SigUnique P)
    (hacc : validate P sourceConsts eh = .ok) (he : eh.commit.sigs[k]? = some e)
    (ht : tallied (toView P eh) k = true)
    (hsame : e'.flag = e.flag ∧ e'.ts = e.ts) (hdiff : e'.sig ≠ e.sig) :
    validate P sourceConsts (setEntry eh k e') ≠ .ok :=
  mutation_rejects_signature_partial P sourceConsts eh k e e' hu hacc he
    (Lumina.Proofs.HeaderValidate.tallied_flag ht he) (tallied_preOK P eh k ht) hsame hdiff

/-- **any commit timestamp of an entry the 2/3 tally consumes** -/
theorem mutation_rejects_timestamp_tallied {S : Type} (P : Prims S) (eh : ExtHeader S)
    (k : Nat) (e e' : EntryF S) (hb : SigBindsMsg P)
    (hacc : validate P sourceConsts eh = .ok) (he : eh.commit.sigs[k]? = some e)
    (ht : tallied (toView P eh) k = true)
    (hsame : e'.flag = e.flag ∧ e'.sig = e.sig) (hdiff : e'.ts ≠ e.ts) :
    validate P sourceConsts (setEntry eh k e') ≠ .ok :=
  mutation_rejects_timestamp_partial P sourceConsts eh k e e' hb hacc he
    (Lumina.Proofs.HeaderValidate.tallied_flag ht he) (tallied_preOK P eh k ht) hsame hdiff

/-! ### the property as worded is false: full statements and counter-witnesses -/

/-- FULL STATEMENT (signature): changing the signature of ANY commit entry makes validation fail -/
def FullStatementSig : Prop :=
  ∀ (S : Type) (P : Prims S) (eh : ExtHeader S) (k : Nat) (e e' : EntryF S),
    SigUnique P → SigBindsMsg P → validate P sourceConsts eh = .ok →
    eh.commit.sigs[k]? = some e → e'.flag = e.flag ∧ e'.ts = e.ts ∧ e'.addr = e.addr → e'.sig ≠ e.sig →
    validate P sourceConsts (setEntry eh k e') ≠ .ok

/-- FULL STATEMENT (timestamp) -/
def FullStatementTs : Prop :=
  ∀ (S : Type) (P : Prims S) (eh : ExtHeader S) (k : Nat) (e e' : EntryF S),
    SigUnique P → SigBindsMsg P → validate P sourceConsts eh = .ok →
    eh.commit.sigs[k]? = some e → e'.flag = e.flag ∧ e'.sig = e.sig ∧ e'.addr = e.addr → e'.ts ≠ e.ts →
    validate P sourceConsts (setEntry eh k e') ≠ .ok

/-- FULL STATEMENT (validator address) -/
def FullStatementAddr : Prop :=
  ∀ (S : Type) (P : Prims S) (eh : ExtHeader S) (k : Nat) (e e' : EntryF S),
    SigUnique P → SigBindsMsg P → validate P sourceConsts eh = .ok →
    eh.commit.sigs[k]? = some e → e'.flag = e.flag ∧ e'.sig = e.sig ∧ e'.ts = e.ts → e'.addr ≠ e.addr →
    validate P sourceConsts (setEntry eh k e') ≠ .ok

/-- witness: a signature IS the pair (signed content, key); the hashes are constant (the witness
    needs no collision-freeness: the statements above do not assume any) -/
abbrev WS := VoteMsg × List UInt8

def wP : Prims WS :=
  { hHeader := fun _ => none, hValset := fun _ => none, hDah := fun _ => none,
    sigValid := fun pk m s => decide (s = (m, pk)) }

theorem wP_unique : SigUnique wP := by
  intro pk m s s' h1 h2
  simp only [wP, decide_eq_true_eq] at h1 h2
  rw [h1, h2]

theorem wP_binds : SigBindsMsg wP := by
  intro pk m m' s h1 h2
  simp only [wP, decide_eq_true_eq] at h1 h2
  rw [h1] at h2
  exact (Prod.mk.inj h2).1

def wBlockId : BlockId := { hash := none, pst := 1, psh := none }
def wMsg : VoteMsg := { chainId := [], height := 2, round := 0, blockId := wBlockId, ts := 0 }
def wEntry (i : UInt8) : EntryF WS := { flag := .commit, addr := [i], ts := 0, sig := some (wMsg, [i]) }

/-- four validators of equal power, all four signed: the tally passes 2/3 after the third -/
def wEH : ExtHeader WS :=
  { header :=
      { versionBlock := 11, versionApp := 1, chainId := [], height := 2, time := 0,
        lastBlockId := some BlockId.zero, lastCommitHash := none, dataHash := none,
        validatorsHash := none, nextValidatorsHash := none, consensusHash := none, appHash := [],
        lastResultsHash := none, evidenceHash := none, proposerAddress := [] }
    commit := { height := 2, round := 0, blockId := wBlockId, sigs := [wEntry 0, wEntry 1, wEntry 2, wEntry 3] }
    valset := { vals := [⟨[0], [0], 1⟩, ⟨[1], [1], 1⟩, ⟨[2], [2], 1⟩, ⟨[3], [3], 1⟩], total := 4, hasProposer := true }
    dah := { rows := [[], []], cols := [[], []] } }

theorem wEH_accepted : validate wP sourceConsts wEH = .ok := by decide +kernel

/-- **FINDING (early exit)**: the 4th signature replaced by garbage — still accepted -/
theorem mutation_sig_counterexample : ¬ FullStatementSig := by
  intro h
  exact h WS wP wEH 3 (wEntry 3) { wEntry 3 with sig := some (wMsg, [99]) } wP_unique wP_binds
    wEH_accepted (by decide +kernel) (by decide +kernel) (by decide +kernel) (by decide +kernel)

/-- the 4th timestamp changed — still accepted -/
theorem mutation_ts_counterexample : ¬ FullStatementTs := by
  intro h
  exact h WS wP wEH 3 (wEntry 3) { wEntry 3 with ts := 7 } wP_unique wP_binds
    wEH_accepted (by decide +kernel) (by decide +kernel) (by decide +kernel) (by decide +kernel)

/-- **FINDING (address)**: the validator address of the FIRST entry (consumed by the tally)
    changed — still accepted -/
theorem mutation_addr_counterexample : ¬ FullStatementAddr := by
  intro h
  exact h WS wP wEH 0 (wEntry 0) { wEntry 0 with addr := [42] } wP_unique wP_binds
    wEH_accepted (by decide +kernel) (by decide +kernel) (by decide +kernel)
    ((validate_ignores_entry_address wP sourceConsts wEH _ (by decide +kernel)).trans wEH_accepted)

-- non-vacuity of the `_partial` theorems: entry 0 of the witness is consumed by the tally, entry 3 is not
example : tallied (toView wP wEH) 0 = true := by decide +kernel
example : tallied (toView wP wEH) 2 = true := by decide +kernel
example : tallied (toView wP wEH) 3 = false := by decide +kernel
example : honest (toView wP wEH) (sigOracle wP wEH) = true := by decide +kernel
example : validate wP sourceConsts (setEntry wEH 1 { wEntry 1 with sig := some (wMsg, [99]) }) =
    .err (.commit .sigInvalid) := by decide +kernel


/-! ### the hash and signature hypotheses are jointly satisfiable, together with acceptance -/

open Lumina.Proofs.InjectiveWitness in
/-- primitives with INJECTIVE hashes (explicit self-delimiting serialisations, proved injective in
    `Proofs/InjectiveWitness.lean`) and a binding, unique signature scheme -/
def wPinj : Prims WS :=
  { hHeader := hHeaderInj, hValset := hValsetInj, hDah := hDahInj,
    sigValid := fun pk m s => decide (s = (m, pk)) }

theorem injective_hypotheses_satisfiable :
    Function.Injective wPinj.hHeader ∧ Function.Injective wPinj.hValset ∧
    Function.Injective wPinj.hDah ∧ SigUnique wPinj ∧ SigBindsMsg wPinj :=
  -- `wPinj` verifies signatures as `wP` does
  ⟨Lumina.Proofs.InjectiveWitness.hHeaderInj_inj, Lumina.Proofs.InjectiveWitness.hValsetInj_inj,
    Lumina.Proofs.InjectiveWitness.hDahInj_inj, wP_unique, wP_binds⟩

/-- the header of `wEH` with the hashes it carries COMPUTED by the injective hashes -/
def wHeaderInj : HeaderF :=
  { wEH.header with
    validatorsHash := wPinj.hValset wEH.valset.hashed
    dataHash := some (wPinj.hDah (wEH.dah.rows ++ wEH.dah.cols)) }
def wBlockIdInj : BlockId := { hash := wPinj.hHeader wHeaderInj.canon, pst := 1, psh := none }
def wMsgInj : VoteMsg := { chainId := [], height := 2, round := 0, blockId := wBlockIdInj, ts := 0 }
def wEntryInj (i : UInt8) : EntryF WS := { flag := .commit, addr := [i], ts := 0, sig := some (wMsgInj, [i]) }
def wEHinj : ExtHeader WS :=
  { wEH with
    header := wHeaderInj
    commit := { height := 2, round := 0, blockId := wBlockIdInj,
                sigs := [wEntryInj 0, wEntryInj 1, wEntryInj 2, wEntryInj 3] } }

/-- non-vacuity: with injective hashes and a binding signature scheme, an honest header IS accepted … -/
theorem wEHinj_accepted : validate wPinj sourceConsts wEHinj = .ok := by decide +kernel

-- … and the hash-protected mutants are rejected by the theorems (all hypotheses discharged)
example : validate wPinj sourceConsts { wEHinj with header := { wHeaderInj with time := 5 } } ≠ .ok :=
  mutation_rejects_header_field wPinj sourceConsts wEHinj _ injective_hypotheses_satisfiable.1
    wEHinj_accepted rfl (by decide +kernel)
example : validate wPinj sourceConsts { wEHinj with dah := { rows := [[], [1]], cols := [[], []] } } ≠ .ok :=
  mutation_rejects_dah wPinj sourceConsts wEHinj _ injective_hypotheses_satisfiable.2.2.1
    wEHinj_accepted rfl (by decide +kernel)
example : validate wPinj sourceConsts
    { wEHinj with valset := { wEHinj.valset with vals := [⟨[0], [0], 1⟩, ⟨[1], [1], 1⟩, ⟨[2], [2], 1⟩, ⟨[9], [3], 1⟩] } } ≠ .ok :=
  mutation_rejects_validator wPinj sourceConsts wEHinj _ injective_hypotheses_satisfiable.2.1
    wEHinj_accepted rfl (by decide +kernel)
example : validate wPinj sourceConsts { wEHinj with header := { wHeaderInj with time := 5 } } =
    .err .commitBlockIdHash := by decide +kernel

end Lumina.Props.C01


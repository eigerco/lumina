/-
  C17 — BlockRanges behaves as a set of heights.

  Model: `Lumina/Model/Ranges.lean` (every method of `BlockRangeExt` / `BlockRanges`, debug-build
  `u64` arithmetic, `debug_assert!` / `expect` as the outcome `panic`).
  Spec : `Lumina/Spec/C17.lean` (decidable checkers over observed results, independent of the model).

  Every theorem quantifies over ALL values satisfying the representation invariant `Inv`
  (any number of ranges, heights up to 2^64-1), all arguments, and (`histories_*`) all operation
  sequences.  Two shapes occur:
    * `…_specOK` `spec… input (model input) = true`, the checker the correspondence run also
                 evaluates on the implementation's own results (for the methods of `BlockRanges`;
                 the single-range checkers `specRange…` and `specFind` of `Spec/C17.lean` have
                 no theorem here), and
    * `…_ok`     the unbounded statement (`∀ h`, membership / order / cardinality); for `from_vec`,
                 `contains`, `is_empty`, `head` / `tail` and the pops it is the lemma of
                 `Proofs/Ranges*.lean` itself (`fromVec_cases`, `contains_iff_mem`, `isEmpty_iff`,
                 `head_spec` / `tail_spec`, `popHead_spec` / `popTail_spec`).
-/
import Lumina.Proofs.RangesHist
import Lumina.Proofs.RangesSpec
import Lumina.Gen.C17

namespace Lumina.Props.C17
open Lumina.Model.Ranges hiding Inv
open Lumina.Proofs.Ranges
open Lumina.Spec.C17

open Lumina.Model.Ranges renaming Inv → RInv
open Lumina.Spec.C17 renaming canonical → SCanonical, card → SCard
open Lumina.Proofs.Ranges renaming card → PCard

/-! ### the representation is canonical: equal sets have equal representations -/

/-- so "returns what the set operation returns" is *equality of representations* -/
theorem canonical_form {a b : Ranges} (ha : RInv a) (hb : RInv b) (h : ∀ x, mem a x ↔ mem b x) : a = b :=
  Lumina.Proofs.Ranges.canonical ha hb h

/-- the spec's `canonical` is the model's `Inv` -/
theorem spec_canonical_iff (rs : Ranges) : SCanonical rs = true ↔ RInv rs := canonical_iff_inv rs

theorem new_inv : RInv new := inv_nil

/-- the universe of `Not` in the source (`1..=u64::MAX`, regenerated from /repo on every run) is
    the universe of heights the property states: `[1, 2^64 - 1]` -/
theorem consts_eq : Lumina.Gen.C17.NOT_UNIVERSE_START = 1 ∧
    Lumina.Gen.C17.NOT_UNIVERSE_END = 2 ^ 64 - 1 ∧ U64_MAX = 2 ^ 64 - 1 ∧ U64MAX = 2 ^ 64 - 1 := by
  decide

/-! ### construction from a vector -/

theorem chainFrom_iff : ∀ (rest : List Range) (a : Range) (e : Nat),
    chainFrom e (a :: rest) ↔ e < a.1 ∧ acceptableVec (a :: rest) = true
  | [], a, e => by
    simp only [chainFrom, acceptableVec, validR, Bool.and_eq_true, decide_eq_true_eq]
    constructor
    · rintro ⟨h1, h2, _⟩; exact ⟨h2, h1⟩
    · rintro ⟨h2, h1⟩; exact ⟨h1, h2, trivial⟩
  | b :: rest, a, e => by
    have ih := chainFrom_iff rest b a.2
    simp only [chainFrom] at ih ⊢
    simp only [acceptableVec, validR, Bool.and_eq_true, decide_eq_true_eq] at ih ⊢
    constructor
    · rintro ⟨h1, h2, h3⟩
      have := ih.1 h3
      exact ⟨h2, ⟨h1, this.1⟩, this.2⟩
    · rintro ⟨h2, ⟨h1, h3⟩, h4⟩
      exact ⟨h1, h2, ih.2 ⟨h3, h4⟩⟩

theorem chainFrom_zero_iff (v : List Range) : chainFrom 0 v ↔ acceptableVec v = true := by
  cases v with
  | nil => simp [chainFrom, acceptableVec]
  | cons a rest =>
    rw [chainFrom_iff]
    constructor
    · exact fun h => h.2
    · intro h
      refine ⟨?_, h⟩
      cases rest with
      | nil => simp only [acceptableVec, validR, Bool.and_eq_true, decide_eq_true_eq] at h; omega
      | cons b rest => simp only [acceptableVec, validR, Bool.and_eq_true, decide_eq_true_eq] at h; omega

/-- `from_vec`: accepted exactly for valid, strictly increasing, disjoint vectors; the result is
    canonical and denotes the union; the error is the first failing check; never a panic -/
theorem fromVec_specOK (v : List Range) (hb : ∀ r ∈ v, r.2 ≤ U64_MAX) :
    specFromVec v (obsOf (fromVec v)) = true := by
  have hfi : firstInvalid v = v.find? (fun x => !Range.valid x) := by
    simp only [firstInvalid, validR_eq_valid]
  have hacc : acceptableVec v = false ↔ ¬ chainFrom 0 v := by
    rw [chainFrom_zero_iff, Bool.not_eq_true]
  rcases fromVec_cases hb with ⟨hc, out, e, io, mo⟩ | ⟨hc, e | ⟨r, e, hf⟩⟩
  · rw [e]
    simp only [obsOf, specFromVec, (chainFrom_zero_iff v).1 hc, Bool.true_and]
    exact denotes_of_iff io _ _ mo fun h => member_iff v h
  · simp [e, obsOf, specFromVec, hacc.2 hc]
  · simp [e, obsOf, specFromVec, hacc.2 hc, hfi, hf]

/-! ### insert / remove -/

theorem insert_ok {rs : Ranges} {r : Range} (hi : RInv rs) (hv : ValidR r) :
    ∃ rs', insertRelaxed rs r = .ok rs' ∧ RInv rs' ∧ ∀ h, mem rs' h ↔ mem rs h ∨ (r.1 ≤ h ∧ h ≤ r.2) :=
  (insertRelaxed_spec hi hv).out

theorem remove_ok {rs : Ranges} {r : Range} (hi : RInv rs) (hv : ValidR r) :
    ∃ rs', removeRelaxed rs r = .ok rs' ∧ RInv rs' ∧ ∀ h, mem rs' h ↔ mem rs h ∧ ¬ (r.1 ≤ h ∧ h ≤ r.2) :=
  (removeRelaxed_spec hi hv).out

theorem inR_iff (r : Range) (h : Nat) : inR r h = true ↔ r.1 ≤ h ∧ h ≤ r.2 := by
  simp [inR]

theorem insert_specOK {rs : Ranges} (hi : RInv rs) (r : Range) (hb : r.2 ≤ U64_MAX) :
    specInsert rs r (obsOf (insertRelaxed rs r)) = true := by
  by_cases hval : Range.valid r = true
  · exact (insertRelaxed_spec hi (.of_valid hval hb)).specOK
      (fun _ => by simp only [specInsert, validR_eq_valid, hval, Bool.true_and]; rfl)
      fun h => by rw [Bool.or_eq_true, member_iff, inR_iff]
  · have hval' : Range.valid r = false := by simpa using hval
    simp [insertRelaxed_invalid hval', obsOf, specInsert, validR_eq_valid, hval']

theorem remove_specOK {rs : Ranges} (hi : RInv rs) (r : Range) (hb : r.2 ≤ U64_MAX) :
    specRemove rs r (obsOf (removeRelaxed rs r)) = true := by
  by_cases hval : Range.valid r = true
  · exact (removeRelaxed_spec hi (.of_valid hval hb)).specOK
      (fun _ => by simp only [specRemove, validR_eq_valid, hval, Bool.true_and]; rfl)
      fun h => by rw [Bool.and_eq_true, member_iff, Bool.not_eq_true', ← Bool.not_eq_true, inR_iff]
  · have hval' : Range.valid r = false := by simpa using hval
    simp [removeRelaxed_invalid hval', obsOf, specRemove, validR_eq_valid, hval']

/-! ### union / difference / intersection / complement -/

theorem union_ok {a b : Ranges} (ha : RInv a) (hb : RInv b) :
    ∃ c, add a b = .ok c ∧ RInv c ∧ ∀ h, mem c h ↔ mem a h ∨ mem b h := (add_spec ha hb).out

theorem difference_ok {a b : Ranges} (ha : RInv a) (hb : RInv b) :
    ∃ c, sub a b = .ok c ∧ RInv c ∧ ∀ h, mem c h ↔ mem a h ∧ ¬ mem b h := (sub_spec ha hb).out

theorem intersection_ok {a b : Ranges} (ha : RInv a) (hb : RInv b) :
    ∃ c, bitAnd a b = .ok c ∧ RInv c ∧ ∀ h, mem c h ↔ mem a h ∧ mem b h := (bitAnd_spec ha hb).out

theorem complement_ok {a : Ranges} (ha : RInv a) :
    ∃ c, bitNot a = .ok c ∧ RInv c ∧ ∀ h, mem c h ↔ (1 ≤ h ∧ h ≤ U64_MAX) ∧ ¬ mem a h := (bitNot_spec ha).out

theorem union_specOK {a b : Ranges} (ha : RInv a) (hb : RInv b) :
    specUnion a b (obsOf (add a b)) = true ∧ specUnion a b (obsOf (bitOr a b)) = true := by
  have : specUnion a b (obsOf (add a b)) = true :=
    (add_spec ha hb).specOK (fun _ => rfl) fun h => by rw [Bool.or_eq_true, member_iff, member_iff]
  exact ⟨this, this⟩

theorem difference_specOK {a b : Ranges} (ha : RInv a) (hb : RInv b) :
    specDiff a b (obsOf (sub a b)) = true :=
  (sub_spec ha hb).specOK (fun _ => rfl) fun h => by
    rw [Bool.and_eq_true, member_iff, Bool.not_eq_true', member_false_iff]

theorem intersection_specOK {a b : Ranges} (ha : RInv a) (hb : RInv b) :
    specInter a b (obsOf (bitAnd a b)) = true :=
  (bitAnd_spec ha hb).specOK (fun _ => rfl) fun h => by rw [Bool.and_eq_true, member_iff, member_iff]

theorem complement_specOK {a : Ranges} (ha : RInv a) :
    specCompl a (obsOf (bitNot a)) = true :=
  (bitNot_spec ha).specOK (fun _ => rfl) fun h => by
    rw [Bool.and_eq_true, Bool.and_eq_true, Bool.not_eq_true', member_false_iff,
      decide_eq_true_eq, decide_eq_true_eq]; rfl

/-! ### membership, length, head, tail -/

theorem contains_specOK (rs : Ranges) (h : Nat) : specContains rs h (contains rs h) = true := by
  simp only [specContains, beq_iff_eq]
  apply Bool.eq_iff_iff.2
  rw [contains_iff_mem, member_iff]

/-- `len` is the number of heights (`card` = length of the duplicate-free ascending list of
    members), and the `u64` sum does not overflow -/
theorem len_ok {rs : Ranges} (hi : RInv rs) :
    len rs = .ok (heights rs).length ∧ (heights rs).Pairwise (· < ·) ∧ ∀ h, h ∈ heights rs ↔ mem rs h :=
  ⟨by rw [length_heights]; exact len_spec hi, heights_sorted hi, mem_heights rs⟩

theorem len_specOK {rs : Ranges} (hi : RInv rs) :
    specLen rs (match len rs with | .ok n => some n | .error _ => none) = true := by
  rw [len_spec hi]
  simp [specLen, spec_card_eq]

theorem isEmpty_specOK {rs : Ranges} (hi : RInv rs) : specIsEmpty rs (isEmpty rs) = true := by
  simp only [specIsEmpty, beq_iff_eq, spec_card_eq]
  apply Bool.eq_iff_iff.2
  rw [isEmpty_iff hi, beq_iff_eq, card_eq_zero_iff hi]

theorem head_specOK {rs : Ranges} (hi : RInv rs) : specHead rs (head rs) = true := by
  cases hh : head rs with
  | none =>
    have := head_eq_none_iff.1 hh
    subst this
    simp [specHead, Lumina.Spec.C17.card]
  | some x =>
    obtain ⟨h1, h2⟩ := head_spec hi hh
    simp only [specHead, Bool.and_eq_true, member_iff, List.all_eq_true, decide_eq_true_eq]
    refine ⟨h1, fun r hr => ?_⟩
    exact h2 r.2 (mem_end hi hr)

theorem tail_specOK {rs : Ranges} (hi : RInv rs) : specTail rs (tail rs) = true := by
  cases hh : tail rs with
  | none =>
    have := tail_eq_none_iff.1 hh
    subst this
    simp [specTail, Lumina.Spec.C17.card]
  | some x =>
    obtain ⟨h1, h2⟩ := tail_spec hi hh
    simp only [specTail, Bool.and_eq_true, member_iff, List.all_eq_true, decide_eq_true_eq]
    refine ⟨h1, fun r hr => ?_⟩
    exact h2 r.1 (mem_start hi hr)

/-! ### pop head / pop tail -/

theorem popHead_specOK {rs : Ranges} (hi : RInv rs) :
    ∃ o out, popHead rs = .ok (o, out) ∧ RInv out ∧ specPopHead rs o out = true := by
  rcases popHead_spec hi with ⟨rfl, e⟩ | ⟨x, out, hh, e, io, mo, _⟩
  · exact ⟨none, [], e, inv_nil, by simp [specPopHead, specHead, Lumina.Spec.C17.card]⟩
  · have h1 := head_specOK hi
    rw [hh] at h1
    refine ⟨some x, out, e, io, ?_⟩
    simp only [specPopHead, h1, Bool.true_and]
    exact denotes_of_iff io _ _ mo fun h => by rw [Bool.and_eq_true, member_iff, bne_iff_ne]

theorem popTail_specOK {rs : Ranges} (hi : RInv rs) :
    ∃ o out, popTail rs = .ok (o, out) ∧ RInv out ∧ specPopTail rs o out = true := by
  rcases popTail_spec hi with ⟨rfl, e⟩ | ⟨x, out, hh, e, io, mo, _⟩
  · exact ⟨none, [], e, inv_nil, by simp [specPopTail, specTail, Lumina.Spec.C17.card]⟩
  · have h1 := tail_specOK hi
    rw [hh] at h1
    refine ⟨some x, out, e, io, ?_⟩
    simp only [specPopTail, h1, Bool.true_and]
    exact denotes_of_iff io _ _ mo fun h => by rw [Bool.and_eq_true, member_iff, bne_iff_ne]

/-! ### head-n / tail-n -/

/-- `tailn`: the `min n |rs|` least members — an initial segment of the ascending heights -/
theorem tailn_ok {rs : Ranges} (hi : RInv rs) (n : Nat) :
    ∃ out, tailn rs n = .ok out ∧ RInv out ∧
      (∃ post, heights rs = heights out ++ post) ∧ PCard out = min n (PCard rs) := tailn_spec hi n

/-- `headn`: the `min n |rs|` greatest members — a final segment of the ascending heights -/
theorem headn_ok {rs : Ranges} (hi : RInv rs) (n : Nat) :
    ∃ out, headn rs n = .ok out ∧ RInv out ∧
      (∃ pre, heights rs = pre ++ heights out) ∧ PCard out = min n (PCard rs) := headn_spec hi n

theorem tailn_specOK {rs : Ranges} (hi : RInv rs) (n : Nat) :
    specTailn rs n (obsOf (tailn rs n)) = true := by
  obtain ⟨out, e, io, ⟨post, hp⟩, hc⟩ := tailn_spec hi n
  rw [e]
  simp only [obsOf, specTailn, canonical_of_inv io, spec_card_eq, hc, beq_self_eq_true, Bool.true_and,
    List.all_eq_true, Bool.and_eq_true, not_or_eq_true_iff_imp, Bool.not_eq_true', member_iff,
    member_false_iff, decide_eq_true_eq]
  exact fun h _ => prefix_below hi io hp h

theorem headn_specOK {rs : Ranges} (hi : RInv rs) (n : Nat) :
    specHeadn rs n (obsOf (headn rs n)) = true := by
  obtain ⟨out, e, io, ⟨pre, hp⟩, hc⟩ := headn_spec hi n
  rw [e]
  simp only [obsOf, specHeadn, canonical_of_inv io, spec_card_eq, hc, beq_self_eq_true, Bool.true_and,
    List.all_eq_true, Bool.and_eq_true, not_or_eq_true_iff_imp, Bool.not_eq_true', member_iff,
    member_false_iff, decide_eq_true_eq]
  exact fun h _ => suffix_above hi io hp h

/-! ### edges, left-of, right-of -/

theorem edges_ok {rs : Ranges} (hi : RInv rs) :
    ∃ e, edges rs = .ok e ∧ RInv e ∧
      ∀ h, mem e h ↔ mem rs h ∧ (¬ mem rs (h - 1) ∨ ¬ mem rs (h + 1)) :=
  ((edges_spec hi).congr (edge_iff_boundary hi)).out

theorem edges_specOK {rs : Ranges} (hi : RInv rs) : specEdges rs (obsOf (edges rs)) = true :=
  ((edges_spec hi).congr (edge_iff_boundary hi)).specOK (fun _ => rfl) fun h => by
    rw [Bool.and_eq_true, Bool.or_eq_true, Bool.not_eq_true', Bool.not_eq_true', member_iff,
      member_false_iff, member_false_iff]

theorem leftOf_ok {rs : Ranges} {h : Nat} (hi : RInv rs) (hh : 1 ≤ h) :
    ∃ o, leftOf rs h = .ok o ∧ (o = none → ∀ x, mem rs x → h ≤ x) ∧
      (∀ y, o = some y → mem rs y ∧ y < h ∧ ∀ x, mem rs x → x < h → x ≤ y) := leftOf_spec hi hh

theorem rightOf_ok {rs : Ranges} {h : Nat} (hi : RInv rs) (hh : 1 ≤ h) :
    ∃ o, rightOf rs h = .ok o ∧ (o = none → ∀ x, mem rs x → x ≤ h) ∧
      (∀ y, o = some y → mem rs y ∧ h < y ∧ ∀ x, mem rs x → h < x → y ≤ x) := rightOf_spec hi hh

theorem leftOf_specOK {rs : Ranges} {h : Nat} (hi : RInv rs) (hh : 1 ≤ h) :
    ∃ o, leftOf rs h = .ok o ∧ specLeftOf rs h o = true := by
  obtain ⟨o, e, hn, hs⟩ := leftOf_spec hi hh
  refine ⟨o, e, ?_⟩
  cases o with
  | none =>
    simp only [specLeftOf, List.all_eq_true, decide_eq_true_eq]
    intro r hr
    exact hn rfl r.1 (mem_start hi hr)
  | some y =>
    obtain ⟨k1, k2, k3⟩ := hs y rfl
    simp only [specLeftOf, Bool.and_eq_true, member_iff, decide_eq_true_eq]
    exact ⟨⟨k1, k2⟩, gap_not_meets fun x hx h1 h2 => Nat.not_lt.2 (k3 x hx h2) h1⟩

theorem rightOf_specOK {rs : Ranges} {h : Nat} (hi : RInv rs) (hh : 1 ≤ h) :
    ∃ o, rightOf rs h = .ok o ∧ specRightOf rs h o = true := by
  obtain ⟨o, e, hn, hs⟩ := rightOf_spec hi hh
  refine ⟨o, e, ?_⟩
  cases o with
  | none =>
    simp only [specRightOf, List.all_eq_true, decide_eq_true_eq]
    intro r hr
    exact hn rfl r.2 (mem_end hi hr)
  | some y =>
    obtain ⟨k1, k2, k3⟩ := hs y rfl
    simp only [specRightOf, Bool.and_eq_true, member_iff, decide_eq_true_eq]
    exact ⟨⟨k1, k2⟩, gap_not_meets fun x hx h1 h2 => Nat.not_lt.2 (k3 x hx h1) h2⟩

/-! ### balanced partition -/

/-- `partitions`: `None` exactly for the empty set; otherwise `left < middle < right`, together
    exactly the set, sizes differing by at most one; no `u64` overflow (in particular not in
    `start + middle - left_len`) -/
theorem partitions_ok {rs : Ranges} (hi : RInv rs) :
    (rs = [] ∧ partitions rs = .ok none) ∨
    (rs ≠ [] ∧ ∃ l m r, partitions rs = .ok (some (l, m, r)) ∧ RInv l ∧ RInv r ∧
      (∀ h, mem rs h ↔ mem l h ∨ h = m ∨ mem r h) ∧
      (∀ a, mem l a → a < m) ∧ (∀ b, mem r b → m < b) ∧
      PCard l + 1 + PCard r = PCard rs ∧ PCard l ≤ PCard r + 1 ∧ PCard r ≤ PCard l + 1) := by
  rcases partitions_spec hi with h | ⟨hne, l, m, r, e, il, ir, hh, c1, c2⟩
  · exact Or.inl h
  · exact Or.inr ⟨hne, l, m, r, e, il, ir, partitions_mem hh, (partitions_order hi hh).1,
      (partitions_order hi hh).2, partitions_card hh, c1, c2⟩

theorem partitions_specOK {rs : Ranges} (hi : RInv rs) :
    ∃ o, partitions rs = .ok o ∧ specPartitions rs o = true := by
  rcases partitions_ok hi with ⟨h, e⟩ | ⟨_, l, m, r, e, il, ir, hm, ho1, ho2, _, c1, c2⟩
  · subst h
    exact ⟨none, e, by simp [specPartitions, Lumina.Spec.C17.card]⟩
  · refine ⟨some (l, m, r), e, ?_⟩
    simp only [specPartitions, canonical_of_inv il, canonical_of_inv ir, spec_card_eq, Bool.true_and,
      Bool.and_eq_true, member_iff, List.all_eq_true, decide_eq_true_eq, sameOn, beq_iff_eq]
    refine ⟨⟨⟨⟨⟨(hm m).2 (Or.inr (Or.inl rfl)), ?_⟩, ?_⟩, ?_⟩, decide_eq_true c1⟩, decide_eq_true c2⟩
    · intro x hx
      exact ho1 x.2 (mem_end il hx)
    · intro x hx
      exact ho2 x.1 (mem_start ir hx)
    · intro h _
      apply Bool.eq_iff_iff.2
      rw [member_iff, Bool.or_eq_true, Bool.or_eq_true, member_iff, member_iff, beq_iff_eq, hm h,
        or_assoc]

/-! ### all operation sequences -/

/-- **Histories.**  Starting from registers that all satisfy `Inv` (e.g. all empty), EVERY sequence
    of operations (any length, any `u64` arguments, valid or not) runs without a panic — no `u64`
    overflow, no failed `debug_assert!` / `expect` / index — and leaves every register `Inv`:
    sorted, disjoint, non-adjacent, free of height 0.  Each individual step is then characterised
    by the per-operation theorems above. -/
theorem histories_inv (ops : List Op) (hb : ∀ op ∈ ops, op.Bounded) :
    ∃ s', run ops (fun _ => []) = .ok s' ∧ ∀ i, RInv (s' i) :=
  run_inv ops (fun _ => inv_nil) hb

theorem histories_inv_from (ops : List Op) {s : St} (hs : ∀ i, RInv (s i)) (hb : ∀ op ∈ ops, op.Bounded) :
    ∃ s', run ops s = .ok s' ∧ ∀ i, RInv (s' i) :=
  run_inv ops hs hb


/-- the spec checker of the operation `op`, evaluated on the MODEL's own result from state `s`
    (the same checkers the correspondence run evaluates on the implementation's results) -/
def stepSpec (s : St) : Op → Bool
  | .new _ => true
  | .fromVec v _ => specFromVec v (obsOf (fromVec v))
  | .insert x r => specInsert (s x) r (obsOf (insertRelaxed (s x) r))
  | .remove x r => specRemove (s x) r (obsOf (removeRelaxed (s x) r))
  | .popHead x => match popHead (s x) with
    | .ok (o, out) => specPopHead (s x) o out
    | .error _ => false
  | .popTail x => match popTail (s x) with
    | .ok (o, out) => specPopTail (s x) o out
    | .error _ => false
  | .headn x n _ => specHeadn (s x) n (obsOf (headn (s x) n))
  | .tailn x n _ => specTailn (s x) n (obsOf (tailn (s x) n))
  | .edges x _ => specEdges (s x) (obsOf (edges (s x)))
  | .add x y _ => specUnion (s x) (s y) (obsOf (add (s x) (s y)))
  | .bitOr x y _ => specUnion (s x) (s y) (obsOf (bitOr (s x) (s y)))
  | .sub x y _ => specDiff (s x) (s y) (obsOf (sub (s x) (s y)))
  | .bitAnd x y _ => specInter (s x) (s y) (obsOf (bitAnd (s x) (s y)))
  | .bitNot x _ => specCompl (s x) (obsOf (bitNot (s x)))
  | .len x => specLen (s x) (match len (s x) with | .ok n => some n | .error _ => none)
  | .partitions x => match partitions (s x) with
    | .ok o => specPartitions (s x) o
    | .error _ => false
  | .leftOf x h => match leftOf (s x) h with
    | .ok o => specLeftOf (s x) h o
    | .error _ => false
  | .rightOf x h => match rightOf (s x) h with
    | .ok o => specRightOf (s x) h o
    | .error _ => false

/-- from an all-`Inv` state every operation's result passes its spec checker -/
theorem step_specOK {s : St} (hs : ∀ i, RInv (s i)) {op : Op} (hb : op.Bounded) : stepSpec s op = true := by
  cases op with
  | new d => rfl
  | fromVec v d => exact fromVec_specOK v hb
  | insert x r => exact insert_specOK (hs x) r hb
  | remove x r => exact remove_specOK (hs x) r hb
  | popHead x =>
    obtain ⟨o, out, e, _, h⟩ := popHead_specOK (hs x)
    simp only [stepSpec, e]; exact h
  | popTail x =>
    obtain ⟨o, out, e, _, h⟩ := popTail_specOK (hs x)
    simp only [stepSpec, e]; exact h
  | headn x n d => exact headn_specOK (hs x) n
  | tailn x n d => exact tailn_specOK (hs x) n
  | edges x d => exact edges_specOK (hs x)
  | add x y d => exact (union_specOK (hs x) (hs y)).1
  | bitOr x y d => exact (union_specOK (hs x) (hs y)).2
  | sub x y d => exact difference_specOK (hs x) (hs y)
  | bitAnd x y d => exact intersection_specOK (hs x) (hs y)
  | bitNot x d => exact complement_specOK (hs x)
  | len x => exact len_specOK (hs x)
  | partitions x =>
    obtain ⟨o, e, h⟩ := partitions_specOK (hs x)
    simp only [stepSpec, e]; exact h
  | leftOf x h =>
    obtain ⟨o, e, h'⟩ := leftOf_specOK (hs x) hb
    simp only [stepSpec, e]; exact h'
  | rightOf x h =>
    obtain ⟨o, e, h'⟩ := rightOf_specOK (hs x) hb
    simp only [stepSpec, e]; exact h'

/-- **Every step of every history satisfies the spec.**  For any operation sequence (any length,
    any `u64` arguments) started from empty registers and any position in it: the prefix runs
    without panic to an all-`Inv` state, and the operation at that position returns what its spec
    checker — the set-theoretic meaning of the operation — allows. -/
theorem histories_every_step_spec (pre : List Op) (op : Op) (post : List Op)
    (hb : ∀ o ∈ pre ++ op :: post, o.Bounded) :
    ∃ s, run pre (fun _ => []) = .ok s ∧ (∀ i, RInv (s i)) ∧ stepSpec s op = true := by
  obtain ⟨s, e, hs⟩ := run_inv pre (s := fun _ => []) (fun _ => inv_nil)
    (fun o ho => hb o (List.mem_append_left _ ho))
  exact ⟨s, e, hs, step_specOK hs (hb op (by simp))⟩

/-! ### the two repaired defects, on the pre-repair transcriptions -/

/-- before `fix: BlockRange::tailn …`: `(MAX-2..=MAX).tailn(10)` lost `u64::MAX`, and
    `(MAX..=MAX).tailn(2)` was the invalid range `MAX..=MAX-1` (→ `expect` panic in `BlockRanges::tailn`) -/
theorem tailn_prefix_defect :
    Range.tailnPreFix (U64_MAX - 2, U64_MAX) 10 = (U64_MAX - 2, U64_MAX - 1) ∧
    Range.tailnPreFix (U64_MAX, U64_MAX) 2 = (U64_MAX, U64_MAX - 1) ∧
    Range.tailn (U64_MAX - 2, U64_MAX) 10 = (U64_MAX - 2, U64_MAX) ∧
    Range.tailn (U64_MAX, U64_MAX) 2 = (U64_MAX, U64_MAX) := by
  decide

/-- before `fix: BlockRanges::from_vec merges adjacent ranges`: a non-canonical value was accepted -/
theorem fromVec_prefix_defect :
    (match fromVecPreFix [(1, 2), (3, 4)] with | .ok out => invB out | .error _ => true) = false ∧
    (match fromVec [(1, 2), (3, 4)] with | .ok out => out == [(1, 4)] | .error _ => false) = true := by
  decide

/-! ### non-vacuity -/

example : RInv [(1, 3), (6, 9)] := inv_of_invB (by decide)
example : RInv [(1, 2), (18446744073709551614, 18446744073709551615)] := inv_of_invB (by decide)
example : ValidR (4, 5) := ⟨by decide, by decide, by decide⟩
example : insertRelaxed [(1, 3), (6, 9)] (4, 5) = .ok [(1, 9)] := rfl
example : removeRelaxed [(1, 9)] (4, 5) = .ok [(1, 3), (6, 9)] := rfl
example : partitions [(1, 3), (6, 9)] = .ok (some ([(1, 3)], 6, [(7, 9)])) := rfl
example : (Op.insert 0 (4, 5)).Bounded := by show 5 ≤ U64_MAX; decide
example : ∃ s', run [.insert 0 (1, 3), .insert 0 (6, 9), .bitNot 0 1, .bitAnd 0 1 2, .popHead 0,
    .headn 0 2 3, .partitions 0] (fun _ => []) = .ok s' ∧ s' 0 = [(1, 3), (6, 8)] ∧ s' 2 = [] ∧
    s' 3 = [(7, 8)] := ⟨_, rfl, rfl, rfl, rfl⟩

end Lumina.Props.C17

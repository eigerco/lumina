/-
  C36 — Window-edge search finds the newest header outside the window.

  Property theorems about the model `Lumina/Model/Pruner.lean` (`find` = `find_height_after_window`,
  `findFast`, `findSlow`), for EVERY well-formed `BlockRanges` value (any number of ranges, any
  heights up to u64::MAX), every assignment of times that increases with height on the stored
  heights, every cutoff (ties included) and every admissible previous answer.  The decidable
  checkers are those of `Lumina/Spec/C36.lean`, evaluated on the set `heights stored`.

  `StoreOK store stored T` : the header store returns the header (time `T h`) of every height of
  `stored` (what `store.get_stored_header_ranges()` promises).
-/
import Lumina.Proofs.Pruner

namespace Lumina.Props.C36
open Lumina.Model.Ranges hiding Inv
open Lumina.Model.Pruner Lumina.Proofs.Pruner Lumina.Proofs.Ranges
open Lumina.Spec.C36

open Lumina.Model.Ranges renaming Inv → RInv

/-- MAIN THEOREM.  Under the property's preconditions the search never fails (no panic, no missing
    header, the binary-search loop terminates) and its answer passes the property's checker. -/
theorem find_meets_spec (store : Nat → Option Nat) (stored : Ranges) (T : Nat → Nat)
    (cutoff : Nat) (prev : Option Nat) (hi : RInv stored) (hs : StoreOK store stored T)
    (hmono : timesIncrease (heights stored) T = true)
    (hadm : admissible (heights stored) T cutoff prev = true) :
    ∃ answer, find store stored cutoff prev = .ok answer ∧
      answerOK (heights stored) T cutoff answer = true := by
  obtain ⟨o, h1, h2⟩ := find_correct partitionsOK cutoff prev hi hs
    ((timesIncrease_iff stored T).1 hmono) ((admissible_iff stored T cutoff prev).1 hadm)
  exact ⟨o, h1, (answerOK_iff stored T cutoff o).2 h2⟩

/-- the same as a statement about whatever the search returns: `specOK` holds of every result -/
theorem find_specOK (store : Nat → Option Nat) (stored : Ranges) (T : Nat → Nat)
    (cutoff : Nat) (prev : Option Nat) (hi : RInv stored) (hs : StoreOK store stored T)
    (answer : Option Nat) (hres : find store stored cutoff prev = .ok answer) :
    specOK (heights stored) T cutoff prev answer = true := by
  unfold specOK
  by_cases hpre : (timesIncrease (heights stored) T && admissible (heights stored) T cutoff prev) = true
  · rw [Bool.and_eq_true] at hpre
    obtain ⟨o, h1, h2⟩ := find_meets_spec store stored T cutoff prev hi hs hpre.1 hpre.2
    rw [hres] at h1
    cases h1
    simp [h2]
  · simp only [Bool.not_eq_true] at hpre
    simp [hpre]

/-- the answer, spelled out: a stored height, not newer than the cutoff, nothing stored above it
    is older than the cutoff -/
theorem find_some_is_edge (store : Nat → Option Nat) (stored : Ranges) (T : Nat → Nat)
    (cutoff : Nat) (prev : Option Nat) (hi : RInv stored) (hs : StoreOK store stored T)
    (hmono : Mono stored T) (hadm : Adm stored T cutoff prev) (h : Nat)
    (hres : find store stored cutoff prev = .ok (some h)) :
    mem stored h ∧ T h ≤ cutoff ∧ ∀ h', mem stored h' → h < h' → cutoff ≤ T h' := by
  obtain ⟨o, h1, h2⟩ := find_correct partitionsOK cutoff prev hi hs hmono hadm
  rw [hres] at h1
  cases h1
  exact ⟨h2.1, h2.2.1, fun h' hm hlt => Nat.le_of_not_lt (h2.2.2 h' hm hlt)⟩

/-- "It returns nothing only if no stored header is strictly older than the cutoff." -/
theorem find_none_only_if_nothing_older (store : Nat → Option Nat) (stored : Ranges) (T : Nat → Nat)
    (cutoff : Nat) (prev : Option Nat) (hi : RInv stored) (hs : StoreOK store stored T)
    (hmono : Mono stored T) (hadm : Adm stored T cutoff prev)
    (hres : find store stored cutoff prev = .ok none) :
    ∀ h, mem stored h → cutoff ≤ T h := by
  obtain ⟨o, h1, h2⟩ := find_correct partitionsOK cutoff prev hi hs hmono hadm
  rw [hres] at h1
  cases h1
  exact fun h hm => Nat.le_of_not_lt (h2 h hm)

/-- TERMINATION of the binary search (`while let Some(..) = ranges.partitions()`): on every
    well-formed `BlockRanges` whose headers are in the store the model's loop ends with an answer;
    in particular the outcome `diverge` (see `Model/Pruner.lean`) never occurs.  No assumption on
    the times. -/
theorem findSlow_terminates (store : Nat → Option Nat) (stored : Ranges) (T : Nat → Nat)
    (cutoff : Nat) (hi : RInv stored) (hs : StoreOK store stored T) :
    ∃ answer, findSlow store stored cutoff = .ok answer :=
  findSlow_total cutoff hi hs

theorem findSlow_never_diverges (store : Nat → Option Nat) (stored : Ranges) (T : Nat → Nat)
    (cutoff : Nat) (hi : RInv stored) (hs : StoreOK store stored T) :
    findSlow store stored cutoff ≠ .error .diverge := by
  obtain ⟨o, h⟩ := findSlow_total cutoff hi hs
  rw [h]; intro hc; cases hc

/-- the binary search returns exactly the greatest stored height STRICTLY older than the cutoff
    (so on a tie `time = cutoff` it answers below the tied header) -/
theorem findSlow_exact (store : Nat → Option Nat) (stored : Ranges) (T : Nat → Nat)
    (cutoff : Nat) (hi : RInv stored) (hs : StoreOK store stored T) (hmono : Mono stored T) :
    ∃ answer, findSlow store stored cutoff = .ok answer ∧
      match answer with
      | some h => mem stored h ∧ T h < cutoff ∧ ∀ h', mem stored h' → h < h' → cutoff ≤ T h'
      | none => ∀ h, mem stored h → cutoff ≤ T h := by
  obtain ⟨o, h1, h2⟩ := findSlow_correct partitionsOK cutoff hi hs hmono
  refine ⟨o, h1, ?_⟩
  cases o with
  | none => exact fun h hm => Nat.le_of_not_lt (h2 h hm)
  | some x => exact ⟨h2.1, h2.2.1, fun h' hm hlt => Nat.le_of_not_lt (h2.2.2 h' hm hlt)⟩

/-- whenever the fast path answers by itself (no binary search), the answer passes the checker -/
theorem findFast_answer_ok (store : Nat → Option Nat) (stored : Ranges) (T : Nat → Nat)
    (cutoff : Nat) (prev : Option Nat) (hi : RInv stored) (hs : StoreOK store stored T)
    (hmono : timesIncrease (heights stored) T = true)
    (hadm : admissible (heights stored) T cutoff prev = true) :
    ∃ o, findFast store stored cutoff prev = .ok o ∧
      ∀ answer, o = some answer → answerOK (heights stored) T cutoff answer = true := by
  obtain ⟨o, h1, h2⟩ := findFast_correct cutoff prev hi hs
    ((timesIncrease_iff stored T).1 hmono) ((admissible_iff stored T cutoff prev).1 hadm)
  exact ⟨o, h1, fun a ha => (answerOK_iff stored T cutoff a).2 (h2 a ha)⟩

/-- "an answer that was correct for an earlier cutoff" is admissible: if `p ≥ 1` passed the
    checker for some earlier cutoff (for whatever was stored then) and header times increase with
    height over `p` and what is stored now, then `p` is an admissible previous answer now -/
theorem admissible_of_earlier_answer (storedThen storedNow : List Nat) (T : Nat → Nat)
    (cutoffThen cutoffNow p : Nat) (hp : 1 ≤ p)
    (hwas : answerOK storedThen T cutoffThen (some p) = true) (hle : cutoffThen ≤ cutoffNow)
    (hmono : ∀ h ∈ storedNow, h ≤ p → T h ≤ T p) :
    admissible storedNow T cutoffNow (some p) = true := by
  simp only [answerOK, rightEdge, Bool.and_eq_true, decide_eq_true_eq] at hwas
  simp only [admissible, Bool.and_eq_true, decide_eq_true_eq, List.all_eq_true, Bool.or_eq_true,
    Bool.not_eq_true', decide_eq_false_iff_not]
  refine ⟨hp, fun h hm => ?_⟩
  by_cases hle' : h ≤ p
  · exact Or.inr (Nat.le_trans (hmono h hm hle') (Nat.le_trans hwas.1.2 hle))
  · exact Or.inl hle'

/-! ### ties: fast path and binary search differ exactly at `time = cutoff`, both are allowed -/

/-- heights 1..3 stored with times 10, 20, 30; cutoff 20 ties with height 2 -/
def tieStored : Ranges := [(1, 3)]
def tieTime (h : Nat) : Nat := 10 * h
def tieStore (h : Nat) : Option Nat := some (10 * h)

theorem tie_fast_answers_the_tied_header :
    findFast tieStore tieStored 20 (some 1) = .ok (some (some 2)) ∧
      answerOK (heights tieStored) tieTime 20 (some 2) = true :=
  ⟨rfl, by decide⟩

unseal findSlowGo in
theorem tie_slow_answers_below_the_tied_header :
    findSlow tieStore tieStored 20 = .ok (some 1) ∧
      answerOK (heights tieStored) tieTime 20 (some 1) = true :=
  ⟨by rfl, by decide⟩

/-! ### non-vacuity: concrete states meeting the hypotheses -/

example : RInv [(1, 3), (6, 9)] := inv_of_invB (by decide)
example : StoreOK (fun h => some (10 * h)) [(1, 3), (6, 9)] (fun h => 10 * h) := fun _ _ => rfl
example : timesIncrease (heights [(1, 3), (6, 9)]) (fun h => 10 * h) = true := by decide
-- previous answer 3 (time 30) with cutoff 65; also the no-longer-stored height 4
example : admissible (heights [(1, 3), (6, 9)]) (fun h => 10 * h) 65 (some 3) = true := by decide
example : admissible (heights [(1, 3), (6, 9)]) (fun h => 10 * h) 65 (some 4) = true := by decide
-- an inadmissible one (height 7 has time 70 > 65), so the hypothesis is not always true
example : admissible (heights [(1, 3), (6, 9)]) (fun h => 10 * h) 65 (some 7) = false := by decide
-- the checker rejects wrong answers: 3 is not the edge for cutoff 65 (6 is older than 65)
example : answerOK (heights [(1, 3), (6, 9)]) (fun h => 10 * h) 65 (some 3) = false := by decide
example : answerOK (heights [(1, 3), (6, 9)]) (fun h => 10 * h) 65 (some 6) = true := by decide
example : answerOK (heights [(1, 3), (6, 9)]) (fun h => 10 * h) 65 none = false := by decide

end Lumina.Props.C36

/-
  C11 — Blob share encoding round-trips and is sized correctly.

  For ALL blobs in the property's scope (any non-empty data below 2^32 bytes, any valid non-reserved
  namespace, share version 0 without signer or version 1 with a 20-byte signer and app version ≥ 3);
  no other bound on the data length.  No idealisation (pure byte/list reasoning).
-/
import Lumina.Proofs.C11

namespace Lumina.Props.C11
open Lumina.Util Lumina.Model.Blob Lumina.Gen.C11 Lumina.Spec.C11 Lumina.Proofs.C11

/-- the generated constants are the numbers the property states -/
theorem consts_eq :
    SHARE_SIZE = 512 ∧ NS_SIZE = 29 ∧ SHARE_INFO_BYTES = 1 ∧ SEQUENCE_LEN_BYTES = 4 ∧ SIGNER_SIZE = 20 ∧
    FIRST_SPARSE_SHARE_CONTENT_SIZE = firstCap false ∧
    FIRST_SPARSE_SHARE_CONTENT_SIZE - SIGNER_SIZE = firstCap true ∧
    CONTINUATION_SPARSE_SHARE_CONTENT_SIZE = 482 ∧ SHARE_VERSION_ZERO = 0 ∧ SHARE_VERSION_ONE = 1 ∧
    MAX_SHARE_VERSION = 127 := by
  decide

/-- the model's observation of `Blob::new → to_shares → shares_len → reconstruct` -/
def obsBlob (ns data : Bytes) (sg : Option Bytes) (app : Nat) : SplitObs :=
  match Blob.new ns data sg app with
  | .error _ => .err
  | .ok b =>
    match b.toShares with
    | .error _ => .err
    | .ok shares =>
      .ok (shares.map (·.data)) b.sharesLen
        (match reconstruct shares app with
         | .ok (b', rest) => if rest.isEmpty then some (b'.ns, b'.data, b'.signer) else none
         | .error _ => none)
        (match reconstruct shares app with
         | .ok (b', _) => some b'.shareVersion
         | .error _ => none)

/-- **splitting into shares and reconstructing yields the identical blob; the shares are exactly
    those of the share format; their number is `sharesNeeded`; the reported share count equals the
    number of shares produced** — every blob in scope, any length -/
theorem blob_spec (ns data : Bytes) (sg : Option Bytes) (app : Nat) (h : inScope ns data sg app = true) :
    specBlob ns data sg (obsBlob ns data sg app) = true := by
  obtain ⟨h1, h2, h3, h4, h5⟩ := inScope_unpack ns data sg app h
  have hnew := blob_new_ok ns data sg app h1 h3 h4 h5
  have hsplit := split_eq ns data sg h1 h3 h4 (fun s hs => (h5 s hs).1)
  have hrec := reconstruct_scope (ns, data, sg) app [] h
  simp only [List.append_nil] at hrec
  have hmk : (fun d => (⟨d, false⟩ : Share)) = mkShare := rfl
  rw [hmk] at hsplit
  simp only [obsBlob, hnew, Blob.toShares, hsplit, hrec, List.isEmpty_nil, ↓reduceIte, blobOf, specBlob,
    List.map_map, Blob.sharesLen, List.length_map, expected_length, sharesNeededForBlob_eq]
  have hid : ((fun (x : Share) => x.data) ∘ mkShare) = id := by funext d; rfl
  rw [hid]
  cases sg <;> simp [SHARE_VERSION_ONE]

/-- the shares a blob in scope is split into are well-formed 512-byte shares, `sharesNeeded` many -/
theorem split_length (ns data : Bytes) (sg : Option Bytes) (app : Nat) (h : inScope ns data sg app = true) :
    ∃ shares, splitBlobToShares ns (if sg.isSome then 1 else 0) data sg = .ok shares ∧
      shares.length = sharesNeeded data.length sg.isSome := by
  obtain ⟨h1, _, h3, h4, h5⟩ := inScope_unpack ns data sg app h
  exact ⟨_, split_eq ns data sg h1 h3 h4 (fun s hs => (h5 s hs).1), by rw [List.length_map, expected_length]⟩

/-- **reconstructing all blobs from their concatenated shares interleaved with reserved-namespace
    shares (anywhere, also between the shares of one blob; parity shares included) returns them in
    order** — any number of blobs in scope, any interleaving -/
theorem reconstructAll_interleaved (app : Nat) (bs : List BlobObs) (L : List Share)
    (hs : ∀ b ∈ bs, inScope b.1 b.2.1 b.2.2 app = true)
    (hL : L.filter (fun s => !nsIsReserved s.ns) =
      (bs.map (fun b => (expectedShares b.1 b.2.1 b.2.2).map mkShare)).flatten) :
    specReconstructAll bs
      (match reconstructAll L app with
       | .ok l => some (l.map (fun b => (b.ns, b.data, b.signer)))
       | .error _ => none) = true := by
  rw [reconstructAll_of_filter app bs L hs hL]
  simp only [specReconstructAll, List.map_map, beq_iff_eq, Option.some.injEq]
  have : ((fun (b : Blob) => (b.ns, b.data, b.signer)) ∘ blobOf) = id := by funext b; rfl
  rw [this, List.map_id]

/-- The ORIGINAL `Blob::shares_len` (before the `fix:` commit) violates the property: 459 bytes with a
    signer are split into 2 shares but 1 was reported. -/
theorem sharesLenOrig_counterexample :
    let b : Blob := ⟨List.replicate 28 0 ++ [7], List.replicate 459 1, 1, some (List.replicate 20 9)⟩
    b.sharesLenOrig = 1 ∧ sharesNeeded b.data.length true = 2 := by
  simp only [Blob.sharesLenOrig, List.length_replicate, FIRST_SPARSE_SHARE_CONTENT_SIZE]
  decide

/-- non-vacuity: concrete blobs in scope, without and with signer -/
def exNs : Bytes := List.replicate 19 0 ++ List.replicate 10 7
set_option maxRecDepth 8000 in
example : inScope exNs [1, 2, 3] none 1 = true ∧ inScope exNs [1, 2, 3] (some (List.replicate 20 9)) 3 = true := by
  decide

end Lumina.Props.C11

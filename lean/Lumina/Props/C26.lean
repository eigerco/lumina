/-
  C26 — A header session returns exactly the requested range.

  Model: Lumina/Model/Session.lean (`HeaderSession`), instantiated with the constants generated
  from node/src/p2p/header_session.rs.  The scheduler (order of completion of the concurrent
  requests, and what each peer answers) is an ARBITRARY list of events `evs`; `Admissible` is the
  property's own assumption on it: every event answers an outstanding request either with a
  prefix (possibly empty) of the requested headers or with a header-ex error.  No bound on the
  range, on the number of events, or on their order.

  The spec (Lumina/Spec/C26.lean) is evaluated with the tracker `track`, folded over the events
  exactly as the driver does on the implementation's side.
-/
import Lumina.Proofs.Session
import Lumina.Gen.C26
import Lumina.Spec.C26

namespace Lumina.Props.C26
open Lumina.Model.Session Lumina.Proofs.Session Lumina.Spec.C26

variable {α : Type}

/-- the session configuration read from the source on every run -/
def cfg : Cfg :=
  { minAmount := Lumina.Gen.C26.MIN_AMOUNT_PER_REQ, maxAmount := Lumina.Gen.C26.MAX_AMOUNT_PER_REQ,
    maxConcurrent := Lumina.Gen.C26.MAX_CONCURRENT_REQS }

/-- the generated constants are the numbers the property (and the batching rule) state -/
theorem consts_eq : cfg.maxAmount = 64 ∧ cfg.minAmount = 8 ∧ cfg.maxConcurrent = 8 := by decide

/-- a requested range: non-empty, heights start at 1 and fit `u64` -/
def ValidRange (r : Range) : Prop := 1 ≤ r.1 ∧ r.1 ≤ r.2 ∧ r.2 ≤ U64_MAX

/-- the spec-side tracker after a schedule (what the peers delivered), as the driver folds it -/
def track (ht : α → Nat) : Track → List (Ev α) → Track
  | t, [] => t
  | t, .ok h a hs :: evs => track ht (t.deliver h a (hs.map ht)) evs
  | t, .err _ _ :: evs => track ht t evs
  | t, .fatal _ _ :: evs => track ht t evs

/-- generalisation used by the proofs below: tracker vs. model state along a schedule -/
theorem track_run (ht : α → Nat) (evs : List (Ev α)) :
    ∀ (s : State α) (t : Track), s.status = .running →
      t.received = s.responses.flatten.map ht → t.admissible = true → Admissible ht s evs →
      (run s evs).status = .running →
      (track ht t evs).received = (run s evs).responses.flatten.map ht ∧
      (track ht t evs).admissible = true ∧
      (track ht t evs).first = t.first ∧ (track ht t evs).last = t.last := by
  induction evs with
  | nil => intro s t _ h1 h2 _ _; exact ⟨h1, h2, rfl, rfl⟩
  | cons ev evs ih =>
    intro s t hrun h1 h2 hadm hfin
    -- a stopped session stays stopped, so this step left the session running
    have hstep : (step s ev).status = .running := by
      refine Decidable.by_contra fun h => h ?_
      rwa [run, List.foldl_cons, ← run, run_of_not_running evs h] at hfin
    cases ev with
    | fatal h a => exact hadm.1.elim
    | err h a =>
      have hresp : (step s (.err h a)).responses = s.responses := by
        rw [step_err s h a hrun hadm.1]; rfl
      exact ih _ t hstep (hresp ▸ h1) h2 hadm.2 hfin
    | ok h a hs =>
      obtain ⟨hm, hlen, hpre⟩ := hadm.1
      have hadm' : (t.deliver h a (hs.map ht)).admissible = true := by
        simp [Track.deliver, h2, isPrefixOfRequest, hlen, hpre]
      refine ih _ (t.deliver h a (hs.map ht)) hstep ?_ hadm' hadm.2 hfin
      rw [step_ok_flatten s h a hs hrun hm, List.map_append, ← h1]
      rfl

/-- **Invariant, all schedules**: after any admissible schedule the session is still running (no
    panic, no failure), the heights in `to_fetch`, in outstanding requests and in received headers
    are exactly the requested range, each once, and all 8 request slots are busy while anything is
    left in `to_fetch`. -/
theorem session_inv (ht : α → Nat) (r : Range) (hr : ValidRange r) (evs : List (Ev α))
    (hadm : Admissible ht (init cfg r) evs) :
    Inv ht 64 r (run (init cfg r) evs) ∧ Full 8 (run (init cfg r) evs) :=
  inv_run_init ht cfg (by decide) r hr evs hadm

/-- the heights accounted for are a permutation of the range: a partition, each height once -/
theorem session_partition (ht : α → Nat) (r : Range) (hr : ValidRange r) (evs : List (Ev α))
    (hadm : Admissible ht (init cfg r) evs) :
    (heights ht (run (init cfg r) evs)).Perm (List.range' r.1 (r.2 - r.1 + 1)) := by
  have := (session_inv ht r hr evs hadm).1.perm
  rwa [rangeLen_pos hr.2.1] at this

/-- **Requests, all schedules**: every outstanding request — in particular every request issued
    by the last step (`issued_mem`) — is a non-empty sub-range of the not-yet-received heights of
    the requested range, of at most 64 headers (the spec's `specRequest`, with the tracker folded
    over the schedule). -/
theorem session_requests (ht : α → Nat) (r : Range) (hr : ValidRange r) (evs : List (Ev α))
    (hadm : Admissible ht (init cfg r) evs) :
    specRequests (track ht (Track.start r.1 r.2) evs) (run (init cfg r) evs).tasks = true := by
  obtain ⟨hinv, _⟩ := session_inv ht r hr evs hadm
  obtain ⟨hrec, _, hfirst, hlast⟩ := track_run ht evs (init cfg r) (Track.start r.1 r.2)
    (inv_init ht cfg r (by decide) hr).1.running (by rw [init_responses]; rfl)
    (decide_eq_true ⟨hr.1, hr.2.1⟩) hadm hinv.running
  have hfirst' : (track ht (Track.start r.1 r.2) evs).first = r.1 := hfirst
  have hlast' : (track ht (Track.start r.1 r.2) evs).last = r.2 := hlast
  simp only [specRequests, List.all_eq_true]
  intro q hq
  have hamt := hinv.amt q hq
  have hin := task_in_range hinv hq
  simp only [specRequest, Bool.and_eq_true, decide_eq_true_eq, List.all_eq_true, Bool.or_eq_true,
    hfirst', hlast']
  have hr1 := hr.2.1
  exact ⟨⟨⟨⟨hamt.1, hamt.2⟩, hin.1⟩, by omega⟩,
    fun x hx => received_outside_task hinv hq (hrec ▸ hx)⟩

/-- the requests a step issues are among the outstanding requests of the state it leads to -/
theorem issued_mem (pre : State α) (ev : Ev α) (q : Req) (h : q ∈ issued pre (step pre ev) ev) :
    q ∈ (step pre ev).tasks := by
  unfold issued at h
  split at h
  · exact List.mem_of_mem_drop h
  · simp at h

/-- **Result, all schedules**: a session that completes (`tasks` drained, `run()` returns `Ok`)
    returns every height of the range exactly once in ascending order. -/
theorem session_result (ht : α → Nat) (r : Range) (hr : ValidRange r) (evs : List (Ev α))
    (hadm : Admissible ht (init cfg r) evs) (hdone : finished (run (init cfg r) evs) = true) :
    specResult (track ht (Track.start r.1 r.2) evs) ((result ht (run (init cfg r) evs)).map ht) = true := by
  obtain ⟨hinv, hfull⟩ := session_inv ht r hr evs hadm
  have hres := result_eq hinv hfull (by decide) ((finished_iff_tasks hinv.running).mp hdone)
  obtain ⟨_, _, hfirst, hlast⟩ := track_run ht evs (init cfg r) (Track.start r.1 r.2)
    (inv_init ht cfg r (by decide) hr).1.running (by rw [init_responses]; rfl)
    (decide_eq_true ⟨hr.1, hr.2.1⟩) hadm hinv.running
  have hfirst' : (track ht (Track.start r.1 r.2) evs).first = r.1 := hfirst
  have hlast' : (track ht (Track.start r.1 r.2) evs).last = r.2 := hlast
  simp only [specResult, hfirst', hlast', hres, rangeLen_pos hr.2.1, beq_self_eq_true]

/-- the returned headers are exactly the headers that were received (nothing invented, dropped
    or duplicated by the final sort) -/
theorem session_result_perm (ht : α → Nat) (s : State α) :
    (result ht s).Perm s.responses.flatten := result_perm ht s

/-- **Progress measure**: heights received + heights still owed = length of the range, after every
    admissible schedule; the session is complete exactly when every height has been received.
    Hence every non-empty prefix answer makes strict progress and at most `len` headers are ever
    accepted: the session terminates as soon as the peers have delivered the range. -/
theorem session_progress (ht : α → Nat) (r : Range) (hr : ValidRange r) (evs : List (Ev α))
    (hadm : Admissible ht (init cfg r) evs) :
    (run (init cfg r) evs).responses.flatten.length + remaining (run (init cfg r) evs)
        = r.2 - r.1 + 1 ∧
    (finished (run (init cfg r) evs) = true ↔
      (run (init cfg r) evs).responses.flatten.length = r.2 - r.1 + 1) := by
  obtain ⟨hinv, hfull⟩ := session_inv ht r hr evs hadm
  have hlen := inv_length hinv
  rw [rangeLen_pos hr.2.1] at hlen
  refine ⟨hlen, ?_⟩
  rw [finished_iff_tasks hinv.running, tasks_nil_iff_remaining hinv hfull (by decide)]
  omega

/-! ### non-vacuity: concrete admissible schedules -/

/-- range 1..=100: batch size 13, eight requests taken from the top, `1..=9` left to fetch -/
example : (init cfg (1, 100) : State Nat).tasks
    = [(88, 13), (75, 13), (62, 13), (49, 13), (36, 13), (23, 13), (10, 13), (1, 9)] := by decide +kernel

/-- an admissible out-of-order schedule with a truncated answer, an empty answer and an error -/
example : Admissible id (init cfg (5, 12) : State Nat)
    [.ok 5 8 [5, 6, 7], .err 8 5, .ok 8 5 [], .ok 8 5 [8, 9, 10, 11, 12]] := by decide +kernel

example : result id (run (init cfg (5, 12) : State Nat)
    [.ok 5 8 [5, 6, 7], .err 8 5, .ok 8 5 [], .ok 8 5 [8, 9, 10, 11, 12]]) = [5, 6, 7, 8, 9, 10, 11, 12] := by
  decide +kernel

example : ValidRange (5, 12) := by simp [ValidRange, U64_MAX]

end Lumina.Props.C26

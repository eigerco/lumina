/-
  C13 — Merkle, row and share proofs are position-binding and sound.

  `H : HashFns D` is an ARBITRARY hash (any digest type `D`).  Soundness theorems assume, as explicit
  hypotheses, that `H.inner` and `H.leaf` are collision free (`InnerInj`, `LeafInj`); the
  `…_collision` forms state the same reduction contrapositively (an accepted wrong proof yields an
  explicit collision).  No hypothesis is needed for completeness or for `index < total`.
  `Spec/C13.lean` defines the tree independently (RFC 6962 by doubling + fuel); the theorems below are
  of the form `spec… input (model input) = true` for ALL inputs (no bound on tree size, proof
  length, indices).

  Share proofs: the rule of the spec is `specShareVerify` = `specShareVerifyCore` ∧ inner-node clause.
  `shareproof_verify_sound_partial` proves the CORE (counts, presence, row-proof rule, share groups bound to the square, and
  NO ABORT: a panic is a failure of the property) with the NMT binding DERIVED from the multi-leaf range-proof soundness of
  `Proofs/NmtMultiSound.lean`, under collision-freeness of the NMT hash RELATIVE to the explicit finite list of inputs it is
  applied to (`NmtMulti.shareVerifyInputs`; `HashOKOn`, satisfiable — injectivity on all byte strings would be contradictory); `shareproof_verify_sound_of_nmtBinds_partial` takes the binding as a
  hypothesis.  The inner-node clause is evaluated on the implementation by the driver but not proved of the model
  (`ShareProofFullStatement` shows the full statement).  `shareproof_verifyOrig_counterexample`: the original code aborts.

  Models: `Lumina/Model/Merkle.lean` (MerkleProof), `Lumina/Model/RowProof.lean` (RowProof, DAH hash,
  row_proof), `Lumina/Model/ShareProof.lean` (ShareProof over `Lumina/Model/Nmt.lean`).
-/
import Lumina.Proofs.C13Share
import Lumina.Proofs.NmtMultiShare
import Lumina.Proofs.NmtMultiShareBuild
import Lumina.Proofs.NmtMultiToy
import Lumina.Props.C04   -- only for the concrete square of the non-vacuity example

namespace Lumina.Props.C13
open Lumina.Util Lumina.Model.Merkle Lumina.Proofs.Merkle Lumina.Proofs.C13
open Lumina.Spec.C13
open Lumina.Model.RowProof (RowProof)

variable {D : Type}

/-! ## the RFC-6962 tree of the spec is the tree the code builds -/

/-- "largest power of two smaller than n" (doubling) = `n.next_power_of_two() / 2` for every n ≥ 2 -/
theorem split_point_is_rfc6962 (n : Nat) (h : 2 ≤ n) : largestPow2Below n = splitPoint n :=
  largestPow2Below_eq n h

/-- `simple_hash_from_byte_vectors` computes the RFC-6962 Merkle Tree Hash, for every leaf list -/
theorem root_is_rfc6962 (H : HashFns D) (L : List Bytes) : root H L = treeRoot H L :=
  (treeRoot_eq_root H L).symm

/-! ## MerkleProof -/

/-- **accepted only if index < total** — every proof, every leaf, every root, any hash -/
theorem merkle_verify_index_below_total [DecidableEq D] (H : HashFns D) (p : Proof D) (leaf : Bytes) (rt : D) :
    specVerifyIndex (obsOf p) (resOf (p.verify H leaf rt)) = true := by
  cases hv : p.verify H leaf rt with
  | ok =>
    obtain ⟨_, hlt, _, _⟩ := (verify_ok_iff H p leaf rt).1 hv
    simp [specVerifyIndex, resOf, obsOf, hlt]
  | err e => rfl
  | panic => rfl

/-- **accepted only if the leaf is at that index of the tree with that count and root**, and the
    inner nodes are the audit path (any altered inner node is rejected) — all leaf lists, all proofs -/
theorem merkle_verify_sound [DecidableEq D] (H : HashFns D) (hinj : InnerInj H) (hleaf : LeafInj H)
    (L : List Bytes) (p : Proof D) (leaf : Bytes) (rt : D) :
    specVerify H L (obsOf p) leaf rt (resOf (p.verify H leaf rt)) = true := by
  cases hv : p.verify H leaf rt with
  | err e => rfl
  | panic => rfl
  | ok =>
    simp only [specVerify, resOf, obsOf]
    by_cases hc : rt = treeRoot H L ∧ p.total = L.length
    · obtain ⟨hr, ht⟩ := hc
      rw [treeRoot_eq_root] at hr
      subst hr
      obtain ⟨h1, h2, h3⟩ := verify_sound H hinj hleaf L p leaf hv ht
      simp [h1, h2, h3, auditPath_eq]
    · have : (rt == treeRoot H L && p.total == L.length) = false := by
        simp only [Bool.and_eq_false_iff, beq_eq_false_iff_ne, ne_eq]
        by_cases h : rt = treeRoot H L
        · exact Or.inr (fun h' => hc ⟨h, h'⟩)
        · exact Or.inl h
      simp [this]

/-- the same as an implication, in the model's own terms -/
theorem merkle_sound [DecidableEq D] (H : HashFns D) (hinj : InnerInj H) (hleaf : LeafInj H)
    (L : List Bytes) (p : Proof D) (leaf : Bytes)
    (hv : p.verify H leaf (root H L) = .ok) (ht : p.total = L.length) :
    p.index < p.total ∧ L[p.index]? = some leaf :=
  let ⟨a, b, _⟩ := verify_sound H hinj hleaf L p leaf hv ht
  ⟨a, b⟩

/-- reduction form: a proof accepted for a leaf that is NOT at that index yields a hash collision -/
theorem merkle_sound_collision [DecidableEq D] (H : HashFns D) (L : List Bytes) (p : Proof D) (leaf : Bytes)
    (hv : p.verify H leaf (root H L) = .ok) (ht : p.total = L.length)
    (hwrong : L[p.index]? ≠ some leaf) : Collision H := by
  apply Classical.byContradiction
  intro hn
  obtain ⟨hl, hi⟩ := (not_collision_iff H).1 hn
  exact hwrong (merkle_sound H hi hl L p leaf hv ht).2

/-- **proofs built by `MerkleProof::new` verify**: built iff `i < |L|`; index, count, leaf hash, aunts
    (= RFC audit path) and root (= RFC tree hash) are right; `verify` accepts.  No hash hypothesis.
    (`|L| ≤ 2^63`: a `Vec` cannot be longer; beyond it `next_power_of_two` overflows.) -/
theorem merkle_new_complete [DecidableEq D] (H : HashFns D) (L : List Bytes) (i : Nat)
    (hsz : L.length ≤ 2 ^ 63) :
    specNew H L i
      (match Proof.new H i L with
       | .error _ => .err
       | .ok (p, rt) => .ok (obsOf p) rt (resOf (p.verify H (L.getD i []) rt))) = true := by
  by_cases hi : i < L.length
  · obtain ⟨p, hnew, h1, h2, h3, h4, h5⟩ := new_verifies H L i hi hsz
    rw [hnew]
    simp only
    rw [h5]
    simp [specNew, obsOf, resOf, hi, h1, h2, h3, h4, treeRoot_eq_root, auditPath_eq]
  · have : Proof.new H i L = .error .indexOutOfRange := by
      unfold Proof.new; rw [if_pos (by omega)]
    rw [this]
    simp only [specNew, decide_eq_true_eq]
    omega

/-- The ORIGINAL `verify` (before the `fix:` commit) violates the property: the one-leaf tree `[x]`,
    proof `(index = 5, total = 1, no aunts)` is accepted although 5 ≥ 1. -/
theorem merkle_verifyOrig_counterexample :
    let p : Proof Term := { index := 5, total := 1, leafHash := .leaf [1], aunts := [] }
    p.verifyOrig termFns [1] (root termFns [[1]]) = .ok ∧
      specVerifyIndex (obsOf p) (resOf (p.verifyOrig termFns [1] (root termFns [[1]]))) = false := by
  have hr : root termFns [[1]] = Term.leaf [1] := by rw [root_singleton]; rfl
  simp only [hr]
  decide

/-! ## RowProof -/

/-- **row proofs fail if any proven root or inner node is altered or the number of roots does not
    match the claimed row span** (and never abort): for every row proof whose merkle proofs carry
    `total ≤ 2^63` (guaranteed by the wire decoding, `total: i64`), every DAH root list `all` and
    every data root. -/
theorem rowproof_verify_sound [DecidableEq D] (H : HashFns D) (hinj : InnerInj H) (hleaf : LeafInj H)
    (all : List Bytes) (rp : RowProof D) (rt : Option D)
    (hb : ∀ p ∈ rp.proofs, p.total ≤ 2 ^ 63) :
    specRowVerify H all (rowObsOf rp) rt (rowResOf (Lumina.Model.RowProof.verify H rp rt)) = true := by
  cases hv : Lumina.Model.RowProof.verify H rp rt with
  | err e => rfl
  | panic => exact absurd hv (rowVerify_ne_panic H rp rt hb)
  | ok =>
    obtain ⟨h1, h2, h3, r, rfl, hall⟩ := (rowVerify_ok_iff H rp _).1 hv
    simp only [specRowVerify, rowResOf, rowObsOf, List.length_map, Option.isSome_some,
      Bool.and_true, Bool.and_eq_true, beq_iff_eq, Bool.or_eq_true,
      Bool.not_eq_true', beq_eq_false_iff_ne, ne_eq, Option.some.injEq]
    refine ⟨⟨⟨decide_eq_true h2, by omega⟩, by omega⟩, ?_⟩
    by_cases hr : r = treeRoot H all
    · right
      rw [treeRoot_eq_root] at hr
      subst hr
      exact bindsAll_of_ok H hinj hleaf all rp.rowRoots rp.proofs hall
    · left; exact hr

/-- **row proofs built from a DAH verify against its hash**: for every DAH (any numbers of row and
    column roots with `rows ≤ all`), every `start`, `end`: the proof is built iff the range lies
    inside the rows (or is empty), proves rows `start..=end` in order with their RFC audit paths,
    the DAH hash is the RFC tree hash of rows ++ cols, and `verify` accepts (an empty range is
    refused by `verify`).  No hash hypothesis. -/
theorem rowproof_build_complete [DecidableEq D] (H : HashFns D) (rows cols : List Bytes) (s e : Nat)
    (hsz : (rows ++ cols).length ≤ 2 ^ 63) :
    specRowBuild H rows cols s e
      (match Lumina.Model.RowProof.rowProof H rows cols s e with
       | .error _ => .err
       | .ok rp => .ok (rowObsOf rp) (Lumina.Model.RowProof.dahHash H rows cols)
            (rowResOf (Lumina.Model.RowProof.verify H rp (some (Lumina.Model.RowProof.dahHash H rows cols))))) = true := by
  by_cases hse : s ≤ e
  · by_cases hin : e < rows.length
    · obtain ⟨rp, hrp, hs, he, hrr, hpo, hver⟩ := rowProof_ok H rows cols s e hsz hse hin
      have hlen : rp.rowRoots.length = e - s + 1 := by
        rw [hrr, List.length_take, List.length_drop]; omega
      rw [hrp]
      simp only
      rw [hver]
      simp only [specRowBuild, rowObsOf, rowResOf, Lumina.Model.RowProof.dahHash, treeRoot_eq_root, hs, he, hlen,
        beq_self_eq_true, Bool.true_and, if_pos hse, hpo, Bool.and_true, decide_eq_true_eq]
      exact hin
    · unfold Lumina.Model.RowProof.rowProof
      rw [rowProofLoop_err H rows (rows ++ cols) (e + 1 - s) s (by omega) (by omega)]
      simp only [specRowBuild, decide_eq_true_eq]
      omega
  · unfold Lumina.Model.RowProof.rowProof
    have hr : List.range' s (e + 1 - s) = [] := by
      have : e + 1 - s = 0 := by omega
      rw [this]; rfl
    rw [hr]
    simp only [Lumina.Model.RowProof.rowProofLoop]
    have hver : Lumina.Model.RowProof.verify H
        ({ rowRoots := [], proofs := [], startRow := s, endRow := e } : RowProof D)
        (some (Lumina.Model.RowProof.dahHash H rows cols)) = .err .startGtEnd := by
      unfold Lumina.Model.RowProof.verify
      simp only [List.length_nil, ne_eq, not_true_eq_false, ↓reduceIte]
      rw [if_pos (by omega)]
    rw [hver]
    simp [specRowBuild, rowObsOf, rowResOf, Lumina.Model.RowProof.dahHash, treeRoot_eq_root, hse]

/-- The ORIGINAL `RowProof::verify` violates the property: for the full `u16` span `0..=65535` with no
    roots and no proofs, `end_row - start_row + 1` overflows `u16` — abort in a debug build (and in a
    release build the wrapped value 0 equals the number of proofs: the EMPTY proof is accepted). -/
theorem rowproof_verifyOrig_counterexample :
    let rp : RowProof Term := { rowRoots := [], proofs := [], startRow := 0, endRow := 65535 }
    Lumina.Model.RowProof.verifyOrig termFns rp (some .empty) = .panic ∧
      specRowVerify termFns [] (rowObsOf rp) (some .empty)
        (rowResOf (Lumina.Model.RowProof.verifyOrig termFns rp (some .empty))) = false := by
  decide

/-! ## ShareProof -/

open Lumina.Model.ShareProof (ShareProof) in
/-- the share-proof property with the share-group binding (`slicesBound`, last conjunct of `specShareVerifyCore`) supplied by the caller:
    everything else — one presence proof with non-empty range per row root, share count = sum of the ranges, the whole
    row-proof property, the wiring of each share group to the row root proven at the merkle proof's index — needs only
    the collision-freeness of the DAH tree hash.  Used by both theorems below. -/
theorem shareproof_verify_sound_of_slices [DecidableEq D] (H : HashFns D) (h : Lumina.Model.Nmt.HashFn)
    (hinj : InnerInj H) (hleaf : LeafInj H) (w : Nat) (sq all : List Bytes)
    (sp : ShareProof D) (rt : Option D) (hb : ∀ p ∈ sp.rowProof.proofs, p.total ≤ 2 ^ 63)
    (hr90 : ∀ r ∈ sp.rowProof.rowRoots, r.length = 90) (hu32 : ∀ p ∈ sp.shareProofs, Lumina.Proofs.Decoders.U32 p)
    (hsb : Lumina.Model.ShareProof.rangeLoop h sp.namespaceId sp.data sp.shareProofs sp.rowProof.rowRoots = .ok →
      bindsAll H all sp.rowProof.rowRoots (sp.rowProof.proofs.map obsOf) = true →
      (∀ p ∈ sp.rowProof.proofs, p.total = all.length) →
      sp.shareProofs.length = sp.rowProof.rowRoots.length → sp.rowProof.rowRoots.length = sp.rowProof.proofs.length →
      slicesBound w sq sp.namespaceId sp.data (sp.shareProofs.map nobsOf) (sp.rowProof.proofs.map obsOf) = true) :
    specShareVerifyCore H w sq all (shareObsOf sp) rt
      (shareResOf (Lumina.Model.ShareProof.verify H h sp rt)) = true := by
  cases hv : Lumina.Model.ShareProof.verify H h sp rt with
  | err e => rfl
  | panic => exact absurd hv (shareVerify_ne_panic H h sp rt hb hr90 hu32)
  | ok =>
    obtain ⟨h1, hs, hr, hl⟩ := (shareVerify_ok_iff H h sp rt).1 hv
    obtain ⟨ha, hsum⟩ := sharesNeeded_ok sp.shareProofs 0 _ hs
    have hrow' : specRowVerify H all (rowObsOf sp.rowProof) rt .ok = true := by
      have := rowproof_verify_sound H hinj hleaf all sp.rowProof rt hb
      rwa [hr] at this
    simp only [specShareVerifyCore, shareResOf, shareObsOf, List.length_map, Bool.and_eq_true, beq_iff_eq,
      Bool.or_eq_true, Bool.not_eq_true']
    refine ⟨⟨⟨⟨?_, ha⟩, by omega⟩, hrow'⟩, ?_⟩
    · simpa [rowObsOf] using h1
    · by_cases hc : (rt == some (treeRoot H all) &&
          (rowObsOf sp.rowProof).proofs.all (fun p => p.total == all.length)) = true
      · right
        simp only [Bool.and_eq_true, beq_iff_eq, List.all_eq_true] at hc
        obtain ⟨hrt, htot⟩ := hc
        obtain ⟨hlen, _, _, r, rfl, hall⟩ := (rowVerify_ok_iff H sp.rowProof rt).1 hr
        obtain rfl : r = root H all := (Option.some.inj hrt).trans (treeRoot_eq_root H all)
        have htot' : ∀ p ∈ sp.rowProof.proofs, p.total = all.length := by
          intro p hp
          have := htot (obsOf p) (by simp only [rowObsOf]; exact List.mem_map_of_mem hp)
          simpa [obsOf] using this
        exact hsb hl (bindsAll_of_ok H hinj hleaf all _ _ hall) htot' h1 hlen
      · left
        simpa using hc


open Lumina.Model.ShareProof (ShareProof) in
/-- the hypothesis-carrying form: the binding of the proven shares to the square rests on `NmtBinds h w sq all`
    ("`all` are the NMT roots of the axes of `sq`, and an nmt-rs range proof accepted against such a root, for a range
    inside the axis, proves exactly that range under its namespace").  `shareproof_verify_sound_partial` derives the
    binding; this form is independent of how the square is represented. -/
theorem shareproof_verify_sound_of_nmtBinds_partial [DecidableEq D] (H : HashFns D) (h : Lumina.Model.Nmt.HashFn)
    (hinj : InnerInj H) (hleaf : LeafInj H) (w : Nat) (sq all : List Bytes) (hn : NmtBinds h w sq all)
    (sp : ShareProof D) (rt : Option D) (hb : ∀ p ∈ sp.rowProof.proofs, p.total ≤ 2 ^ 63)
    (hr90 : ∀ r ∈ sp.rowProof.rowRoots, r.length = 90) (hu32 : ∀ p ∈ sp.shareProofs, Lumina.Proofs.Decoders.U32 p) :
    specShareVerifyCore H w sq all (shareObsOf sp) rt
      (shareResOf (Lumina.Model.ShareProof.verify H h sp rt)) = true :=
  shareproof_verify_sound_of_slices H h hinj hleaf w sq all sp rt hb hr90 hu32
    (fun hl hbind htot h1 hlen => slicesBound_of_ok H h w sq all hn sp.namespaceId sp.shareProofs
      sp.rowProof.rowRoots sp.rowProof.proofs sp.data hl hbind htot h1 hlen)

open Lumina.Model.ShareProof (ShareProof) in
open Lumina.Model.Eds (Eds Dah) in
/-- **share proofs fail if any proven root or share is altered or the counts do not match, and never abort** — the
    CORE of the rule (`specShareVerifyCore`; PARTIAL only in that the inner-node clause of `specShareVerify` is not proved
    of the model, see `ShareProofFullStatement`), at full strength otherwise: for every extended square `e` of
    power-of-two width with the quadrant parity flags and shares of at least 29 bytes (what `ExtendedDataSquare::new`
    establishes: `SquareShape`), its DAH, every share proof and every data root, `specShareVerifyCore` holds of the
    model's verdict, with `sq` = the raw square and `all` = the DAH's row and column roots.  The NMT binding is derived
    (`NmtMulti.nmtBinds_of_eds_on`, from the multi-leaf range-proof soundness `NmtMulti.checkRangeProof_multi_sound_on`).
    Hash hypotheses (both satisfiable, see the non-vacuity example at the end of the file): collision-free DAH tree
    hash (`InnerInj`, `LeafInj` over an abstract digest type) and `HashOKOn h S`: the NMT hash has 32-byte output and NO
    COLLISION AMONG THE INPUTS `S = NmtMulti.shareVerifyInputs h e ns data proofs` — the explicit finite list of byte
    strings hashed when the DAH of `e` is computed (`Eds.edsInputs`: every leaf and inner node of every row and column
    tree, and the empty string) and when this proof is verified (`NmtMulti.shareLoopInputs`: the leaf preimages of the
    presented shares under the claimed namespace and the `hash_nodes` inputs of each `check_range_proof`).
    Rust type invariants as hypotheses: merkle-proof totals ≤ 2^63 (i64 wire type), 29-byte namespace, 90-byte NMT
    siblings and row roots, `u32` range bounds.
    What is NOT claimed because nmt-rs does not bind it: ranges with `end > width` (the spec conditions on
    `end ≤ w`): a range proof carries no tree size, the verifier derives the shape from `(start, #siblings)`, so a
    range claimed beyond the real width can be accepted for shares that sit elsewhere (see `design_notes/C13.md`). -/
theorem shareproof_verify_sound_partial [DecidableEq D] (H : HashFns D) (h : Lumina.Model.Nmt.HashFn)
    (hinj : InnerInj H) (hleaf : LeafInj H)
    (e : Eds) (k : Nat) (hsq : Lumina.Proofs.NsData.SquareShape e) (hw : e.width = 2 ^ k)
    (dah : Dah) (hd : Dah.ofEds h e = .ok dah)
    (sp : ShareProof D) (rt : Option D)
    (hk : Lumina.Proofs.Nmt.HashOKOn h
      (fun y => y ∈ Lumina.Proofs.NmtMulti.shareVerifyInputs h e sp.namespaceId sp.data sp.shareProofs))
    (hb : ∀ p ∈ sp.rowProof.proofs, p.total ≤ 2 ^ 63)
    (hns : sp.namespaceId.length = 29) (hwf : ∀ p ∈ sp.shareProofs, ∀ x ∈ p.siblings, x.WF)
    (hr90 : ∀ r ∈ sp.rowProof.rowRoots, r.length = 90) (hu32 : ∀ p ∈ sp.shareProofs, Lumina.Proofs.Decoders.U32 p) :
    specShareVerifyCore H e.width (Lumina.Proofs.Sample.rawSquare e) dah.allRootsBytes (shareObsOf sp) rt
      (shareResOf (Lumina.Model.ShareProof.verify H h sp rt)) = true :=
  shareproof_verify_sound_of_slices H h hinj hleaf e.width _ _ sp rt hb hr90 hu32
    (fun hl hbind htot h1 hlen =>
      Lumina.Proofs.NmtMulti.slicesBound_of_ok_on H h _ e.width _ _
        (Lumina.Proofs.NmtMulti.nmtBinds_of_eds_on hk hsq hw hd
          (fun y hy => List.mem_append_left _ hy))
        sp.namespaceId hns sp.shareProofs sp.rowProof.rowRoots sp.rowProof.proofs sp.data hwf
        (fun y hy => List.mem_append_right _ hy) hl hbind htot h1 hlen)

/-- **reduction form with an explicit collision**: for ANY NMT hash with 32-byte output (e.g. SHA-256), either the
    core of the share-proof rule holds of the verdict, or the hash has a collision `x ≠ y`, `h x = h y` with BOTH `x`
    and `y` in the explicit finite list `NmtMulti.shareVerifyInputs` of inputs hashed by the DAH computation of the square
    and by the verification of this very proof.  (The right disjunct is false of a concrete hash unless such a collision
    really occurs among those few inputs — unlike "`h` is not injective", which holds of every 32-byte function.) -/
theorem shareproof_verify_sound_or_collision_partial [DecidableEq D] (H : HashFns D) (h : Lumina.Model.Nmt.HashFn)
    (hinj : InnerInj H) (hleaf : LeafInj H) (hl : Lumina.Proofs.Nmt.HashLen h)
    (e : Lumina.Model.Eds.Eds) (k : Nat) (hsq : Lumina.Proofs.NsData.SquareShape e) (hw : e.width = 2 ^ k)
    (dah : Lumina.Model.Eds.Dah) (hd : Lumina.Model.Eds.Dah.ofEds h e = .ok dah)
    (sp : Lumina.Model.ShareProof.ShareProof D) (rt : Option D) (hb : ∀ p ∈ sp.rowProof.proofs, p.total ≤ 2 ^ 63)
    (hns : sp.namespaceId.length = 29) (hwf : ∀ p ∈ sp.shareProofs, ∀ x ∈ p.siblings, x.WF)
    (hr90 : ∀ r ∈ sp.rowProof.rowRoots, r.length = 90) (hu32 : ∀ p ∈ sp.shareProofs, Lumina.Proofs.Decoders.U32 p) :
    specShareVerifyCore H e.width (Lumina.Proofs.Sample.rawSquare e) dah.allRootsBytes (shareObsOf sp) rt
      (shareResOf (Lumina.Model.ShareProof.verify H h sp rt)) = true ∨
    Lumina.Proofs.Nmt.CollisionIn h
      (fun y => y ∈ Lumina.Proofs.NmtMulti.shareVerifyInputs h e sp.namespaceId sp.data sp.shareProofs) :=
  Lumina.Proofs.Nmt.or_collision hl fun hk =>
    shareproof_verify_sound_partial H h hinj hleaf e k hsq hw dah hd sp rt hk hb hns hwf hr90 hu32

/-- the contrapositive reading: a share proof that is ACCEPTED although its shares are not the claimed in-width range of
    the proven axis under the claimed namespace (or any other violation of the core rule) yields an explicit collision
    of the NMT hash among the inputs hashed by the DAH computation and by this verification -/
theorem shareproof_core_violation_yields_collision [DecidableEq D] (H : HashFns D) (h : Lumina.Model.Nmt.HashFn)
    (hinj : InnerInj H) (hleaf : LeafInj H) (hl : Lumina.Proofs.Nmt.HashLen h)
    (e : Lumina.Model.Eds.Eds) (k : Nat) (hsq : Lumina.Proofs.NsData.SquareShape e) (hw : e.width = 2 ^ k)
    (dah : Lumina.Model.Eds.Dah) (hd : Lumina.Model.Eds.Dah.ofEds h e = .ok dah)
    (sp : Lumina.Model.ShareProof.ShareProof D) (rt : Option D) (hb : ∀ p ∈ sp.rowProof.proofs, p.total ≤ 2 ^ 63)
    (hns : sp.namespaceId.length = 29) (hwf : ∀ p ∈ sp.shareProofs, ∀ x ∈ p.siblings, x.WF)
    (hr90 : ∀ r ∈ sp.rowProof.rowRoots, r.length = 90) (hu32 : ∀ p ∈ sp.shareProofs, Lumina.Proofs.Decoders.U32 p)
    (hbad : specShareVerifyCore H e.width (Lumina.Proofs.Sample.rawSquare e) dah.allRootsBytes (shareObsOf sp) rt
      (shareResOf (Lumina.Model.ShareProof.verify H h sp rt)) = false) :
    ∃ x y, x ∈ Lumina.Proofs.NmtMulti.shareVerifyInputs h e sp.namespaceId sp.data sp.shareProofs ∧
      y ∈ Lumina.Proofs.NmtMulti.shareVerifyInputs h e sp.namespaceId sp.data sp.shareProofs ∧ x ≠ y ∧ h x = h y := by
  rcases shareproof_verify_sound_or_collision_partial H h hinj hleaf hl e k hsq hw dah hd sp rt hb hns hwf hr90 hu32
    with ht | hc
  · rw [hbad] at ht; cases ht
  · exact hc

/-- The full share-proof rule of `Spec/C13.lean` (`specShareVerify` = `specShareVerifyCore` ∧ the inner-node clause
    `siblingsBound`: each in-width group's NMT siblings together with its shares recompute the proven row root).
    PROVED of the model: the core (`shareproof_verify_sound_partial`).  NOT proved of the model: the inner-node
    clause — it needs "nmt-rs `check_range_proof` accepted against the root of a perfect tree ⇒ the left-to-right
    recomputation over that tree reproduces the root", which (like the share binding) holds only up to collisions of
    the NMT hash.  The clause IS evaluated on every implementation result by the driver (`specShareVerify`, SHA-256). -/
def ShareProofFullStatement {D : Type} [DecidableEq D] (H : HashFns D) (h : Lumina.Model.Nmt.HashFn)
    (e : Lumina.Model.Eds.Eds) (dah : Lumina.Model.Eds.Dah) (sp : Lumina.Model.ShareProof.ShareProof D)
    (rt : Option D) : Prop :=
  specShareVerify H h e.width (Lumina.Proofs.Sample.rawSquare e) dah.allRootsBytes
    { data := sp.data, ns := sp.namespaceId,
      sproofs := sp.shareProofs.map (fun p => { start := p.start, end_ := p.end_, isAbsence := p.isAbsence,
                                                 siblings := p.siblings.map Lumina.Model.Nmt.NsHash.toBytes }),
      row := rowObsOf sp.rowProof } rt
    (shareResOf (Lumina.Model.ShareProof.verify H h sp rt)) = true

/-- The ORIGINAL `ShareProof::verify` (before /repo 292f2b8) violates the property: two range proofs of 2^31 leaves
    each make the `u32` sum `shares_needed` overflow — the verification of a decodable proof ABORTS (debug build; in a
    release build the sum wraps to 0, an empty `data` passes the count check and slicing it panics).  Whatever the
    hashes, roots and data are. -/
theorem shareproof_verifyOrig_counterexample :
    let p : Lumina.Model.Nmt.NsProof := ⟨0, 2147483648, [], true, false, none⟩
    let sp : Lumina.Model.ShareProof.ShareProof Term :=
      { data := [], namespaceId := [], shareProofs := [p, p],
        rowProof := { rowRoots := [[], []], proofs := [], startRow := 0, endRow := 1 } }
    Lumina.Model.ShareProof.verifyOrig termFns (fun _ => []) sp none = .panic ∧
      specShareVerifyCore termFns 2 [] [] (shareObsOf sp) none
        (shareResOf (Lumina.Model.ShareProof.verifyOrig termFns (fun _ => []) sp none)) = false := by
  decide

open Lumina.Model.ShareProof (ShareProof) in
open Lumina.Model.Eds (Eds Dah) in
/-- **share proofs built from a DAH verify against its hash** (the honest construction: for `ranges.length` consecutive
    rows starting at `r0`, the shares of a column range and `row_nmt(row).build_range_proof(range)`, plus
    `dah.row_proof(r0..=r0+len-1)`): for every square with the quadrant parity flags, shares of at least 29 bytes and
    width ≤ 65535 whose DAH exists, every non-empty list of non-empty in-width ranges inside the square whose shares all
    carry the namespace `ns`, the proof is built and `ShareProof::verify` accepts it against `dah.hash()`.
    Needs only that the NMT hash has 32-byte output (so that a root survives `to_array`/`from_raw`); no collision
    hypothesis.  Rests on `NmtMulti.range_complete` (multi-leaf range-proof completeness for any tree size). -/
theorem shareproof_build_complete [DecidableEq D] (H : HashFns D) (h : Lumina.Model.Nmt.HashFn)
    (hl : Lumina.Proofs.Nmt.HashLen h) (e : Eds) (hsq : Lumina.Proofs.NsData.SquareShape e) (hw : e.width ≤ 65535)
    (dah : Dah) (hd : Dah.ofEds h e = .ok dah) (ns : Bytes) (r0 : Nat) (ranges : List (Nat × Nat))
    (hne : ranges ≠ []) (hrows : r0 + ranges.length ≤ e.width)
    (hrg : ∀ i s en shares, ranges[i]? = some (s, en) → e.row? (r0 + i) = some shares →
      s < en ∧ en ≤ e.width ∧ ∀ sh ∈ (shares.drop s).take (en - s), sh.ns = ns) :
    specShareBuildVerifies
      (match Lumina.Model.ShareProof.build H h e dah ns r0 ranges with
       | .ok sp => shareResOf (Lumina.Model.ShareProof.verify H h sp
           (some (Lumina.Model.RowProof.dahHash H (dah.rowRoots.map Lumina.Model.Nmt.NsHash.toBytes)
             (dah.colRoots.map Lumina.Model.Nmt.NsHash.toBytes))))
       | .err => .err
       | .panic => .panic) = true := by
  obtain ⟨hrl, hcl, _, _⟩ := Lumina.Proofs.Eds.dah_ofEds_roots hd
  have hlen1 : 1 ≤ ranges.length := by
    cases ranges with
    | nil => exact absurd rfl hne
    | cons a t => simp
  obtain ⟨rp, hrp, _, _, hrr, _, hrv⟩ := rowProof_ok H (dah.rowRoots.map Lumina.Model.Nmt.NsHash.toBytes)
    (dah.colRoots.map Lumina.Model.Nmt.NsHash.toBytes) r0 (r0 + ranges.length - 1)
    (by simp only [List.length_append, List.length_map, hrl, hcl, usizeHalf]; omega) (by omega)
    (by simp only [List.length_map, hrl]; omega)
  have hn : r0 + ranges.length - 1 + 1 - r0 = ranges.length := by omega
  rw [hn, ← List.map_drop, ← List.map_take] at hrr
  obtain ⟨d, ps, hbl, hpsl, hdl, hsn, hrloop⟩ :=
    Lumina.Proofs.NmtMulti.buildLoop_ok hl hd hsq.size hw ns ranges r0 hrows hrg
  have hbuild : Lumina.Model.ShareProof.build H h e dah ns r0 ranges =
      .ok { data := d, namespaceId := ns, shareProofs := ps, rowProof := rp } := by
    unfold Lumina.Model.ShareProof.build
    simp only [hbl, hrp]
  rw [hbuild]
  simp only
  have hd32 : 0 + d.length ≤ Lumina.Model.ShareProof.u32Max := by
    have h1 : ranges.length * e.width ≤ 65535 * 65535 := Nat.mul_le_mul (by omega) hw
    simp [Lumina.Model.ShareProof.u32Max]; omega
  rw [(shareVerify_ok_iff H h _ _).2
    ⟨by rw [hrr, hpsl, List.length_map, List.length_take, List.length_drop, hrl]; omega,
      by simpa using hsn 0 hd32, hrv, hrr ▸ hrloop⟩]
  rfl

/-- the unconditional part: whatever the NMT is, an accepted share proof has one presence range
    proof with a non-empty range per proven row root, exactly as many shares as the ranges add up
    to, and an accepted row proof (hence all of `rowproof_verify_sound`) -/
theorem shareproof_verify_structure [DecidableEq D] (H : HashFns D) (h : Lumina.Model.Nmt.HashFn)
    (sp : Lumina.Model.ShareProof.ShareProof D) (rt : Option D)
    (hv : Lumina.Model.ShareProof.verify H h sp rt = .ok) :
    sp.shareProofs.length = sp.rowProof.rowRoots.length ∧
    (∀ p ∈ sp.shareProofs, p.isAbsence = false ∧ p.start < p.end_) ∧
    ((sp.shareProofs.map (fun p => p.end_ - p.start)).sum = sp.data.length) ∧
    Lumina.Model.RowProof.verify H sp.rowProof rt = .ok := by
  obtain ⟨h1, hs, hr, _⟩ := (shareVerify_ok_iff H h sp rt).1 hv
  obtain ⟨ha, hsum⟩ := sharesNeeded_ok sp.shareProofs 0 _ hs
  refine ⟨h1, fun p hp => ?_, ?_, hr⟩
  · simp only [List.all_eq_true, List.mem_map, forall_exists_index, and_imp,
      forall_apply_eq_imp_iff₂, Bool.and_eq_true, Bool.not_eq_true', decide_eq_true_eq] at ha
    exact ha p hp
  · simp only [List.map_map] at hsum
    have : (fun p => p.end_ - p.start) ∘ nobsOf = fun (p : Lumina.Model.Nmt.NsProof) => p.end_ - p.start := rfl
    rw [this] at hsum
    omega

/-! ## non-vacuity -/

/-- the collision-freeness hypotheses are satisfiable (free term algebra) … -/
example : InnerInj termFns ∧ LeafInj termFns ∧ LeafNeInner termFns :=
  ⟨termFns_innerInj, termFns_leafInj, termFns_leafNeInner⟩

/-- … and `merkle_sound`'s hypotheses are met by a concrete non-trivial proof: leaf 2 of a 3-leaf
    tree (right spine), built by the model of `MerkleProof::new` -/
example :
    let L : List Bytes := [[1], [2], [3]]
    let p : Proof Term := { index := 2, total := 3, leafHash := .leaf [3],
                            aunts := [.inner (.leaf [1]) (.leaf [2])] }
    p.verify termFns [3] (.inner (.inner (.leaf [1]) (.leaf [2])) (.leaf [3])) = .ok ∧ p.total = L.length := by
  decide

/-- a row proof meeting `rowproof_verify_sound`'s bound, accepted by the model -/
example :
    let rp : RowProof Term :=
      { rowRoots := [[7]], proofs := [{ index := 0, total := 2, leafHash := .leaf [7], aunts := [.leaf [8]] }],
        startRow := 0, endRow := 0 }
    (∀ p ∈ rp.proofs, p.total ≤ 2 ^ 63) ∧
      Lumina.Model.RowProof.verify termFns rp (some (.inner (.leaf [7]) (.leaf [8]))) = .ok := by
  decide

/-! ### non-vacuity of `shareproof_verify_sound_partial` — ALL hypotheses, including the hash hypothesis

Concrete 2×2 square of 512-byte shares (`Props/C04`), toy 32-byte NMT hash `NmtMulti.toyH` (polynomial hash), free term
algebra for the DAH tree.  The toy hash is collision-free on the 20-odd inputs of `shareVerifyInputs` (checked by kernel
evaluation), so `HashOKOn` holds; the model accepts the honest proof; the main theorem applies and says something. -/

open Lumina.Props.C04 (okEds nonvacuity_okEds_valid) in
open Lumina.Proofs.NmtMulti (toyH) in
/-- the DAH of the concrete square under the toy hash -/
def okDahT : Lumina.Model.Eds.Dah :=
  match Lumina.Model.Eds.Dah.ofEds toyH okEds with
  | .ok d => d
  | .error _ => default

open Lumina.Props.C04 (okEds nonvacuity_okEds_valid) in
open Lumina.Proofs.NmtMulti (toyH) in
/-- the honest share proof for share (0,0) of the concrete square, built by the model of the honest construction -/
def okShareProof : Lumina.Model.ShareProof.ShareProof Term :=
  match Lumina.Model.ShareProof.build termFns toyH okEds okDahT (List.replicate 29 0) 0 [(0, 1)] with
  | .ok sp => sp
  | _ => ⟨[], [], [], ⟨[], [], 0, 0⟩⟩

/-- the data root the concrete proof is verified against -/
def okDataRoot : Term :=
  Lumina.Model.RowProof.dahHash termFns (okDahT.rowRoots.map Lumina.Model.Nmt.NsHash.toBytes)
    (okDahT.colRoots.map Lumina.Model.Nmt.NsHash.toBytes)

open Lumina.Props.C04 (okEds nonvacuity_okEds_valid) in
open Lumina.Proofs.NmtMulti (toyH toyH_len hashOKOn_of_list shareVerifyInputs) in
set_option maxRecDepth 100000 in
/-- every hypothesis of `shareproof_verify_sound_partial` is met — in particular the toy hash has no collision among
    the inputs `shareVerifyInputs` — the model ACCEPTS the proof, and the theorem, applied, yields the core rule for an
    accepted proof (its shares are the claimed range of the proven row) -/
example :
    Lumina.Model.ShareProof.verify termFns toyH okShareProof (some okDataRoot) = .ok ∧
    specShareVerifyCore termFns okEds.width (Lumina.Proofs.Sample.rawSquare okEds) okDahT.allRootsBytes
      (shareObsOf okShareProof) (some okDataRoot) .ok = true := by
  -- everything that is evaluated, in one statement: the kernel then builds `okShareProof` and `okDahT` once
  have all : (Lumina.Model.Eds.Dah.ofEds toyH okEds).isOk = true ∧
      ((shareVerifyInputs toyH okEds okShareProof.namespaceId okShareProof.data okShareProof.shareProofs).eraseDups.map
        toyH).Nodup ∧
      Lumina.Model.ShareProof.verify termFns toyH okShareProof (some okDataRoot) = .ok ∧
      (∀ p ∈ okShareProof.rowProof.proofs, p.total ≤ 2 ^ 63) ∧ okShareProof.namespaceId.length = 29 ∧
      (∀ p ∈ okShareProof.shareProofs, ∀ x ∈ p.siblings, x.WF) ∧
      (∀ r ∈ okShareProof.rowProof.rowRoots, r.length = 90) ∧
      (∀ p ∈ okShareProof.shareProofs, Lumina.Proofs.Decoders.U32 p) := by
    unfold Lumina.Proofs.Decoders.U32
    decide +kernel
  obtain ⟨hdah, hnd, hacc, hb, hns, hwf, hr90, hu32⟩ := all
  have hshape := nonvacuity_okEds_valid.shape
  have hmain := shareproof_verify_sound_partial termFns toyH termFns_innerInj termFns_leafInj okEds 1 hshape rfl
    okDahT (Lumina.Proofs.Sample.eq_ok_of_isOk hdah) okShareProof (some okDataRoot)
    (hashOKOn_of_list toyH_len (Lumina.Proofs.NmtMulti.noCollOnList_of_nodup hnd)) hb hns hwf hr90 hu32
  rw [hacc] at hmain
  exact ⟨hacc, hmain⟩

open Lumina.Props.C04 (toyH32 okEds okDah nonvacuity_okEds_valid nonvacuity_toyH32_len) in
/-- the hypotheses of `shareproof_build_complete` are met by the concrete square, row 0, range 0..1 of the all-zero
    namespace (the proof it builds is `okShareProof` above) -/
example : okEds.width ≤ 65535 ∧ ([(0, 1)] : List (Nat × Nat)) ≠ [] ∧ 0 + ([(0, 1)] : List (Nat × Nat)).length ≤ okEds.width ∧
    (∀ i s en shares, ([(0, 1)] : List (Nat × Nat))[i]? = some (s, en) → okEds.row? (0 + i) = some shares →
      s < en ∧ en ≤ okEds.width ∧ ∀ sh ∈ (shares.drop s).take (en - s), sh.ns = List.replicate 29 0) := by
  refine ⟨by decide, by decide, by decide, ?_⟩
  intro i s en shares hi hrow
  cases i with
  | succ j => simp at hi
  | zero =>
    simp only [List.getElem?_cons_zero, Option.some.injEq, Prod.mk.injEq] at hi
    obtain ⟨rfl, rfl⟩ := hi
    have h2 : ∀ shares ∈ okEds.row? (0 + 0), 0 < 1 ∧ 1 ≤ okEds.width ∧
        ∀ sh ∈ (shares.drop 0).take (1 - 0), sh.ns = List.replicate 29 0 := by decide +kernel
    exact h2 shares hrow

end Lumina.Props.C13

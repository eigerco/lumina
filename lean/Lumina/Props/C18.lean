/-
  C18 — Store insertion constraints admit exactly the legal ranges.

  Model: `Lumina.Model.Ranges.checkInsertionConstraints` (transcription of
  `BlockRanges::check_insertion_constraints`, incl. the `num_of_ranges` match, the
  `debug_assert!`s and index arithmetic as `panic` outcomes).
  Spec: `Lumina.Spec.C18.specCheck` (independent of the model).
  All theorems hold for EVERY stored value satisfying the representation invariant `Inv`
  (any number of ranges, any heights up to u64::MAX) and EVERY candidate range.
-/
import Lumina.Proofs.RangesConstraints
import Lumina.Proofs.RangesSpec
import Lumina.Spec.C18

namespace Lumina.Props.C18
open Lumina.Model.Ranges hiding Inv
open Lumina.Proofs.Ranges
open Lumina.Spec.C18

open Lumina.Model.Ranges renaming Inv → RInv

/-- what the harness prints, as an observation -/
def obsOf : Res (Bool × Bool) → Obs
  | .ok (p, n) => .ok p n
  | .error (.invalid _) => .errInvalid
  | .error (.overlap _ _) => .errOverlap
  | .error (.noAdjacent _) => .errNoAdjacent
  | .error _ => .other

theorem member_eq_memB (rs : Ranges) (h : Nat) : Lumina.Spec.C17.member rs h = memB rs h := rfl

theorem validR_eq_valid (r : Range) : Lumina.Spec.C17.validR r = Range.valid r :=
  Lumina.Proofs.Ranges.validR_eq_valid r

theorem sharesHeight_iff {rs : Ranges} {r : Range} (hi : RInv rs) (hr : r.1 ≤ r.2) :
    sharesHeight rs r = true ↔ Overlap rs r := by
  simp only [sharesHeight, List.any_eq_true, Bool.and_eq_true, decide_eq_true_eq, Overlap, mem]
  constructor
  · rintro ⟨x, hx, h1, h2⟩
    exact overlap_of_meets hx (inv_validR hi hx).2.1 hr ⟨h1, h2⟩
  · rintro ⟨h, ⟨x, hx, h1, h2⟩, h3, h4⟩
    exact ⟨x, hx, by omega, by omega⟩

theorem aboveHighest_iff {rs : Ranges} {r : Range} (hi : RInv rs) :
    aboveHighest rs r = true ↔ AboveHead rs r := by
  simp only [aboveHighest, List.all_eq_true, decide_eq_true_eq, AboveHead, mem]
  constructor
  · rintro h x ⟨y, hy, h1, h2⟩; have := h y hy; omega
  · intro h x hx
    exact h x.2 (mem_end hi hx)

theorem nothingStored_above {rs : Ranges} {r : Range} (h : nothingStored rs = true) : AboveHead rs r := by
  simp only [nothingStored, List.isEmpty_iff] at h
  subst h
  intro x hx; exact absurd hx (mem_nil x)

/-- **C18 (main).**  For every stored value satisfying `Inv` and every candidate range, the
    result of `check_insertion_constraints` is what the property's admission rule allows:
    admitted with the exact two flags, or the error kind determined by the rule. -/
theorem constraints_spec {rs : Ranges} (hi : RInv rs) (r : Range) (hr : r.2 ≤ U64_MAX) :
    specCheck rs r (obsOf (checkInsertionConstraints rs r)) = true := by
  by_cases hval : Range.valid r = true
  · have hv : ValidR r := .of_valid hval hr
    have hsh := sharesHeight_iff hi hv.2.1 (r := r)
    have hab := aboveHighest_iff hi (r := r)
    rcases checkInsertionConstraints_cases hi hv with ⟨he, hno, hpl⟩ | ⟨⟨o, he⟩, hov⟩ | ⟨he, hno, hna, hnp, hnn⟩
    · rw [he]
      have h1 : sharesHeight rs r = false := by
        rw [← Bool.not_eq_true]; exact fun h => hno (hsh.1 h)
      have h2 : placementOk rs r = true := by
        simp only [placementOk, touchesStored, belowStored, aboveStored, member_eq_memB,
          Bool.or_eq_true, memB_iff_mem]
        rcases hpl with h | h | h
        · exact Or.inl (Or.inr (hab.2 h))
        · exact Or.inr (Or.inl h)
        · exact Or.inr (Or.inr h)
      simp [obsOf, specCheck, admitted, validR_eq_valid, hval, h1, h2, belowStored, aboveStored,
        member_eq_memB]
    · rw [he]
      simp [obsOf, specCheck, validR_eq_valid, hval, hsh.2 hov]
    · rw [he]
      have h1 : sharesHeight rs r = false := by
        rw [← Bool.not_eq_true]; exact fun h => hno (hsh.1 h)
      have h2 : placementOk rs r = false := by
        rw [← Bool.not_eq_true]
        simp only [placementOk, touchesStored, belowStored, aboveStored, member_eq_memB,
          Bool.or_eq_true, memB_iff_mem]
        rintro ((h | h) | h | h)
        · exact hna (nothingStored_above h)
        · exact hna (hab.1 h)
        · exact hnp h
        · exact hnn h
      simp [obsOf, specCheck, validR_eq_valid, hval, h1, h2]
  · have hval' : Range.valid r = false := by simpa using hval
    rw [checkInsertionConstraints_invalid hval']
    simp [obsOf, specCheck, validR_eq_valid, hval']

/-- admitted **exactly** when: valid ∧ shares no stored height ∧ (nothing stored ∨ entirely above
    the highest stored height ∨ touches a stored range) -/
theorem constraints_ok_iff {rs : Ranges} (hi : RInv rs) (r : Range) (hr : r.2 ≤ U64_MAX) :
    (∃ p n, checkInsertionConstraints rs r = .ok (p, n)) ↔ admitted rs r = true := by
  have h := constraints_spec hi r hr
  cases hc : checkInsertionConstraints rs r with
  | ok pn =>
    obtain ⟨p, n⟩ := pn
    rw [hc] at h
    simp only [obsOf, specCheck, Bool.and_eq_true] at h
    exact ⟨fun _ => h.1.1, fun _ => ⟨p, n, rfl⟩⟩
  | error e =>
    rw [hc] at h
    constructor
    · rintro ⟨p, n, hpn⟩; cases hpn
    · intro ha
      exfalso
      simp only [admitted, Bool.and_eq_true, Bool.not_eq_true'] at ha
      cases e <;> simp [obsOf, specCheck, ha.1.1, ha.1.2, ha.2] at h

/-- the two flags say exactly whether the height just below / just above the range is stored -/
theorem constraints_flags {rs : Ranges} (hi : RInv rs) (r : Range) (hr : r.2 ≤ U64_MAX) {p n : Bool}
    (hc : checkInsertionConstraints rs r = .ok (p, n)) :
    (p = true ↔ mem rs (r.1 - 1)) ∧ (n = true ↔ mem rs (r.2 + 1)) := by
  have h := constraints_spec hi r hr
  rw [hc] at h
  simp only [obsOf, specCheck, Bool.and_eq_true, beq_iff_eq, belowStored, aboveStored,
    member_eq_memB] at h
  obtain ⟨⟨_, hp⟩, hn⟩ := h
  rw [hp, hn, memB_iff_mem, memB_iff_mem]
  exact ⟨Iff.rfl, Iff.rfl⟩

/-- the error kinds: `Invalid` iff the range is invalid; otherwise `Overlap` iff it shares a stored
    height; otherwise `NoAdjacentNeighbors`; never a panic, never `Unsorted` -/
theorem constraints_error_kinds {rs : Ranges} (hi : RInv rs) (r : Range) (hr : r.2 ≤ U64_MAX) {e : Err}
    (hc : checkInsertionConstraints rs r = .error e) :
    (Range.valid r = false ∧ e = .invalid r) ∨
    (Range.valid r = true ∧ sharesHeight rs r = true ∧ ∃ o, e = .overlap r o) ∨
    (Range.valid r = true ∧ sharesHeight rs r = false ∧ placementOk rs r = false ∧ e = .noAdjacent r) := by
  by_cases hval : Range.valid r = true
  · have hv : ValidR r := .of_valid hval hr
    have h := constraints_spec hi r hr
    rcases checkInsertionConstraints_cases hi hv with ⟨he, _⟩ | ⟨⟨o, he⟩, _⟩ | ⟨he, _⟩
    · rw [he] at hc; cases hc
    · rw [he] at hc h; cases hc
      simp only [obsOf, specCheck, Bool.and_eq_true] at h
      exact Or.inr (Or.inl ⟨hval, h.2, o, rfl⟩)
    · rw [he] at hc h; cases hc
      simp only [obsOf, specCheck, Bool.and_eq_true, Bool.not_eq_true'] at h
      exact Or.inr (Or.inr ⟨hval, h.1.2, h.2, rfl⟩)
  · have hval' : Range.valid r = false := by simpa using hval
    rw [checkInsertionConstraints_invalid hval'] at hc
    cases hc
    exact Or.inl ⟨hval', rfl⟩

/-- no panic (no overflow, no failed debug assertion, no out-of-bounds index, the `0 =>
    unreachable!()` arm is unreachable) on `Inv` values -/
theorem constraints_no_panic {rs : Ranges} (hi : RInv rs) (r : Range) (hr : r.2 ≤ U64_MAX) :
    checkInsertionConstraints rs r ≠ .error .panic ∧ checkInsertionConstraints rs r ≠ .error .unsorted := by
  constructor <;> intro hc
  · rcases constraints_error_kinds hi r hr hc with ⟨_, h⟩ | ⟨_, _, o, h⟩ | ⟨_, _, _, h⟩ <;> cases h
  · rcases constraints_error_kinds hi r hr hc with ⟨_, h⟩ | ⟨_, _, o, h⟩ | ⟨_, _, _, h⟩ <;> cases h

/-- an admitted range really "extends stored data": inserting it keeps `Inv` and adds exactly
    its heights (link to C17's `insert_relaxed`, which is what the stores call next) -/
theorem admitted_insert {rs : Ranges} (hi : RInv rs) (r : Range) (hr : r.2 ≤ U64_MAX) {p n : Bool}
    (hc : checkInsertionConstraints rs r = .ok (p, n)) :
    ∃ rs', insertRelaxed rs r = .ok rs' ∧ RInv rs' ∧
      (∀ h, mem rs' h ↔ mem rs h ∨ (r.1 ≤ h ∧ h ≤ r.2)) ∧
      (∀ h, r.1 ≤ h → h ≤ r.2 → ¬ mem rs h) := by
  have hadm := (constraints_ok_iff hi r hr).1 ⟨p, n, hc⟩
  simp only [admitted, Bool.and_eq_true, Bool.not_eq_true'] at hadm
  have hval : Range.valid r = true := by rw [← validR_eq_valid]; exact hadm.1.1
  have hv : ValidR r := .of_valid hval hr
  obtain ⟨rs', h1, h2, h3⟩ := insertRelaxed_spec hi hv
  refine ⟨rs', h1, h2, h3, ?_⟩
  intro h h4 h5 hm
  have : sharesHeight rs r = true := (sharesHeight_iff hi hv.2.1).2 ⟨h, hm, h4, h5⟩
  rw [hadm.1.2] at this
  cases this

/-! ### non-vacuity: concrete states meeting the hypotheses, one per outcome -/

example : RInv [(1, 3), (6, 9)] := inv_of_invB rfl
example : checkInsertionConstraints [(1, 3), (6, 9)] (4, 5) = .ok (true, true) := rfl
example : checkInsertionConstraints [(1, 3), (6, 9)] (11, 12) = .ok (false, false) := rfl
example : checkInsertionConstraints [(2, 3), (5, 6)] (1, 5) = .error (.overlap (1, 5) (2, 5)) := rfl
example : checkInsertionConstraints [(1, 2), (7, 9)] (4, 4) = .error (.noAdjacent (4, 4)) := rfl
example : checkInsertionConstraints [(1, 2), (7, 9)] (0, 4) = .error (.invalid (0, 4)) := rfl
example : RInv [(1, 2), (18446744073709551614, 18446744073709551615)] := inv_of_invB (by decide)

end Lumina.Props.C18

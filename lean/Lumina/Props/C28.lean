/-
  C28 — Header-ex client accepts only well-formed, validated responses.

  Model: Lumina/Model/HeaderExClient.lean (`decode_and_verify_responses`, `is_valid`), for ALL
  requests (any kind, any amount, any origin up to and beyond `u64::MAX`) and ALL response lists
  (any length, any status codes, any validation oracle, any order).
-/
import Lumina.Proofs.HeaderExClient
import Lumina.Proofs.ComposeHeaderExValidate
import Lumina.Gen.C28
import Lumina.Spec.C28

namespace Lumina.Props.C28
open Lumina.Model.HeaderExClient Lumina.Proofs.HeaderExClient
open Lumina.Spec.C28

/-- `HASH_SIZE` (tendermint `SHA256_HASH_SIZE`) is 32 -/
theorem consts_eq : Lumina.Gen.C28.HASH_SIZE = 32 := by decide

/-- the spec's view of the entries lists the same validated headers -/
theorem validatedOf_eq (resps : List Resp) : validatedOf (resps.map toEntry) = validated resps :=
  validatedOf_toEntry resps

/-- **`is_valid`**: a request is sent only if it names data, asks for at least one header, asks
    for exactly one when it is a head (origin 0) or a hash request, and its hash has 32 bytes -/
theorem isValid_iff (r : Request) :
    isValid 32 r = true ↔
      1 ≤ r.amount ∧
      match r.data with
      | .none => False
      | .origin n => n = 0 → r.amount = 1
      | .hash _ len => len = 32 ∧ r.amount = 1 := by
  -- the rules only distinguish the amounts 0, 1 and more
  obtain ⟨d, a⟩ := r
  cases d with
  | none => simp [isValid]
  | origin n => by_cases hn : n = 0 <;> rcases a with _ | _ | a <;> simp [isValid, hn]
  | hash h l => rcases a with _ | _ | a <;> simp [isValid]

/-- the spec's request rules are exactly `is_valid` / `is_head_request` -/
theorem valid_spec (r : Request) :
    specValid (toKind r.data) (match r.data with | .hash _ l => l | _ => 0) r.amount
      (isValid 32 r) (isHeadRequest r) = true := by
  obtain ⟨d, a⟩ := r
  cases d with
  | none => simp [specValid, isValid, isHeadRequest, toKind]
  | origin n =>
    by_cases hn : n = 0 <;> rcases a with _ | _ | a <;> simp [specValid, isValid, isHeadRequest, toKind, hn]
  | hash h l => rcases a with _ | _ | a <;> simp [specValid, isValid, isHeadRequest, toKind]

/-- **accepts only**: whatever the client accepts is acceptable — a non-empty list of headers that
    were individually validated entries of the response; for a height request at most `amount` of
    them with heights exactly `start, start+1, …`; for a hash request a single header with that
    hash; for a head request a single header.  All requests, all response lists. -/
theorem accept_sound (req : Request) (resps : List Resp) (hs : List Hdr)
    (h : decodeAndVerify req resps = .ok hs) :
    acceptable (·.height) (·.hash) (toKind req.data) req.amount (resps.map toEntry) hs = true := by
  obtain ⟨⟨-, hw⟩, rfl⟩ := wellFormed_of_ok h
  -- acceptable among the entries of the good prefix, hence among all entries
  refine acceptable_mono (fun x hx => ?_) (wellFormed_iff.mp hw).2.2
  rw [validatedOf_eq] at hx ⊢
  exact ((List.takeWhile_sublist goodB).filterMap _).subset hx

/-- **never a panic** — for any origin (including `u64::MAX`), any amount, any response list -/
theorem never_panics (req : Request) (resps : List Resp) : decodeAndVerify req resps ≠ .panic :=
  ne_panic req resps

/-- typing fact: header heights are `u64` -/
def HeightsFit (resps : List Resp) : Prop :=
  ∀ r ∈ resps, ∀ h, r.decoded = some h → h.height ≤ U64_MAX

/-- **not by refusing everything**: a perfect response (every entry OK and validated, 1..amount
    entries, already of the requested shape) is accepted exactly as sent -/
theorem perfect_accepted (req : Request) (resps : List Resp) (hfit : HeightsFit resps)
    (hp : perfect (·.height) (·.hash) (toKind req.data) req.amount (resps.map toEntry) = true) :
    decodeAndVerify req resps = .ok (validated resps) := by
  obtain ⟨hall, hacc, hlen⟩ := perfect_iff.mp hp
  -- an acceptable list is ascending already: a perfect response is a well-formed one
  have hsort := sortByHeight_of_acceptable hacc
  have := ok_of_wellFormed req resps hfit (wellFormed_iff.mpr ⟨hall, hlen, by rwa [hsort]⟩)
  rwa [hsort] at this

/-- VALUE-level statement (weaker than the property, see `client_spec_or_known` for the strict,
    response-level one): the outcome satisfies `specValue` — accepted ⇒ acceptable, never a panic,
    a perfect response is accepted as sent. -/
theorem client_spec_value_level (req : Request) (resps : List Resp) (hfit : HeightsFit resps) :
    specValue (·.height) (·.hash) (toKind req.data) req.amount (resps.map toEntry)
      (obsOf (decodeAndVerify req resps)) = true := by
  cases hp : perfect (·.height) (·.hash) (toKind req.data) req.amount (resps.map toEntry) with
  | true =>
    have hok := perfect_accepted req resps hfit hp
    simp only [hok, obsOf, specValue, hp, accept_sound req resps _ hok, validatedOf_eq, Bool.not_true,
      Bool.false_or, beq_self_eq_true, Bool.and_self]
  | false =>
    cases hout : decodeAndVerify req resps with
    | panic => exact absurd hout (never_panics req resps)
    | ok hs =>
      simp only [obsOf, specValue, hp, accept_sound req resps hs hout, Bool.not_false, Bool.true_or,
        Bool.and_self]
    | err e => simp only [obsOf, specValue, hp, Bool.not_false]

/-! ### the strict, response-level reading ("anything else is an error") -/

theorem entries_all_good (resps : List Resp) :
    (resps.map toEntry).all good = resps.all goodB := by
  rw [List.all_map]; rfl

theorem entries_takeWhile (resps : List Resp) :
    (resps.map toEntry).takeWhile good = (resps.takeWhile goodB).map toEntry := by
  induction resps with
  | nil => rfl
  | cons r rs ih =>
    have : good (toEntry r) = goodB r := rfl
    simp only [List.map_cons, List.takeWhile_cons, this]
    split <;> simp [ih]

/-- a well-formed response is accepted, as its headers in ascending order -/
theorem wellFormed_accepted (req : Request) (resps : List Resp) (hfit : HeightsFit resps)
    (hw : wellFormed (·.height) (·.hash) (toKind req.data) req.amount (resps.map toEntry) = true) :
    decodeAndVerify req resps = .ok (sortByHeight (validated resps)) :=
  ok_of_wellFormed req resps hfit hw

/-- on responses whose entries are ALL OK and validated the client meets the property strictly:
    accepted ⇔ well formed, and the accepted value is the ascending list of the headers sent -/
theorem allgood_strict (req : Request) (resps : List Resp) (hfit : HeightsFit resps)
    (hall : resps.all goodB = true) :
    specStrict (·.height) (·.hash) (toKind req.data) req.amount (resps.map toEntry)
      (obsOf (decodeAndVerify req resps)) = true := by
  rw [obs_eq req resps hfit, takeWhile_eq_self (List.all_eq_true.mp hall)]
  by_cases hw : wellFormed (·.height) (·.hash) (toKind req.data) req.amount (resps.map toEntry) = true
  · rw [if_pos ⟨(wellFormed_iff.mp hw).2.1, hw⟩]
    simp [specStrict, hw, validatedOf_eq, sortH_eq]
  · rw [if_neg fun h => hw h.2]
    simpa [specStrict] using hw

/-- no bad entry after a good one: the response is all good, or its first entry is already bad -/
def NoBadTail (resps : List Resp) : Prop :=
  resps.takeWhile goodB = resps ∨ resps.takeWhile goodB = []

/-- FULL STATEMENT (false of lumina, see `client_spec_counterexample`):
    `∀ req resps, specStrict … (obsOf (decodeAndVerify req resps))`. -/
def FullStatement : Prop :=
  ∀ (req : Request) (resps : List Resp), HeightsFit resps →
    specStrict (·.height) (·.hash) (toKind req.data) req.amount (resps.map toEntry)
      (obsOf (decodeAndVerify req resps)) = true

/-- the strict property holds on every response without a bad entry after a good one
    (`_partial`: the complement is the known finding `C28/validated-prefix-accepted`) -/
theorem client_spec_partial (req : Request) (resps : List Resp) (hfit : HeightsFit resps)
    (hnb : NoBadTail resps) :
    specStrict (·.height) (·.hash) (toKind req.data) req.amount (resps.map toEntry)
      (obsOf (decodeAndVerify req resps)) = true := by
  rcases hnb with hall | hnone
  · exact allgood_strict req resps hfit (hall ▸ List.all_takeWhile)
  · -- empty, or first entry bad: an error, and the response is not well formed
    rw [obs_eq req resps hfit, hnone, if_neg fun h => acceptable_ne_nil (wellFormed_iff.mp h.2).2.2 rfl]
    simp only [specStrict, Bool.not_eq_true', Bool.eq_false_iff]
    intro hw
    obtain ⟨h1, h2⟩ := wellFormed_takeWhile hw
    exact h2 (h1 ▸ hnone)

/-- **C28 strictly, all requests and all response lists**: the outcome meets the property's
    response-level checker, OR the input is in the one known class `validatedPrefixClass`
    (≤ amount entries, a bad entry after good ones, the client accepts the good prefix — which on
    its own is a well-formed response — instead of an error).  The driver reports exactly this
    class under the fingerprint `C28/validated-prefix-accepted` (open finding); any other failure of
    `specStrict` is a new violation. -/
theorem client_spec_or_known (req : Request) (resps : List Resp) (hfit : HeightsFit resps) :
    specStrict (·.height) (·.hash) (toKind req.data) req.amount (resps.map toEntry)
      (obsOf (decodeAndVerify req resps)) = true ∨
    validatedPrefixClass (·.height) (·.hash) (toKind req.data) req.amount (resps.map toEntry)
      (obsOf (decodeAndVerify req resps)) = true := by
  by_cases hnb : NoBadTail resps
  · exact Or.inl (client_spec_partial req resps hfit hnb)
  · -- a bad entry after good ones: not all good, hence not well formed
    have hnw : wellFormed (·.height) (·.hash) (toKind req.data) req.amount (resps.map toEntry) = false :=
      Bool.eq_false_iff.mpr fun hw => hnb (Or.inl (wellFormed_takeWhile hw).1)
    rw [obs_eq req resps hfit]
    split
    · rename_i hc
      right
      simp [validatedPrefixClass, specStrict, hnw, entries_takeWhile, hc.1, hc.2, validatedOf_eq, sortH_eq]
    · left; simp [specStrict, hnw]

/-- lumina does NOT meet the strict reading: `[h5, INVALID-body, h7]` for heights 5..7 is not a
    well-formed response, yet the client returns `Ok([h5])` (deliberate: partial responses are
    supported and the session re-requests the rest; unit test
    `request_range_responds_with_invalid_headaer_in_the_middle` pins it) -/
theorem client_spec_counterexample : ¬ FullStatement := by
  intro h
  have := h { data := .origin 5, amount := 3 }
    [⟨1, some ⟨5, [5], 5⟩⟩, ⟨1, none⟩, ⟨1, some ⟨7, [7], 7⟩⟩]
    (by
      intro r hr x hx
      simp only [List.mem_cons, List.mem_nil_iff, or_false] at hr
      rcases hr with rfl | rfl | rfl <;> simp at hx <;> subst hx <;> simp [U64_MAX])
  revert this
  decide +kernel

/-- the code BEFORE the `fix:` commit violated the property: a height request at `u64::MAX`
    answered with one validated header panicked (`start..start + 1` overflows) -/
theorem pre_fix_counterexample :
    decodeAndVerifyG false { data := .origin U64_MAX, amount := 1 }
      [{ status := 1, decoded := some { height := 5, hash := [0], id := 0 } }] = .panic := by
  decide

/-! ### non-vacuity -/

def h5 : Hdr := { height := 5, hash := [5], id := 5 }
def h6 : Hdr := { height := 6, hash := [6], id := 6 }
def h7 : Hdr := { height := 7, hash := [7], id := 7 }

/-- shuffled but complete: accepted in ascending order -/
example : decodeAndVerify { data := .origin 5, amount := 3 }
    [⟨1, some h7⟩, ⟨1, some h5⟩, ⟨1, some h6⟩] = .ok [h5, h6, h7] := by decide +kernel
/-- a gap: refused -/
example : decodeAndVerify { data := .origin 5, amount := 3 } [⟨1, some h5⟩, ⟨1, some h7⟩]
    = .err .invalidResponse := by decide +kernel
/-- an invalid entry after a valid one: the validated prefix is accepted -/
example : decodeAndVerify { data := .origin 5, amount := 3 } [⟨1, some h5⟩, ⟨1, none⟩, ⟨1, some h7⟩]
    = .ok [h5] := by decide +kernel
/-- a perfect response meets `perfect` and `HeightsFit` -/
example : perfect (·.height) (·.hash) (toKind (.origin 5)) 3
    ([⟨1, some h5⟩, ⟨1, some h6⟩].map toEntry) = true := by decide +kernel
example : HeightsFit [⟨1, some h5⟩, ⟨1, some h6⟩] := by
  intro r hr h hh
  simp only [List.mem_cons, List.mem_nil_iff, or_false] at hr
  rcases hr with rfl | rfl <;> simp at hh <;> subst hh <;> simp [h5, h6, U64_MAX]

/-! ### C28 × C01: the validation oracle instantiated with the model of `validate`

  `accept_sound` speaks about "validated" entries, where validated is the oracle bit
  `Resp.decoded`.  With the bit computed from the C01 model (`respOf`: the body decoded to `eh` and
  `validate eh = Ok`; lemmas in `Proofs/ComposeHeaderExValidate.lean`) every header the client
  returns — for a height, a hash or a head request alike — is the abstraction of a concrete header
  that arrived with status OK and satisfies every acceptance condition of `ExtendedHeader::validate`
  as characterised by `Props.C01.validate_ok_iff`. -/

open Lumina.Proofs.ComposeHeaderExValidate
open Lumina.Model.HeaderVerify (ExtHeader Prims Consts validate headerValidateBasic commitValidateBasic
  valSetValidateBasicE dahValidateBasic)

/-- every accepted header comes from a response with status OK whose body passes `validate` -/
theorem accepted_headers_pass_validate {S : Type} (P : Prims S) (c : Consts) (A : Abs S) (req : Request)
    (ws : List (WireResp S)) (hs : List Hdr)
    (h : decodeAndVerify req (ws.map (respOf P c A)) = .ok hs) :
    ∀ x ∈ hs, ∃ w ∈ ws, ∃ eh, w.status = 1 ∧ w.body = some eh ∧ A.f eh = x ∧ validate P c eh = .ok := by
  intro x hx
  have hmem := (acceptable_iff.mp (accept_sound req _ hs h)).2.1 x hx
  rw [validatedOf_eq] at hmem
  exact validated_from_valid P c A ws x hmem

/-- **every header the client returns for a height / hash / head request satisfies the C01
    acceptance conditions**: header, commit and validator set are well formed, the header names
    exactly this validator set (`validators_hash`) and this DAH (`data_hash`), the commit is for
    exactly this header (height and block hash), validators holding more than 2/3 of the power
    signed it (`lightOf = Ok`), and the DAH has an admissible width for the header's app version -/
theorem accepted_headers_meet_c01_conditions {S : Type} (P : Prims S) (c : Consts) (A : Abs S)
    (req : Request) (ws : List (WireResp S)) (hs : List Hdr)
    (h : decodeAndVerify req (ws.map (respOf P c A)) = .ok hs) :
    ∀ x ∈ hs, ∃ eh, A.f eh = x ∧ eh.header.height = x.height ∧
      headerValidateBasic c eh.header = none ∧ commitValidateBasic c eh.commit = none ∧
      valSetValidateBasicE eh.valset = none ∧
      P.hValset eh.valset.hashed = eh.header.validatorsHash ∧
      P.hDah (eh.dah.rows ++ eh.dah.cols) = eh.header.dataHash.getD none ∧
      eh.commit.height = eh.header.height ∧
      eh.commit.blockId.hash = P.hHeader eh.header.canon ∧
      Lumina.Props.C01.lightOf P c eh = .ok ∧
      ∃ maxW, c.maxExtWidth? eh.header.versionApp = some maxW ∧
        dahValidateBasic c.minExtWidth maxW eh.dah = none := by
  intro x hx
  obtain ⟨w, _, eh, _, _, hf, hv⟩ := accepted_headers_pass_validate P c A req ws hs h x hx
  obtain ⟨h1, h2, h3, h4, h5, h6, h7, h8, h9⟩ := (Lumina.Props.C01.validate_ok_iff P c eh).mp hv
  exact ⟨eh, hf, by rw [← hf, A.height_eq], h1, h2, h3, h4, h5, h6, h7, h8, h9⟩

/-- for a HEIGHT request the `i`-th returned header is the abstraction of a validated header of
    height exactly `start + i` -/
theorem height_request_returns_validated_headers_of_requested_heights {S : Type} (P : Prims S)
    (c : Consts) (A : Abs S) (start amount : Nat) (hstart : start ≠ 0) (ws : List (WireResp S))
    (hs : List Hdr)
    (h : decodeAndVerify { data := .origin start, amount := amount } (ws.map (respOf P c A)) = .ok hs)
    (i : Nat) (hi : i < hs.length) :
    ∃ eh, A.f eh = hs[i] ∧ eh.header.height = start + i ∧ validate P c eh = .ok := by
  obtain ⟨w, _, eh, _, _, hf, hv⟩ :=
    accepted_headers_pass_validate P c A _ ws hs h hs[i] (List.getElem_mem hi)
  have hacc := accept_sound _ _ hs h
  rw [toKind_origin hstart] at hacc
  have hk := (acceptable_iff.mp hacc).2.2.2
  refine ⟨eh, hf, ?_, hv⟩
  rw [← A.height_eq, hf]
  simpa [hi] using congrArg (·[i]?) hk

/-! non-vacuity with C01's witness header `wEH` (accepted by `validate`) and a tampered copy -/

def exAbs : Abs Lumina.Props.C01.WS where
  f := fun eh => { height := eh.header.height, hash := [eh.commit.round], id := eh.commit.sigs.length }
  height_eq := fun _ => rfl

/-- a head request answered with the witness header: accepted … -/
example : decodeAndVerify { data := .origin 0, amount := 1 }
    ([⟨1, some Lumina.Props.C01.wEH⟩].map (respOf Lumina.Props.C01.wP Lumina.Model.HeaderVerify.sourceConsts exAbs))
      = .ok [exAbs.f Lumina.Props.C01.wEH] := by decide +kernel

/-- … the same header with a foreign `validators_hash` does not pass `validate`: refused -/
example : decodeAndVerify { data := .origin 0, amount := 1 }
    ([⟨1, some { Lumina.Props.C01.wEH with
        header := { Lumina.Props.C01.wEH.header with validatorsHash := some [7] } }⟩].map
      (respOf Lumina.Props.C01.wP Lumina.Model.HeaderVerify.sourceConsts exAbs))
      = .err .invalidResponse := by decide +kernel

end Lumina.Props.C28

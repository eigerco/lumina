/-
  C15 — Shwap identifiers and CIDs are bijective over valid ids.

  `Spec/C15.lean` states the wire layout (`parse`) and the validity of ids independently of the
  model; the theorems say that the model of the five `decode` functions IS that layout function on
  every byte string, that `encode` inverts it on every valid id, and that the CID conversions accept
  exactly the right codec / multihash code / digest.  No idealisation: pure byte arithmetic.
-/
import Lumina.Proofs.C15

namespace Lumina.Props.C15
open Lumina.Util Lumina.Model.ShwapId Lumina.Spec.C15 Lumina.Gen.C15 Lumina.Proofs.C15

/-- the generated constants are the numbers the property states -/
theorem consts_eq :
    EDS_ID_SIZE = Kind.size .eds ∧ ROW_ID_SIZE = Kind.size .row ∧ SAMPLE_ID_SIZE = Kind.size .sample ∧
    ROW_NAMESPACE_DATA_ID_SIZE = Kind.size .rowNsData ∧ NAMESPACE_DATA_ID_SIZE = Kind.size .nsData ∧
    Kind.cidCodes .row = some (ROW_ID_CODEC, ROW_ID_MULTIHASH_CODE) ∧
    Kind.cidCodes .sample = some (SAMPLE_ID_CODEC, SAMPLE_ID_MULTIHASH_CODE) ∧
    Kind.cidCodes .rowNsData = some (ROW_NAMESPACE_DATA_CODEC, ROW_NAMESPACE_DATA_ID_MULTIHASH_CODE) := by
  decide

/-- **decoding rejects wrong lengths, zero heights and invalid namespaces, and otherwise returns the
    id the bytes denote; re-encoding gives the bytes back** — every kind, EVERY byte string -/
theorem decode_spec (k : Kind) (buf : Bytes) : specDecode k buf (obsDecode (decodeK k buf)) = true := by
  rw [decodeK_eq_parse]
  unfold specDecode
  cases parse k buf <;> simp

/-- **CID conversion rejects wrong codecs, multihash codes and digests** and otherwise returns the id
    of the digest — every CID-capable kind, EVERY (codec, code, digest) -/
theorem ofCid_spec (k : Kind) (c : Cid) : specOfCid k (cidObs c) (obsCid (ofCidK k c)) = true := by
  unfold specOfCid
  rw [ofCidK_eq]
  cases k.cidCodes with
  | none => rfl
  | some cc => exact beq_self_eq_true _

/-- **every valid id encodes to bytes and to a CID that decode back to the same id**: for every id
    with typed fields (u64 height, u16 indices, validated namespace): construction fails exactly for
    height 0; otherwise the encoding has the stated size and layout, decodes back to the id, the CID
    is (v1, the kind's codec, the kind's multihash code, digest = the encoding), converts back to the
    id, and its byte form re-reads (varint framing) to the same id. -/
theorem new_spec (id : Id) (hw : WellTyped id) : specNew id (obsNew id) = true := by
  unfold obsNew
  rw [newK_eq]
  by_cases h0 : id.height = 0
  · simp [h0, specNew]
  · have hp := parse_layout id hw h0
    have hl := parse_length hp
    simp only [h0, ↓reduceIte, back_of_parse _ _ _ hp, specNew, hp, hl]
    cases hk : id.kind.cidCodes with
    | none => simp [h0]
    | some cc =>
      obtain ⟨codec, code⟩ := cc
      obtain ⟨h1, h2⟩ := cidCodes_lt hk
      have hrd := read_toBytes ⟨1, codec, code, layout id⟩ [] rfl h1 h2 (hl ▸ size_le id.kind)
      rw [List.append_nil] at hrd
      simp [h0, cidObs, hrd, cidBack_of_parse _ _ _ _ _ hk hp]

/-- `WellTyped` + height ≥ 1 is the spec's `valid` -/
theorem valid_iff (id : Id) : id.valid = true ↔ (1 ≤ id.height ∧ WellTyped id) := by
  obtain ⟨k, h, r, c, ns⟩ := id
  cases k <;> simp [Id.valid, WellTyped, Kind.hasRow, Kind.hasCol, Kind.hasNs] <;> grind

/-- non-vacuity: concrete valid ids of two kinds -/
example : WellTyped ⟨.sample, 64, 7, 5, []⟩ ∧ (⟨.sample, 64, 7, 5, []⟩ : Id).valid = true := by
  refine ⟨⟨by decide, by decide, by decide, by decide⟩, by decide⟩

example : (⟨.nsData, 1, 0, 0, List.replicate 28 0 ++ [7]⟩ : Id).valid = true := by decide

end Lumina.Props.C15

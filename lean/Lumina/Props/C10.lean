/-
  C10 — Bitswap accepts Shwap blocks only when they verify against the DAH.

  Model: `Lumina/Model/ShwapHasher.lean` (`multihash` = `ShwapMultihasher::hash`, `hashBlock` = the macro body,
  `getBlockContainer`), over the CID/identifier model (`ShwapId`) and the container decoders/verifiers
  (`Decoders`: `sampleFromRaw/sampleVerify`, `rowFromRaw/rowVerify`, `rndFromRaw/rndVerify`).
  Spec: `Lumina/Spec/C10.lean`.  Parameters: prost decoding of the block and of the containers, the leopard codec,
  the hash, the header store (height ↦ DAH).
-/
import Lumina.Gen.C10
import Lumina.Proofs.ShwapHasher
import Lumina.Proofs.ShwapSound
import Lumina.Proofs.ShwapSoundRows
import Lumina.Props.C04
import Lumina.Props.C05
import Lumina.Props.C06


namespace Lumina.Props.C10
open Lumina.Util Lumina.Model.Nmt Lumina.Model.Eds Lumina.Model.ShwapId Lumina.Model.Decoders Lumina.Model.ShwapHasher
open Lumina.Proofs.ShwapHasher Lumina.Proofs.ShwapSound Lumina.Proofs.ShwapSoundRows Lumina.Proofs.Nmt Lumina.Proofs.Eds
open Lumina.Spec.C10 (specHash specContainer)

/-- the multihash codes and codecs the hasher dispatches on, and the multihash size of bitswap, re-read from /repo -/
theorem consts_eq :
    Lumina.Gen.C10.ROW_ID_MULTIHASH_CODE = Lumina.Gen.C15.ROW_ID_MULTIHASH_CODE ∧
    Lumina.Gen.C10.SAMPLE_ID_MULTIHASH_CODE = Lumina.Gen.C15.SAMPLE_ID_MULTIHASH_CODE ∧
    Lumina.Gen.C10.ROW_NAMESPACE_DATA_ID_MULTIHASH_CODE = Lumina.Gen.C15.ROW_NAMESPACE_DATA_ID_MULTIHASH_CODE ∧
    Lumina.Gen.C10.ROW_ID_CODEC = Lumina.Gen.C15.ROW_ID_CODEC ∧
    Lumina.Gen.C10.SAMPLE_ID_CODEC = Lumina.Gen.C15.SAMPLE_ID_CODEC ∧
    Lumina.Gen.C10.ROW_NAMESPACE_DATA_CODEC = Lumina.Gen.C15.ROW_NAMESPACE_DATA_CODEC ∧
    Lumina.Gen.C10.MAX_MH_SIZE = 64 := by decide

/-- an unknown multihash code is reported as such, whatever the input -/
theorem unknown_code (H : HashFn) (P : Params) (store : Nat → Option Dah) (code : Nat) (input : Bytes)
    (hc : knownCode code = false) : multihash H P store code input = .error .unknownCode := by
  unfold knownCode at hc
  simp only [Bool.or_eq_false_iff, decide_eq_false_iff_not] at hc
  unfold multihash
  rw [if_neg hc.1.1, if_neg hc.1.2, if_neg hc.2]

/-- **`Ok(h)` iff everything the property lists holds, and then `h` is the identifier hash** — for every input, every
    code, every store, every protobuf/codec behaviour, every hash. -/
theorem mh_ok_iff (H : HashFn) (P : Params) (store : Nat → Option Dah) (code : Nat) (input : Bytes) (h : Bytes) :
    multihash H P store code input = .ok h ↔ (knownCode code = true ∧ allowed H P store code input = some h) := by
  by_cases hk : knownCode code = true
  · rw [(multihash_allowed H P store code input hk).1]
    cases multihash H P store code input <;> simp [Except.toOption, hk]
  · have hk' : knownCode code = false := by simpa using hk
    rw [unknown_code H P store code input hk', hk']
    simp

/-- **The property, as the spec checker, for every input**: unless the call panics (the containers' decoders and
    verifiers are shown panic-free by C16, not here), the observed outcome is exactly what the property allows —
    `UnknownMultihashCode` for an unknown code; the identifier hash iff identifier, container, stored header and
    verification all hold; an error otherwise. -/
theorem multihash_spec (H : HashFn) (P : Params) (store : Nat → Option Dah) (code : Nat) (input : Bytes)
    (hnp : multihash H P store code input ≠ .error .panic) :
    specHash (knownCode code) (allowed H P store code input) (obsOf (multihash H P store code input)) = true := by
  by_cases hk : knownCode code = true
  · obtain ⟨e, hu⟩ := multihash_allowed H P store code input hk
    rw [hk, e]
    cases hr : multihash H P store code input with
    | ok x => simp [specHash, obsOf, Except.toOption]
    | error err =>
      cases err
      · exact absurd hr hu
      · rfl
      · exact absurd hr hnp
  · have hk' : knownCode code = false := by simpa using hk
    rw [hk', unknown_code H P store code input hk']
    rfl

/-- non-vacuity of `multihash_spec`'s hypothesis: calls that do not panic exist for every parameter choice (e.g. the
    empty input under a known code is a plain error); accepted honest blocks occur on every correspondence run -/
example (H : HashFn) (P : Params) (store : Nat → Option Dah) (hb : P.decodeBlock [] = none) :
    multihash H P store Lumina.Gen.C15.ROW_ID_MULTIHASH_CODE [] ≠ .error .panic := by
  simp [multihash, hashBlock, hb]

/-- `get_block_container` hands the container out exactly when the block's CID equals the expected one -/
theorem container_spec (db : Bytes → Option (Bytes × Bytes)) (expected : Cid) (block : Bytes) :
    specContainer (db block) Cid.read expected (getBlockContainer db expected block) = true := by
  unfold specContainer getBlockContainer
  cases hdb : db block with
  | none => simp
  | some b =>
    obtain ⟨c, k⟩ := b
    simp only
    cases hc : Cid.read c with
    | none => simp
    | some cid =>
      by_cases he : cid = expected
      · simp [he]
      · simp [he]

/-- **Inherited soundness (C04) through bitswap**: when every stored header's DAH is the DAH of a
    square (`sq h`, width a power of two), a SAMPLE block for which the multihasher yields a hash carries exactly the
    share at the row and column named by the block's own CID, in the square of the header stored at the CID's height —
    whatever bytes the peer sent, whichever axis the proof uses.  Hash hypothesis: 32-byte output and no collision on a set `S`
    that contains the byte strings hashed by `from_eds` for the stored squares (`edsInputs`) and by the verification of the
    block's own decoded sample (`sampleInputs` of `decodedSample P input`) — e.g. exactly that finite list. -/
theorem mh_sample_sound {H : HashFn} {S : Bytes → Prop} (hkS : HashOKOn H S) (P : Params) (store : Nat → Option Dah)
    (sq : Nat → Eds) (kk : Nat → Nat)
    (hstore : ∀ h d, store h = some d → Dah.ofEds H (sq h) = .ok d ∧ (sq h).width = 2 ^ kk h ∧
      (∀ sh ∈ (sq h).shares, NS_SIZE ≤ sh.data.length) ∧ ∀ y ∈ edsInputs H (sq h), S y)
    (input hsh : Bytes)
    (hVS : ∀ id s, decodedSample P input = some (id, s) → ∀ y ∈ Lumina.Proofs.Sample.sampleInputs H s, S y)
    (hok : multihash H P store Lumina.Gen.C15.SAMPLE_ID_MULTIHASH_CODE input = .ok hsh) :
    ∃ cidB cont cid id raw s, P.decodeBlock input = some (cidB, cont) ∧ Cid.read cidB = some cid ∧
      SampleId.ofCid cid = .ok id ∧ P.decodeSample cont = some raw ∧
      sampleFromRaw id.row.index id.column raw = .ok s ∧ hsh = mhBytes id.toCid ∧
      ∃ sh, (sq id.row.eds.height).share? id.row.index id.column = some sh ∧ sh.data = s.share.data := by
  have hm : multihash H P store Lumina.Gen.C15.SAMPLE_ID_MULTIHASH_CODE input =
      hashBlock (sampleKind H P) P.decodeBlock store input := by
    unfold multihash
    rw [if_neg (by decide), if_neg (by decide), if_pos rfl]
  rw [hm] at hok
  obtain ⟨cidB, cont, cid, id, s, dah, hdb, hcid, hid, hdec, hst, hv, hh⟩ := hashBlock_ok hok
  simp only [sampleKind] at hid hdec hst hv hh
  cases hraw : P.decodeSample cont with
  | none => simp [hraw] at hdec
  | some raw =>
    simp only [hraw] at hdec
    obtain ⟨hlen, hwf⟩ := sampleFromRaw_ok hdec
    obtain ⟨hd, hw, hsz, hES⟩ := hstore _ _ hst
    have hds : decodedSample P input = some (id, s) := by
      simp only [decodedSample, hdb, hcid, hid, hraw, hdec]
    have hk' : HashOKOn H (fun y => y ∈ Lumina.Props.C04.hashedC04 H (sq id.row.eds.height) s) := by
      refine hkS.mono (fun y hy => ?_)
      rcases List.mem_append.mp hy with h | h
      · exact hES y h
      · exact hVS id s hds y h
    have hs := Lumina.Props.C04.sample_sound hw hsz hd s (by rw [hlen]; decide) hwf id.row.index id.column hk'
    rw [sampleVerify_bridge hv] at hs
    exact ⟨cidB, cont, cid, id, raw, s, hdb, hcid, hid, hraw, hdec, hh, share_of_specVerify hs⟩

/-- **Inherited soundness (C05) through bitswap.**  Hash hypothesis: 32-byte output and NO COLLISION
    AMONG the byte strings of `S`, where `S` contains what is actually hashed — the row and column trees of every
    stored header's square (`edsInputs`, `hstore`) and the row tree the multihasher's `Row::verify` rebuilds for this
    block (`rowBlockInputs`, `hV`); satisfiable, see the instance below.  When every stored header's DAH is the DAH of a
    square (`sq h`, any width), a ROW block for which the multihasher yields a hash carries — after `Row::from_raw`,
    whichever half the peer sent and whatever the codec made of it — exactly the shares of the row named by the
    block's own CID, in the square of the header stored at the CID's height.  The last step is C05's `row_sound_eds`
    applied to the very `verify` call of the macro (`rowVerify_bridge`: `Decoders.rowVerify` accepts only what
    `Model.Row.verify` accepts). -/
theorem mh_row_sound {H : HashFn} {S : Bytes → Prop} (hk : HashOKOn H S) (P : Params) (store : Nat → Option Dah)
    (sq : Nat → Eds)
    (hstore : ∀ h d, store h = some d → Dah.ofEds H (sq h) = .ok d ∧
      (∀ sh ∈ (sq h).shares, NS_SIZE ≤ sh.data.length) ∧ ∀ y ∈ edsInputs H (sq h), S y)
    (input hsh : Bytes) (hok : multihash H P store Lumina.Gen.C15.ROW_ID_MULTIHASH_CODE input = .ok hsh)
    (hV : ∀ y ∈ rowBlockInputs H P input, S y) :
    ∃ cidB cont cid id raw r, P.decodeBlock input = some (cidB, cont) ∧ Cid.read cidB = some cid ∧
      RowId.ofCid cid = .ok id ∧ P.decodeRow cont = some raw ∧ rowFromRaw P.codec id.index raw = .ok r ∧
      hsh = mhBytes id.toCid ∧
      ((sq id.eds.height).row? id.index).map (fun l => l.map Share.data) = some (r.map Share.data) := by
  have hm : multihash H P store Lumina.Gen.C15.ROW_ID_MULTIHASH_CODE input =
      hashBlock (rowKind H P) P.decodeBlock store input := by
    unfold multihash
    rw [if_pos rfl]
  rw [hm] at hok
  obtain ⟨cidB, cont, cid, id, r, dah, hdb, hcid, hid, hdec, hst, hv, hh⟩ := hashBlock_ok hok
  simp only [rowKind] at hid hdec hst hv hh
  cases hraw : P.decodeRow cont with
  | none => simp [hraw] at hdec
  | some raw =>
    simp only [hraw] at hdec
    obtain ⟨hd, hsz, hSq⟩ := hstore _ _ hst
    have hrs : ∀ sh ∈ (Lumina.Model.Row.Row.mk r).shares, NS_SIZE ≤ sh.data.length := by
      intro sh hm
      rw [rowFromRaw_sizes hdec sh hm]; decide
    have hk' : HashOKOn H (fun y => y ∈ Lumina.Props.C05.hashedC05 H (sq id.eds.height) ⟨r⟩) := by
      refine hk.mono (fun y hy => ?_)
      rcases List.mem_append.mp hy with h | h
      · exact hSq y h
      · exact hV y (by rw [rowBlockInputs_eq hdb hcid hid hraw hdec]; exact h)
    have hs := Lumina.Props.C05.row_sound_eds hsz hd ⟨r⟩ hrs id.index hk'
    rw [rowVerify_bridge hv] at hs
    simp only [Lumina.Proofs.Sample.accepted, Lumina.Spec.C05.specVerify, Bool.not_true, Bool.false_or,
      beq_iff_eq] at hs
    exact ⟨cidB, cont, cid, id, raw, r, hdb, hcid, hid, hraw, hdec, hh, hs⟩

/-- **Inherited soundness (C06) through bitswap.**  Hash hypothesis as for `mh_row_sound` (no collision among `S` ⊇ the
    stored squares' tree inputs and `rndBlockInputs`: the claimed leaves' preimages and the `hash_nodes` calls of the
    range-proof check of this block).  When every stored header's DAH is the DAH of a well-shaped square
    (`SquareShape`: quadrant parity flags and share sizes, established by `ExtendedDataSquare::new`), a
    ROW-NAMESPACE-DATA block for which the multihasher yields a hash passes the C06 row checker `Spec.C06.specRow` as
    *accepted*, for the namespace and the row named by the block's own CID, in the square of the header stored at the
    CID's height: the row exists, and the shares are exactly the namespace's shares of that row if the row's root range
    covers the namespace, and no shares otherwise.  The last step is C06's `row_nsdata_sound` applied to the very
    `verify` call of the macro (`rndVerify_bridge`). -/
theorem mh_row_nsdata_sound {H : HashFn} {S : Bytes → Prop} (hk : HashOKOn H S) (P : Params) (store : Nat → Option Dah)
    (sq : Nat → Eds)
    (hstore : ∀ h d, store h = some d → Dah.ofEds H (sq h) = .ok d ∧ Lumina.Proofs.NsData.SquareShape (sq h) ∧
      ∀ y ∈ edsInputs H (sq h), S y)
    (input hsh : Bytes)
    (hok : multihash H P store Lumina.Gen.C15.ROW_NAMESPACE_DATA_ID_MULTIHASH_CODE input = .ok hsh)
    (hV : ∀ y ∈ rndBlockInputs H P input, S y) :
    ∃ cidB cont cid id raw d, P.decodeBlock input = some (cidB, cont) ∧ Cid.read cidB = some cid ∧
      RowNamespaceDataId.ofCid cid = .ok id ∧ P.decodeRnd cont = some raw ∧ rndFromRaw id.ns raw = .ok d ∧
      hsh = mhBytes id.toCid ∧
      Lumina.Spec.C06.specRow (sq id.row.eds.height).width (Lumina.Proofs.Sample.rawSquare (sq id.row.eds.height))
        id.ns id.row.index (d.shares.map Share.data) true = true := by
  have hm : multihash H P store Lumina.Gen.C15.ROW_NAMESPACE_DATA_ID_MULTIHASH_CODE input =
      hashBlock (rndKind H P) P.decodeBlock store input := by
    unfold multihash
    rw [if_neg (by decide), if_pos rfl]
  rw [hm] at hok
  obtain ⟨cidB, cont, cid, id, d, dah, hdb, hcid, hid, hdec, hst, hv, hh⟩ := hashBlock_ok hok
  simp only [rndKind] at hid hdec hst hv hh
  cases hraw : P.decodeRnd cont with
  | none => simp [hraw] at hdec
  | some raw =>
    simp only [hraw] at hdec
    obtain ⟨hd, hsq, hSq⟩ := hstore _ _ hst
    have hk' : HashOKOn H (fun y => y ∈ Lumina.Props.C06.hashedC06 H (sq id.row.eds.height) [⟨d.proof, d.shares⟩] id.ns) := by
      refine hk.mono (fun y hy => ?_)
      rcases List.mem_append.mp hy with h | h
      · exact hSq y h
      · refine hV y ?_
        rw [rndBlockInputs_eq hdb hcid hid hraw hdec]
        simpa [Lumina.Proofs.NsData.nsDataInputs] using h
    have hs := Lumina.Props.C06.row_nsdata_sound hsq hd (rndId_ns_length hid) ⟨d.proof, d.shares⟩
      (rndFromRaw_proofOK hdec) id.row.index hk'
    rw [rndVerify_bridge hv] at hs
    exact ⟨cidB, cont, cid, id, raw, d, hdb, hcid, hid, hraw, hdec, hh, hs⟩

/-! ### Non-vacuity: the inherited-soundness theorems APPLIED to concrete accepted blocks

Toy 32-byte hash `toySum` (`Proofs/Sample.lean`; it has collisions, but none among the inputs below — `decide`),
the concrete 2×2 square `okEds` of `Props/C04`, a store holding its DAH at height 1, toy protobuf/codec parameters
standing for an honest peer's bytes.  Every hypothesis of `mh_row_sound` and `mh_row_nsdata_sound` — including the
relative collision-freeness — holds, and the theorems yield their conclusions for these blocks.  Accepted honest blocks of
all three kinds also occur on every correspondence run (`sample ok`, `row ok`, `rnd ok` ops). -/

open Lumina.Proofs.Sample (toySum toySum_len)
open Lumina.Props.C04 (okEds)

def okRowId : RowId := ⟨⟨1⟩, 0⟩
def okRndId : RowNamespaceDataId := ⟨okRowId, List.replicate 29 0⟩
def okSampleId : SampleId := ⟨okRowId, 0⟩
/-- the DAH of `okEds` under the toy hash -/
def okSumDah : Dah := match Dah.ofEds toySum okEds with | .ok d => d | .error _ => default
def okStore : Nat → Option Dah := fun h => if h = 1 then some okSumDah else none
/-- the inclusion proof of leaf 0 of row 0 of `okEds`: its only sibling is the leaf hash of the parity share -/
def okRawProof : RawProof :=
  let sib := hashLeaf toySum parityNs (List.replicate 512 1)
  ⟨0, 1, [sib.minNs ++ sib.maxNs ++ sib.hash], [], true⟩
def okP : Params where
  decodeBlock := fun b =>
    if b = [0] then some (okRowId.toCid.toBytes, []) else if b = [1] then some (okRndId.toCid.toBytes, [])
    else if b = [2] then some (okSampleId.toCid.toBytes, []) else none
  decodeSample := fun _ => some ⟨some (List.replicate 512 0), some okRawProof, 0⟩
  decodeRow := fun _ => some ⟨[List.replicate 512 0], 0⟩
  decodeRnd := fun _ => some ⟨[List.replicate 512 0], some okRawProof⟩
  codec := ⟨fun _ _ => [List.replicate 512 0, List.replicate 512 1], fun s _ => s⟩
def yields (r : Except MhErr Bytes) (c : Cid) : Bool := match r with | .ok h => h == mhBytes c | .error _ => false

theorem yields_ok {r : Except MhErr Bytes} {c : Cid} (h : yields r c = true) : r = .ok (mhBytes c) := by
  unfold yields at h
  split at h
  · rename_i hsh
    have : hsh = mhBytes c := by simpa using h
    rw [this]
  · cases h

/-- everything hashed for the stored square and for the verification of the two blocks -/
def okHashed : List Bytes := edsInputs toySum okEds ++ rowBlockInputs toySum okP [0] ++ rndBlockInputs toySum okP [1]

/-- the three blocks of `okP` evaluated once; `nonvacuity_okHashed`, `nonvacuity_accepted` and `nonvacuity_okSampleHashed`
    below are its parts (the verifiers hash nothing that the trees of the square did not, and accept) -/
theorem okP_evaluated :
    ((rowBlockInputs toySum okP [0] ++ rndBlockInputs toySum okP [1]).all
        (fun y => decide (y ∈ edsInputs toySum okEds)) = true ∧ okHashed.length = 18) ∧
    (yields (multihash toySum okP okStore Lumina.Gen.C15.ROW_ID_MULTIHASH_CODE [0]) okRowId.toCid = true ∧
      yields (multihash toySum okP okStore Lumina.Gen.C15.ROW_NAMESPACE_DATA_ID_MULTIHASH_CODE [1]) okRndId.toCid = true ∧
      yields (multihash toySum okP okStore Lumina.Gen.C15.SAMPLE_ID_MULTIHASH_CODE [2]) okSampleId.toCid = true) ∧
    ∀ p ∈ decodedSample okP [2],
      (Lumina.Proofs.Sample.sampleInputs toySum p.2).all (fun y => decide (y ∈ edsInputs toySum okEds)) = true := by
  -- `okP` stands in the scrutinee of a `match`: put in by `unfold`, a definitional step, it would have the kernel compare the
  -- two matches by running both scrutinees, under `toySum` as it is defined; `rw` gives a congruence it only reads
  rw [okHashed, okP, okRawProof]
  unfold okStore okSumDah
  rw [Lumina.Proofs.Sample.toySum_eq_lanes]
  decide +kernel

/-- the toy hash has no collision among them, and they are not trivially few: the 13 inputs of the square's four trees
    (and `[]`), 3 of the verifier's row tree, 2 of the range-proof check -/
theorem nonvacuity_okHashed : NoCollOn toySum (fun y => y ∈ okHashed) ∧ okHashed.length = 18 := by
  refine ⟨?_, okP_evaluated.1.2⟩
  unfold okHashed
  rw [List.append_assoc]
  exact Lumina.Proofs.Sample.noCollOn_append_of_all Lumina.Props.C04.toySum_nocoll_okEds okP_evaluated.1.1

theorem nonvacuity_accepted :
    yields (multihash toySum okP okStore Lumina.Gen.C15.ROW_ID_MULTIHASH_CODE [0]) okRowId.toCid = true ∧
    yields (multihash toySum okP okStore Lumina.Gen.C15.ROW_NAMESPACE_DATA_ID_MULTIHASH_CODE [1]) okRndId.toCid = true ∧
    yields (multihash toySum okP okStore Lumina.Gen.C15.SAMPLE_ID_MULTIHASH_CODE [2]) okSampleId.toCid = true :=
  okP_evaluated.2.1

theorem nonvacuity_okStore (h : Nat) (d : Dah) (hs : okStore h = some d) :
    Dah.ofEds toySum okEds = .ok d ∧ okEds.width = 2 ^ 1 ∧ (∀ sh ∈ okEds.shares, NS_SIZE ≤ sh.data.length) ∧
      Lumina.Proofs.NsData.SquareShape okEds ∧ ∀ y ∈ edsInputs toySum okEds, y ∈ okHashed := by
  have hd : d = okSumDah := by
    by_cases h1 : h = 1
    · simp [okStore, h1] at hs; exact hs.symm
    · simp [okStore, h1] at hs
  subst hd
  exact ⟨Lumina.Props.C04.sumDah_ok, rfl, Lumina.Props.C06.nonvacuity_okEds_shape.size, Lumina.Props.C06.nonvacuity_okEds_shape,
    fun y hy => List.mem_append_left _ (List.mem_append_left _ hy)⟩

/-- `mh_row_sound` applied: all hypotheses hold, the accepted row block carries row 0 of the square -/
example : ∃ r : Lumina.Model.Decoders.Row, rowFromRaw okP.codec 0 ⟨[List.replicate 512 0], 0⟩ = .ok r ∧
    (okEds.row? 0).map (fun l => l.map Share.data) = some (r.map Share.data) := by
  obtain ⟨cidB, cont, cid, id, raw, r, h1, h2, h3, h4, h5, _, h7⟩ :=
    mh_row_sound ⟨nonvacuity_okHashed.1, toySum_len⟩ okP okStore (fun _ => okEds)
      (fun h d hs => ⟨(nonvacuity_okStore h d hs).1, (nonvacuity_okStore h d hs).2.2.1, (nonvacuity_okStore h d hs).2.2.2.2⟩)
      [0] _ (yields_ok nonvacuity_accepted.1)
      (fun y hy => List.mem_append_left _ (List.mem_append_right _ hy))
  have e1 : cidB = okRowId.toCid.toBytes ∧ cont = [] := by
    have : okP.decodeBlock [0] = some (okRowId.toCid.toBytes, []) := rfl
    rw [this] at h1; injection h1 with h1; injection h1 with a b; exact ⟨a.symm, b.symm⟩
  obtain ⟨rfl, rfl⟩ := e1
  have e2 : cid = okRowId.toCid := by
    have : Cid.read okRowId.toCid.toBytes = some okRowId.toCid := by decide
    rw [this] at h2; injection h2 with h2; exact h2.symm
  subst e2
  have e3 : id = okRowId := by
    have : RowId.ofCid okRowId.toCid = .ok okRowId := by rfl
    rw [this] at h3; injection h3 with h3; exact h3.symm
  subst e3
  have e4 : raw = ⟨[List.replicate 512 0], 0⟩ := by
    have : okP.decodeRow [] = some ⟨[List.replicate 512 0], 0⟩ := rfl
    rw [this] at h4; injection h4 with h4; exact h4.symm
  subst e4
  exact ⟨r, h5, h7⟩

/-- `mh_row_nsdata_sound` applied: all hypotheses hold, the accepted block passes the C06 row checker for namespace 0,
    row 0 of the square -/
example : ∃ shares : List Bytes, Lumina.Spec.C06.specRow okEds.width (Lumina.Proofs.Sample.rawSquare okEds)
    (List.replicate 29 0) 0 shares true = true := by
  obtain ⟨cidB, cont, cid, id, raw, d, h1, h2, h3, _, _, _, h7⟩ :=
    mh_row_nsdata_sound ⟨nonvacuity_okHashed.1, toySum_len⟩ okP okStore (fun _ => okEds)
      (fun h d hs => ⟨(nonvacuity_okStore h d hs).1, (nonvacuity_okStore h d hs).2.2.2.1, (nonvacuity_okStore h d hs).2.2.2.2⟩)
      [1] _ (yields_ok nonvacuity_accepted.2.1)
      (fun y hy => List.mem_append_right _ hy)
  have e1 : cidB = okRndId.toCid.toBytes := by
    have : okP.decodeBlock [1] = some (okRndId.toCid.toBytes, []) := rfl
    rw [this] at h1; injection h1 with h1; injection h1 with a b; exact a.symm
  subst e1
  have e2 : cid = okRndId.toCid := by
    have : Cid.read okRndId.toCid.toBytes = some okRndId.toCid := by decide
    rw [this] at h2; injection h2 with h2; exact h2.symm
  subst e2
  have e3 : id = okRndId := by
    have : RowNamespaceDataId.ofCid okRndId.toCid = .ok okRndId := by rfl
    rw [this] at h3; injection h3 with h3; exact h3.symm
  subst e3
  exact ⟨_, h7⟩

/-! ### `mh_sample_sound` applied to the concrete accepted SAMPLE block (block `[2]` of `okP`) -/

/-- the byte strings hashed for the stored square and by the verification of the block's decoded sample -/
def okSampleHashed : List Bytes :=
  edsInputs toySum okEds ++
    (match decodedSample okP [2] with
     | some (_, s) => Lumina.Proofs.Sample.sampleInputs toySum s
     | none => [])

theorem nonvacuity_okSampleHashed : NoCollOn toySum (fun y => y ∈ okSampleHashed) := by
  unfold okSampleHashed
  refine Lumina.Proofs.Sample.noCollOn_append_of_all Lumina.Props.C04.toySum_nocoll_okEds ?_
  cases h : decodedSample okP [2] with
  | none => rfl
  | some p => exact okP_evaluated.2.2 p h

/-- all hypotheses of `mh_sample_sound` hold: the accepted sample block carries the share at (0, 0) of the stored square -/
example : ∃ sh, okEds.share? okSampleId.row.index okSampleId.column = some sh := by
  have hok := yields_ok nonvacuity_accepted.2.2
  obtain ⟨_, _, _, id, _, s, _, _, _, _, _, hmh, sh, hsh, _⟩ :=
    mh_sample_sound (S := fun y => y ∈ okSampleHashed) ⟨nonvacuity_okSampleHashed, toySum_len⟩ okP okStore (fun _ => okEds)
      (fun _ => 1)
      (fun h d hs => by
        obtain ⟨h1, h2, h3, _, _⟩ := nonvacuity_okStore h d hs
        exact ⟨h1, h2, h3, fun y hy => List.mem_append_left _ hy⟩)
      [2] _
      (fun id s hds y hy => by
        apply List.mem_append_right
        simp only [hds]
        exact hy)
      hok
  exact ⟨okEds.shares.headD default, by decide +kernel⟩

end Lumina.Props.C10

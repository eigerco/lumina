/-
  C16 — Decoding network input never panics.

  One theorem per decoder: for ALL raw (post-`prost`) inputs the model's outcome is a value or an error,
  never `panic` — stated through the property's checker `Spec.C16.specOK` on the observation of the outcome.
  No bound on the number of siblings, shares, rows, the indices, the square size.

  The code as it was before this property's `fix:` commits is FALSE for five of them; those are the
  `…_counterexample` theorems (concrete witnesses, each replayed against the real code by the harness).

  Models: `Lumina.Model.Decoders` (+ `Lumina.Model.Nmt`, `Lumina.Model.Framing`, `Lumina.Model.HeaderVerify`).
  Lemmas: `Lumina.Proofs.Decoders{Tree,Walk,Main,Rows,Header}`, `Lumina.Proofs.NmtOrder`.  A decoder `d` has its
  `d_sat` lemma in `DecodersRows` or `DecodersMain` (`Sat A Q (d …)`: panics only at sites in `A`, a returned value
  satisfies `Q`) and its theorem here is `(noPanic_iff _).mpr (d_sat …).noPanic` (the header-exchange frame decoders
  are proved here directly, by induction on their fuel); decode-then-verify is `Sat.bind`, the decoder's `Q` giving
  the verifier its hypothesis (`U32`).
-/
import Lumina.Proofs.DecodersRows
import Lumina.Spec.C16
import Lumina.Gen.C16
import Lumina.Proofs.DecodersHeader

namespace Lumina.Props.C16
open Lumina.Util Lumina.Model.Eds Lumina.Model.Decoders Lumina.Proofs.Decoders
open Lumina.Model.Nmt hiding validateShape
open Lumina.Spec.C16 (Obs specOK)

/-- what an outcome looks like from outside -/
def obs {α} : Out α → Obs
  | .ok _ => .value
  | .err => .error
  | .panic _ => .panic

/-- the property for one model outcome -/
def NoPanic {α} (o : Out α) : Prop := specOK (obs o) = true

theorem noPanic_iff {α} (o : Out α) : NoPanic o ↔ o.isPanic = false := by
  cases o <;> simp [NoPanic, obs, specOK, Out.isPanic]

/-! ## constants the models quote, tied to the source -/

theorem ns_size_tied : Lumina.Gen.C16.NS_SIZE = NS_SIZE := rfl
theorem share_size_tied : Lumina.Gen.C16.SHARE_SIZE = SHARE_SIZE := rfl
theorem hash_size_tied : Lumina.Gen.C16.HASH_SIZE = HASH_LEN := rfl

/-! ## NMT proofs (`types/src/nmt/namespace_proof.rs`) and the nmt-rs paths behind them -/

/-- `TryFrom<RawProof> for NamespaceProof` -/
theorem no_panic_proof_from_raw (rp : RawProof) : NoPanic (proofFromRaw rp) :=
  (noPanic_iff _).mpr (proofFromRaw_sat rp).noPanic

/-- decoded proofs have `u32` indices (the hypothesis of the two theorems below is what Rust's types give) -/
theorem proof_from_raw_u32 (rp : RawProof) (p : NsProof) (h : proofFromRaw rp = .ok p) : U32 p :=
  proofFromRaw_u32 h

/-- lumina's `NamespaceProof::verify_range`: for every proof (any number of siblings, any range), root, leaves
    and namespace, nmt-rs behind the shape validation never panics — neither the `hash_nodes` order panic, nor
    an index out of bounds, nor the `leaves.len() + start - 1` underflow -/
theorem no_panic_verify_range (H : HashFn) (p : NsProof) (hu : U32 p) (root : NsHash) (leaves : List Bytes) (ns : Bytes) :
    NoPanic (ofNmt (safeVerifyRange H p root leaves ns)) :=
  (noPanic_iff _).mpr (sat_ofNmt (safeVerifyRange_ne_panic H p hu root leaves ns)).noPanic

example : U32 ⟨3, 4, [], true, false, none⟩ := ⟨by decide, by decide⟩

/-- lumina's `NamespaceProof::verify_complete_namespace` (presence and absence proofs) -/
theorem no_panic_verify_complete_namespace (H : HashFn) (p : NsProof) (hu : U32 p) (root : NsHash)
    (leaves : List Bytes) (ns : Bytes) : NoPanic (ofNmt (safeVerifyCompleteNamespace H p root leaves ns)) :=
  (noPanic_iff _).mpr (sat_ofNmt (safeVerifyCompleteNamespace_ne_panic H p hu root leaves ns)).noPanic

/-- nmt-rs `compute_tree_size` is correct: the last proven leaf has exactly the given number of right
    siblings in the tree size it returns (the arithmetic fact the no-panic proofs rest on) -/
theorem compute_tree_size_correct (nr e T : Nat) (he : e < 2 ^ 32) (h : computeTreeSize nr e = .ok T) :
    e < T ∧ rsib T e = nr :=
  ⟨Lumina.Proofs.Nmt.computeTreeSize_ge h, computeTreeSize_rsib he h⟩

/-! ## Sample (`types/src/sample.rs`) -/

theorem no_panic_sample_from_raw (row col : Nat) (raw : RawSample) : NoPanic (sampleFromRaw row col raw) :=
  (noPanic_iff _).mpr (sampleFromRaw_sat row col raw).noPanic

theorem no_panic_sample_verify (H : HashFn) (s : Lumina.Model.Sample.Sample) (hu : U32 s.proof) (row col : Nat) (dah : Dah) :
    NoPanic (sampleVerify H s row col dah) :=
  (noPanic_iff _).mpr (sampleVerify_sat H s hu row col dah).noPanic

/-- decode, then verify (what the shrex codec and the bitswap multihasher do): every raw sample, id and DAH -/
theorem no_panic_sample (H : HashFn) (row col : Nat) (raw : RawSample) (dah : Dah) :
    NoPanic ((sampleFromRaw row col raw).bind fun s => sampleVerify H s row col dah) := by
  rw [noPanic_iff]
  exact ((sampleFromRaw_sat row col raw).bind fun s ⟨_, _, _, hq, _⟩ =>
    sampleVerify_sat H s (proofFromRaw_u32 hq) row col dah).noPanic

def witnessNode (a b : Bytes) : NsHash := ⟨a, b, []⟩
def witnessHash : HashFn := fun _ => []

/-- DESIGN #5a: before the fix a sample proof with 64 siblings overflows `1 << siblings.len()` -/
theorem sample_from_raw_unfixed_counterexample :
    ∃ raw : RawSample, (sampleFromRawUnfixed 0 0 raw).site? = some .shl ∧ (sampleFromRaw 0 0 raw).isErr = true :=
  ⟨{ share := some [], proof := some ⟨0, 1, List.replicate 64 (List.replicate 90 0), [], true⟩, proofType := 0 },
   by decide, by decide⟩

set_option maxRecDepth 100000 in
/-- DESIGN #5c: before the fix a right sibling whose namespace range lies below the leaf's namespace makes
    nmt-rs `hash_nodes` panic inside `Sample::verify` -/
theorem sample_verify_unfixed_counterexample :
    ∃ (s : Lumina.Model.Sample.Sample) (dah : Dah),
      (sampleVerifyUnfixed witnessHash s 0 0 dah).site? = some .nmt ∧ (sampleVerify witnessHash s 0 0 dah).isErr = true :=
  ⟨⟨.row, ⟨List.replicate 29 1, false⟩,
      ⟨0, 1, [witnessNode (List.replicate 29 0) (List.replicate 29 0)], true, false, none⟩⟩,
   ⟨[witnessNode (List.replicate 29 0) (List.replicate 29 0)], [witnessNode (List.replicate 29 0) (List.replicate 29 0)]⟩,
   by decide, by decide⟩

/-! ## Row (`types/src/row.rs`) and leopard's entry guards -/

/-- for every codec behaviour (leopard's transforms are a parameter), row index and raw row -/
theorem no_panic_row_from_raw (c : Codec) (rowIdx : Nat) (raw : RawRow) : NoPanic (rowFromRaw c rowIdx raw) :=
  (noPanic_iff _).mpr (rowFromRaw_sat c rowIdx raw).noPanic

/-- `Row::verify`: rebuilding the tree from pushed (hence ordered) leaves never reaches the `hash_nodes` panic -/
theorem no_panic_row_verify (H : HashFn) (r : Row) (rowIdx : Nat) (dah : Dah) : NoPanic (rowVerify H r rowIdx dah) :=
  (noPanic_iff _).mpr (rowVerify_sat H r rowIdx dah).noPanic

theorem no_panic_row (H : HashFn) (c : Codec) (rowIdx : Nat) (raw : RawRow) (dah : Dah) :
    NoPanic ((rowFromRaw c rowIdx raw).bind fun r => rowVerify H r rowIdx dah) := by
  rw [noPanic_iff]
  exact ((rowFromRaw_sat c rowIdx raw).bind fun r _ => rowVerify_sat H r rowIdx dah).noPanic

/-- DESIGN #5b: before the fix an empty left half reaches leopard's `ceil_pow2(0)` -/
theorem row_from_raw_unfixed_counterexample (c : Codec) :
    (rowFromRawUnfixed c 0 ⟨[], 0⟩).site? = some .leopard ∧ (rowFromRaw c 0 ⟨[], 0⟩).isErr = true :=
  ⟨rfl, rfl⟩

/-- leopard `encode` is only ever asked for a non-zero number of parity shards -/
theorem no_panic_leopard_encode (c : Codec) (shards : List Bytes) (k : Nat) (h1 : k ≤ shards.length)
    (h2 : shards.length ≠ k) : NoPanic (leoEncode c shards k) :=
  (noPanic_iff _).mpr (leoEncode_sat c shards k h1 h2).noPanic

example : (2 : Nat) ≤ ([[], [], [], []] : List Bytes).length ∧ ([[], [], [], []] : List Bytes).length ≠ 2 := by decide

theorem no_panic_leopard_reconstruct (c : Codec) (shards : List Bytes) (k : Nat) (h1 : k ≤ shards.length) :
    NoPanic (leoReconstruct c shards k) :=
  (noPanic_iff _).mpr (leoReconstruct_sat c shards k h1).noPanic

/-! ## RowNamespaceData, NamespaceData -/

theorem no_panic_rnd_from_raw (ns : Bytes) (raw : RawRnd) : NoPanic (rndFromRaw ns raw) :=
  (noPanic_iff _).mpr (rndFromRaw_sat ns raw).noPanic

theorem no_panic_rnd_verify (H : HashFn) (d : Rnd) (hu : U32 d.proof) (ns : Bytes) (row : Nat) (dah : Dah) :
    NoPanic (rndVerify H d ns row dah) :=
  (noPanic_iff _).mpr (rndVerify_sat H d hu ns row dah).noPanic

theorem no_panic_rnd (H : HashFn) (ns : Bytes) (row : Nat) (raw : RawRnd) (dah : Dah) :
    NoPanic ((rndFromRaw ns raw).bind fun d => rndVerify H d ns row dah) := by
  rw [noPanic_iff]
  exact ((rndFromRaw_sat ns raw).bind fun d ⟨_, _, hq⟩ => rndVerify_sat H d (proofFromRaw_u32 hq) ns row dah).noPanic

set_option maxRecDepth 100000 in
/-- DESIGN #5d: before the fix an absence proof whose start index needs a left sibling that is not there
    indexes `siblings[popcount(start) - 1]` out of bounds -/
theorem rnd_verify_unfixed_counterexample :
    ∃ (d : Rnd) (ns : Bytes) (dah : Dah),
      (rndVerifyUnfixed witnessHash d ns 0 dah).site? = some .nmt ∧ (rndVerify witnessHash d ns 0 dah).isErr = true :=
  ⟨⟨⟨1, 2, [], true, true, some (witnessNode (List.replicate 29 9) (List.replicate 29 9))⟩, []⟩,
   List.replicate 29 1,
   ⟨[witnessNode (List.replicate 29 0) (List.replicate 29 255)], [witnessNode (List.replicate 29 0) (List.replicate 29 0)]⟩,
   by decide, by decide⟩

theorem no_panic_nd_from_raw (ns : Bytes) (rows : List RawRnd) : NoPanic (ndFromRaw ns rows) :=
  (noPanic_iff _).mpr (ndFromRaw_sat ns rows).noPanic

/-- `NamespaceData::verify` against a DAH with at most `u16::MAX` row roots (what header validation
    guarantees; `square_width()` has an `expect` otherwise) -/
theorem no_panic_nd_verify (H : HashFn) (rows : List Rnd) (hu : ∀ d ∈ rows, U32 d.proof) (ns : Bytes) (dah : Dah)
    (hw : dah.rowRoots.length ≤ 65535) : NoPanic (ndVerify H rows ns dah) :=
  (noPanic_iff _).mpr (ndVerify_sat H rows hu ns dah hw).noPanic

theorem no_panic_nd (H : HashFn) (ns : Bytes) (raws : List RawRnd) (dah : Dah) (hw : dah.rowRoots.length ≤ 65535) :
    NoPanic ((ndFromRaw ns raws).bind fun rows => ndVerify H rows ns dah) := by
  rw [noPanic_iff]
  exact ((ndFromRaw_sat ns raws).bind fun rows hu => ndVerify_sat H rows hu ns dah hw).noPanic

example : (⟨[witnessNode [] []], []⟩ : Dah).rowRoots.length ≤ 65535 := by decide

/-! ## BadEncodingFraudProof (`types/src/byzantine.rs`) -/

theorem no_panic_befp_from_raw (raw : RawBefp) : NoPanic (befpFromRaw raw) :=
  (noPanic_iff _).mpr (befpFromRaw_sat raw).noPanic

/-- full statement: decoding a fraud proof and validating it against ANY header (height, DAH of at most
    `u16::MAX` roots) never panics, whatever leopard's transforms compute (as long as they keep the number
    and the size of the shards) — for the code with the `unwrap` replaced by "befp is legit" -/
theorem no_panic_befp_validate (H : HashFn) (c : Codec) (hc : CodecShape c) (raw : RawBefp) (hh : Nat) (dah : Dah)
    (hw : dah.rowRoots.length ≤ 65535) :
    NoPanic ((befpFromRaw raw).bind fun p => befpValidate H c p hh dah) := by
  rw [noPanic_iff]
  -- the fixed code is the instance `unwrapFixed = true`, for which `UnwrapOnly` allows no site
  exact ((befpFromRaw_sat raw).bind fun p hp =>
    (befpValidateWith_sat true true true H c hc p hp hh dah hw).mono (fun _ h => absurd h.1 (by decide))
      fun _ _ h => h).noPanic

/-- a codec that meets the shape assumption -/
example : CodecShape { enc := fun s _ => s.map (fun _ => List.replicate (shardSize s) 0),
                       recon := fun s _ => s } :=
  ⟨by intro s k; simp, by intro s k x hx; simp at hx; obtain ⟨_, _, rfl⟩ := hx; simp, by intro s k; rfl⟩

/-- the part that holds of the code while the `unwrap` is still there: the ONLY place where decode + validate
    of a fraud proof can panic is `Namespace::from_raw(..).unwrap()` on a rebuilt share -/
theorem no_panic_befp_validate_partial (H : HashFn) (c : Codec) (hc : CodecShape c) (raw : RawBefp) (hh : Nat)
    (dah : Dah) (hw : dah.rowRoots.length ≤ 65535) (t : Site)
    (h : ((befpFromRaw raw).bind fun p => befpValidateNmtFixed H c p hh dah) = .panic t) : t = .befpUnwrap := by
  exact (((befpFromRaw_sat raw).weaken.bind fun p hp =>
    befpValidateWith_sat false false false H c hc p hp hh dah hw).of_panic h).2

def witnessShare : Bytes := 49 :: List.replicate 63 0
def witnessMax : Bytes := List.replicate 29 255
/-- a "parity" shard of the given size whose first byte is not a namespace version -/
def witnessShard (n : Nat) : Bytes := witnessShare.take n ++ List.replicate (n - 64) 0

theorem witnessShard_length (n : Nat) : (witnessShard n).length = n := by
  unfold witnessShard witnessShare
  simp only [List.length_append, List.length_take, List.length_cons, List.length_replicate]
  omega

set_option maxRecDepth 100000 in
/-- DESIGN #2b: a share that does not start with a valid namespace at a data position of the rebuilt axis
    (here: a parity share, proven with its honest parity-namespace proof) reaches the `unwrap` -/
theorem befp_validate_unwrap_counterexample :
    ∃ (c : Codec) (p : Befp) (dah : Dah), CodecShape c ∧
      (befpValidateNmtFixed witnessHash c p 7 dah).site? = some .befpUnwrap ∧
      (befpValidate witnessHash c p 7 dah).site? = none :=
  ⟨{ enc := fun s _ => s.map (fun _ => witnessShard (shardSize s)), recon := fun s _ => s.map (fun _ => witnessShare) },
   ⟨7, [some ⟨witnessMax, witnessShare, ⟨0, 1, [witnessNode witnessMax witnessMax], true, false, none⟩, .row⟩, none], 0, .row⟩,
   ⟨[witnessNode witnessMax witnessMax, witnessNode witnessMax witnessMax],
    [witnessNode witnessMax witnessMax, witnessNode witnessMax witnessMax]⟩,
   ⟨by intro s k; simp,
    by intro s k x hx; simp only [List.mem_map] at hx; obtain ⟨_, _, rfl⟩ := hx; exact witnessShard_length _,
    by intro s k; simp⟩,
   by decide, by decide⟩

/-! ## header-ex framing, shrex -/

theorem hxParseFrame_noPanic {α} (dec : Bytes → Option α) (buf : Bytes) : (hxParseFrame dec buf).isPanic = false := by
  unfold hxParseFrame
  cases Lumina.Model.Framing.parseDelimiter buf with
  | none => rfl
  | some p =>
    obtain ⟨len, rest⟩ := p
    simp only
    by_cases h1 : rest.length < len
    · simp [h1, Out.isPanic]
    · simp only [h1, ↓reduceIte]
      split <;> rfl

/-- `parse_header_request`: for every byte string -/
theorem no_panic_hx_parse_request (buf : Bytes) : NoPanic (hxParseRequest buf) := by
  rw [noPanic_iff]
  unfold hxParseRequest
  refine Safe.noPanic (Sat.bind (Sat.of_noPanic (hxParseFrame_noPanic _ _)) fun r _ => ?_)
  split <;> trivial

theorem hxParseFrames_noPanic {α} (dec : Bytes → Option α) : ∀ (fuel : Nat) (buf : Bytes),
    (hxParseFrames dec fuel buf).isPanic = false := by
  intro fuel
  induction fuel with
  | zero => intro _; rfl
  | succ f ih =>
    intro buf
    unfold hxParseFrames
    refine Safe.noPanic (Sat.bind (Sat.of_noPanic (hxParseFrame_noPanic _ _)) fun r _ => ?_)
    split
    · trivial
    · exact (Sat.of_noPanic (ih _)).bind fun _ _ => trivial

/-- the `parse_header_response` loop of `read_response`: for every byte string -/
theorem no_panic_hx_read_responses (buf : Bytes) : NoPanic (hxReadResponses buf) := by
  rw [noPanic_iff]
  unfold hxReadResponses
  refine Safe.noPanic (Sat.bind (Sat.of_noPanic (hxParseFrames_noPanic _ _ _)) fun ms _ => ?_)
  split <;> trivial

/-- `EdsNotification::deserialize_and_validate` after prost -/
theorem no_panic_eds_notification (emptyHash : Bytes) (height : Nat) (dataHash : Bytes) :
    NoPanic (edsNotification emptyHash height dataHash) :=
  (noPanic_iff _).mpr (edsNotification_sat emptyHash height dataHash).noPanic

/-- shrex EDS response: the length guards of `decode_and_verify` / `from_ods` keep leopard away from an
    empty axis — the first `encode` call (rows of `k` data shares) never panics -/
theorem no_panic_eds_response_first_encode (c : Codec) (rawLen : Nat) (row : List Bytes)
    (hrow : ∀ k, edsResponseGuards rawLen = .ok k → row.length = k) :
    NoPanic (edsResponseFirstEncode c rawLen row) := by
  rw [noPanic_iff]
  unfold edsResponseFirstEncode
  refine Safe.noPanic (Sat.bind (P := fun k => k ≠ 0 ∧ edsResponseGuards rawLen = .ok k) ?_
    fun k ⟨hk0, hg⟩ => ?_)
  · exact (edsResponseGuards_sat rawLen).mono (fun _ h => h) fun k hg hk0 => ⟨hk0, hg⟩
  · have hk := hrow k hg
    refine (leoEncode_sat c _ k ?_ ?_).safe
    · rw [List.length_append, List.length_replicate, hk]; omega
    · rw [List.length_append, List.length_replicate, hk]; omega

/-! ## ExtendedHeader -/

open Lumina.Model.HeaderVerify in
/-- PARTIAL: `ExtendedHeader::validate` (what `TryFrom<RawExtendedHeader>` / `decode_and_validate` run after the
    third-party conversions), in the field-level model `Model.HeaderVerify` that C01 and the `ehv` ops of this property tie to the
    real code: for every header, commit, DAH, hash and signature oracle and every set of constants the outcome is
    never a panic — PROVIDED the validator set is as tendermint builds it (`total` = sum of the powers ≤
    `MAX_TOTAL_VOTING_POWER`; the hypothesis `wf`).  The one arithmetic step of lumina's part, the `u64` tally of
    `verify_commit_light`, then cannot overflow (`verifyCommitLight_ne_panic`, the same fact as C03 `light_no_panic`).  Without the hypothesis the statement is false
    (C03 has the overflow witness for a hand-built set), hence `_partial`; the conversions themselves (tendermint,
    prost) are assumed panic-free and only fuzzed (`eh` ops). -/
theorem no_panic_extended_header_validate_partial {S : Type} (P : Prims S) (c : Consts) (eh : ExtHeader S)
    (hwf : eh.valset.toValSet.wf = true) : validate P c eh ≠ .panic := by
  have hl := Lumina.Proofs.Commit.verifyCommitLight_ne_panic (sigOracle P eh) c.lightNum c.lightDen eh.valset.toValSet
    eh.header.height eh.commit.height (eh.commit.sigs.map EntryF.toCSig) hwf
  unfold validate
  refine basic_ne_panic <| basic_ne_panic <| basic_ne_panic <| check_ne_panic <| check_ne_panic <|
    check_ne_panic <| check_ne_panic ?_
  generalize Lumina.Model.Commit.verifyCommitLight (sigOracle P eh) c.lightNum c.lightDen eh.valset.toValSet
    eh.header.height eh.commit.height (eh.commit.sigs.map EntryF.toCSig) = o at hl ⊢
  cases o with
  | panic => exact absurd rfl hl
  | err e => nofun
  | ok =>
    simp only [commitOut]
    split
    · nofun
    · split <;> nofun

/-- a validator set that meets the hypothesis -/
example : (⟨[⟨[1], 5⟩, ⟨[2], 7⟩], 12, true⟩ : Lumina.Model.Commit.ValSet).wf = true := by decide

end Lumina.Props.C16

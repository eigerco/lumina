/-
  C37 — Header subscriptions deliver a gap-free increasing stream.

  Model: `Lumina/Model/Subs.lean` (`BroadcastingStore`: `init_broadcast`, `announce_insert` with the
  drain loop and `swap_remove`, `send_range`); `sentLog` is everything handed to the broadcast channel,
  `stored` the heights the inner store holds.  Spec: `Lumina/Spec/C37.lean`.
  Every theorem quantifies over ALL histories `evs : List Event` (any number and order of range
  insertions, store rejections, historical inserts and re-initialisations).

  Hypotheses (explicit, never axioms):
  * `StoreSound e` — a range the inner store ACCEPTED is a run of consecutive heights (the store verifies it);
  * `AdmRun init evs` — in addition, in the state each call is made in: pre-existing store content is loaded
    before the first head; a (re-)connection head is at least every stored height (it is the store head
    after `try_init`); `announce_insert` is called after the first head with a verified contiguous range of
    heights the store does not hold yet (the syncer fetches only missing heights).
-/
import Lumina.Proofs.Subs
import Lumina.Gen.C37

namespace Lumina.Props.C37
open Lumina.Model.Subs Lumina.Proofs.Subs Lumina.Spec.C37

/-- the broadcast channel capacity the model's "receiver keeps up" idealisation refers to -/
theorem channel_capacity_eq : Lumina.Gen.C37.HEADER_BROADCAST_CHANNEL_CAPACITY = 16 := by decide

/-- the ghost log IS the concatenation of what every call handed to the channel -/
theorem log_is_outputs (evs : List Event) :
    (run init evs).sentLog = (outputs init evs).flatMap (·.sent) := by
  simpa [init] using sentLog_outputs evs init

/-- nothing is broadcast before the syncer learns a head -/
theorem nothing_before_head (evs : List Event) (hs : ∀ e ∈ evs, StoreSound e)
    (hh : (run init evs).firstHead = none) : (run init evs).sentLog = [] := by
  rcases streamInv_run evs hs with ⟨_, _, _, d⟩ | ⟨L, _, h0, b, _⟩
  · exact d
  · rw [b] at hh; cases hh

/-- **strictly increasing, consecutive heights starting at the head, each at most once**: after any
    history the stream is exactly `head, head+1, …, last_sent_height` -/
theorem stream_gap_free (evs : List Event) (hs : ∀ e ∈ evs, StoreSound e) (h0 : Nat)
    (hh : (run init evs).firstHead = some h0) :
    specStream h0 (run init evs).sentLog = true := by
  obtain ⟨L, _, _, hlog⟩ := (streamInv_run evs hs).stream hh
  simp [specStream, hlog]

/-- the stream ends at `last_sent_height` -/
theorem stream_ends_at_last_sent (evs : List Event) (hs : ∀ e ∈ evs, StoreSound e) (h0 L : Nat)
    (hh : (run init evs).firstHead = some h0) (hL : (run init evs).lastSent = some L) :
    h0 ≤ L ∧ (run init evs).sentLog = List.range' h0 (L + 1 - h0) := by
  obtain ⟨L', a, h⟩ := (streamInv_run evs hs).stream hh
  rw [a] at hL; cases hL
  exact h

/-- **only after it was stored**: whatever a call broadcasts is in the store when the call returns
    (no hypotheses: any history, any event) -/
theorem sent_only_after_stored (evs : List Event) (e : Event) :
    specStored (step (run init evs) e).1.stored (step (run init evs) e).2.sent = true := by
  simpa [specStored] using ((step_spec _ e).storedInv (storedInv_run evs)).2

/-- (`_partial`: holds under the environment contract `AdmRun`, see the file header; without it — e.g. a
    range inserted into the store behind the tracker's back — nothing can be promised.)
    **every height up to H once all heights up to H above the initial head have been inserted**, in
    the property's own quantifier form: for every `H`, if every height in `(head, H]` is stored then
    `H ≤ last_sent_height` — whatever the insertion order and the re-initialisations -/
theorem complete_forall_partial (evs : List Event) (ha : AdmRun init evs) (h0 L : Nat)
    (hh : (run init evs).firstHead = some h0) (hL : (run init evs).lastSent = some L) (H : Nat)
    (hall : ∀ h, h0 < h → h ≤ H → h ∈ (run init evs).stored) : H ≤ L :=
  have ⟨h1, h3⟩ := inv_run_adm evs init streamInv_init pendingInv_init ha
  complete_of_inv h1 h3 L h0 hL hh H hall

/-- the same as the decidable checker -/
theorem complete_partial (evs : List Event) (ha : AdmRun init evs) (h0 : Nat)
    (hh : (run init evs).firstHead = some h0) :
    specComplete h0 (run init evs).stored (run init evs).sentLog = true := by
  obtain ⟨L, a, hle, hlog⟩ := (inv_run_adm evs init streamInv_init pendingInv_init ha).1.stream hh
  have := complete_forall_partial evs ha h0 L hh a (reach (run init evs).stored h0 (run init evs).stored.length)
    (fun h h1 h2 => reach_spec _ _ _ h h1 h2)
  simp only [specComplete, hlog, List.length_range', decide_eq_true_eq]
  omega

/-- under the admissible environment neither the `debug_assert!` nor any `expect` of
    `announce_insert` fires -/
theorem never_panics_partial (evs : List Event) (e : Event) (ha : AdmRun init (evs ++ [e])) :
    (step (run init evs) e).2.panic = false := by
  obtain ⟨h1, h2⟩ := admRun_append evs init e ha
  exact ((step_spec _ e).pendingInv (inv_run_adm evs init streamInv_init pendingInv_init h1).2 h2).2

/-! ### non-vacuity: an out-of-order history with a re-connection, admissible, with a non-trivial stream -/

def sampleHistory : List Event :=
  [.storeInsert [3, 4, 5], .initBroadcast 10, .announceInsert [14, 15] true, .announceInsert [12] false,
   .initBroadcast 17, .announceInsert [7, 8] true, .announceInsert [11, 12, 13] true,
   .initBroadcast 17, .announceInsert [16] true, .initBroadcast 18]

example : AdmRun init sampleHistory := by
  refine ⟨rfl, ?_, ⟨by decide, Or.inr ⟨⟨14, 1, rfl⟩, by decide⟩⟩, ⟨by decide, Or.inr ⟨⟨12, 0, rfl⟩, by decide⟩⟩,
    ?_, ⟨by decide, Or.inr ⟨⟨7, 1, rfl⟩, by decide⟩⟩, ⟨by decide, Or.inr ⟨⟨11, 2, rfl⟩, by decide⟩⟩,
    ?_, ⟨by decide, Or.inr ⟨⟨16, 0, rfl⟩, by decide⟩⟩, ?_, trivial⟩ <;> (simp only [Adm]; decide +kernel)

example : (run init sampleHistory).sentLog = [10, 11, 12, 13, 14, 15, 16, 17, 18] ∧
    (run init sampleHistory).lastSent = some 18 ∧ (run init sampleHistory).pending = [[17]] := by decide +kernel

/-- before the last two events the stream is held back at 15 because 16 is missing -/
example : (run init (sampleHistory.take 8)).sentLog = [10, 11, 12, 13, 14, 15] ∧
    (run init (sampleHistory.take 8)).pending = [[17], [17]] := by decide +kernel

/-! ### the defect that was repaired (lumina commit "fix: forward a re-connection head that directly
    follows the last sent height"): before the fix `init_broadcast` parked EVERY re-connection head -/

/-- `init_broadcast` as it was before the fix -/
def initBroadcastBeforeFix (s : State) (head : Nat) : State × Out :=
  match s.lastSent with
  | none => initBroadcast s head
  | some _ => ({ s with pending := s.pending ++ [[head]], stored := addStored s.stored [head] }, {})

/-- first head 10, then a re-connection whose head is 11: every height in (10, 11] is stored, yet the
    stream stays at 10 (until some later non-empty `announce_insert`) -/
theorem before_fix_counterexample :
    let s1 := (initBroadcast init 10).1
    let s2 := (initBroadcastBeforeFix s1 11).1
    specComplete 10 s2.stored s2.sentLog = false ∧ specComplete 10 (initBroadcast s1 11).1.stored (initBroadcast s1 11).1.sentLog = true := by
  decide +kernel

end Lumina.Props.C37

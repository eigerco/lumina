/-
  C44 — gRPC calls fail over across endpoints.

  Model: `Lumina/Model/Failover.lean` (the loop generated by `#[grpc_method]` + the shared
  `ArcSwap` register), any number of endpoints and of concurrent callers; `Reachable cfg` is
  reachability from `init cfg` by ANY list of `load c` / `respond c o` / `drop c` labels.
-/
import Lumina.Proofs.Failover
import Lumina.Gen.C44

namespace Lumina.Props.C44
open Lumina.Model.Failover Lumina.Proofs.Failover
open Lumina.Spec.C44 (Res specCall specFirstAny)

/-- tie to the macro's text: `if idx > 0 { … new_transports.swap(0, idx); … }` -/
theorem macro_consts : Lumina.Gen.C44.STORE_IF_IDX_ABOVE = 0 ∧ Lumina.Gen.C44.SWAP_WITH_POSITION = 0 := by
  decide

/-- "the set of endpoints never changes under concurrent calls": in every reachable state the
    register is a permutation of the configured list -/
theorem register_perm {cfg : List Ep} {s : State} (h : Reachable cfg s) : s.register.Perm cfg :=
  (inv_reachable h).regPerm

/-- … and so is the snapshot every caller in flight works on; its position is in range -/
theorem snapshots_perm {cfg : List Ep} {s : State} (h : Reachable cfg s) {c : CallId} {k : Caller}
    (hk : lookup s.callers c = some k) : k.snapshot.Perm cfg ∧ k.idx < k.snapshot.length :=
  let g := good_of_lookup (inv_reachable h) hk
  ⟨g.perm, g.idxLt⟩

/-- with at least one configured endpoint, `last_error.expect(..)` is never reached -/
theorem never_panics {cfg : List Ep} (hne : cfg ≠ []) {s s' : State} (h : Reachable cfg s) (c : CallId) :
    step s (.load c) ≠ some (s', .finished .panicked) := by
  intro hs
  cases Step.of_step hs with | panic _ hreg => ?_
  exact hne (hreg ▸ register_perm h).symm.eq_nil

/-- "A gRPC call returns an error only after every configured endpoint failed with a network error
    or some endpoint returned a non-network error": if a step finishes call `c` with `err code src`
    then `src` is the endpoint that just answered, `code` is its error, and EITHER the error is not
    a network error OR the endpoints tried by this call (all of them with a network error) are a
    permutation of the configured endpoints. -/
theorem error_only_after_all_failed {cfg : List Ep} {s s' : State} {c : CallId} {o : Outcome}
    {k : Caller} {code : Nat} {src : Ep} (h : Reachable cfg s) (hk : lookup s.callers c = some k)
    (hs : step s (.respond c o) = some (s', .finished (.err code src))) :
    k.snapshot[k.idx]? = some src ∧ o.errCode = some code ∧
    (isNetworkCode code = false ∨
      (((finalTried k o).map (·.1)).Perm cfg ∧ ∀ p ∈ finalTried k o, netOutcome p.2 = true)) := by
  have hg := good_of_lookup (inv_reachable h) hk
  cases Step.of_step hs with | fail hk' he hc hn => ?_
  cases hk.symm.trans hk'
  refine ⟨he, hc, ?_⟩
  cases hnet : isNetworkCode code
  · exact .inl rfl
  · exact .inr ⟨finalTried_perm hg he (hn hnet) o, finalTried_net hg he (netOutcome_of_errCode hc ▸ hnet)⟩

/-- "the endpoint that succeeds becomes the first one tried next", at the level of one step under
    any interleaving: the successful endpoint is the one the caller was waiting on; if it was not
    already at the front of the caller's snapshot it is now at the head of the register, otherwise
    the register is left untouched -/
theorem success_moves_to_front {s s' : State} {c : CallId} {k : Caller} {e : Ep}
    (hk : lookup s.callers c = some k)
    (hs : step s (.respond c .ok) = some (s', .finished (.ok e))) :
    k.snapshot[k.idx]? = some e ∧ (0 < k.idx → s'.register.head? = some e) ∧
    (k.idx = 0 → s'.register = s.register) := by
  cases Step.of_step hs with | ok hk' he => ?_
  cases hk.symm.trans hk'
  refine ⟨he, fun hpos => ?_, fun hz => by simp [hz]⟩
  simp only [hpos, ↓reduceIte]
  exact swap0_head he hpos

/-- the same for a client whose calls do not overlap: after a call that ran alone and succeeded
    at endpoint `e`, no call is in flight and the NEXT call's first request goes to `e` -/
theorem seq_success_first_next_partial {s s1 : State} {c : CallId} {outs : List Outcome} {e : Ep}
    {tr : List Ep} (hq : s.callers = []) (h : callSeq s c outs = some (s1, .ok e, tr)) :
    s1.callers = [] ∧ ∀ c', ∃ s2, step s1 (.load c') = some (s2, .request e) := by
  have ⟨hc, hh⟩ := callSeq_ok hq h
  exact ⟨hc, fun _ => load_of_head (by simp [hc, lookup]) hh⟩

/-- non-vacuity of `seq_success_first_next_partial`: a call that runs alone on `[0,1,2]`, fails over
    twice and succeeds at endpoint 2; the next call starts there -/
example : ∃ s1 tr, callSeq (init [0, 1, 2]) 5 [.transport, .status 14, .ok] = some (s1, .ok 2, tr) ∧
    s1.register = [2, 1, 0] ∧ ∃ s2, step s1 (.load 6) = some (s2, .request 2) :=
  ⟨_, _, rfl, rfl, _, rfl⟩

/-- CLAUSE 2 UNDER OVERLAP, part 1: every call sends its first request to the head of the register -/
theorem load_requests_head {s s' : State} {c : CallId} {e : Ep}
    (hs : step s (.load c) = some (s', .request e)) : s.register.head? = some e := by
  cases Step.of_step hs with | load _ hreg => ?_
  simp [hreg]

/-- CLAUSE 2 UNDER OVERLAP, part 2: under ANY interleaving of ANY number of callers, along every
    run the first endpoint a new call tries is the endpoint of the most recent success that had
    failed over (`lfStep`: position > 0 in its snapshot), or the first configured endpoint if
    there has been none — i.e. the observable checker `specFirstAny` holds of every `load`. -/
theorem first_tried_spec {cfg : List Ep} {ls : List Label} {s s' : State} {lf : Option Ep}
    {c : CallId} {e : Ep} (hr : runLF (init cfg) none ls = some (s, lf))
    (hs : step s (.load c) = some (s', .request e)) : specFirstAny cfg lf e = true := by
  have hi : HeadInv cfg s lf := headInv_run (cfg := cfg) (by simp [HeadInv, init]) hr
  have hh := load_requests_head hs
  unfold HeadInv at hi
  rw [hh] at hi
  unfold specFirstAny
  cases lf with
  | some x => simp only at hi ⊢; cases hi; simp
  | none => simp only at hi ⊢; rw [← hi]; simp

/-- CLAUSE 2 UNDER OVERLAP, part 3: the LITERAL reading ("the endpoint of the most recent
    successful call is tried first next") is false when calls overlap: caller 1 loads `[0,1]`;
    caller 2 loads, fails over from 0 and succeeds at 1 (register becomes `[1,0]`); caller 1 then
    succeeds at endpoint 0 — its first try, so nothing is stored; the next call tries 1, not 0.
    (Both endpoints answered successfully; the last STORE wins.  This is why
    `seq_success_first_next_partial` needs non-overlapping calls.) -/
theorem overlap_literal_reading_counterexample :
    ∃ (s : State) (es : List Emit),
      run (init [0, 1]) [.load 1, .load 2, .respond 2 .transport, .respond 2 .ok, .respond 1 .ok] =
        some (s, es) ∧
      es.getLast? = some (.finished (.ok 0)) ∧
      step s (.load 3) = some ({ s with callers := update s.callers 3 ⟨s.register, 0, []⟩ }, .request 1) := by
  exact ⟨_, _, rfl, rfl, rfl⟩

/-- MODEL ⊨ SPEC: every call that finishes in a reachable state (any interleaving with any other
    callers), as seen by an observer of its requests, answers and result, passes the independent
    checker `Spec.C44.specCall` against the configured (distinct) endpoints -/
theorem call_spec {cfg : List Ep} (hnd : cfg.Nodup) {s s' : State} {c : CallId} {o : Outcome}
    {k : Caller} {r : Result} {res : Res} (hr : Reachable cfg s) (hk : lookup s.callers c = some k)
    (hs : step s (.respond c o) = some (s', .finished r)) (hres : toRes r = some res) :
    specCall cfg (obsOf k o res) = true :=
  finish_spec hnd (good_of_lookup (inv_reachable hr) hk) hk hs hres

/-- NEGATIVE CONTROL (non-vacuity): with a "move to front" that inserts the successful endpoint
    at the head without removing it from its old position, the register stops being a
    permutation of the configuration after one fail-over -/
theorem promote_without_remove_counterexample :
    ∃ (ls : List Label) (s : State) (es : List Emit),
      runBad (init [0, 1]) ls = some (s, es) ∧ ¬ s.register.Perm [0, 1] := by
  refine ⟨[.load 7, .respond 7 .transport, .respond 7 .ok],
    { register := [1, 0, 1], callers := [] }, [.request 0, .request 1, .finished (.ok 1)], rfl, ?_⟩
  intro h
  have := h.length_eq
  simp at this

/-- non-vacuity of the hypotheses: a reachable state with two callers in flight holding
    different snapshots, after a concurrent fail-over changed the register -/
example : Reachable [0, 1, 2]
    { register := [1, 0, 2],
      callers := [(2, { snapshot := [0, 1, 2], idx := 1, tried := [(0, .transport)] }),
                  (3, { snapshot := [1, 0, 2], idx := 0, tried := [] })] } := by
  have h : run (init [0, 1, 2]) [.load 1, .load 2, .respond 1 (.status 14), .respond 1 .ok, .load 3,
      .respond 2 .transport] =
      some ({ register := [1, 0, 2],
              callers := [(2, { snapshot := [0, 1, 2], idx := 1, tried := [(0, .transport)] }),
                          (3, { snapshot := [1, 0, 2], idx := 0, tried := [] })] },
            [.request 0, .request 0, .request 1, .finished (.ok 1), .request 1, .request 1]) := rfl
  exact reachable_run Reachable.init h

end Lumina.Props.C44

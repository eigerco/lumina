/-
  C25 — Syncer never re-requests history behind a pruned window edge.

  Statement (properties.jsonl): "The syncer never requests a batch of headers lying below a
  synced header that is older than the sampling window, whether that header is still stored or
  has since been pruned.  In particular, after the pruner removes the header that bounds the
  window, the syncer does not keep re-requesting the gap below it."

  Model: `Lumina.Model.SyncerGate.fetchDecision` (`Worker::fetch_next_batch` as it is in /repo,
  with the `boundPruned` branch) and the transition system `step` around it; checker:
  `Lumina.Spec.C25.specFetch`.  The code without that branch (`fetchDecisionOld`: the code before
  the `fix:` commit) violates the property (`pre_fix_counterexample`); for it only the
  stored-bound part holds (`pre_fix_stored_or_unsynced_bound_partial`).

  Hypotheses, all explicit:
    * `Inv` of the store's `BlockRanges` values (C17; preserved by every operation of the
      transition system: `history_…` needs it of the initial state only);
    * header times are monotone in the height over the synced heights (what
      `ExtendedHeader::verify` enforces for adjacent headers of the chain the store holds);
    * `inWindow h` of a stored header is the negation of "older than the sampling window".
-/
import Lumina.Proofs.SyncerGate
import Lumina.Proofs.ComposeSyncerGate
import Lumina.Gen.C25

namespace Lumina.Props.C25
open Lumina.Model.Ranges hiding Inv
open Lumina.Model.SyncerGate Lumina.Proofs.SyncerGate Lumina.Proofs.Ranges Lumina.Spec.C25

open Lumina.Model.Ranges renaming Inv → RInv

/-- the slow-sync threshold constant the model is instantiated with is the one in the source -/
theorem slow_sync_min_threshold : Lumina.Gen.C25.SLOW_SYNC_MIN_THRESHOLD = 50 := by decide

/-- header times are monotone in the height over the synced (stored or pruned) heights -/
def MonotoneOld (stored pruned : Ranges) (old : Nat → Bool) : Prop :=
  ∀ h1 h2, h1 ≤ h2 → (mem stored h1 ∨ mem pruned h1) → (mem stored h2 ∨ mem pruned h2) →
    old h2 = true → old h1 = true

/-- **C25, one decision.**  For EVERY state the worker can read (any stored / pruned / sampled
    sets, head, batch size, slow-sync height, peers), a batch scheduled by `fetch_next_batch`
    does not lie below any synced header — stored or pruned — that is older than the sampling
    window. -/
theorem fetch_never_below_old_synced_header (slowMin : Nat) (i : GateIn) (old : Nat → Bool) (r : Range)
    (hst : RInv i.stored) (hpr : RInv i.pruned)
    (hwin : ∀ h, mem i.stored h → i.inWindow h = (!old h))
    (hmono : MonotoneOld i.stored i.pruned old)
    (h : fetchDecision slowMin i = .ok (.request r)) :
    specFetch ⟨i.stored, i.pruned, old⟩ (.request r.1 r.2) = true :=
  fetch_request_spec hst hpr (fun x hx hw => by rw [hwin x hx] at hw; simpa using hw) hmono h

/-- stored 250..300 of a 300-chain whose headers up to 200 are old, batch size 20 -/
def exampleSyncing : GateIn where
  ongoing := false
  connectedPeers := 1
  head := some 300
  stored := [(250, 300)]
  pruned := []
  sampled := []
  batchSize := 20
  slowSync := none
  inWindow := fun h => !decide (h ≤ 200)

/-- the situation the property names: the bound 180 of the batch below the store is old and pruned -/
def examplePrunedBound : GateIn where
  ongoing := false
  connectedPeers := 1
  head := some 300
  stored := [(181, 300)]
  pruned := [(180, 180)]
  sampled := []
  batchSize := 50
  slowSync := none
  inWindow := fun h => !decide (h ≤ 200)

/-- the hypotheses are satisfiable by a state in which a request IS scheduled -/
example : fetchDecision 50 exampleSyncing = .ok (.request (230, 249)) := by rfl

/-- … and with the bound pruned and old nothing is requested -/
example : fetchDecision 50 examplePrunedBound = .ok (.idle .boundPruned) := by rfl

/-- **No panic.**  `fetch_next_batch` up to the scheduling of the request has no panic outcome
    (`u64` overflow, `expect`, debug assertion) in any state with well-formed range sets and a
    head below `u64::MAX`. -/
theorem fetch_never_panics (slowMin : Nat) (i : GateIn)
    (hst : RInv i.stored) (hpr : RInv i.pruned) (hsa : RInv i.sampled)
    (hhead : ∀ h, i.head = some h → h < U64_MAX) :
    ∃ d, fetchDecision slowMin i = .ok d :=
  fetch_total hst hpr hsa hhead

/-! ### every history -/

/-- what one output of the transition system must satisfy, judged in the state it was produced in -/
def OutOk (c : Chain) (s : State) : Out → Prop
  | .decision (.request r) => specFetch ⟨s.stored, s.pruned, c.oldS⟩ (.request r.1 r.2) = true
  | .panic => False
  | _ => True

/-- every output along a run is fine -/
def AllOk (slowMin : Nat) (c : Chain) : State → List Op → Prop
  | _, [] => True
  | s, op :: ops => OutOk c s (step slowMin c s op).2 ∧ AllOk slowMin c (step slowMin c s op).1 ops

/-- one step in a well-formed state: whatever the op, its output is fine (the chain `c` is the
    one current at that moment) -/
theorem step_out_ok (slowMin : Nat) (c : Chain)
    (hmono : ∀ h1 h2, h1 ≤ h2 → c.oldS h2 = true → c.oldS h1 = true)
    (s : State) (hg : Good s) (op : Op) : OutOk c s (step slowMin c s op).2 := by
  cases op with
  | fetch keep =>
    have hi : ∃ d, fetchDecision slowMin (gateIn c s) = .ok d :=
      fetch_total hg.stored hg.pruned hg.sampled hg.head
    obtain ⟨d, hd⟩ := hi
    cases d with
    | idle w => simp [step, hd, OutOk]
    | request r =>
      have := fetch_request_spec (old := c.oldS) (i := gateIn c s) hg.stored hg.pruned
        (fun x _ hw => by simpa [gateIn] using hw)
        (fun h1 h2 hle _ _ ho => hmono h1 h2 hle ho) hd
      simp only [step, hd, OutOk]
      exact this
  | insert r => simp only [step]; split <;> trivial
  | prune h => simp only [step]; split <;> trivial
  | sample h => simp only [step]; split <;> trivial
  | setHead h => trivial
  | setSlow h => trivial
  | setPeers n => trivial
  | setBatch n => trivial
  | cancel => trivial
  | deliver ok =>
    simp only [step]
    split
    · trivial
    · split
      · trivial
      · split <;> trivial

/-- **C25, every history.**  Start from any well-formed state (e.g. the empty one) and apply ANY
    finite sequence of: insertions of any range by anybody, pruning of ANY stored height,
    sampling marks, head announcements, slow-sync heights, peer changes, batch-size changes,
    fetch decisions (kept or cancelled), cancellations, delivered or failed batches — in any
    order.  No fetch decision along the run requests a batch below a synced (stored or pruned)
    header older than the sampling window, and none panics.  Only assumption on the chain:
    header age is monotone in the height.  (The clock is frozen along this history; see
    `history_with_ageing_never_below_old_synced_header` for histories in which time passes.) -/
theorem history_never_below_old_synced_header (slowMin : Nat) (c : Chain)
    (hmono : ∀ h1 h2, h1 ≤ h2 → c.oldS h2 = true → c.oldS h1 = true) :
    ∀ (ops : List Op) (s : State), (∀ op ∈ ops, OpWf op) → Good s → AllOk slowMin c s ops
  | [], _, _, _ => trivial
  | op :: ops, s, hwf, hg =>
    ⟨step_out_ok slowMin c hmono s hg op,
     history_never_below_old_synced_header slowMin c hmono ops _
      (fun o ho => hwf o (List.mem_cons_of_mem _ ho)) (step_good hg (hwf op (by simp)))⟩

/-- every output along a run in which TIME PASSES: each op comes with the time classes of the
    headers at the moment it is executed, and its output is judged against those -/
def AllOkAgeing (slowMin : Nat) : State → List (Chain × Op) → Prop
  | _, [] => True
  | s, (c, op) :: rest =>
    OutOk c s (step slowMin c s op).2 ∧ AllOkAgeing slowMin (step slowMin c s op).1 rest

/-- **C25, every history, with the clock running.**  As `history_never_below_old_synced_header`,
    but every operation is executed under its OWN classification of the headers into "older than
    the sampling window" / "at or before the pruning cutoff" (`Chain`): headers age between a
    request and its response, between a pruning and the next decision, … .  The classifications
    need not even be related to one another; each is only assumed monotone in the height.  Every
    fetch decision is judged against the classification current when it is taken. -/
theorem history_with_ageing_never_below_old_synced_header (slowMin : Nat) :
    ∀ (ops : List (Chain × Op)) (s : State),
      (∀ p ∈ ops, (∀ h1 h2, h1 ≤ h2 → p.1.oldS h2 = true → p.1.oldS h1 = true) ∧ OpWf p.2) →
      Good s → AllOkAgeing slowMin s ops
  | [], _, _, _ => trivial
  | (c, op) :: ops, s, hwf, hg =>
    ⟨step_out_ok slowMin c (hwf (c, op) (by simp)).1 s hg op,
     history_with_ageing_never_below_old_synced_header slowMin ops _
      (fun o ho => hwf o (List.mem_cons_of_mem _ ho)) (step_good hg (hwf (c, op) (by simp)).2)⟩

/-- non-vacuity: a request taken while the bound 201 is inside the window (edge 200), thirty days
    pass (edge 230), the batch arrives, the bound 171 of the next batch is now outside: nothing -/
example :
    let c0 : Chain := { oldS := fun h => decide (h ≤ 200), oldP := fun _ => false }
    let c1 : Chain := { oldS := fun h => decide (h ≤ 230), oldP := fun _ => false }
    let ops : List (Chain × Op) :=
      [(c0, .insert (201, 300)), (c0, .setHead 300), (c0, .setPeers 1), (c0, .setBatch 30),
       (c0, .fetch true), (c1, .deliver true), (c1, .fetch false)]
    (ops.foldl (fun (acc : State × List Out) p =>
        let r := step 50 p.1 acc.1 p.2; (r.1, acc.2 ++ [r.2])) ({}, [])).2.drop 4 =
      [.decision (.request (171, 200)), .ok, .decision (.idle .boundOutsideWindow)] := by decide +kernel

/-- the initial state of the transition system meets the invariant (non-vacuity of `Good`) -/
example : Good ({} : State) :=
  ⟨inv_nil, inv_nil, inv_nil, (fun _ h => by cases h), (fun _ h => by cases h)⟩

/-- a concrete history reaching the situation of the property: sync 181..300, prune the bound,
    decide — the decision is "nothing" -/
example :
    (run 50 { oldS := fun h => decide (h ≤ 200), oldP := fun h => decide (h ≤ 190) } {}
      [.insert (300, 300), .setHead 300, .setPeers 1, .setBatch 50, .insert (181, 299),
       .prune 181, .fetch false]).2.getLast? = some (.decision (.idle .boundPruned)) := by decide +kernel

/-! ### the code before the fix -/

/-- What holds of the code BEFORE the fix (`Err(StoreError::NotFound) => {}`): the property for
    every request whose bounding height `end + 1` is still stored, or was never synced.
    The missing case — bound synced but pruned — is `pre_fix_counterexample`. -/
theorem pre_fix_stored_or_unsynced_bound_partial (slowMin : Nat) (i : GateIn) (old : Nat → Bool) (r : Range)
    (hst : RInv i.stored) (hpr : RInv i.pruned)
    (hwin : ∀ h, mem i.stored h → i.inWindow h = (!old h))
    (hmono : MonotoneOld i.stored i.pruned old)
    (h : fetchDecisionOld slowMin i = .ok (.request r))
    (hb : mem i.stored (r.2 + 1) ∨ ¬ (mem i.stored (r.2 + 1) ∨ mem i.pruned (r.2 + 1))) :
    specFetch ⟨i.stored, i.pruned, old⟩ (.request r.1 r.2) = true :=
  fetch_request_spec_gen hst hpr (fun x hx hw => by rw [hwin x hx] at hw; simpa using hw) hmono h
    (Or.inr hb)

/-- **The property was FALSE of the code before the fix** (finding
    `C25/request-below-pruned-old-bound`, fixed in /repo): chain of 300 headers of which 1..200
    are older than the sampling window, store 181..300, height 180 pruned: the old code requests
    130..179, a batch below the old synced header 180 (and every hypothesis of
    `fetch_never_below_old_synced_header` holds of this state). -/
theorem pre_fix_counterexample :
    ∃ (i : GateIn) (old : Nat → Bool) (r : Range),
      RInv i.stored ∧ RInv i.pruned ∧ (∀ h, i.inWindow h = (!old h)) ∧
      (∀ h1 h2, h1 ≤ h2 → old h2 = true → old h1 = true) ∧
      fetchDecisionOld 50 i = .ok (.request r) ∧
      specFetch ⟨i.stored, i.pruned, old⟩ (.request r.1 r.2) = false := by
  refine ⟨examplePrunedBound, fun h => decide (h ≤ 200), (130, 179),
    inv_of_invB (by decide), inv_of_invB (by decide), fun _ => rfl, ?_, by rfl, by decide⟩
  intro h1 h2 hle h
  simp only [decide_eq_true_eq] at h ⊢
  omega

/-! ### the `boundPruned` branch costs no liveness

  C25 is a "never requests" property; the gate could satisfy it by never requesting
  anything.  The two theorems below (lemmas: `Proofs/ComposeSyncerGate.lean`, `SyncerGate.gate_progress`) show it does not
  withhold anything the sampling window needs.  `Props/C38.lean` restates the first over the
  worker's store (`repaired_window_gate_costs_no_liveness`); its convergence with the pruner
  running (`converges_under_fairness_with_pruning_partial`) rests on `gate_progress`, the lemma
  behind the second. -/

/-- **The sampling-window gate, `boundPruned` branch included, blocks only batches outside
    the window.**  For every state the worker can read with well-formed stored / pruned sets, header
    age monotone in the height, and every pruned height outside the sampling window or with a
    synced height directly below it (what the pruner's safety condition C35 leaves behind): if
    `fetch_next_batch` returns without a request because `get_by_height(end + 1)` is stored and
    outside the window (`boundOutsideWindow`) or is `NotFound` for a synced
    height (`boundPruned`), then every height `1 ≤ m ≤ head` that is not synced is outside the
    sampling window. -/
theorem fix_costs_no_liveness (slowMin : Nat) (i : GateIn) (old : Nat → Bool) (w : Idle) (H m : Nat)
    (hst : RInv i.stored) (hpr : RInv i.pruned)
    (hwin : ∀ h, i.inWindow h = !old h)
    (hmono : ∀ h1 h2, h1 ≤ h2 → old h2 = true → old h1 = true)
    (hprh : ∀ p, mem i.pruned p → old p = true ∨ mem i.stored (p - 1) ∨ mem i.pruned (p - 1))
    (h : fetchDecision slowMin i = .ok (.idle w))
    (hw : w = .boundOutsideWindow ∨ w = .boundPruned)
    (hhead : i.head = some H) (hm1 : 1 ≤ m) (hm2 : m ≤ H)
    (hm3 : ¬ (mem i.stored m ∨ mem i.pruned m)) : old m = true :=
  Lumina.Proofs.ComposeSyncerGate.window_gate_blocks_only_outside_window hst hpr hwin hmono hprh h hw
    hhead hm2 hm3

/-- **Progress of the current code with pruned heights and an armed slow-sync height.**  No batch
    ongoing, a peer connected, batch size ≥ 1; pruned heights and the slow-sync height outside the
    sampling window (pruning window ≥ sampling window), some stored height inside it: whenever a
    height `1 ≤ m ≤ head` inside the window is not stored, a request IS scheduled. -/
theorem fetch_progress_with_pruned_heights (slowMin : Nat) (i : GateIn) (old : Nat → Bool) (H m : Nat)
    (hst : RInv i.stored) (hpr : RInv i.pruned) (hong : i.ongoing = false)
    (hpeers : i.connectedPeers ≠ 0) (hhead : i.head = some H) (hH : H < U64_MAX)
    (hbs : 1 ≤ i.batchSize)
    (hwin : ∀ h, i.inWindow h = !old h)
    (hmono : ∀ h1 h2, h1 ≤ h2 → old h2 = true → old h1 = true)
    (hprOld : ∀ p, mem i.pruned p → old p = true)
    (hslow : ∀ h0, i.slowSync = some h0 → old h0 = true)
    (hfresh : ∃ y, mem i.stored y ∧ old y = false)
    (hm1 : 1 ≤ m) (hm2 : m ≤ H) (hm3 : ¬ mem i.stored m) (hm4 : old m = false) :
    ∃ r, fetchDecision slowMin i = .ok (.request r) :=
  gate_progress hst hpr hong hpeers hhead hH hbs hwin hmono hprOld
    (fun h0 hh => ⟨hslow h0 hh, hfresh⟩) hm1 hm2 hm3 hm4

/-- non-vacuity: the situation the property names (bound 180 old and pruned, decision
    `boundPruned`) meets the hypotheses of `fix_costs_no_liveness` … -/
example : ∀ p, mem examplePrunedBound.pruned p →
    decide (p ≤ 200) = true ∨ mem examplePrunedBound.stored (p - 1) ∨ mem examplePrunedBound.pruned (p - 1) := by
  rintro p ⟨r, hr, h1, h2⟩
  simp [examplePrunedBound] at hr
  subst hr
  left
  simp at h1 h2 ⊢
  omega

/-- pruned heights 50..60 and an armed slow-sync height 70, all older than the window edge 100;
    101..179 missing and inside the window -/
def examplePrunedBelowWindow : GateIn where
  ongoing := false
  connectedPeers := 1
  head := some 300
  stored := [(180, 300)]
  pruned := [(50, 60)]
  sampled := []
  batchSize := 50
  slowSync := some 70
  inWindow := fun h => !decide (h ≤ 100)

/-- … and the current code does request the batch below the stored in-window bound, pruned heights
    and armed slow-sync height notwithstanding (an instance of `fetch_progress_with_pruned_heights`) -/
example : fetchDecision 50 examplePrunedBelowWindow = .ok (.request (130, 179)) := by rfl

end Lumina.Props.C25

/-
  C05 — Row retrieval returns exactly the committed row.

  Model: `Lumina/Model/Row.lean` (`verify`, `fromRaw`, `toRaw`; the Reed–Solomon codec is a parameter of `fromRaw`),
  over `Lumina/Model/Nmt.lean` and `Lumina/Model/Eds.lean`.  Spec: `Lumina/Spec/C05.lean`.
  Soundness under collision-freeness of the hash RELATIVE TO the byte strings actually hashed (`HashOKOn H (· ∈
  hashedC05 H e r)`: the square's row/column trees and the verifier's rebuilt row tree), and as a reduction: an accepted
  wrong row yields an explicit collision among those inputs.  The round trips are stated for a systematic encoder
  `enc` (`encodeCodec enc`) resp. a reconstructor `rec` with the MDS property `RecoversFromRight enc rec k`, for rows
  that are codewords (`RowCodeword`) — properties of the codec, not the conclusion; that the real leopard codec has
  them is validated by the correspondence, not proved.
-/
import Lumina.Proofs.Row
import Lumina.Props.C04   -- the concrete square of the non-vacuity example and what was evaluated about it
import Lumina.Gen.C05

namespace Lumina.Props.C05
open Lumina.Util Lumina.Model.Nmt Lumina.Model.Eds Lumina.Model.Row
open Lumina.Proofs.Nmt Lumina.Proofs.Eds Lumina.Proofs.Sample Lumina.Proofs.Row Lumina.Spec.C05
open Lumina.Model.Sample (SErr shareFromRaw shareParity)

/-- the sizes the model uses are the ones in the current source tree -/
theorem consts_eq :
    Lumina.Gen.C05.NS_SIZE = Lumina.Model.Nmt.NS_SIZE ∧ Lumina.Gen.C05.HASH_SIZE = Lumina.Model.Nmt.HASH_LEN ∧
    Lumina.Gen.C05.SHARE_SIZE = 512 ∧ Lumina.Gen.C05.SHARE_SIZE = Lumina.Model.Eds.SHARE_SIZE := by
  decide

/-- the byte strings hashed by the two computations `row_sound_eds` compares: all row and column trees of the
    square (and the empty string, preimage of `EMPTY_ROOT`), and the row tree the verifier rebuilds from the received
    shares -/
def hashedC05 (H : HashFn) (e : Eds) (r : Row) : List Bytes := edsInputs H e ++ rowInputs H r.shares

/-- **Row soundness against a committed root**, the hash collision-free on `S` ⊇ inputs of the committed tree, inputs
    of the verifier's tree, and `[]`. -/
theorem row_sound_root {H : HashFn} {S : Bytes → Prop} (hk : HashOKOn H S) (hE : S []) {committed : List Share}
    (hc : ∀ sh ∈ committed, NS_SIZE ≤ sh.data.length) (hSc : ∀ y ∈ rowInputs H committed, S y) {root : NsHash}
    (hroot : computeRoot H true (committed.map (Share.leafHash H)) = .ok root) {dah : Dah} {i : Nat}
    (hd : dah.rowRoot? i = some root) (r : Row) (hr : ∀ sh ∈ r.shares, NS_SIZE ≤ sh.data.length)
    (hSr : ∀ y ∈ rowInputs H r.shares, S y) :
    specVerify (some (committed.map Share.data)) (r.shares.map Share.data) (accepted (verify H r i dah)) = true := by
  cases hv : verify H r i dah with
  | error er => simp [accepted, specVerify]
  | ok u =>
    unfold verify at hv
    cases hp : pushLeaves H (r.shares.map Share.leaf) with
    | none => simp [hp] at hv
    | some hs =>
      simp only [hp, hd] at hv
      have hmap : hs = r.shares.map (Share.leafHash H) := by
        rw [pushLeaves_some hp]; simp [List.map_map, Share.leaf, Share.leafHash, Function.comp_def]
      subst hmap
      cases hcr : computeRoot H true (r.shares.map (Share.leafHash H)) with
      | error er => simp [hcr] at hv
      | ok t =>
        simp only [hcr] at hv
        split at hv
        · cases hv
        · rename_i hne
          have hh : t.hash = root.hash := by simpa using hne
          obtain ⟨alr, hTr, hLr⟩ := rowInputs_on hr hSr
          obtain ⟨alc, hTc, hLc⟩ := rowInputs_on hc hSc
          have := computeRoot_hash_inj_on hk hE alr alc hTr hTc hcr hroot hh
          have := (map_hashLeaf_inj_on hk.inj (n := Share.ns) (d := Share.data) (n' := Share.ns) (d' := Share.data) hLr hLc this).2
          simp [accepted, specVerify, this]

/-- **Row soundness against the DAH of a square**: accepted ⇒ the shares are exactly row `i` of the square.  The hash
    assumption: no collision among `hashedC05 H e r` (a finite, explicitly computed list) — satisfiable, see the
    non-vacuity instance below. -/
theorem row_sound_eds {H : HashFn} {e : Eds} (hsz : ∀ sh ∈ e.shares, NS_SIZE ≤ sh.data.length)
    {dah : Dah} (hd : Dah.ofEds H e = .ok dah) (r : Row) (hr : ∀ sh ∈ r.shares, NS_SIZE ≤ sh.data.length) (i : Nat)
    (hk : HashOKOn H (fun y => y ∈ hashedC05 H e r)) :
    specVerify ((e.row? i).map (fun l => l.map Share.data)) (r.shares.map Share.data)
      (accepted (verify H r i dah)) = true := by
  cases hroot? : dah.rowRoot? i with
  | none =>
    have hv : accepted (verify H r i dah) = false := by
      unfold verify; split <;> simp [hroot?, accepted]
    simp [hv, specVerify]
  | some root =>
    obtain ⟨hi, haxr⟩ := (dah_root?_iff (ax := .row) hd).mp hroot?
    obtain ⟨shares, T⟩ := axisTree_of_root haxr
    rw [show e.row? i = some shares from T.axis]
    exact row_sound_root hk (List.mem_append_left _ (nil_mem_edsInputs H e)) (fun sh hs => hsz sh (axis?_mem T.axis sh hs))
      (fun y hy => List.mem_append_left _ (axisInputs_mem_eds hi (by rw [axisInputs_eq_rowInputs T.axis]; exact hy))) T.root hroot? r hr
      (fun y hy => List.mem_append_right _ hy)

/-- **Soundness as a reduction** (no assumption on the hash beyond its output length): a row that is accepted although
    it is not row `i` of the square yields an explicit collision `x ≠ y`, `H x = H y` with both `x` and `y` among the
    byte strings hashed for the square's trees and the verifier's row tree. -/
theorem row_forgery_yields_collision {H : HashFn} (hl : HashLen H) {e : Eds}
    (hsz : ∀ sh ∈ e.shares, NS_SIZE ≤ sh.data.length) {dah : Dah} (hd : Dah.ofEds H e = .ok dah) (r : Row)
    (hr : ∀ sh ∈ r.shares, NS_SIZE ≤ sh.data.length) (i : Nat)
    (hbad : specVerify ((e.row? i).map (fun l => l.map Share.data)) (r.shares.map Share.data)
      (accepted (verify H r i dah)) = false) :
    CollisionIn H (fun y => y ∈ hashedC05 H e r) :=
  (or_collision hl (row_sound_eds hsz hd r hr i)).resolve_left (Bool.eq_false_iff.mp hbad)

/-- the shard vector `Row::from_raw` builds from the left half has `2k` entries whose first `k` are the half -/
theorem codecInput_toRaw {r : Row} {i k : Nat} (hr : HonestRow r i k) :
    codecInput (toRaw r) = (r.shares.map Share.data).take k ++ List.replicate k (List.replicate SHARE_SIZE 0) := by
  have h2 : r.shares.length / 2 = k := by rw [hr.len]; omega
  have hl : ((r.shares.map Share.data).take k).length = k := by simp [List.length_take, hr.len]; omega
  simp only [codecInput, toRaw, h2]
  rw [if_neg (by decide), hl]

theorem codecInput_toRawRight {r : Row} {i k : Nat} (hr : HonestRow r i k) :
    codecInput (toRawRight r) = List.replicate k [] ++ (r.shares.map Share.data).drop k := by
  have h2 : r.shares.length / 2 = k := by rw [hr.len]; omega
  have hl : ((r.shares.map Share.data).drop k).length = k := by simp [List.length_drop, hr.len]; omega
  simp only [codecInput, toRawRight, h2]
  rw [if_pos trivial, hl]

/-- **Round trip from the left half.**  Codec assumption: `leopard_codec::encode` is a systematic encoder (`encodeCodec
    enc`: keeps the data half, writes `enc` of it into the parity half); row assumption: the row is a codeword of that
    encoder (true of every row of an extended square — C07/C08).  Then decoding `RawRow::from(row)` gives the row. -/
theorem row_roundtrip_left {r : Row} {i k : Nat} (hr : HonestRow r i k) (enc : List Bytes → List Bytes)
    (hcw : RowCodeword enc k (r.shares.map Share.data)) :
    fromRaw (encodeCodec enc) i (toRaw r) = .ok r := by
  have hc : encodeCodec enc (codecInput (toRaw r)) = .ok (r.shares.map Share.data) := by
    rw [codecInput_toRaw hr]
    have hl : ((r.shares.map Share.data).take k).length = k := by simp [List.length_take, hr.len]; omega
    have hlen : ((r.shares.map Share.data).take k ++ List.replicate k (List.replicate SHARE_SIZE 0)).length / 2 = k := by
      rw [List.length_append, hl, List.length_replicate]; omega
    unfold encodeCodec
    rw [hlen, List.take_left' hl, ← hcw.2, List.take_append_drop]
  unfold fromRaw
  have hl : (toRaw r).sharesHalf.length = k := by
    simp [toRaw, List.length_take, hr.len]; omega
  have hk0 : ¬ (k = 0) := by have := hr.kpos; omega
  simp only [hc, hl, hk0, ↓reduceIte]
  rw [buildShares_ok i k r.shares 0 (fun j sh hj => by simpa using hr.ok j sh hj)]

/-- **Round trip from the right half.**  Codec assumption: `leopard_codec::reconstruct` recovers every codeword of the
    encoder from its parity half (`RecoversFromRight enc rec k`, the MDS property for this erasure pattern); row
    assumption: the row is a codeword.  Then decoding the right-half message gives the row. -/
theorem row_roundtrip_right {r : Row} {i k : Nat} (hr : HonestRow r i k) (enc rec : List Bytes → List Bytes)
    (hmds : RecoversFromRight enc rec k) (hcw : RowCodeword enc k (r.shares.map Share.data)) :
    fromRaw (reconstructCodec rec) i (toRawRight r) = .ok r := by
  have hc : reconstructCodec rec (codecInput (toRawRight r)) = .ok (r.shares.map Share.data) := by
    rw [codecInput_toRawRight hr]
    unfold reconstructCodec
    rw [hmds _ hcw]
  unfold fromRaw
  have hl : (toRawRight r).sharesHalf.length = k := by
    simp [toRawRight, List.length_drop, hr.len]; omega
  have hk0 : ¬ (k = 0) := by have := hr.kpos; omega
  simp only [hc, hl, hk0, ↓reduceIte]
  rw [buildShares_ok i k r.shares 0 (fun j sh hj => by simpa using hr.ok j sh hj)]

/-- the row the square itself hands out verifies against the square's DAH (no hash assumption) -/
theorem row_honest_verifies {H : HashFn} {e : Eds} {dah : Dah} (hd : Dah.ofEds H e = .ok dah) {i : Nat}
    (hi : i < e.width) : ∃ r, Lumina.Model.Row.new e i = some r ∧ verify H r i dah = .ok () := by
  obtain ⟨shares, root, hroot?, T⟩ := dah_axisTree hd .row hi
  have hg : dah.rowRoot? i = some root := hroot?
  exact ⟨⟨shares⟩, by simp [Lumina.Model.Row.new, Eds.row?, T.axis], by simp [verify, T.push, hg, T.root]⟩

/-! ### Non-vacuity -/

/-- a concrete honest row (width 2, row 0): original-data share with the all-zero namespace, one parity share -/
def okRow : Row := ⟨[⟨List.replicate 512 0, false⟩, ⟨List.replicate 512 7, true⟩]⟩

def isOkNs (r : Except Lumina.Model.Namespace.Err Bytes) : Bool := match r with | .ok _ => true | .error _ => false

theorem nonvacuity_okRow_honest : HonestRow okRow 0 1 where
  len := rfl
  kpos := by decide
  ok := by
    have h : ∀ j, j < 2 →
        (match okRow.shares[j]? with
         | some sh => sh.data.length == SHARE_SIZE && (sh.isParity == !(decide (0 < 1 ∧ j < 1))) &&
             (sh.isParity || isOkNs (Lumina.Model.Namespace.fromRaw (sh.data.take NS_SIZE)))
         | none => true) = true := by decide +kernel
    intro j sh hj
    have hj2 : j < 2 := (List.getElem?_eq_some_iff.mp hj).1
    have := h j hj2
    rw [hj] at this
    simp only [Bool.and_eq_true, beq_iff_eq, Bool.or_eq_true] at this
    refine ⟨this.1.1, this.1.2, fun hp => ?_⟩
    rcases this.2 with h1 | h1
    · rw [hp] at h1; cases h1
    · cases hf : Lumina.Model.Namespace.fromRaw (sh.data.take NS_SIZE) with
      | ok n => exact ⟨n, rfl⟩
      | error er => simp [hf, isOkNs] at h1

/-- a toy systematic encoder: parity shard = data shard with 7 added to every byte -/
def toyEnc : List Bytes → List Bytes := fun l => l.map (fun d => d.map (· + 7))
/-- its reconstructor from the parity half -/
def toyRec : List Bytes → List Bytes := fun l =>
  let p := l.drop (l.length / 2)
  p.map (fun d => d.map (· - 7)) ++ p

/-- the toy reconstructor has the MDS property the right-half round trip assumes, for every `k` -/
theorem nonvacuity_toyRec (k : Nat) : RecoversFromRight toyEnc toyRec k := by
  intro cw ⟨hlen, hcw⟩
  have hd : (cw.drop k).length = k := by simp [List.length_drop, hlen]; omega
  have h2 : (List.replicate k ([] : Bytes) ++ cw.drop k).length / 2 = k := by
    rw [List.length_append, List.length_replicate, hd]; omega
  unfold toyRec
  simp only [h2]
  have hdr : (List.replicate k ([] : Bytes) ++ cw.drop k).drop k = cw.drop k :=
    List.drop_left' (by simp)
  rw [hdr]
  have : (cw.drop k).map (fun d => d.map (· - 7)) = cw.take k := by
    rw [hcw]; unfold toyEnc
    rw [List.map_map]
    have : ((fun d : Bytes => d.map (· - 7)) ∘ fun d => d.map (· + 7)) = id := by
      funext d
      simp only [Function.comp_apply, List.map_map, id]
      have : ((fun x : UInt8 => x - 7) ∘ fun x => x + 7) = id := by
        funext x; simp only [Function.comp_apply, id]; exact UInt8.add_sub_cancel x 7
      rw [this, List.map_id]
    rw [this, List.map_id]
  rw [this, List.take_append_drop]

/-- the concrete row is a codeword of the toy encoder -/
theorem nonvacuity_okRow_codeword : RowCodeword toyEnc 1 (okRow.shares.map Share.data) := ⟨rfl, by decide +kernel⟩

/-- every hypothesis of the round-trip theorems holds on a concrete instance -/
example : fromRaw (encodeCodec toyEnc) 0 (toRaw okRow) = .ok okRow :=
  row_roundtrip_left nonvacuity_okRow_honest toyEnc nonvacuity_okRow_codeword
example : fromRaw (reconstructCodec toyRec) 0 (toRawRight okRow) = .ok okRow :=
  row_roundtrip_right nonvacuity_okRow_honest toyEnc toyRec (nonvacuity_toyRec 1) nonvacuity_okRow_codeword

/-! ### Non-vacuity of `row_sound_eds`: ALL hypotheses hold on a concrete accepted row -/

/-- 2×2 square of 512-byte shares -/
def sumEds : Eds := Eds.ofRaw 2 [List.replicate 512 0, List.replicate 512 1, List.replicate 512 2, List.replicate 512 3]
def sumDah : Dah := match Dah.ofEds toySum sumEds with | .ok d => d | .error _ => default
/-- row 1 of the square, as `Row::new` hands it out -/
def sumRow : Row := match Lumina.Model.Row.new sumEds 1 with | some r => r | none => default

/-- the toy hash has no collision among the byte strings hashed for this square and this row -/
theorem nonvacuity_toySum_nocoll : NoCollOn toySum (fun y => y ∈ hashedC05 toySum sumEds sumRow) := by
  -- `sumEds` is the square of C04, and rebuilding row 1 hashes what its tree hashed
  refine Lumina.Props.C04.toySum_nocoll_okEds.mono fun y hy => ?_
  rcases List.mem_append.mp hy with h | h
  · exact h
  · exact axisInputs_mem_eds (e := sumEds) (ax := .row) (i := 1) (by decide) h

set_option maxRecDepth 100000 in
/-- `row_sound_eds` applied to a concrete ACCEPTED row: every hypothesis (incl. relative collision-freeness) holds -/
example : accepted (verify toySum sumRow 1 sumDah) = true ∧
    specVerify ((sumEds.row? 1).map (fun l => l.map Share.data)) (sumRow.shares.map Share.data)
      (accepted (verify toySum sumRow 1 sumDah)) = true := by
  -- `sumRow` is what `Row::new` hands out: it verifies (`row_honest_verifies`), and its shares are shares of the square of C04
  have hd : Dah.ofEds toySum sumEds = .ok sumDah := Lumina.Props.C04.sumDah_ok
  obtain ⟨r, hnew, hver⟩ := row_honest_verifies hd (i := 1) (by decide)
  have hr : sumRow = r := by unfold sumRow; rw [hnew]
  obtain ⟨shares, hax, rfl⟩ := Option.map_eq_some_iff.mp hnew
  have hsz : ∀ sh ∈ sumEds.shares, NS_SIZE ≤ sh.data.length := Lumina.Props.C04.nonvacuity_okEds_valid.hsz
  exact ⟨by rw [hr, hver]; rfl, row_sound_eds hsz hd sumRow (fun sh hm => hsz sh (axis?_mem hax sh (by rwa [hr] at hm))) 1
    ⟨nonvacuity_toySum_nocoll, toySum_len⟩⟩

end Lumina.Props.C05

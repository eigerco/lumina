/-
  C30 — Header-ex wire framing round-trips under any chunking.

  Model: Lumina/Model/Framing.lean (HeaderCodec of node/src/p2p/header_ex.rs + the prost
  varint / derived message codec it calls).  Spec: Lumina/Spec/C30.lean.

  Hypotheses `ValidReq` / `ValidResp` only say that the fields are values of their Rust types
  (`u64`, `i32`, a `Vec<u8>` of fewer than 2^63 bytes — Rust's allocation limit).
-/
import Lumina.Proofs.Framing
import Lumina.Spec.C30
import Lumina.Gen.C30

namespace Lumina.Props.C30
open Lumina.Util Lumina.Model.Framing Lumina.Proofs.Framing Lumina.Gen.C30
open Lumina.Spec.C30

def obsOf {α} : Option α → Obs α
  | some v => .ok v
  | none => .err

/-- the limits the property quotes -/
theorem consts_eq : REQUEST_SIZE_LIMIT = 1024 ∧ RESPONSE_SIZE_LIMIT = 10 * 1024 * 1024 := by decide

/-- protobuf varint: every `u64`, in front of anything -/
theorem varint_roundtrip (v : Nat) (hv : v < 2 ^ 64) (rest : Bytes) :
    decodeVarint (encodeVarint v ++ rest) = some (v, rest) :=
  decode_encode_varint v hv rest

/-- message bodies: `decode (encode m) = m` for every request and every response -/
theorem body_roundtrip :
    (∀ r, ValidReq r → decodeRequest (encodeRequest r) = some r) ∧
    (∀ r, ValidResp r → decodeResponse (encodeResponse r) = some r) :=
  ⟨decode_encode_request, decode_encode_response⟩

/-- **any chunking**: whatever (positive) chunk sizes the stream delivers, `read_up_to` ends up with
    exactly the first `limit` bytes of the stream -/
theorem chunking_irrelevant (limit : Nat) (data : Bytes) (cuts : List Nat) (hc : ∀ c ∈ cuts, 0 < c) :
    readUpTo limit data cuts = data.take limit :=
  let ⟨_, _, he, hp⟩ := readUpToAux_eq limit cuts [] data
  he.trans (hp hc)

/-- with ANY chunk schedule (zero-length reads = premature EOF included) the buffer is a prefix of
    the stream of at most `limit` bytes -/
theorem chunking_prefix (limit : Nat) (data : Bytes) (cuts : List Nat) :
    ∃ k, k ≤ limit ∧ readUpTo limit data cuts = data.take k :=
  readUpTo_prefix limit data cuts

/-- **an I/O error never produces a wrong value**: when the reader's `fail`-th `read` call
    returns an error, `read_request` / `read_response` either fail or — that call is never made —
    return exactly what they return over the failure-free reader (so every statement below carries
    over: a value read is the value written) -/
theorem io_error_request (limit : Nat) (data : Bytes) (cuts : List Nat) (fail : Nat) :
    readRequestFail limit data cuts fail = none ∨
    readRequestFail limit data cuts fail = readRequest limit data cuts :=
  readUpToFail_bind parseHeaderRequest limit data cuts fail

theorem io_error_responses (limit : Nat) (data : Bytes) (cuts : List Nat) (fail : Nat) :
    readResponsesFail limit data cuts fail = none ∨
    readResponsesFail limit data cuts fail = readResponses limit data cuts :=
  readUpToFail_bind _ limit data cuts fail

/-- **any request that fits the limit round-trips under any chunking** -/
theorem request_roundtrip (r : HeaderRequest) (hv : ValidReq r) (cuts : List Nat) (hc : ∀ c ∈ cuts, 0 < c) :
    specRoundTrip r (decide ((writeRequest r).length ≤ 1024))
      (obsOf (readRequest REQUEST_SIZE_LIMIT (writeRequest r) cuts)) = true := by
  unfold specRoundTrip
  by_cases hfit : (writeRequest r).length ≤ 1024
  · simp only [hfit, decide_true, Bool.not_true, Bool.false_or, beq_iff_eq]
    unfold readRequest
    rw [chunking_irrelevant _ _ _ hc, consts_eq.1, List.take_of_length_le hfit]
    unfold parseHeaderRequest writeRequest
    rw [← List.append_nil (lengthDelimited _), parseFrame_frame _ _ _ (encodeRequest_length r hv),
      decode_encode_request r hv]
    rfl
  · simp [hfit]

/-- **a truncated request yields an error**: every strict prefix, every limit, every chunk schedule -/
theorem request_truncation_errors (r : HeaderRequest) (hv : ValidReq r) (k : Nat)
    (hk : k < (writeRequest r).length) (limit : Nat) (cuts : List Nat) :
    specTruncated (obsOf (readRequest limit ((writeRequest r).take k) cuts)) = true := by
  obtain ⟨k', _, he⟩ := chunking_prefix limit ((writeRequest r).take k) cuts
  unfold readRequest parseHeaderRequest
  rw [he, List.take_take]
  unfold writeRequest at hk ⊢
  rw [parseFrame_frame_take decodeRequest (encodeRequest r) _ (encodeRequest_length r hv)
    (decode_encode_request r hv) (by omega)]
  rfl

/-- a request that does not fit the limit is an error (it is read as a strict prefix) -/
theorem request_over_limit_errors (r : HeaderRequest) (hv : ValidReq r) (limit : Nat)
    (hbig : limit < (writeRequest r).length) (cuts : List Nat) :
    readRequest limit (writeRequest r) cuts = none := by
  obtain ⟨k', hk', he⟩ := chunking_prefix limit (writeRequest r) cuts
  unfold readRequest parseHeaderRequest
  rw [he]
  unfold writeRequest at hbig ⊢
  rw [parseFrame_frame_take decodeRequest (encodeRequest r) _ (encodeRequest_length r hv)
    (decode_encode_request r hv) (by omega)]
  rfl

theorem valid_frames (rs : List HeaderResponse) (hv : ∀ r ∈ rs, ValidResp r) :
    ∀ r ∈ rs, decodeResponse (encodeResponse r) = some r ∧ (encodeResponse r).length < 2 ^ 64 :=
  fun r hr => ⟨decode_encode_response r (hv r hr), encodeResponse_length r (hv r hr)⟩

/-- FULL statement for response lists (as the property words it: *any* list that fits) -/
def ResponsesRoundTripFull : Prop :=
  ∀ (rs : List HeaderResponse) (cuts : List Nat), (∀ r ∈ rs, ValidResp r) → (∀ c ∈ cuts, 0 < c) →
    specRoundTrip rs (decide ((writeResponses rs).length ≤ 10 * 1024 * 1024))
      (obsOf (readResponses RESPONSE_SIZE_LIMIT (writeResponses rs) cuts)) = true

/-- **any NON-EMPTY list of responses that fits the limit round-trips under any chunking**.
    Partial: the empty list is excluded (see `responses_roundtrip_counterexample`). -/
theorem responses_roundtrip_partial (rs : List HeaderResponse) (cuts : List Nat) (hne : rs ≠ [])
    (hv : ∀ r ∈ rs, ValidResp r) (hc : ∀ c ∈ cuts, 0 < c) :
    specRoundTrip rs (decide ((writeResponses rs).length ≤ 10 * 1024 * 1024))
      (obsOf (readResponses RESPONSE_SIZE_LIMIT (writeResponses rs) cuts)) = true := by
  unfold specRoundTrip
  by_cases hfit : (writeResponses rs).length ≤ 10 * 1024 * 1024
  · simp only [hfit, decide_true, Bool.not_true, Bool.false_or, beq_iff_eq]
    rw [readResponses_take rs hv (writeResponses rs).length _ _ cuts
        (by rw [chunking_irrelevant _ _ _ hc, consts_eq.2, List.take_of_length_le hfit, List.take_length]),
      writeResponses_eq, completeCount_wire, List.take_length,
      if_neg (Nat.ne_of_gt (List.length_pos_iff.mpr hne))]
    rfl
  · simp [hfit]

/-- the empty response list is written as zero bytes and read back as an error -/
theorem responses_roundtrip_counterexample : ¬ ResponsesRoundTripFull := by
  intro h
  have := h [] [] (by simp) (by simp)
  revert this
  decide

/-- FULL statement: a truncated response stream yields an error -/
def ResponseTruncationFull : Prop :=
  ∀ (rs : List HeaderResponse) (k limit : Nat) (cuts : List Nat), (∀ r ∈ rs, ValidResp r) →
    k < (writeResponses rs).length →
    specTruncated (obsOf (readResponses limit ((writeResponses rs).take k) cuts)) = true

/-- lengths of the frames of a written response stream -/
def respFrameLens (rs : List HeaderResponse) : List Nat := frameLens encodeResponse rs

theorem respFrameLens_sum (rs : List HeaderResponse) : (respFrameLens rs).sum = (writeResponses rs).length := by
  rw [writeResponses_eq, wireOf_length]; rfl

/-- what a strict prefix of a written response stream reads as under ANY chunk schedule (premature EOF
    included) and any limit: if the reader got `m` bytes (`m ≤ min k limit`), exactly the responses whose
    frames lie completely within those `m` bytes — an error when not even the first one does -/
theorem response_truncation_any_schedule (rs : List HeaderResponse) (k limit : Nat) (cuts : List Nat)
    (hv : ∀ r ∈ rs, ValidResp r) (hk : k < (writeResponses rs).length) :
    ∃ m, m ≤ min k limit ∧
      readResponses limit ((writeResponses rs).take k) cuts =
        if completeCount (respFrameLens rs) m = 0 then none
        else some (rs.take (completeCount (respFrameLens rs) m)) := by
  obtain ⟨k', hk', he⟩ := chunking_prefix limit ((writeResponses rs).take k) cuts
  rw [List.take_take] at he
  exact ⟨min k' k, by omega, readResponses_take rs hv _ limit _ cuts he⟩

/-- **exactly the complete frames before the cut**: with chunks of positive size, the first `k` bytes of a
    written response stream (`k` < its length) read back as exactly the responses whose frames end within
    the first `min k limit` bytes; an error if there is none.  (`specTruncatedExact` ties the number of
    responses returned to the cut position through the frame lengths.) -/
theorem response_truncation_exact (rs : List HeaderResponse) (k limit : Nat) (cuts : List Nat)
    (hv : ∀ r ∈ rs, ValidResp r) (hk : k < (writeResponses rs).length) (hc : ∀ c ∈ cuts, 0 < c) :
    specTruncatedExact (respFrameLens rs) rs (min k limit)
      (obsOf (readResponses limit ((writeResponses rs).take k) cuts)) = true := by
  rw [readResponses_take rs hv (min k limit) limit _ cuts
      (by rw [chunking_irrelevant _ _ _ hc, List.take_take, Nat.min_comm]), apply_ite obsOf]
  exact specTruncatedExact_self _ rs _

/-- **a cut inside the first frame is an error** — the part of "truncated streams yield an error" that
    holds: any list, any limit, any chunk schedule -/
theorem response_truncation_first_frame (r : HeaderResponse) (rest : List HeaderResponse) (k limit : Nat)
    (cuts : List Nat) (hv : ∀ x ∈ r :: rest, ValidResp x)
    (hk : k < (lengthDelimited (encodeResponse r)).length) :
    readResponses limit ((writeResponses (r :: rest)).take k) cuts = none := by
  have hk' : k < (writeResponses (r :: rest)).length := by
    rw [writeResponses_eq, wireOf_cons, List.length_append]; omega
  obtain ⟨m, hm, he⟩ := response_truncation_any_schedule (r :: rest) k limit cuts hv hk'
  rw [he]
  have hm' : m < (lengthDelimited (encodeResponse r)).length := by omega
  have : completeCount (respFrameLens (r :: rest)) m = 0 := if_neg (Nat.not_le_of_lt hm')
  rw [if_pos this]

/-- **truncated response streams**: an error, or a non-empty strict prefix of the list that was
    written — never a value that was not sent.  Partial: the property demands an error always. -/
theorem response_truncation_partial (rs : List HeaderResponse) (k limit : Nat) (cuts : List Nat)
    (hv : ∀ r ∈ rs, ValidResp r) (hk : k < (writeResponses rs).length) :
    specTruncatedWeak rs (obsOf (readResponses limit ((writeResponses rs).take k) cuts)) = true := by
  obtain ⟨m, hm, he⟩ := response_truncation_any_schedule rs k limit cuts hv hk
  rw [he, apply_ite obsOf]
  exact specTruncatedWeak_of_lt rs _ (completeCount_lt encodeResponse rs m (by rw [← writeResponses_eq]; omega))

/-- two `{status: 1}` responses cut after the first frame read back as the one-element list -/
theorem response_truncation_counterexample : ¬ ResponseTruncationFull := by
  intro h
  have := h [⟨[], 1⟩, ⟨[], 1⟩] 3 100 [] (by intro r hr; simp at hr; subst hr; exact ⟨by simp, by decide, by decide⟩) (by decide)
  revert this
  decide

/-- a response list that does NOT fit the limit, read with chunks of positive size: exactly the responses
    whose frames end within the first `limit` bytes (an error if not even the first one does) -/
theorem responses_over_limit_exact (rs : List HeaderResponse) (limit : Nat) (cuts : List Nat)
    (hv : ∀ r ∈ rs, ValidResp r) (hbig : limit < (writeResponses rs).length) (hc : ∀ c ∈ cuts, 0 < c) :
    specTruncatedExact (respFrameLens rs) rs limit (obsOf (readResponses limit (writeResponses rs) cuts)) = true := by
  rw [readResponses_take rs hv limit limit _ cuts (chunking_irrelevant _ _ _ hc), apply_ite obsOf]
  exact specTruncatedExact_self _ rs _

/-- … and under any chunk schedule never a wrong value: an error or a strict prefix of the list -/
theorem responses_over_limit (rs : List HeaderResponse) (limit : Nat) (cuts : List Nat)
    (hv : ∀ r ∈ rs, ValidResp r) (hbig : limit < (writeResponses rs).length) :
    specTruncatedWeak rs (obsOf (readResponses limit (writeResponses rs) cuts)) = true := by
  obtain ⟨k', hk', he⟩ := chunking_prefix limit (writeResponses rs) cuts
  rw [readResponses_take rs hv k' limit _ cuts he, apply_ite obsOf]
  exact specTruncatedWeak_of_lt rs _ (completeCount_lt encodeResponse rs k' (by rw [← writeResponses_eq]; omega))

/-- the model's length delimiter is the textbook base-128 number the spec describes -/
theorem delimiter_is_textbook (s : Bytes) :
    parseDelimiter s = (specDelimiter s).map (fun p => (p.1, s.drop p.2)) :=
  parseDelimiter_eq_spec s

/-- **garbage request streams yield an error**: whatever the bytes, the limit and the chunking, a
    request is returned only if the stream begins with a well-delimited frame -/
theorem garbage_request (limit : Nat) (data : Bytes) (cuts : List Nat) :
    specGarbage data (readRequest limit data cuts).isSome = true := by
  unfold specGarbage
  cases hr : (readRequest limit data cuts).isSome with
  | false => rfl
  | true =>
    rw [readRequest, parseHeaderRequest, Option.isSome_map] at hr
    exact wellDelimited_of_read decodeRequest limit data cuts hr

/-- **garbage response streams yield an error** -/
theorem garbage_responses (limit : Nat) (data : Bytes) (cuts : List Nat) :
    specGarbage data (readResponses limit data cuts).isSome = true := by
  unfold specGarbage
  cases hr : (readResponses limit data cuts).isSome with
  | false => rfl
  | true =>
    apply wellDelimited_of_read decodeResponse limit data cuts
    -- nothing is returned when the first frame does not parse
    cases hp : parseFrame decodeResponse (readUpTo limit data cuts) with
    | none => simp [readResponses, readResponsesOf, parseFrames_of_none decodeResponse _ _ hp] at hr
    | some _ => rfl

/-- non-vacuity: concrete valid messages; a concrete strict-prefix read -/
example : ValidReq ⟨64, .hash (List.replicate 32 7)⟩ ∧ ValidResp ⟨[1, 2, 3], 1⟩ ∧ ValidResp ⟨[], -1⟩ := by
  refine ⟨⟨by decide, by simp⟩, ⟨by simp, by decide, by decide⟩, ⟨by simp, by decide, by decide⟩⟩
example : readResponses 100 ((writeResponses [⟨[9], 1⟩, ⟨[8], 2⟩]).take 7) [1, 2] = some [⟨[9], 1⟩] := by decide
example : respFrameLens [⟨[9], 1⟩, ⟨[8], 2⟩] = [6, 6] ∧ completeCount [6, 6] 7 = 1 ∧ completeCount [6, 6] 5 = 0 := by decide

/-- the error in the middle of a frame is an error; after the frame was read completely and the
    buffer… is not full, the read that would see EOF fails: still an error; a failing call that is
    never made (buffer full after 2 bytes) changes nothing -/
example : readRequestFail 1024 (writeRequest ⟨7, .origin 5⟩) [2, 1] 1 = none := by decide
example : readRequestFail 1024 (writeRequest ⟨7, .origin 5⟩) [] 1 = none := by decide
example : readRequestFail 1024 (writeRequest ⟨7, .origin 5⟩) [] 2 = some ⟨7, .origin 5⟩ := by decide
example : readUpToFail 2 [1, 2, 3] [2] 1 = some [1, 2] := by decide

end Lumina.Props.C30

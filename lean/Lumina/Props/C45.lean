/-
  C45 — Verified balances are backed by a proof to the header's app hash.

  Model: `Lumina/Model/AbciProofs.lean`; spec: `Lumina/Spec/C45.lean`.  Soundness is proved for
  an ARBITRARY ics23 membership function `vm` (no assumption on it), every chain length, every
  key list, every response; the tamper-rejection theorems take the binding idealisations
  `Binding` / `ProofDetermines` as explicit hypotheses (witness instance `vmW`).
-/
import Lumina.Proofs.AbciProofs
import Lumina.Gen.C45

namespace Lumina.Props.C45
open Lumina.Util Lumina.Model.AbciProofs Lumina.Proofs.AbciProofs
open Lumina.Spec.C45 (linked nextRoots candidates Obs specBalance specVerify backed opsOf decimal)

/-- **`ProofChain::verify_membership` accepts only linked chains** — every `vm`, every chain
    length, every key list: `Ok(())` implies operation `i` carries key `i`, every link is
    accepted by ics23 for (root of the next link, key, current leaf), each intermediate root is
    a value the next operation commits to, the last link proves to the trusted root, and keys and
    proofs are consumed together. -/
theorem verify_membership_sound (vm : VM) (chain : ProofChain) (root : Bytes) (keys : List Bytes)
    (leaf : Bytes) :
    specVerify vm chain root keys leaf
      (match verifyMembership vm chain root keys leaf with | .ok () => true | _ => false) = true := by
  unfold specVerify
  cases hv : verifyMembership vm chain root keys leaf with
  | ok u => exact verifyLoop_sound vm chain root keys leaf 0 hv
  | err | panic => rfl

/-- the hypothesis of soundness is met: a one-operation chain that `verify_membership` accepts -/
example : ∃ vm chain root keys leaf, verifyMembership vm chain root keys leaf = .ok () :=
  ⟨fun _ _ _ _ _ => true, [⟨[1], .iavl, .exist ⟨[1], [2], none, none⟩⟩], [3], [[1]], [2], by rfl⟩

/-- completeness on the shape nodes actually send (two plain existence proofs): if ics23 accepts
    both links, the chain is accepted — the model does not reject everything -/
theorem honest_chain_accepted (vm : VM) (k0 k1 leaf root : Bytes) (s0 s1 : SpecKind)
    (e0 e1 : ExistenceProof)
    (h0 : vm (.exist e0) s0 e1.value k0 leaf = true) (h1 : vm (.exist e1) s1 root k1 e1.value = true) :
    verifyMembership vm [⟨k0, s0, .exist e0⟩, ⟨k1, s1, .exist e1⟩] root [k0, k1] leaf = .ok () := by
  simp [verifyMembership, verifyLoop, getExistenceProof, h0, h1]

def obsOf : Outcome (Except BalErr Nat) → Obs
  | .ok (.ok n) => .ok n
  | _ => .err

/-- the regenerated constants are the ones the bank key is built from -/
theorem consts_eq : Lumina.Gen.C45.BALANCES_PREFIX = 2 ∧ Lumina.Gen.C45.SIGNER_SIZE = 20 ∧
    Lumina.Spec.C45.ascii Lumina.Gen.C45.BOND_DENOM = BOND_DENOM ∧
    ∀ addr : Bytes, (bankKey addr).head? = some (UInt8.ofNat Lumina.Gen.C45.BALANCES_PREFIX) := by
  refine ⟨by decide, by decide, by decide, ?_⟩
  intro addr; simp [bankKey, Lumina.Gen.C45.BALANCES_PREFIX]

/-- the full statement of the property over the model -/
def FullStatement : Prop :=
  ∀ (vm : VM) (addr appHash : Bytes) (resp : Option AbciResponse),
    specBalance vm addr appHash resp (obsOf (getVerifiedBalance vm addr appHash resp)) = true

/-- **proved part**: whenever the node's answer has a NON-EMPTY value, a balance is reported as
    verified only if the answer carries a proof chain of exactly the two expected operations that
    links (bank key of the address, returned value) through `"bank"` to the header's app hash,
    every link accepted by ics23, and the reported amount is the returned value.  Every `vm`,
    address, app hash, response.  (Missing for `FullStatement`: the empty-value branch, where the
    code returns a "verified" zero without looking at any proof — see `balance_counterexample`.) -/
theorem balance_backed_partial (vm : VM) (addr appHash : Bytes) (resp : Option AbciResponse)
    (hne : ∀ r, resp = some r → r.value ≠ []) :
    specBalance vm addr appHash resp (obsOf (getVerifiedBalance vm addr appHash resp)) = true := by
  cases hg : getVerifiedBalance vm addr appHash resp with
  | err | panic => rfl
  | ok x =>
    cases x with
    | error e => rfl
    | ok n =>
      cases resp with
      | none => cases hg
      | some r => exact getVerifiedBalance_backed vm addr appHash r n (hne r rfl) hg

example : ∃ (resp : Option AbciResponse), (∀ r, resp = some r → r.value ≠ []) ∧
    ∃ n, obsOf (getVerifiedBalance Ics23.verifyMembership [1] [9] resp) = .ok n :=
  ⟨some ⟨0, [53, 48], some [⟨.iavl, bankKey [1], some (.exist ⟨bankKey [1], [53, 48], some [7], none⟩)⟩,
      ⟨.simple, BANK, some (.exist ⟨BANK, [7], none, some [9]⟩)⟩]⟩,
    by intro r h; cases h; decide +kernel, 50, by decide +kernel⟩

/-- **the property is FALSE of the current code**: for an answer with an empty value and no proof
    at all, `get_verified_balance` reports a verified balance of 0 — for every `vm` (even one that
    rejects everything), every address and app hash. -/
theorem balance_counterexample (vm : VM) (addr appHash : Bytes) :
    let resp : Option AbciResponse := some ⟨0, [], none⟩
    obsOf (getVerifiedBalance vm addr appHash resp) = .ok 0 ∧
    specBalance vm addr appHash resp (obsOf (getVerifiedBalance vm addr appHash resp)) = false := by
  constructor
  · rfl
  · simp [getVerifiedBalance, obsOf, specBalance, backed, opsOf]

theorem fullStatement_false : ¬ FullStatement := by
  intro h
  have := h (fun _ _ _ _ _ => false) [] [] (some ⟨0, [], none⟩)
  have h2 := (balance_counterexample (fun _ _ _ _ _ => false) [] []).2
  exact absurd (h2 ▸ this : false = true) (by decide)

/-! ## tampering (under explicit, satisfiable idealisations of ics23) -/

theorem accepted_backed (vm : VM) (addr appHash : Bytes) (r : AbciResponse) (n : Nat) (hne : r.value ≠ [])
    (h : obsOf (getVerifiedBalance vm addr appHash (some r)) = .ok n) :
    backed vm addr appHash (some r) n = true := by
  refine getVerifiedBalance_backed vm addr appHash r n hne ?_
  unfold obsOf at h
  split at h
  · cases h; assumption
  · cases h

/-- **binding of the commitment scheme** (the idealisation of ics23 + SHA-256 under which
    "tampered values are rejected" is meaningful): under a given root and spec, at most one value
    verifies for a key — whatever proofs are presented -/
def Binding (vm : VM) : Prop :=
  ∀ (p p' : CProof) (s : SpecKind) (root key v v' : Bytes),
    vm p s root key v = true → vm p' s root key v' = true → v = v'

/-- a given proof verifies for at most one (root, value) pair per key and spec (true of ics23 by
    construction: the root is COMPUTED from the existence proof found for the key, the value is
    the one inside it) -/
def ProofDetermines (vm : VM) : Prop :=
  ∀ (p : CProof) (s : SpecKind) (key root v root' v' : Bytes),
    vm p s root key v = true → vm p s root' key v' = true → root = root' ∧ v = v'

/-- a witness instance: "the root is `key ++ 0xff :: value`" -/
def vmW : VM := fun p _ root key v =>
  match p with
  | .exist e => e.key == key && e.value == v && root == key ++ 255 :: v
  | _ => false

theorem vmW_binding : Binding vmW := by
  intro p p' s root key v v' h h'
  unfold vmW at h h'
  cases p <;> cases p' <;> simp at h h'
  obtain ⟨-, rfl⟩ := h
  obtain ⟨-, h2⟩ := h'
  have := List.append_cancel_left h2
  simpa using this

theorem vmW_proofDetermines : ProofDetermines vmW := by
  intro p s key root v root' v' h h'
  unfold vmW at h h'
  cases p <;> simp at h h'
  obtain ⟨⟨-, rfl⟩, rfl⟩ := h
  obtain ⟨⟨-, h1⟩, rfl⟩ := h'
  exact ⟨by rw [h1], h1⟩

/-- the hypotheses are satisfiable together with an accepted balance: the witness accepts an honest
    two-link answer -/
example : Binding vmW ∧ ProofDetermines vmW ∧
    obsOf (getVerifiedBalance vmW [1] (BANK ++ 255 :: (bankKey [1] ++ 255 :: [53, 48]))
      (some ⟨0, [53, 48], some [⟨.iavl, bankKey [1], some (.exist ⟨bankKey [1], [53, 48], none, none⟩)⟩,
        ⟨.simple, BANK, some (.exist ⟨BANK, bankKey [1] ++ 255 :: [53, 48], none, none⟩)⟩]⟩)) = .ok 50 :=
  ⟨vmW_binding, vmW_proofDetermines, by decide +kernel⟩

/-- the driver's transcription of ics23's top level determines (root, value) from the proof -/
theorem ics23_proofDetermines : ProofDetermines Ics23.verifyMembership := by
  intro p s key root v root' v' h h'
  unfold Ics23.verifyMembership at h h'
  cases hg : Ics23.getExistProof p key with
  | none => simp [hg] at h
  | some e =>
    simp only [hg] at h h'
    cases hc : e.calc s with
    | none => simp [hc] at h
    | some r =>
      simp only [hc, Bool.and_eq_true, beq_iff_eq] at h h'
      exact ⟨by rw [← h.2, ← h'.2], by rw [← h.1.2, ← h'.1.2]⟩

/-- **two verified answers for the same account under the same app hash carry the same value**
    (binding `vm`): a node cannot get two different balances verified against one header.  The two
    answers may carry completely different proofs; they only have to use the same specs. -/
theorem verified_value_unique (vm : VM) (hb : Binding vm) (addr appHash : Bytes) (r r' : AbciResponse)
    (n n' : Nat) (hne : r.value ≠ []) (hne' : r'.value ≠ [])
    (hspec : ∀ c c', opsOf (r.proofOps.getD []) = some c → opsOf (r'.proofOps.getD []) = some c' →
      c.map (·.spec) = c'.map (·.spec))
    (h : obsOf (getVerifiedBalance vm addr appHash (some r)) = .ok n)
    (h' : obsOf (getVerifiedBalance vm addr appHash (some r')) = .ok n') :
    r.value = r'.value ∧ n = n' := by
  obtain ⟨a0, a1, x, ho, -, -, -, hv0, hv1, hd⟩ := backed_links vm addr appHash r n (accepted_backed vm addr appHash r n hne h)
  obtain ⟨b0, b1, y, ho', -, -, -, hw0, hw1, hd'⟩ := backed_links vm addr appHash r' n' (accepted_backed vm addr appHash r' n' hne' h')
  have hs := hspec _ _ ho ho'
  simp only [List.map_cons, List.map_nil, List.cons.injEq, and_true] at hs
  obtain ⟨hs0, hs1⟩ := hs
  rw [← hs1] at hw1
  have hxy : x = y := hb _ _ _ _ _ _ _ hv1 hw1
  subst hxy
  rw [← hs0] at hw0
  have hval : r.value = r'.value := hb _ _ _ _ _ _ _ hv0 hw0
  refine ⟨hval, ?_⟩
  rw [hval, hd'] at hd
  exact (Option.some.inj hd).symm

/-- **a tampered value is rejected** (binding `vm`): if an answer is verified, the same answer with
    any other non-empty value in place of the returned one is not -/
theorem tampered_value_rejected (vm : VM) (hb : Binding vm) (addr appHash : Bytes) (r : AbciResponse)
    (n : Nat) (v' : Bytes) (hne : r.value ≠ []) (hne' : v' ≠ []) (hv : v' ≠ r.value)
    (h : obsOf (getVerifiedBalance vm addr appHash (some r)) = .ok n) :
    obsOf (getVerifiedBalance vm addr appHash (some { r with value := v' })) = .err := by
  refine obs_eq_err fun n' hr => hv ?_
  exact (verified_value_unique vm hb addr appHash r { r with value := v' } n n' hne hne'
    (by intro c c' hc hc'; simp only [hc] at hc'; cases hc'; rfl) h hr).1.symm

theorem bankKey_injective (a a' : Bytes) (h : bankKey a = bankKey a') : a = a' := by
  unfold bankKey at h
  simp only [List.cons_append, List.nil_append, List.cons.injEq] at h
  exact List.append_cancel_right h.2.2

/-- **a tampered key is rejected** (no hypothesis on `vm`): an answer verified for one address
    is not verified for any other address; and the first operation of a verified answer is keyed by
    the bank key of the queried address, the second by `"bank"` -/
theorem tampered_key_rejected (vm : VM) (addr addr' appHash appHash' : Bytes) (r : AbciResponse) (n : Nat)
    (hne : r.value ≠ []) (ha : addr' ≠ addr)
    (h : obsOf (getVerifiedBalance vm addr appHash (some r)) = .ok n) :
    obsOf (getVerifiedBalance vm addr' appHash' (some r)) = .err := by
  refine obs_eq_err fun n' hr => ha ?_
  obtain ⟨a0, a1, x, ho, hk, -⟩ := backed_links vm addr appHash r n (accepted_backed vm addr appHash r n hne h)
  obtain ⟨b0, b1, y, ho', hk', -⟩ := backed_links vm addr' appHash' r n' (accepted_backed vm addr' appHash' r n' hne hr)
  rw [ho] at ho'
  cases ho'
  exact bankKey_injective _ _ (hk'.symm.trans hk)

/-- **a tampered root is rejected** (`vm` computes the root from the proof): an answer verified
    against one app hash is not verified against any other -/
theorem tampered_root_rejected (vm : VM) (hd : ProofDetermines vm) (addr appHash appHash' : Bytes)
    (r : AbciResponse) (n : Nat) (hne : r.value ≠ []) (ha : appHash' ≠ appHash)
    (h : obsOf (getVerifiedBalance vm addr appHash (some r)) = .ok n) :
    obsOf (getVerifiedBalance vm addr appHash' (some r)) = .err := by
  refine obs_eq_err fun n' hr => ha ?_
  obtain ⟨a0, a1, x, ho, -, -, -, -, hv1, -⟩ := backed_links vm addr appHash r n (accepted_backed vm addr appHash r n hne h)
  obtain ⟨b0, b1, y, ho', -, -, -, -, hw1, -⟩ := backed_links vm addr appHash' r n' (accepted_backed vm addr appHash' r n' hne hr)
  rw [ho] at ho'
  cases ho'
  exact (hd _ _ _ _ _ _ _ hv1 hw1).1.symm

/-- **a tampered proof is rejected** (any `vm`): if no value committed to by the second operation
    makes both links verify, the answer is not verified -/
theorem tampered_proof_rejected (vm : VM) (addr appHash : Bytes) (r : AbciResponse) (hne : r.value ≠ [])
    (hbad : ∀ op0 op1, opsOf (r.proofOps.getD []) = some [op0, op1] → ∀ r0 ∈ candidates op1.proof,
      ¬ (vm op0.proof op0.spec r0 (bankKey addr) r.value = true ∧ vm op1.proof op1.spec appHash BANK r0 = true)) :
    obsOf (getVerifiedBalance vm addr appHash (some r)) = .err := by
  refine obs_eq_err fun n hr => ?_
  obtain ⟨a0, a1, x, ho, -, -, hx, hv0, hv1, -⟩ := backed_links vm addr appHash r n (accepted_backed vm addr appHash r n hne hr)
  exact hbad a0 a1 ho x hx ⟨hv0, hv1⟩

/-- **`verify_membership` with no keys on a non-empty chain underflows** (`current_idx - 1` with
    `current_idx = 0`: debug-build panic) -/
theorem verify_membership_no_keys_counterexample (vm : VM) (op : CommitmentOp) (chain : ProofChain)
    (root leaf : Bytes) : (match verifyMembership vm (op :: chain) root [] leaf with | .panic => true | _ => false) = true := by
  simp [verifyMembership, verifyLoop]

end Lumina.Props.C45

/-
  C08 — The extended square is a two-dimensional erasure code.

  Model: `Lumina/Model/EdsCode.lean` (`fromOds` = `ExtendedDataSquare::from_ods`, `edsNew` = `ExtendedDataSquare::new`,
  the argument checks of `leopard_codec::encode/reconstruct`).  Spec: `Lumina/Spec/C08.lean`.
  The Reed–Solomon arithmetic is NOT modelled; what is assumed of it is stated as hypotheses:

    `EncShape enc k`       k data shards give k parity shards
    `EncLinear enc k 512`  the encoder acts bytewise as a k × k matrix over a commutative semiring structure on bytes
                           (GF(2^8) for leopard) — needed for the COLUMNS through the parity half only
    `MDS enc rec k`        the decoder returns a codeword from any ≥ k of its 2k symbols

  all three validated against the real codec by the correspondence on every run (`extend` lines: the columns of Q1 are
  re-encoded by the real codec independently and compared; `recon` lines: real reconstruct on random erasure patterns;
  `linear` lines: additivity and bytewise action), none proved about leopard's FFT.
-/
import Lumina.Gen.C08
import Lumina.Proofs.EdsMalformed
import Lumina.Proofs.EdsAccept
import Lumina.Proofs.EdsWitness

namespace Lumina.Props.C08
open Lumina.Util Lumina.Model.Nmt Lumina.Model.Eds Lumina.Model.EdsCode
open Lumina.Proofs.EdsCode Lumina.Proofs.EdsExtend Lumina.Proofs.EdsLinear Lumina.Proofs.EdsCodeword Lumina.Proofs.EdsMalformed
open Lumina.Spec.C08

theorem consts_eq :
    Lumina.Gen.C08.SHARE_SIZE = 512 ∧ Lumina.Gen.C08.SHARE_SIZE = Lumina.Model.Eds.SHARE_SIZE ∧
    Lumina.Gen.C08.NS_SIZE = 29 ∧ Lumina.Gen.C08.NS_SIZE = Lumina.Model.Nmt.NS_SIZE ∧
    Lumina.Gen.C08.MIN_SQUARE_SIZE * 2 = MIN_EXTENDED_SQUARE_WIDTH ∧
    Lumina.Gen.C08.SHARE_VERSION_ONE = SHARE_VERSION_ONE ∧
    Lumina.Gen.C08.SQUARE_SIZE_UPPER_BOUNDS = (List.range 7).map (fun i => squareSizeUpperBound (i + 1)) ∧
    Lumina.Gen.C08.SQUARE_SIZE_UPPER_BOUNDS = (List.range 7).map (fun i => maxOdsWidth (i + 1)) := by
  decide

/-- **The extension is a two-dimensional code** — for every original square, app version and linear encoder: if
    `from_ods` accepts, the returned square keeps the original square as its first quadrant and EVERY row and EVERY
    column (through the data half and through the parity half alike) is a codeword. -/
theorem extend_spec (enc : List Bytes → List Bytes) (ver : Nat) (ods : List Bytes) (e : Eds)
    (hs : EncShape enc (isqrt ods.length)) (L : EncLinear enc (isqrt ods.length) 512)
    (h : fromOds enc ver ods = .ok e) :
    specExtend enc ods (.ok e.width (e.shares.map Share.data)) = true := by
  have x := ExtOK.of_fromOds hs h
  generalize isqrt ods.length = k at x L
  simp only [specExtend, Bool.and_eq_true, beq_iff_eq, List.all_eq_true, List.mem_range, isCodeword_iff]
  refine ⟨⟨⟨quadrant0_eq ▸ x.q0, by rw [List.length_map, x.newOK.length]⟩, by rw [x.width]; omega⟩, fun i hi => ?_⟩
  rw [x.data, rowOf_eq, colOf_eq]
  exact ⟨x.axis_codeword L .row hi, x.axis_codeword L .col hi⟩

/-- the decoder recovers a codeword from any `k` of its `2k` symbols (erased symbols = empty strings) -/
def MDS (enc : List Bytes → List Bytes) (rec : List Bytes → List Bytes) (k : Nat) : Prop :=
  ∀ cw, IsCodeword enc k cw → (∀ s ∈ cw, s.length = 512) →
    ∀ mask : List Bool, mask.length = 2 * k → k ≤ (mask.filter id).length → rec (erase mask cw) = cw

/-- **Any half of the shares of an axis reconstructs the whole axis** — every row and column of an accepted extension,
    every erasure pattern that leaves at least half. -/
theorem any_half_reconstructs (enc rec : List Bytes → List Bytes) (ver : Nat) (ods : List Bytes) (e : Eds)
    (hs : EncShape enc (isqrt ods.length)) (L : EncLinear enc (isqrt ods.length) 512)
    (hm : MDS enc rec (isqrt ods.length)) (h : fromOds enc ver ods = .ok e)
    (ax : Axis) (i : Nat) (hi : i < e.width) (mask : List Bool) (hml : mask.length = e.width)
    (hhalf : e.width / 2 ≤ (mask.filter id).length) :
    ∃ axis, e.axis? ax i = some axis ∧
      specReconstruct (axis.map Share.data) (some (rec (erase mask (axis.map Share.data)))) = true := by
  have x := ExtOK.of_fromOds hs h
  generalize isqrt ods.length = k at x L hm
  refine ⟨_, x.newOK.axis ax hi, ?_⟩
  have hk2 : e.width / 2 = k := by rw [x.width]; omega
  simp only [specReconstruct, beq_iff_eq, Option.some.injEq]
  apply hm
  · have := x.axis_codeword L ax hi
    rwa [hk2] at this
  · intro s hs'
    obtain ⟨sh, hsh, rfl⟩ := List.mem_map.mp hs'
    exact (x.newOK.cells i hi ax sh hsh).size
  · rw [hml, x.width]
  · rw [← hk2]; exact hhalf

/-- **Malformed extended squares are rejected by `new`**: a share count that is not a square, a width that is not a
    power of two, fewer than 2 × 2 or more than the app version's bound, a share that is not 512 bytes, a row or column
    not sorted by namespace — for every input. -/
theorem new_rejects_malformed (ver : Nat) (shares : List Bytes) (hm : malformedEds ver shares = true) :
    specRejects (malformedEds ver shares) (match edsNew ver shares with | .ok _ => true | .error _ => false) = true := by
  cases h : edsNew ver shares with
  | error er => simp [specRejects]
  | ok e => rw [not_malformed_of_newOK (edsNew_ok_iff.mp h)] at hm; cases hm

/-- **Malformed original squares are rejected by `from_ods`** (same classes, stated on the original square) -/
theorem from_ods_rejects_malformed (enc : List Bytes → List Bytes) (ver : Nat) (ods : List Bytes)
    (hs : EncShape enc (isqrt ods.length)) (hm : malformedOds ver ods = true) :
    specRejects (malformedOds ver ods) (match fromOds enc ver ods with | .ok _ => true | .error _ => false) = true := by
  cases h : fromOds enc ver ods with
  | error er => simp [specRejects]
  | ok e => rw [not_malformedOds_of_fromOds hs h] at hm; cases hm

/-- **Valid extended squares are accepted by `new`** (the converse direction: none of the malformed classes, first-quadrant
    shares carry a supported namespace / share version ⇒ `Ok`), for every input.  So the rejection theorems are not
    satisfied by a validator that rejects everything. -/
theorem new_accepts_valid (ver : Nat) (shares : List Bytes) (hv : validEds ver shares = true) :
    specAccepts (validEds ver shares) (match edsNew ver shares with | .ok _ => true | .error _ => false) = true := by
  obtain ⟨e, he⟩ := Lumina.Proofs.EdsAccept.new_accepts hv
  simp [specAccepts, he]

/-- … and every square `new` accepts is valid: acceptance is EXACTLY validity -/
theorem new_accepts_iff_valid (ver : Nat) (shares : List Bytes) :
    (∃ e, edsNew ver shares = .ok e) ↔ validEds ver shares = true := by
  simp only [edsNew_ok_iff]
  exact ⟨fun ⟨_, ok⟩ => Lumina.Proofs.EdsAccept.valid_of_newOK ok, Lumina.Proofs.EdsAccept.newOK_of_valid⟩

/-- **Limitation of lumina, not of the model**: an original square wider than 128 is rejected by `from_ods` whatever its
    contents (the GF(2^8) leopard codec handles at most 256 shards), although app versions ≥ 6 allow widths up to 512 -/
theorem from_ods_wider_than_codec_rejected (enc : List Bytes → List Bytes) (ver : Nat) (ods : List Bytes)
    (hk : 128 < isqrt ods.length) : ∀ e, fromOds enc ver ods ≠ .ok e := by
  intro e he
  obtain ⟨hsq, hle, _⟩ := fromOds_ok_iff.mp he
  unfold fromOdsLeopardErr at hle
  simp only [Bool.or_eq_false_iff] at hle
  have h1 := hle.1.1
  rw [List.any_eq_false] at h1
  have hpos : 0 < isqrt ods.length := by omega
  have hmem : (ods.drop (0 * isqrt ods.length)).take (isqrt ods.length) ∈ sqRows (isqrt ods.length) ods :=
    List.mem_map.mpr ⟨0, List.mem_range.mpr hpos, rfl⟩
  have hthis := h1 _ hmem
  unfold leopardEncodeErr at hthis
  have hkn : isqrt ods.length ≤ ods.length := by
    have := Nat.le_mul_self (isqrt ods.length); omega
  have hlen : ((ods.drop (0 * isqrt ods.length)).take (isqrt ods.length) ++
      List.replicate (isqrt ods.length) zeroShare).length > LEOPARD_ORDER := by
    simp only [List.length_append, List.length_take, List.length_drop, List.length_replicate, LEOPARD_ORDER]; omega
  rw [if_pos hlen] at hthis
  simp at hthis

/-- `from_ods` before the `fix:` commit bcfb373 (`fromOdsUnfixed`) panics on the EMPTY original square, which is malformed;
    the code in /repo rejects it -/
theorem from_ods_empty_unfixed_counterexample (enc : List Bytes → List Bytes) (ver : Nat) :
    malformedOds ver [] = true ∧ fromOdsUnfixed enc ver [] = none ∧ fromOds enc ver [] = .error .validation := by
  refine ⟨by simp [malformedOds, maxOdsWidth], by simp [fromOdsUnfixed, isqrt, sqrtAux], ?_⟩
  simp [fromOds, isqrt, sqrtAux, fromOdsLeopardErr, sqRows, sqCols, q2Rows, extendRaw, edsNew, MIN_EXTENDED_SQUARE_WIDTH]

/-- non-vacuity of `EncShape`: the identity "codec" is shape-correct (the real hypotheses are exercised against leopard by
    the correspondence) -/
example : EncShape (fun row => row) 4 := fun _ h => h

/-- non-vacuity of `EncLinear`: the repetition code (parity = data) is linear, with the identity matrix over ℕ -/
example (k : Nat) : EncLinear (fun row => row) k 512 := encLinearRep k

/-- the decoder "copy the symbol that is present" of the repetition code at k = 1 -/
def recK1 (l : List Bytes) : List Bytes :=
  match l with
  | [a, b] => if a.isEmpty then [b, b] else [a, a]
  | _ => l

/-- **Joint non-vacuity at k = 1**: the repetition code (Reed–Solomon for one data symbol) with the decoder `recK1`
    satisfies `EncShape`, `EncLinear` AND `MDS` together.  (For k ≥ 2 the repetition code is not MDS; see `joint_witness_k2`.) -/
theorem joint_witness_k1 :
    EncShape (fun row => row) 1 ∧ Nonempty (EncLinear (fun row => row) 1 512) ∧ MDS (fun row => row) recK1 1 := by
  refine ⟨fun _ h => h, ⟨encLinearRep 1⟩, ?_⟩
  intro cw hcw hsz mask hml hpres
  obtain ⟨hlen, hdrop⟩ := hcw
  match cw, hlen with
  | [a, b], _ =>
    have hb : b = a := by
      simp only [List.drop_succ_cons, List.drop_zero, List.take_succ_cons, List.take_zero, List.cons.injEq, and_true] at hdrop
      exact hdrop
    have hne : a.isEmpty = false := by
      have := hsz a (by simp)
      cases ha : a with
      | nil => rw [ha] at this; simp at this
      | cons x xs => rfl
    rw [hb]
    match mask, hml with
    | [true, true], _ => simp [erase, recK1, hne]
    | [true, false], _ => simp [erase, recK1, hne]
    | [false, true], _ => simp [erase, recK1]
    | [false, false], _ => simp at hpres

/-- **Joint non-vacuity at k = 2**: there is an encoder on 512-byte shares that is shape-correct, bytewise LINEAR over a
    field structure on bytes, and MDS — the [4,2] code `(a, b) ↦ (a, b, a + b, a + α·b)` over GF(2^8) (Mathlib's `GaloisField 2 8`
    through a bijection with bytes, `α ∉ {0, 1}`), with the decoder "the codeword consistent with the present symbols".
    So the hypotheses of `extend_spec` / `any_half_reconstructs` (and of C07's `befp_sound_honest_block`) are jointly
    satisfiable beyond the repetition code. -/
theorem joint_witness_k2 :
    ∃ (enc rec : List Bytes → List Bytes), EncShape enc 2 ∧ Nonempty (EncLinear enc 2 512) ∧ MDS enc rec 2 :=
  ⟨Lumina.Proofs.EdsWitness.enc2, Lumina.Proofs.EdsWitness.rec2, Lumina.Proofs.EdsWitness.encShape2,
    ⟨Lumina.Proofs.EdsWitness.encLinear2⟩, Lumina.Proofs.EdsWitness.mds2⟩

end Lumina.Props.C08

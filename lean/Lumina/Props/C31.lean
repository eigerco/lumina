/-
  C31 — Network head selection follows the best-head rule.

  Model: Lumina/Model/HeadSelect.lean.  Spec: Lumina/Spec/C31.lean.
-/
import Lumina.Proofs.HeadSelect
import Lumina.Gen.C31

namespace Lumina.Props.C31
open Lumina.Util Lumina.Model.HeadSelect Lumina.Proofs.HeadSelect
open Lumina.Spec.C31 (specBestHead specRecipients specFanout PeerInfo)

def toInfo (p : Peer) : PeerInfo := { id := p.id, connected := p.connected, trusted := p.trusted }

/-- the numbers the rule quotes; and the fan-out is small enough for std's `sort_unstable` to be
    its (stable) insertion sort, which is what the model transcribes -/
theorem consts_eq :
    Lumina.Gen.C31.MIN_HEAD_RESPONSES = 2 ∧ Lumina.Gen.C31.MIN_HEAD_RESPONSES = MIN_HEAD_RESPONSES ∧
    Lumina.Gen.C31.MAX_PEERS = 10 ∧ Lumina.Gen.C31.MAX_PEERS ≤ 20 := by decide

/-- **the best-head rule**, for every list of peer answers (any number of peers, any mix of valid
    single headers, errors, failures, multi-header answers, forks, duplicates) -/
theorem bestHead_spec (as : List Ans) :
    specBestHead ((valid as).map toSpec) ((bestHead as).map toSpec) = true :=
  spec_of_rule _ _ (bestHead_rule as)

/-- **independent of response order**: the head chosen from ANY reordering of the answers obeys the
    rule stated over the original answers -/
theorem bestHead_order_independent (as as' : List Ans) (hp : as.Perm as') :
    specBestHead ((valid as).map toSpec) ((bestHead as').map toSpec) = true :=
  spec_of_rule _ _ (rule_perm _ _ (valid_perm as as' hp).symm _ (bestHead_rule as'))

/-- … and two orderings can differ at most in which of several equally good headers is named:
    same height, same "reported by at least two peers" status, and a head exists for one iff for the other -/
theorem bestHead_order_unique (as as' : List Ans) (hp : as.Perm as') :
    match bestHead as, bestHead as' with
    | some a, some b => a.height = b.height ∧ (votes (valid as) a ≥ 2 ↔ votes (valid as) b ≥ 2)
    | none, none => True
    | _, _ => False :=
  rule_unique (valid as) _ _ (bestHead_rule as) (rule_perm _ _ (valid_perm as as' hp).symm _ (bestHead_rule as'))

/-- **sent only to connected trusted peers**, each once, at most 10, nobody eligible left out
    while fewer than 10 were asked — for every peer population -/
theorem recipients_spec (peers : List Peer) (hnd : (peers.map (·.id)).Nodup) :
    specRecipients (peers.map toInfo) ((selectPeers Lumina.Gen.C31.MAX_PEERS peers).map (·.id)) = true := by
  rw [consts_eq.2.2.1]
  unfold specRecipients selectPeers
  simp only [Bool.and_eq_true, Bool.or_eq_true, List.all_eq_true, decide_eq_true_eq, List.any_eq_true,
    List.mem_map, List.length_map, beq_iff_eq, List.contains_eq_mem]
  refine ⟨⟨⟨?_, ?_⟩, ?_⟩, ?_⟩
  · rintro i ⟨p, hp, rfl⟩
    have hf := List.mem_of_mem_take hp
    rw [List.mem_filter] at hf
    refine ⟨toInfo p, ⟨p, hf.1, rfl⟩, ?_⟩
    simpa [toInfo] using hf.2
  · have hs : ((List.filter (fun p => p.connected && p.trusted) peers).take 10).Sublist peers :=
      (List.take_sublist _ _).trans List.filter_sublist
    exact hnd.sublist (hs.map _)
  · rw [List.length_take]; omega
  · by_cases hl : (List.filter (fun p => p.connected && p.trusted) peers).length ≤ 10
    · right
      rw [List.take_of_length_le hl]
      rintro q hq
      rw [List.mem_filter, List.mem_map] at hq
      obtain ⟨⟨p, hp, rfl⟩, he⟩ := hq
      refine ⟨p, ?_, rfl⟩
      rw [List.mem_filter]
      exact ⟨hp, by simpa [toInfo] using he⟩
    · left
      rw [List.length_take]; omega

/-- **every waiting caller receives the same answer**: when the best-head task finishes with a head,
    each caller waiting at that moment (early or late) gets exactly that header, once, and the queue empties -/
theorem fanout_spec (mp : Nat) (s : State) (closed : List Nat) (answers : List Ans) (h : Hdr)
    (hb : bestHead answers = some h) :
    let r := step mp s closed (.done answers)
    specFanout s.waiting (toSpec h)
      (r.2.filterMap (fun o => match o with | .answer c x => some (c, toSpec x) | _ => none)) = true ∧
    r.1.waiting = [] ∧ r.1.scheduled = false := by
  have hf : (s.waiting.map (fun c => Out.answer c h)).filterMap
      (fun o => match o with | .answer c x => some (c, toSpec x) | _ => none) =
      s.waiting.map (fun c => (c, toSpec h)) := by
    rw [List.filterMap_map]
    exact congrFun (List.filterMap_eq_map (f := fun c => (c, toSpec h))) s.waiting
  simp only [step, hb, hf, specFanout, List.all_map, List.map_map, Bool.and_eq_true, List.all_eq_true,
    beq_iff_eq, and_true]
  exact ⟨fun _ _ => beq_self_eq_true _, List.map_id _⟩

/-- no valid answer: nobody is answered, the callers keep waiting and the request is re-armed -/
theorem retry_when_nothing_valid (mp : Nat) (s : State) (closed : List Nat) (answers : List Ans)
    (hv : valid answers = []) :
    step mp s closed (.done answers) = ({ s with scheduled := false }, []) := by
  simp [step, bestHead_none hv]

/-- a HEAD request goes out only for a live waiting caller, only when none is in flight, and only
    to the selected peers -/
theorem schedule_sends (mp : Nat) (s : State) (closed : List Nat) (peers : List Peer) (to : List Nat)
    (h : Out.sent to ∈ (step mp s closed (.schedule peers)).2) :
    s.scheduled = false ∧ (∃ c ∈ s.waiting, c ∉ closed) ∧ to = (selectPeers mp peers).map (·.id) ∧ to ≠ [] := by
  simp only [step] at h
  by_cases h1 : (s.waiting.isEmpty || s.scheduled) = true
  · rw [if_pos h1] at h; cases h
  · rw [if_neg h1] at h
    by_cases h2 : (s.waiting.filter (fun c => !closed.contains c)).isEmpty = true
    · rw [if_pos h2] at h; cases h
    · rw [if_neg h2] at h
      by_cases h3 : (selectPeers mp peers).isEmpty = true
      · rw [if_pos h3] at h; cases h
      · rw [if_neg h3, List.mem_singleton, Out.sent.injEq] at h
        simp only [Bool.or_eq_true, not_or, Bool.not_eq_true] at h1
        refine ⟨h1.2, ?_, h, ?_⟩
        · obtain ⟨c, hc⟩ := List.exists_mem_of_ne_nil _ (mt List.isEmpty_iff.mpr h2)
          rw [List.mem_filter] at hc
          exact ⟨c, hc.1, by simpa using hc.2⟩
        · rw [h]
          exact fun e => h3 (List.isEmpty_iff.mpr (List.map_eq_nil_iff.mp e))

/-- non-vacuity: three peers report a fork; the doubly reported lower header wins over a single higher one -/
example : bestHead [.single ⟨7, [1]⟩, .other, .single ⟨9, [2]⟩, .single ⟨7, [1]⟩] = some ⟨7, [1]⟩ := by decide +kernel
example : bestHead [.single ⟨7, [1]⟩, .other, .single ⟨9, [2]⟩] = some ⟨9, [2]⟩ := by decide +kernel
example : ([⟨1, true, true⟩, ⟨2, true, false⟩, ⟨3, false, true⟩] : List Peer).map (·.id) |>.Nodup := by decide

end Lumina.Props.C31

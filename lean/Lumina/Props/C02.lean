/-
  C02 — Header chain verification accepts exactly linked successors.

  Model: Lumina/Model/HeaderVerify.lean (`verify`, `verifyAdjacent`, `verifyRange`,
  `verifyAdjacentRange`, `verifiedTryFrom`) — run against the real `ExtendedHeader::verify*`
  and `VerifiedExtendedHeaders::try_from` by the correspondence check.
  Spec:  Lumina/Spec/C02.lean (`linkOK`, `chainOK`, `spec…`).

  Every theorem holds for ALL headers, ALL lists (any length), ALL clock values `now` and ALL
  signature oracles.  The only hypothesis (where the 1/3 tally is involved) is what tendermint
  establishes for a decoded validator set: stored total = sum of powers.
-/
import Lumina.Props.C03
import Lumina.Model.HeaderVerifyBridge
import Lumina.Proofs.HeaderVerify
import Lumina.Gen.C02

namespace Lumina.Props.C02
open Lumina.Model.Commit Lumina.Model.HeaderVerify Lumina.Spec.C02 Lumina.Gen.C02

/-- the constants of the source are the numbers the property states: ten seconds, one third -/
theorem consts_eq :
    VERIFY_CLOCK_DRIFT = 10 * 1000000000 ∧ DEFAULT_TRUST_NUM = 1 ∧ DEFAULT_TRUST_DEN = 3 := by decide

/-- what the driver runs -/
def verifyM (ok : Oracle) (now : Int) (tr un : Hdr) : VOut :=
  verify ok VERIFY_CLOCK_DRIFT DEFAULT_TRUST_NUM DEFAULT_TRUST_DEN now tr un
def verifyAdjacentM (ok : Oracle) (now : Int) (tr un : Hdr) : VOut :=
  verifyAdjacent ok VERIFY_CLOCK_DRIFT DEFAULT_TRUST_NUM DEFAULT_TRUST_DEN now tr un
def verifyRangeFromM (oks : Nat → Oracle) (now : Int) (i : Nat) (tr : Hdr) (l : List Hdr) : VOut :=
  verifyRangeFrom oks VERIFY_CLOCK_DRIFT DEFAULT_TRUST_NUM DEFAULT_TRUST_DEN now i tr l
def verifyRangeM (oks : Nat → Oracle) (now : Int) (tr : Hdr) (l : List Hdr) : VOut :=
  verifyRange oks VERIFY_CLOCK_DRIFT DEFAULT_TRUST_NUM DEFAULT_TRUST_DEN now tr l
def verifyAdjacentRangeM (oks : Nat → Oracle) (now : Int) (tr : Hdr) (l : List Hdr) : VOut :=
  verifyAdjacentRange oks VERIFY_CLOCK_DRIFT DEFAULT_TRUST_NUM DEFAULT_TRUST_DEN now tr l
def verifiedTryFromM (oks : Nat → Oracle) (now : Int) (l : List Hdr) : VOut :=
  verifiedTryFrom oks VERIFY_CLOCK_DRIFT DEFAULT_TRUST_NUM DEFAULT_TRUST_DEN now l

theorem ofCommit_ok (o : Outcome) : ofCommit o = .ok ↔ o = .ok := by
  cases o <;> simp [ofCommit]

theorem verify_ok_iff_gen (ok : Oracle) (drift tn td : Nat) (now : Int) (tr un : Hdr) :
    verify ok drift tn td now tr un = .ok ↔
      (un.height > tr.height ∧ un.chainId = tr.chainId ∧ un.time > tr.time ∧
       un.time < now + (drift : Int) ∧
       (if tr.height + 1 = un.height then
          un.validatorsHash = tr.nextValidatorsHash ∧ un.lastHeaderHash = tr.hash
        else verifyCommitLightTrusting ok tn td tr.valset un.sigs = .ok)) := by
  unfold verify
  by_cases h1 : un.height ≤ tr.height
  case pos => simp [h1]; omega
  by_cases h2 : un.chainId = tr.chainId
  case neg => simp [h1, h2]
  by_cases h3 : un.time > tr.time
  case neg => simp [h1, h2, h3]
  by_cases h4 : un.time < now + (drift : Int)
  case neg => simp [h1, h2, h3, h4]
  have h1' : un.height > tr.height := by omega
  by_cases h5 : tr.height + 1 = un.height
  · by_cases h6 : un.validatorsHash = tr.nextValidatorsHash
    · by_cases h7 : un.lastHeaderHash = tr.hash
      · simp [h1, h2, h3, h4, h5, h6, h7, h1']
      · simp [h1, h2, h3, h4, h5, h6, h7, h1']
    · simp [h1, h2, h3, h4, h5, h6, h1']
  · simp [h1, h2, h3, h4, h5, h1', ofCommit_ok]

/-- **exact characterisation of `verify`** (model level): it succeeds iff the untrusted header
    has a greater height, the same chain id, a strictly later time that is less than ten seconds
    ahead of the clock, and — adjacent: carries the trusted header's next-validators hash and
    names the trusted header's hash as its parent; non-adjacent: trusting commit verification
    at trust level 1/3 against the TRUSTED validator set succeeds -/
theorem verify_ok_iff (ok : Oracle) (now : Int) (tr un : Hdr) :
    verifyM ok now tr un = .ok ↔
      (un.height > tr.height ∧ un.chainId = tr.chainId ∧ un.time > tr.time ∧
       un.time < now + 10000000000 ∧
       (if tr.height + 1 = un.height then
          un.validatorsHash = tr.nextValidatorsHash ∧ un.lastHeaderHash = tr.hash
        else verifyCommitLightTrusting ok 1 3 tr.valset un.sigs = .ok)) :=
  verify_ok_iff_gen ok 10000000000 1 3 now tr un

theorem trustedPower_eq (ok : Oracle) (tr un : Hdr) :
    trustedPower ok (toH tr) (toH un) =
      Lumina.Spec.C03.validPowerTrusting (specInput tr.valset 0 0 un.sigs) ok := rfl

/-- **Verifying an untrusted header against a trusted one succeeds only if** it has a greater
    height, the same chain id, a strictly later time less than ten seconds ahead of the local
    clock, and, when adjacent, names the trusted header as its parent and the trusted header's
    next validator set as its own; **a non-adjacent header instead needs valid commit signatures
    from trusted validators holding more than one third of the trusted power.** -/
theorem verify_spec (ok : Oracle) (now : Int) (tr un : Hdr)
    (hT : tr.valset.total = sumPowers tr.valset.vals) :
    specVerify ok now (toH tr) (toH un) (decide (verifyM ok now tr un = .ok)) = true := by
  unfold specVerify
  by_cases hacc : verifyM ok now tr un = .ok
  · obtain ⟨h1, h2, h3, h4, h5⟩ := (verify_ok_iff ok now tr un).mp hacc
    have hl : linkOK ok now (toH tr) (toH un) = true := by
      refine (Lumina.Proofs.HeaderVerify.linkOK_toH_iff ok now tr un).mpr ⟨h1, h2, h3, h4, ?_⟩
      by_cases hadj : tr.height + 1 = un.height
      · rwa [if_pos hadj] at h5 ⊢
      · rw [if_neg hadj] at h5 ⊢
        rw [← hT]
        exact Lumina.Props.C03.trusting_sound_level ok 1 3 tr.valset un.sigs h5
    rw [hl, Bool.or_true]
  · simp [hacc]

/-- for ADJACENT headers the conditions are sufficient too: accepted exactly when linked -/
theorem verify_adjacent_exact (ok : Oracle) (now : Int) (tr un : Hdr) :
    specVerifyAdjacentExact ok now (toH tr) (toH un) (decide (verifyM ok now tr un = .ok)) = true := by
  unfold specVerifyAdjacentExact
  by_cases hadj : un.height = tr.height + 1
  · have h1 := verify_ok_iff ok now tr un
    have h2 := Lumina.Proofs.HeaderVerify.linkOK_toH_iff ok now tr un
    rw [if_pos hadj.symm] at h1 h2
    refine Bool.or_eq_true_iff.mpr (Or.inr ?_)
    rw [beq_iff_eq, Bool.eq_iff_iff, decide_eq_true_iff, h1, h2]
  · exact Bool.or_eq_true_iff.mpr (Or.inl (by simp [toH, hadj]))

/-- `verify_adjacent` = adjacency + `verify` -/
theorem verifyAdjacent_ok_iff (ok : Oracle) (now : Int) (tr un : Hdr) :
    verifyAdjacentM ok now tr un = .ok ↔ tr.height + 1 = un.height ∧ verifyM ok now tr un = .ok := by
  unfold verifyAdjacentM verifyAdjacent verifyM
  by_cases h : tr.height + 1 = un.height <;> simp [h]

/-- **`verify_adjacent` accepts exactly the adjacent linked successors** -/
theorem verifyAdjacent_exact (ok : Oracle) (now : Int) (tr un : Hdr) :
    specVerifyAdjacentOp ok now (toH tr) (toH un) (decide (verifyAdjacentM ok now tr un = .ok)) = true := by
  unfold specVerifyAdjacentOp
  rw [beq_iff_eq, Bool.eq_iff_iff, decide_eq_true_iff, verifyAdjacent_ok_iff,
    Lumina.Proofs.HeaderVerify.chainStep_iff (verify_adjacent_exact ok now tr un)]
  exact and_congr_left' eq_comm

/-- the adjacency-enforcing part of the range loop (every step but the first) is EXACTLY the
    spec's chain condition, for lists of any length -/
theorem verifyRangeFrom_iff (oks : Nat → Oracle) (now : Int) (l : List Hdr) :
    ∀ (i : Nat) (tr : Hdr), i ≠ 0 →
      (verifyRangeFromM oks now i tr l = .ok ↔ chainOK oks now i (toH tr) (l.map toH) = true) := by
  induction l with
  | nil => intro i tr _; simp [verifyRangeFromM, verifyRangeFrom, chainOK]
  | cons un rest ih =>
    intro i tr hi
    -- one step of the spec's chain is `verify_adjacent_exact`; beside it one turn of the loop
    rw [List.map_cons, chainOK, Bool.and_eq_true,
      Lumina.Proofs.HeaderVerify.chainStep_iff (verify_adjacent_exact (oks i) now tr un), and_assoc,
      ← ih (i + 1) un (by omega), verifyRangeFromM, Lumina.Proofs.HeaderVerify.verifyRangeFrom_cons_ok,
      imp_iff_right hi]
    rfl

/-- **exact characterisation of `verify_range`**: the first element must `verify` against the
    trusted header (adjacent or not), every later element must be the linked adjacent successor
    of its predecessor -/
theorem verifyRange_ok_iff (oks : Nat → Oracle) (now : Int) (tr : Hdr) (l : List Hdr) :
    verifyRangeM oks now tr l = .ok ↔
      match l with
      | [] => True
      | un :: rest => verifyM (oks 0) now tr un = .ok ∧
          chainOK oks now 1 (toH un) (rest.map toH) = true := by
  cases l with
  | nil => simp [verifyRangeM, verifyRange, verifyRangeFrom]
  | cons un rest =>
    rw [verifyRangeM, verifyRange, Lumina.Proofs.HeaderVerify.verifyRangeFrom_cons_ok]
    exact (and_iff_right fun h0 => absurd rfl h0).trans
      (and_congr_right' (verifyRangeFrom_iff oks now rest 1 un (by omega)))

/-- **Range verification accepts a list only if every element verifies against its predecessor
    and heights are consecutive.** -/
theorem verifyRange_spec (oks : Nat → Oracle) (now : Int) (tr : Hdr) (l : List Hdr)
    (hT : tr.valset.total = sumPowers tr.valset.vals) :
    specRange oks now (toH tr) (l.map toH) (decide (verifyRangeM oks now tr l = .ok)) = true := by
  unfold specRange
  by_cases hacc : verifyRangeM oks now tr l = .ok
  · have h := (verifyRange_ok_iff oks now tr l).mp hacc
    cases l with
    | nil => simp
    | cons un rest =>
      simp only at h
      have hv := verify_spec (oks 0) now tr un hT
      unfold specVerify at hv
      simp only [h.1, decide_true, Bool.not_true, Bool.false_or] at hv
      simp [hacc, hv, h.2]
  · simp [hacc]

theorem decide_beq_of_iff {P : Prop} [Decidable P] {b : Bool} (h : P ↔ b = true) :
    (decide P == b) = true := by
  cases b <;> simp_all

theorem verifyAdjacentRange_iff (oks : Nat → Oracle) (now : Int) (tr : Hdr) (l : List Hdr) :
    verifyAdjacentRangeM oks now tr l = .ok ↔ chainOK oks now 0 (toH tr) (l.map toH) = true := by
  cases l with
  | nil => simp [verifyAdjacentRangeM, verifyAdjacentRange, chainOK]
  | cons un rest =>
    rw [List.map_cons, chainOK, Bool.and_eq_true,
      Lumina.Proofs.HeaderVerify.chainStep_iff (verify_adjacent_exact (oks 0) now tr un), and_assoc,
      verifyAdjacentRangeM, verifyAdjacentRange]
    by_cases h : tr.height + 1 = un.height
    · rw [if_neg (not_not_intro h)]
      exact (verifyRange_ok_iff oks now tr (un :: rest)).trans (and_iff_right h.symm).symm
    · rw [if_pos h]; exact ⟨nofun, fun h' => absurd h'.1.symm h⟩

/-- **`verify_adjacent_range` accepts exactly the linked chains of consecutive heights** -/
theorem verifyAdjacentRange_exact (oks : Nat → Oracle) (now : Int) (tr : Hdr) (l : List Hdr) :
    specAdjacentRangeExact oks now (toH tr) (l.map toH)
      (decide (verifyAdjacentRangeM oks now tr l = .ok)) = true :=
  decide_beq_of_iff (verifyAdjacentRange_iff oks now tr l)

/-- soundness form of the same (what the driver checks on the implementation's verdict) -/
theorem verifyAdjacentRange_spec (oks : Nat → Oracle) (now : Int) (tr : Hdr) (l : List Hdr) :
    specAdjacentRange oks now (toH tr) (l.map toH)
      (decide (verifyAdjacentRangeM oks now tr l = .ok)) = true := by
  have h := verifyAdjacentRange_exact oks now tr l
  unfold specAdjacentRangeExact at h
  rw [beq_iff_eq] at h
  unfold specAdjacentRange
  rw [← h]
  cases decide (verifyAdjacentRangeM oks now tr l = .ok) <;> rfl

/-- **`VerifiedExtendedHeaders::try_from`** constructs the value exactly for the empty list and
    for lists whose tail is a linked chain of consecutive heights starting at the head -/
theorem verified_headers_exact (oks : Nat → Oracle) (now : Int) (l : List Hdr) :
    verifiedTryFromM oks now l = .ok ↔
      match l with
      | [] => True
      | head :: tail => chainOK oks now 0 (toH head) (tail.map toH) = true := by
  cases l with
  | nil => simp [verifiedTryFromM, verifiedTryFrom]
  | cons head tail =>
    have h := verifyAdjacentRange_iff oks now head tail
    unfold verifyAdjacentRangeM at h
    simpa [verifiedTryFromM, verifiedTryFrom] using h

/-! ### non-vacuity -/

def exSet : ValSet := { vals := [⟨[1], 1⟩, ⟨[2], 1⟩, ⟨[3], 1⟩], total := 3 }
def mk (height : Nat) (time : Int) (vh nvh lhh h : Nat) (sigs : List CSig) : Hdr :=
  { height := height, chainId := [99], time := time, validatorsHash := some [UInt8.ofNat vh],
    nextValidatorsHash := some [UInt8.ofNat nvh], lastHeaderHash := some [UInt8.ofNat lhh],
    hash := some [UInt8.ofNat h], valset := exSet, sigs := sigs }
def hA : Hdr := mk 5 100 1 2 9 5 []
def hB : Hdr := mk 6 200 2 2 5 6 []
def hB' : Hdr := mk 6 200 2 2 4 6 []
def cs (a : UInt8) : CSig := { flag := .commit, addr := [a], hasSig := true }
def hC : Hdr := mk 9 300 1 2 9 7 [cs 2, cs 3]
def hC' : Hdr := mk 9 300 1 2 9 7 [cs 2]

example : hA.valset.total = sumPowers hA.valset.vals := by decide +kernel
example : verifyM (fun _ _ => true) 1000 hA hB = .ok := by decide +kernel
example : verifyM (fun _ _ => true) 1000 hA hB' = .err .lastHeaderHash := by decide +kernel
example : verifyM (fun _ _ => true) 1000 hA hC = .ok := by decide +kernel
example : verifyM (fun _ _ => true) 1000 hA hC' = .err (.commit (.notEnough 1 1)) := by decide +kernel
example : verifyM (fun _ _ => true) (-10000000000 + 200) hA hB = .err .timeFuture := by decide +kernel
example : verifyRangeM (fun _ _ _ => true) 1000 hA [hB] = .ok := by decide +kernel
example : chainOK (fun _ _ _ => true) 1000 0 (toH hA) [toH hB] = true := by decide +kernel

end Lumina.Props.C02

/-
  C27 — Verified header range requests terminate and never panic.

  Model: Lumina/Model/HeaderRange.lean (`P2p::get_verified_headers_range`) = the session model
  (C26) driven against a simulated header-ex client that answers like the real one (the C28
  model: `is_valid` gate + `decode_and_verify_responses` over what the peers send).  The network
  `Net` — how many headers the peers hold, in which order outstanding requests are answered, how
  each answer is truncated or replaced by NOT_FOUND / INVALID — is arbitrary, as are `from`'s
  height, the amount (any natural number, in particular every `u64`) and the step budget.
-/
import Lumina.Proofs.HeaderRange
import Lumina.Gen.C27
import Lumina.Spec.C27

namespace Lumina.Props.C27
open Lumina.Model.Session (State Cfg init result Range)
open Lumina.Model.HeaderExClient (Hdr)
open Lumina.Model.HeaderRange
open Lumina.Proofs.Session (Inv Full)
open Lumina.Proofs.HeaderRange
open Lumina.Spec.C27

def cfg : Cfg :=
  { minAmount := Lumina.Gen.C27.MIN_AMOUNT_PER_REQ, maxAmount := Lumina.Gen.C27.MAX_AMOUNT_PER_REQ,
    maxConcurrent := Lumina.Gen.C27.MAX_CONCURRENT_REQS }

theorem consts_eq :
    cfg.maxAmount = 64 ∧ cfg.minAmount = 8 ∧ cfg.maxConcurrent = 8 ∧ Lumina.Gen.C27.HASH_SIZE = 32 := by
  decide

/-- the current code (with the `fix:` commits in p2p.rs and header_ex/client.rs) -/
def model (i : Input) : Out := getVerifiedHeadersRangeG true true cfg Lumina.Gen.C27.HASH_SIZE i

def specIn (i : Input) : In :=
  { fromValid := i.fromValid, fromHeight := i.fromHeight, sameChain := i.sameChain, amount := i.amount,
    chainLen := i.net.chainLen, progressing := i.net.beh.all Beh.progressing, fuel := i.fuel }

def obsOf : Out → Obs
  | .ok hs steps => .ok (hs.map (·.height)) steps
  | .err _ steps => .err steps
  | .panic => .panic
  | .hang => .hang

/-- **prompt for zero**: an amount of 0 returns `Ok([])` without issuing a single request,
    whatever the network does -/
theorem zero_amount_prompt (i : Input) (hv : i.fromValid = true) (h0 : i.amount = 0) :
    model i = .ok [] 0 := by
  simp [model, getVerifiedHeadersRangeG, hv, h0]

/-- the main branch of the model: the session on the range `from+1 ..= from+amount` -/
theorem model_main (i : Input) (hv : i.fromValid = true) (h0 : i.amount ≠ 0)
    (hfit : i.fromHeight + i.amount ≤ U64_MAX) :
    model i =
      match drive 32 true i.net i.fuel 0 (init cfg (i.fromHeight + 1, i.fromHeight + i.amount)) with
      | .panic => .panic
      | .hang => .hang
      | .done s steps =>
        match s.status with
        | .panicked => .panic
        | .failed => .err "Fatal" steps
        | .running =>
          if verifyAdjacentRange i.fromHeight i.sameChain (result ht s) then .ok (result ht s) steps
          else .err "InvalidResponse" steps := by
  have h1 : ¬ U64_MAX < i.fromHeight + 1 := by omega
  have h2 : ¬ U64_MAX < i.fromHeight + i.amount := by omega
  have h3 : i.fromHeight + 1 + (i.amount - 1) = i.fromHeight + i.amount := by omega
  have hnp : ¬ ((init cfg (i.fromHeight + 1, i.fromHeight + i.amount) : State Hdr).status = .panicked) := by
    rw [(inv_init_from cfg (by decide) h0 hfit).1.running]; decide
  have hs32 : Lumina.Gen.C27.HASH_SIZE = 32 := rfl
  simp only [model, getVerifiedHeadersRangeG, hv, Bool.not_true, Bool.false_eq_true, ↓reduceIte,
    Bool.true_and, beq_iff_eq, h0, h1, h2, h3, hnp, hs32]
  rfl

/-- the session state reached by the drive satisfies the C26 invariant -/
theorem model_drive (i : Input) (h0 : i.amount ≠ 0) (hfit : i.fromHeight + i.amount ≤ U64_MAX) :
    drive 32 true i.net i.fuel 0 (init cfg (i.fromHeight + 1, i.fromHeight + i.amount)) ≠ .panic ∧
    ∀ s' steps, drive 32 true i.net i.fuel 0 (init cfg (i.fromHeight + 1, i.fromHeight + i.amount)) = .done s' steps →
      s'.status = .failed ∨
        (Inv ht 64 (i.fromHeight + 1, i.fromHeight + i.amount) s' ∧ Full 8 s' ∧ s'.tasks = []) := by
  have hi := inv_init_from cfg (by decide) h0 hfit
  exact drive_inv i.net _ (fromRange_valid h0 hfit) i.fuel 0 _ hi.1 hi.2

/-- **never panics**: for every `from` height (a `u64` below the maximum; real heights are
    below `i64::MAX`), every amount, every network and every schedule -/
theorem never_panics (i : Input) (hh : i.fromHeight < U64_MAX) : model i ≠ .panic := by
  rcases call_cases cfg Lumina.Gen.C27.HASH_SIZE i hh with h | ⟨_, _, h⟩ | ⟨hv, h0, hfit⟩
  · rw [model, h]; nofun
  · rw [model, h]; nofun
  · rw [model_main i hv h0 hfit]
    exact (finish_spec (model_drive i h0 hfit) _ _).1

/-- whenever the call returns `Ok`, it returns headers of exactly the requested heights
    `from+1, …, from+amount`, in order -/
theorem ok_exact (i : Input) (hh : i.fromHeight < U64_MAX) (hs : List Hdr) (steps : Nat)
    (h : model i = .ok hs steps) :
    hs.map (·.height) = List.range' (i.fromHeight + 1) i.amount ∧ (i.amount = 0 ∨ i.sameChain = true) := by
  rcases call_cases cfg Lumina.Gen.C27.HASH_SIZE i hh with he | ⟨_, h0, he⟩ | ⟨hv, h0, hfit⟩
  · rw [model, he] at h; cases h
  · rw [model, he] at h; cases h
    simp [h0]
  · rw [model_main i hv h0 hfit] at h
    obtain ⟨s, hinv, hfull, hdone, rfl, hver⟩ := (finish_spec (model_drive i h0 hfit) _ _).2 hs steps h
    have hres := result_from hinv hfull (by decide) h0 hdone
    -- a non-empty result passed `verify_adjacent_range`
    refine ⟨hres, .inr (sameChain_of_verify (fun e => h0 ?_) hver)⟩
    simpa [e] using (congrArg List.length hres).symm

theorem progressing_cyc (l : List Beh) (h : l.all Beh.progressing = true) :
    ∀ j, (cyc l j .full).progressing = true :=
  cyc_all Beh.progressing l h .full rfl

/-- **served ⇒ exactly those headers**: when `from` is a valid header of the chain the peers
    serve, the peers hold every requested height and every answer delivers at least one requested
    header (full OR truncated answers) — in ANY order — the call returns exactly the chain's headers
    `from+1 ..= from+amount`, within `amount` answered requests -/
theorem served_returns_exactly (i : Input) (hserved : served (specIn i) = true)
    (hchain : i.net.chainLen ≤ U64_MAX) :
    ∃ steps, steps ≤ i.amount ∧
      model i = .ok ((List.range' (i.fromHeight + 1) i.amount).map chainHdr) steps := by
  simp only [served, specIn, Bool.and_eq_true] at hserved
  obtain ⟨⟨⟨⟨⟨hv, hsame⟩, hfull⟩, hamt⟩, hcov⟩, hfuel⟩ := hserved
  have hamt := of_decide_eq_true hamt
  have hcov := of_decide_eq_true hcov
  have hfuel := of_decide_eq_true hfuel
  have h0 : i.amount ≠ 0 := by omega
  have hfit : i.fromHeight + i.amount ≤ U64_MAX := by omega
  have hr := fromRange_valid h0 hfit
  have hi := inv_init_from cfg (by decide) h0 hfit
  -- nothing received yet, so the whole range is still owed
  have hresp0 := Lumina.Proofs.Session.init_responses (α := Hdr) cfg
    (i.fromHeight + 1, i.fromHeight + i.amount)
  have hrem := Lumina.Proofs.Session.inv_length hi.1
  rw [hresp0, rangeLen_from h0] at hrem
  simp only [List.flatten_nil, List.length_nil, Nat.zero_add] at hrem
  obtain ⟨s', steps, hd, hinv, hfull', htasks, hch, hsteps⟩ :=
    drive_served (by decide) (by decide) i.net _ hr hcov (progressing_cyc _ hfull) i.fuel 0 _ hi.1 hi.2
      (by intro x hx; rw [hresp0] at hx; cases hx) (by omega)
  refine ⟨steps, by omega, ?_⟩
  rw [model_main i hv h0 hfit, hd]
  simp only [hinv.running]
  have hres := result_from hinv hfull' (by decide) h0 htasks
  -- every returned header is the chain's header of its height
  have hreseq : result ht s' = (List.range' (i.fromHeight + 1) i.amount).map chainHdr := by
    rw [← hres, List.map_map]
    conv => lhs; rw [← List.map_id (result ht s')]
    exact List.map_congr_left fun x hx =>
      hch x ((Lumina.Proofs.Session.result_perm ht s').mem_iff.mp hx)
  have hver : verifyAdjacentRange i.fromHeight i.sameChain (result ht s') = true := by
    unfold verifyAdjacentRange
    split
    · rfl
    · have hl : (result ht s').length = i.amount := by rw [hreseq]; simp
      simp [hres, hl, hsame]
  rw [if_pos hver, hreseq]

/-- **C27, all inputs / networks / schedules**: the observable outcome satisfies the property's
    checker — never a panic; no hang for amount 0; exactly the requested headers whenever `Ok`;
    `Ok` whenever the network serves every requested header. -/
theorem range_spec (i : Input) (hh : i.fromHeight < U64_MAX) (hchain : i.net.chainLen ≤ U64_MAX) :
    specOK (specIn i) (obsOf (model i)) = true := by
  have ha : (specIn i).amount = i.amount := rfl
  have hf : (specIn i).fromHeight = i.fromHeight := rfl
  have hc : (specIn i).sameChain = i.sameChain := rfl
  rcases call_cases cfg Lumina.Gen.C27.HASH_SIZE i hh with h | ⟨_, h0, h⟩ | ⟨_, h0, _⟩
  · -- refused at once; such a call is not served, a served one returns `Ok`
    have hs : served (specIn i) = false := by
      cases hs : served (specIn i) with
      | false => rfl
      | true =>
        obtain ⟨_, _, he⟩ := served_returns_exactly i hs hchain
        rw [model, h] at he
        cases he
    rw [model, h]
    simp [obsOf, specOK, prompt, hs]
  · rw [model, h]
    simp [obsOf, specOK, prompt, ha, h0]
  · cases hs : served (specIn i) with
    | true =>
      obtain ⟨steps, hle, he⟩ := served_returns_exactly i hs hchain
      have hex := ok_exact i hh _ _ he
      simpa [he, obsOf, specOK, prompt, hs, hex.1, hle, h0, ha, hf, hc] using hex.2
    | false =>
      cases hm : model i with
      | panic => exact absurd hm (never_panics i hh)
      | hang => simp [obsOf, specOK, hs, ha, h0]
      | ok hs' steps =>
        have hex := ok_exact i hh hs' steps hm
        simpa [obsOf, specOK, prompt, hs, hex.1, ha, hf, hc, h0] using hex.2
      | err e steps => simp [obsOf, specOK, prompt, hs, ha, h0]

/-! ### the code BEFORE the `fix:` commit violated the property twice -/

theorem ofClient_cyc (l : List Beh) (h : l.all Beh.ofClient = true) :
    ∀ j, (cyc l j .full).ofClient = true :=
  cyc_all Beh.ofClient l h .full rfl

/-- amount 0: the session asks for 0 headers at `from+1`, the client refuses the request
    (`InvalidRequest`), the session retries — for ever: not finished after ANY number of steps,
    whatever the peers send (every answer goes through the header-ex client) -/
theorem pre_fix_zero_amount_hangs (net : Net) (hnet : net.beh.all Beh.ofClient = true) (fuel : Nat) :
    getVerifiedHeadersRangeG false true cfg 32
      { fromValid := true, fromHeight := 5, sameChain := true, amount := 0, net, fuel } = .hang := by
  have hloop := drive_zero_amount net (ofClient_cyc _ hnet) (s := init cfg (6, 5)) (h := 6) rfl rfl fuel 0
  have h1 : ¬ U64_MAX < 5 + 1 := by decide
  simp only [getVerifiedHeadersRangeG, Bool.not_true, Bool.false_eq_true, ↓reduceIte, Bool.false_and,
    h1, Nat.add_zero, Nat.add_one_sub_one, hloop]
  decide

/-- `height + amount - 1` overflowed `u64` (debug build panic) -/
theorem pre_fix_overflow_panics (net : Net) (fuel : Nat) :
    getVerifiedHeadersRangeG false true cfg 32
      { fromValid := true, fromHeight := 5, sameChain := true, amount := U64_MAX - 5, net, fuel } = .panic := by
  have h5 : 6 ≤ U64_MAX := by decide
  have h1 : ¬ U64_MAX < 5 + 1 := by omega
  have h2 : U64_MAX < 5 + 1 + (U64_MAX - 5) := by omega
  simp only [getVerifiedHeadersRangeG, Bool.not_true, Bool.false_eq_true, ↓reduceIte, Bool.false_and,
    h1, h2]

/-! ### non-vacuity -/

def demoNet : Net := { chainLen := 100, order := [3, 0, 5], beh := [.full] }
def demoIn : Input :=
  { fromValid := true, fromHeight := 5, sameChain := true, amount := 20, net := demoNet, fuel := 20 }

example : demoNet.beh.all Beh.ofClient = true := by decide
example : served (specIn demoIn) = true := by decide
example : demoIn.fromHeight < U64_MAX ∧ demoIn.net.chainLen ≤ U64_MAX := by decide
example : model demoIn = .ok ((List.range' 6 20).map chainHdr) 3 := by decide +kernel
/-- truncating but progressing peers (at most 3 headers per answer, some full): still served,
    returns the 20 headers after 9 answers -/
def truncNet : Net := { chainLen := 100, order := [3, 0, 5], beh := [.atMost 3, .full, .atMost 1] }
example : served (specIn { demoIn with net := truncNet }) = true := by decide
example : ∃ steps, steps ≤ 20 ∧
    model { demoIn with net := truncNet } = .ok ((List.range' 6 20).map chainHdr) steps :=
  served_returns_exactly { demoIn with net := truncNet } (by decide) (by decide)
/-- peers that only ever say NOT_FOUND: the call keeps waiting — a `hang` outcome that the
    property does not exclude (the network does not serve) -/
example : model { demoIn with net := { demoNet with beh := [.notFound] } } = .hang := by decide +kernel

/-- an empty but successful answer (`Ok(vec![])`) stores nothing and reschedules the same
    request; mixed with answers that deliver, the call still returns exactly the 20 headers -/
example : model { demoIn with net := { demoNet with beh := [.emptyOk, .full] }, fuel := 40 }
    = .ok ((List.range' 6 20).map chainHdr) 6 := by decide +kernel
/-- only `Ok(vec![])`: never finishes (the network does not serve) -/
example : model { demoIn with net := { demoNet with beh := [.emptyOk] } } = .hang := by decide +kernel
/-- the responder of the third answered request is dropped: the non-HeaderEx error is
    returned at once, after 3 answered requests -/
example : model { demoIn with net := { demoNet with beh := [.full, .full, .dropped] } } = .err "Fatal" 3 := by decide +kernel

end Lumina.Props.C27

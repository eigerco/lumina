/-
  The convergence half of C38 under a FAIRNESS hypothesis (`Lumina/Model/SyncerLoop.lean`, on top of
  `Lumina/Proofs/SyncerLoop.lean`), for ARBITRARY interleavings of events.

  From what one reaction does (`SyncerLoop.Reaction`, field by field `Effect`): the store only
  grows, the head only moves up, the side conditions
  `Bounded` / `Aux` (everything at or below a bound `M`; nothing pruned, slow-sync not armed) and
  `Busy` (an idle connected worker has nothing to schedule) are kept by every admissible event.
  The potential `pot p M og` = gaps of a set `p` of heights in `[1, M]`, + 1 when the ongoing request
  `og` already meets `p` (what a header-sub insertion can do to a forward batch) never increases and
  strictly decreases at every honest answer, for every way `f` of reading `p` off the store that
  `Tracks` it (stored heights: `Phi`; synced heights: `ComposeSyncerPrune.PhiP`).  The variant
  argument itself is `converges_of_variant`; `fair_converges` is its instance.

  Core Lean only.
-/
import Lumina.Proofs.SyncerLoop

namespace Lumina.Proofs.SyncerFair
open Lumina.Model.Store (Hdr)
open Lumina.Spec.C19
open Lumina.Model.SyncerLoop
open Lumina.Proofs.Store
open Lumina.Proofs.SyncerLoop
open Lumina.Model.SyncerGate (fetchDecision fetchDecisionWith)

/-- the state after the first `k` events of an infinite event sequence -/
def trace (e : Env) (s0 : State) (evs : Nat → Ev) : Nat → State
  | 0 => s0
  | k + 1 => (step e (trace e s0 evs k) (evs k)).1

theorem run_append (e : Env) : ∀ (l1 l2 : List Ev) (s : State), run e s (l1 ++ l2) = run e (run e s l1) l2
  | [], _, _ => rfl
  | ev :: l1, l2, s => by simp only [List.cons_append, run]; exact run_append e l1 l2 _

theorem stays {σ : Type} {tr : Nat → σ} {P : σ → Prop} (h : ∀ k, P (tr k) → P (tr (k + 1)))
    {i j : Nat} (hij : i ≤ j) (hi : P (tr i)) : P (tr j) := by
  induction hij with
  | refl => exact hi
  | step _ ih => exact h _ ih

/-- **The variant argument.**  Along a sequence of states on which a potential never increases,
    if — as long as `Done` fails — there is always a later moment that is `Done` or at which the
    potential strictly decreases, then `Done` holds again and again. -/
theorem converges_of_variant {σ : Type} {tr : Nat → σ} {Φ : σ → Nat} {Done : σ → Prop}
    (hle : ∀ k, Φ (tr (k + 1)) ≤ Φ (tr k))
    (hfair : ∀ i, ¬ Done (tr i) → ∃ j, i ≤ j ∧ (Done (tr j) ∨ Φ (tr (j + 1)) < Φ (tr j))) :
    ∀ i, ∃ k, i ≤ k ∧ Done (tr k) := by
  have key : ∀ n i, Φ (tr i) < n → ∃ k, i ≤ k ∧ Done (tr k) := by
    intro n
    induction n with
    | zero => intro i h; omega
    | succ n ih =>
      intro i hn
      by_cases hs : Done (tr i)
      · exact ⟨i, Nat.le_refl _, hs⟩
      obtain ⟨j, hij, hj | hlt⟩ := hfair i hs
      · exact ⟨j, hij, hj⟩
      have : Φ (tr j) ≤ Φ (tr i) :=
        stays (P := fun s => Φ s ≤ Φ (tr i)) (fun k hk => Nat.le_trans (hle k) hk) hij (Nat.le_refl _)
      obtain ⟨k, hk1, hk2⟩ := ih (j + 1) (by omega)
      exact ⟨k, by omega, hk2⟩
  exact fun i => key _ i (Nat.lt_succ_self _)

theorem fetch_phase (e : Env) (s : State) : (fetchNextBatch e s).1.phase = s.phase := by
  rcases fetch_cases e s with ⟨h, _⟩ | ⟨_, _, h⟩ <;> rw [h]

theorem step_store_cases (e : Env) (s : State) (ev : Ev) :
    (step e s ev).1.store = s.store ∨
    (step e s ev).1.store = (s.store.insert e.verify (evHdrs ev)).1 :=
  step_keeps (P := fun s' => s'.store = s.store ∨ s'.store = (s.store.insert e.verify (evHdrs ev)).1)
    (fun s2 _ h => by rw [fetch_store]; exact h) fun _ _ hr => hr.effect.store

theorem step_stored_mono (e : Env) (s : State) (ev : Ev) (h : Nat) (hs : s.store.stored h = true) :
    (step e s ev).1.store.stored h = true := by
  rcases step_store_cases e s ev with hc | hc <;> rw [hc]
  · exact hs
  · exact insert_stored_mono _ _ _ _ hs

theorem step_missing_le (e : Env) (s : State) (ev : Ev) (lo hi : Nat) :
    missing (step e s ev).1.store lo hi ≤ missing s.store lo hi := by
  rcases step_store_cases e s ev with hc | hc <;> rw [hc]
  · exact Nat.le_refl _
  · exact missing_insert_le _ _ _ _ _

theorem step_head_mono (e : Env) (s : State) (ev : Ev) (H : Nat) (hh : s.head = some H) :
    ∃ H', H ≤ H' ∧ (step e s ev).1.head = some H' :=
  step_keeps (P := fun s' => ∃ H', H ≤ H' ∧ s'.head = some H')
    (fun s2 _ h => by rw [fetch_head]; exact h) fun _ _ hr => hr.effect.head H hh

/-- the heads the environment announces stay at or below `M` -/
def EvBelow (M : Nat) : Ev → Prop
  | .netHead h => h.height ≤ M
  | .headerSub h => h.height ≤ M
  | _ => True

/-- side conditions of the convergence argument, preserved by every admissible event:
    batch size ≥ 1, slow-sync not armed, nothing pruned, every stored height / the subjective
    head / the ongoing request at or below `M`; a connected worker has a peer and a head -/
structure Aux (M : Nat) (s : State) : Prop where
  batch : 1 ≤ s.batchSize
  slow : s.slowSync = none
  unpruned : s.store.pruned = []
  below : ∀ x ∈ s.store.hdrs, x.height ≤ M
  headLe : ∀ h, s.head = some h → h ≤ M
  ongoingLe : ∀ r, s.ongoing = some r → r.2 ≤ M
  connPeers : s.phase = .connected → s.peers ≠ 0
  connHead : s.phase = .connected → ∃ h, s.head = some h

/-- the part of `Aux` that survives pruning and an armed slow-sync height -/
structure Bounded (M : Nat) (s : State) : Prop where
  batch : 1 ≤ s.batchSize
  below : ∀ x ∈ s.store.hdrs, x.height ≤ M
  headLe : ∀ h, s.head = some h → h ≤ M
  ongoingLe : ∀ r, s.ongoing = some r → r.2 ≤ M
  connPeers : s.phase = .connected → s.peers ≠ 0
  connHead : s.phase = .connected → ∃ h, s.head = some h

theorem Aux.bounded {M : Nat} {s : State} (ha : Aux M s) : Bounded M s :=
  ⟨ha.batch, ha.below, ha.headLe, ha.ongoingLe, ha.connPeers, ha.connHead⟩

theorem bounded_fetch {e : Env} {s : State} {M : Nat} (hi : AbsInv s.store) (hb : Bounded M s) :
    Bounded M (fetchNextBatch e s).1 := by
  rcases fetch_cases e s with ⟨h, _⟩ | ⟨r, hdec, h⟩ <;> rw [h]
  · exact hb
  · exact ⟨hb.batch, hb.below, hb.headLe,
      fun r' hr' => by cases hr'; exact request_le hi hb.below hb.headLe hdec, hb.connPeers, hb.connHead⟩

theorem bounded_noticed {e : Env} {s : State} {M : Nat} {h : Hdr} {a' : AbsStore} {H : Nat}
    (hb : Bounded M s) (hh : h.height ≤ M) (hn : Noticed e s h a' H) :
    Bounded M { s with store := a', head := some H } := by
  refine ⟨hb.batch, ?_, fun h' hh' => ?_, hb.ongoingLe, hb.connPeers, fun _ => ⟨H, rfl⟩⟩
  · rcases hn.store with rfl | rfl
    · exact hb.below
    · exact insert_below _ _ _ M hb.below fun last hl => by cases hl; exact hh
  · cases hh'
    exact hn.head.elim (fun e => e ▸ hh) (hb.headLe _)

theorem bounded_insert {s : State} {M : Nat} (hb : Bounded M s) (v : Hdr → Hdr → Bool) (b : List Hdr)
    (hl : ∀ last, b.getLast? = some last → last.height ≤ M) :
    Bounded M { s with store := (s.store.insert v b).1 } :=
  ⟨hb.batch, insert_below v _ _ M hb.below hl, hb.headLe, hb.ongoingLe, hb.connPeers, hb.connHead⟩

theorem bounded_idle {s : State} {M : Nat} {sl : Option Nat} (hb : Bounded M s) :
    Bounded M { s with ongoing := none, slowSync := sl } :=
  ⟨hb.batch, hb.below, hb.headLe, nofun, hb.connPeers, hb.connHead⟩

theorem step_bounded {v : Hdr → Hdr → Bool} {c : Nat → Hdr} {e : Env} {M : Nat} {s : State}
    (hi : Inv c s) (hb : Bounded M s) {ev : Ev} (hok : EvOk v c s ev) (hbl : EvBelow M ev) :
    Bounded M (step e s ev).1 := by
  refine step_keeps (fun s2 hr => bounded_fetch (hr.abs hi.abs hok)) fun s2 f hr => ?_
  cases hr with
  | skip => exact hb
  | peers n hn => exact ⟨hb.batch, hb.below, hb.headLe, hb.ongoingLe, hn, hb.connHead⟩
  | disconnect n _ => exact ⟨hb.batch, hb.below, hb.headLe, nofun, nofun, nofun⟩
  | init h a' H _ hn _ => exact bounded_noticed hb hbl hn
  | connect h a' H _ hn _ hp =>
    have := bounded_noticed hb hbl hn
    exact ⟨this.batch, this.below, this.headLe, this.ongoingLe, fun _ => hp, fun _ => ⟨H, rfl⟩⟩
  | headerSub h a' H _ hn => exact bounded_noticed hb hbl hn
  | failed r _ _ => exact bounded_idle (sl := s.slowSync) hb
  | answered r hs _ hon =>
    refine bounded_insert (bounded_idle hb) _ hs fun last hl => ?_
    rw [(p2pAccepts_spec (hok.1 r hon)).2.2 last hl]
    exact hb.ongoingLe r hon

theorem step_aux {v : Hdr → Hdr → Bool} {c : Nat → Hdr} {e : Env}
    (hP : ∀ h, e.chain.oldP h = false) {M : Nat} {s : State} (hi : Inv c s) (ha : Aux M s)
    {ev : Ev} (hok : EvOk v c s ev) (hbl : EvBelow M ev) : Aux M (step e s ev).1 := by
  have hb := step_bounded (e := e) hi ha.bounded hok hbl
  refine ⟨hb.batch, ?_, ?_, hb.below, hb.headLe, hb.ongoingLe, hb.connPeers, hb.connHead⟩
  · refine step_keeps (P := fun s' => s'.slowSync = none) (fun s2 _ h => ?_) fun s2 _ hr => ?_
    · rcases fetch_cases e s2 with ⟨h', _⟩ | ⟨_, _, h'⟩ <;> rw [h'] <;> exact h
    · rcases hr.effect.slow with h5 | ⟨l, h5⟩ <;> rw [h5, ha.slow]
      exact slowSyncScan_none _ hP l
  · rcases step_store_cases e s ev with hc | hc <;> rw [hc]
    · exact ha.unpruned
    · exact insert_unpruned _ _ _ ha.unpruned

/-- a connected worker without an ongoing batch has nothing to schedule -/
def Busy (e : Env) (s : State) : Prop :=
  s.phase = .connected → s.ongoing = none → (fetchNextBatch e s).2 = none

theorem fetch_busy (e : Env) (s : State) : Busy e (fetchNextBatch e s).1 := by
  intro _ hon
  rcases fetch_cases e s with ⟨h, _⟩ | ⟨r, _, h⟩
  · rw [h]; exact congrArg Prod.snd h
  · rw [h] at hon; cases hon

/-- the decision reads the number of connected peers only through `== 0` -/
theorem fetch_peers (e : Env) (s : State) (n : Nat) (hn : n ≠ 0) (hs : s.peers ≠ 0) :
    (fetchNextBatch e { s with peers := n }).2 = (fetchNextBatch e s).2 := by
  have hd : fetchDecision e.slowMin (gateIn e { s with peers := n }) = fetchDecision e.slowMin (gateIn e s) := by
    have h1 : (n == 0) = false := by simpa using hn
    have h2 : (s.peers == 0) = false := by simpa using hs
    simp only [fetchDecision, fetchDecisionWith, gateIn, h1, h2, Lumina.Model.SyncerGate.slowSyncStop,
      Lumina.Model.SyncerGate.windowGate]
    rfl
  unfold fetchNextBatch
  rw [hd]
  split <;> rfl

/-- after every event the worker either just ran `fetch_next_batch`, or — if it is connected — it
    was connected before and nothing but the (non-zero) number of peers has changed -/
theorem step_busy_cases (e : Env) (s : State) (ev : Ev) :
    Busy e (step e s ev).1 ∨
    ((step e s ev).1.phase = .connected →
      s.phase = .connected ∧ ∃ n, (n = s.peers ∨ n ≠ 0) ∧ (step e s ev).1 = { s with peers := n }) := by
  obtain ⟨s2, f, hr, eq⟩ := step_reaction e s ev
  rw [eq]
  cases hr with
  | skip => exact Or.inr fun hph => ⟨hph, _, Or.inl rfl, rfl⟩
  | peers n hn => exact Or.inr fun hph => ⟨hph, n, Or.inr (hn hph), rfl⟩
  | disconnect => exact Or.inr nofun
  | init h a' H hph' _ _ =>
    exact Or.inr fun hph => by have h : s.phase = .connected := hph; rw [hph'] at h; cases h
  | connect | headerSub | failed | answered => exact Or.inl (fetch_busy e _)

theorem step_busy {e : Env} {M : Nat} {s : State} (ha : Aux M s) (hb : Busy e s) (ev : Ev) :
    Busy e (step e s ev).1 := by
  rcases step_busy_cases e s ev with h | h
  · exact h
  · intro hph hon
    obtain ⟨hph', n, hn, e1⟩ := h hph
    rw [e1] at hon ⊢
    rcases hn with rfl | hn
    · exact hb hph' hon
    · rw [fetch_peers e s n hn (ha.connPeers hph')]; exact hb hph' hon

/-!
  `Phi` is what C38's statements speak of, written out over the stored heights (`overlaps`,
  `stale`, `phi`).  Everything is proved of `pot p` over an arbitrary set `p` of heights, of which
  `Phi` is the instance `p = stored` (`Phi_eq_Pot`, by `rfl`). -/

/-- some height of the range is stored -/
def overlaps (a : AbsStore) (r : Lumina.Model.Ranges.Range) : Bool :=
  (List.range' r.1 (r.2 + 1 - r.1)).any a.stored

/-- 1 when the ongoing request already overlaps the store (its honest answer will be rejected by
    `insert` with `HeaderRangeOverlap`; this is what a header-sub insertion does to an ongoing
    forward batch), 0 otherwise -/
def stale (a : AbsStore) : Option Lumina.Model.Ranges.Range → Nat
  | some r => if overlaps a r then 1 else 0
  | none => 0

def phi (M : Nat) (a : AbsStore) (og : Option Lumina.Model.Ranges.Range) : Nat := missing a 1 M + stale a og

/-- the potential of a state: missing heights of `[1, M]` + staleness of the ongoing request -/
def Phi (M : Nat) (s : State) : Nat := phi M s.store s.ongoing

/-- 1 when the request meets the set `p` -/
def hit (p : Nat → Bool) : Option Lumina.Model.Ranges.Range → Nat
  | some r => if (List.range' r.1 (r.2 + 1 - r.1)).any p then 1 else 0
  | none => 0

/-- `phi` for an arbitrary set `p` of heights in place of the stored ones -/
def pot (p : Nat → Bool) (M : Nat) (og : Option Lumina.Model.Ranges.Range) : Nat := gaps p 1 M + hit p og

theorem any_range_false {p : Nat → Bool} {r : Lumina.Model.Ranges.Range} :
    (List.range' r.1 (r.2 + 1 - r.1)).any p = false ↔ ∀ k, r.1 ≤ k → k ≤ r.2 → p k = false := by
  simp only [List.any_eq_false, List.mem_range'_1, Bool.not_eq_true]
  exact ⟨fun h k h1 h2 => h k ⟨h1, by omega⟩, fun h k hk => h k hk.1 (by omega)⟩

theorem pot_none_le (p : Nat → Bool) (M : Nat) (og : Option Lumina.Model.Ranges.Range) :
    pot p M none ≤ pot p M og := Nat.le_add_right _ _

theorem pot_fresh {p : Nat → Bool} {r : Lumina.Model.Ranges.Range} (M : Nat)
    (h : ∀ k, r.1 ≤ k → k ≤ r.2 → p k = false) : pot p M (some r) = pot p M none := by
  simp only [pot, hit, any_range_false.2 h, Bool.false_eq_true, ↓reduceIte]

/-- A larger set has no larger potential: if it newly meets the ongoing request it has a new
    element inside that request. -/
theorem pot_mono {p q : Nat → Bool} (hpq : ∀ h, p h = true → q h = true) {M : Nat}
    {og : Option Lumina.Model.Ranges.Range} (hog : ∀ r, og = some r → 1 ≤ r.1 ∧ r.2 ≤ M) :
    pot q M og ≤ pot p M og := by
  have hle := gaps_le hpq 1 M
  cases og with
  | none => exact hle
  | some r =>
    obtain ⟨h1, h2⟩ := hog r rfl
    simp only [pot, hit]
    cases ho : (List.range' r.1 (r.2 + 1 - r.1)).any p with
    | true => simp only [↓reduceIte]; split <;> omega
    | false =>
      cases ho' : (List.range' r.1 (r.2 + 1 - r.1)).any q with
      | false => simpa using hle
      | true =>
        obtain ⟨k, hk, k3⟩ := List.any_eq_true.1 ho'
        simp only [List.mem_range'_1] at hk
        have := gaps_lt hpq (lo := 1) (hi := M) (k := k) (by omega) (by omega)
          (any_range_false.1 ho k hk.1 (by omega)) k3
        simp only [↓reduceIte, Bool.false_eq_true]; omega

theorem pot_answer_lt {p q : Nat → Bool} (hpq : ∀ h, p h = true → q h = true) {M : Nat}
    {r : Lumina.Model.Ranges.Range} (h1 : 1 ≤ r.1) (h12 : r.1 ≤ r.2) (h2 : r.1 ≤ M)
    (hnew : (∀ k, r.1 ≤ k → k ≤ r.2 → p k = false) → q r.1 = true) :
    pot q M none < pot p M (some r) := by
  simp only [pot, hit]
  cases ho : (List.range' r.1 (r.2 + 1 - r.1)).any p with
  | true => have := gaps_le hpq 1 M; simp only [↓reduceIte]; omega
  | false =>
    have hf := any_range_false.1 ho
    have := gaps_lt hpq h1 h2 (hf r.1 (Nat.le_refl _) h12) (hnew hf)
    simp only [Bool.false_eq_true, ↓reduceIte]; omega

/-- a set of heights read off the store that contains the stored heights, only grows under
    insertion and is avoided by every freshly scheduled request -/
structure Tracks (f : AbsStore → Nat → Bool) : Prop where
  stored : ∀ a k, a.stored k = true → f a k = true
  insert : ∀ v a b k, f a k = true → f (a.insert v b).1 k = true
  request : ∀ {e : Env} {s : State} {r : Lumina.Model.Ranges.Range}, AbsInv s.store →
    fetchDecision e.slowMin (gateIn e s) = .ok (.request r) → ∀ k, r.1 ≤ k → k ≤ r.2 → f s.store k = false

theorem tracks_stored : Tracks AbsStore.stored :=
  ⟨fun _ _ h => h, insert_stored_mono, fun hi h _ h1 h2 => (request_unsynced hi h h1 h2).1⟩

def Pot (f : AbsStore → Nat → Bool) (M : Nat) (s : State) : Nat := pot (f s.store) M s.ongoing

theorem Phi_eq_Pot (M : Nat) (s : State) : Phi M s = Pot AbsStore.stored M s := by
  unfold Phi Pot
  cases s.ongoing <;> rfl

section tracks
variable {f : AbsStore → Nat → Bool} (ht : Tracks f)
include ht

/-- a fresh request avoids the tracked set -/
theorem Pot_fetch (e : Env) (s : State) (M : Nat) (hi : AbsInv s.store) :
    Pot f M (fetchNextBatch e s).1 = Pot f M s := by
  rcases fetch_cases e s with ⟨h, _⟩ | ⟨r, hdec, h⟩ <;> rw [h]
  obtain ⟨_, _, hnone, _⟩ := request_shape hi hdec
  simp only [Pot, hnone]
  exact pot_fresh M (ht.request hi hdec)

/-- **The potential never increases, whatever the event** (a peer-count change, a network head, a
    header-sub announcement, an error or ANY accepted — adversarial or honest — answer). -/
theorem step_Pot_le {v : Hdr → Hdr → Bool} {c : Nat → Hdr} {e : Env} {M : Nat} {s : State}
    (hi : Inv c s) (hle : ∀ r, s.ongoing = some r → r.2 ≤ M) {ev : Ev} (hok : EvOk v c s ev) :
    Pot f M (step e s ev).1 ≤ Pot f M s := by
  refine step_keeps (P := fun s' => Pot f M s' ≤ Pot f M s) (fun s2 hr h => ?_) fun s2 _ hr => ?_
  · rw [Pot_fetch ht _ _ _ (hr.abs hi.abs hok)]
    exact h
  · have hst : ∀ og, (∀ r, og = some r → 1 ≤ r.1 ∧ r.2 ≤ M) →
        pot (f s2.store) M og ≤ pot (f s.store) M og := by
      intro og hog
      rcases hr.effect.store with h2 | h2 <;> rw [h2]
      · exact Nat.le_refl _
      · exact pot_mono (ht.insert _ _ _) hog
    unfold Pot
    rcases hr.effect.ongoing with h3 | h3 <;> rw [h3]
    · exact hst _ fun r hon => ⟨(hi.ongoingNb r hon).1, hle r hon⟩
    · exact Nat.le_trans (hst none nofun) (pot_none_le _ _ _)

/-- **Every honest answer strictly decreases the potential**: if the ongoing request still avoids
    the tracked set the honest headers are accepted and store at least one missing height of
    `[1, M]`; if it is stale the answer is rejected, but the next request is fresh. -/
theorem honest_answer_Pot_lt {c : Nat → Hdr} {e : Env} (hc : HonestChain e.verify c) {M : Nat} (hM : M < Lumina.Model.Ranges.U64_MAX) {s : State} (hi : Inv c s)
    (hle : ∀ r, s.ongoing = some r → r.2 ≤ M) (hph : s.phase = .connected)
    {r : Lumina.Model.Ranges.Range} (hon : s.ongoing = some r) :
    Pot f M (step e s (.batch (some (span c r.1 (r.2 + 1 - r.1))))).1 < Pot f M s := by
  obtain ⟨h1, h2, hnb⟩ := hi.ongoingNb r hon
  have hrM := hle r hon
  rw [step_answered e _ hph hon, Pot_fetch ht _ _ _ (insert_inv _ _ _ hi.abs (span_wf hc (by omega)))]
  show pot (f (s.store.insert e.verify (span c r.1 (r.2 + 1 - r.1))).1) M none < pot (f s.store) M s.ongoing
  rw [hon]
  refine pot_answer_lt (ht.insert _ _ _) h1 h2 (by omega) fun hf => ht.stored _ _ ?_
  have hacc := honest_span_accepted hc s.store hi.onchain r.1 r.2 h1 h2
    (fun x hx hb => by
      have := hf x.height hb.1 hb.2
      rw [ht.stored _ _ (stored_of_mem hx)] at this
      cases this) hnb
  exact (insert_accepted_first _ _ _ _ _ hacc).2

end tracks

theorem step_phi_le {v : Hdr → Hdr → Bool} {c : Nat → Hdr} {e : Env} {M : Nat} {s : State}
    (hi : Inv c s) (ha : Aux M s) {ev : Ev} (hok : EvOk v c s ev) :
    Phi M (step e s ev).1 ≤ Phi M s := by
  rw [Phi_eq_Pot, Phi_eq_Pot]
  exact step_Pot_le tracks_stored hi ha.ongoingLe hok

theorem honest_answer_phi_lt {c : Nat → Hdr} {e : Env} (hc : HonestChain e.verify c) {M : Nat} (hM : M < Lumina.Model.Ranges.U64_MAX) {s : State} (hi : Inv c s)
    (ha : Aux M s) (hph : s.phase = .connected) {r : Lumina.Model.Ranges.Range} (hon : s.ongoing = some r) :
    Phi M (step e s (.batch (some (span c r.1 (r.2 + 1 - r.1))))).1 < Phi M s := by
  rw [Phi_eq_Pot, Phi_eq_Pot]
  exact honest_answer_Pot_lt tracks_stored hc hM hi ha.ongoingLe hph hon

/-- every height of the sampling window up to the subjective head is stored -/
def Synced (e : Env) (s : State) : Prop := ∃ H, s.head = some H ∧ WindowFull e s.store H

/-- the worker is in `connected_event_loop` and the event it is handed is the honest answer to
    its outstanding request (if it has one) -/
def HonestAnswerAt (c : Nat → Hdr) (s : State) (ev : Ev) : Prop :=
  s.phase = .connected ∧ ∀ r, s.ongoing = some r → ev = .batch (some (span c r.1 (r.2 + 1 - r.1)))

theorem not_full_requests {c : Nat → Hdr} {e : Env} {M : Nat} {s : State}
    (hmono : ∀ h1 h2, h1 ≤ h2 → e.chain.oldS h2 = true → e.chain.oldS h1 = true)
    (hM : M < Lumina.Model.Ranges.U64_MAX) (hi : Inv c s) (ha : Aux M s) (hph : s.phase = .connected)
    (hon : s.ongoing = none) {H : Nat} (hH : s.head = some H) (hnf : ¬ WindowFull e s.store H) :
    ∃ r, (fetchNextBatch e s).2 = some r := by
  obtain ⟨m, hm1, hm2, hm4, hm3⟩ := not_windowFull hnf
  have := ha.headLe H hH
  exact fetch_progress hi.abs hon (ha.connPeers hph) hH (by omega) ha.batch hmono
    (by rw [ha.unpruned]; nofun) (by rw [ha.slow]; nofun) hm1 hm2 hm3 hm4

/-- a peer-count change touches neither the store nor the head -/
theorem synced_peers (e : Env) (s : State) (n : Nat) (h : Synced e s) : Synced e (step e s (.peers n)).1 := by
  obtain ⟨H, h1, h2⟩ := h
  obtain ⟨s2, f, hr, eq⟩ := step_reaction e s (.peers n)
  rw [eq]
  cases hr with
  | skip _ hig => exact hig.elim
  | peers => exact ⟨H, h1, h2⟩
  | disconnect => exact ⟨H, h1, h2⟩

theorem fair_converges_of {e : Env} {tr : Nat → State} {Φ : State → Nat}
    {Ans : Nat → Lumina.Model.Ranges.Range → Prop}
    (hle : ∀ k, Φ (tr (k + 1)) ≤ Φ (tr k))
    (hidle : ∀ j, (tr j).phase = .connected → (tr j).ongoing = none → Synced e (tr j))
    (hlt : ∀ j r, (tr j).phase = .connected → (tr j).ongoing = some r → Ans j r →
      Φ (tr (j + 1)) < Φ (tr j))
    (hfair : ∀ i, ¬ Synced e (tr i) →
      ∃ j, i ≤ j ∧ (tr j).phase = .connected ∧ ∀ r, (tr j).ongoing = some r → Ans j r) :
    ∀ i, ∃ k, i ≤ k ∧ Synced e (tr k) := by
  refine converges_of_variant hle fun i hs => ?_
  obtain ⟨j, hij, hph, hans⟩ := hfair i hs
  refine ⟨j, hij, ?_⟩
  cases hon : (tr j).ongoing with
  | none => exact Or.inl (hidle j hph hon)
  | some r => exact Or.inr (hlt j r hph hon (hans r hon))

/-- everything the convergence argument maintains along a run -/
structure Good (c : Nat → Hdr) (e : Env) (M : Nat) (s : State) : Prop where
  inv : Inv c s
  aux : Aux M s
  busy : Busy e s

theorem good_init (c : Nat → Hdr) (e : Env) (M bs : Nat) (hbs : 1 ≤ bs) : Good c e M { batchSize := bs } where
  inv := inv_init c bs
  aux := ⟨hbs, rfl, rfl, nofun, nofun, nofun, nofun, nofun⟩
  busy := nofun

theorem step_good {c : Nat → Hdr} {e : Env} (hd : LinkDown e.verify c) (hu : LinkUp e.verify c)
    (hP : ∀ h, e.chain.oldP h = false) {M : Nat} {s : State} (hg : Good c e M s)
    {ev : Ev} (hok : EvOk e.verify c s ev) (hbl : EvBelow M ev) : Good c e M (step e s ev).1 :=
  ⟨step_inv hd hu hg.inv hok, step_aux hP hg.inv hg.aux hok hbl, step_busy hg.aux hg.busy ev⟩

section run
variable {c : Nat → Hdr} {e : Env} {M : Nat} {s0 : State} {evs : Nat → Ev}

theorem trace_good (hd : LinkDown e.verify c) (hu : LinkUp e.verify c)
    (hP : ∀ h, e.chain.oldP h = false) (hg0 : Good c e M s0)
    (hok : ∀ k, EvOk e.verify c (trace e s0 evs k) (evs k)) (hbl : ∀ k, EvBelow M (evs k))
    (k : Nat) : Good c e M (trace e s0 evs k) :=
  stays (fun k hg => step_good hd hu hP hg (hok k) (hbl k)) (Nat.zero_le k) hg0

/-- **Convergence under fairness.**  Along ANY infinite run of admissible events whose announced
    heads stay at or below `M`, if — as long as the window up to the head is not fully stored —
    there is always a later moment at which the connected worker is handed the honest answer to
    its outstanding request, then from every point of the run there is a later point at which
    every height of the sampling window up to the head is stored. -/
theorem fair_converges (hc : HonestChain e.verify c) (hd : LinkDown e.verify c) (hu : LinkUp e.verify c)
    (hP : ∀ h, e.chain.oldP h = false)
    (hmono : ∀ h1 h2, h1 ≤ h2 → e.chain.oldS h2 = true → e.chain.oldS h1 = true)
    (hM : M < Lumina.Model.Ranges.U64_MAX) (hg0 : Good c e M s0)
    (hok : ∀ k, EvOk e.verify c (trace e s0 evs k) (evs k)) (hbl : ∀ k, EvBelow M (evs k))
    (hfair : ∀ i, ¬ Synced e (trace e s0 evs i) →
      ∃ j, i ≤ j ∧ HonestAnswerAt c (trace e s0 evs j) (evs j)) :
    ∀ i, ∃ k, i ≤ k ∧ Synced e (trace e s0 evs k) := by
  have hg := trace_good hd hu hP hg0 hok hbl
  refine fair_converges_of (Φ := Phi M)
    (Ans := fun j r => evs j = .batch (some (span c r.1 (r.2 + 1 - r.1))))
    (fun k => step_phi_le (hg k).inv (hg k).aux (hok k)) (fun j hph hon => ?_)
    (fun j r hph hon ha => ?_) hfair
  · -- an idle connected worker whose window is not full would have something to schedule
    obtain ⟨H, hH⟩ := (hg j).aux.connHead hph
    refine ⟨H, hH, Classical.byContradiction fun hnf => ?_⟩
    obtain ⟨r, hr⟩ := not_full_requests hmono hM (hg j).inv (hg j).aux hph hon hH hnf
    rw [(hg j).busy hph hon] at hr
    cases hr
  · show Phi M (step e (trace e s0 evs j) (evs j)).1 < _
    rw [ha]
    exact honest_answer_phi_lt hc hM (hg j).inv (hg j).aux hph hon

theorem reached_forever {e : Env} {tr : Nat → State} (hconv : ∀ i, ∃ k, i ≤ k ∧ Synced e (tr k))
    (hhead : ∀ k H, (tr k).head = some H → ∃ H', H ≤ H' ∧ (tr (k + 1)).head = some H')
    (hkeep : ∀ k m, e.chain.oldS m = false → (tr k).store.stored m = true →
      (tr (k + 1)).store.stored m = true)
    (i H : Nat) (hH : (tr i).head = some H) :
    ∃ k, i ≤ k ∧ ∀ k', k ≤ k' → WindowFull e (tr k').store H := by
  obtain ⟨k, hik, H', hH', hfull⟩ := hconv i
  refine ⟨k, hik, fun k' hk' m h1 h2 h3 => ?_⟩
  obtain ⟨H'', hle, hH''⟩ := stays (P := fun s : State => ∃ H', H ≤ H' ∧ s.head = some H')
    (fun k ⟨H1, h1, h2⟩ => let ⟨H2, h3, h4⟩ := hhead k H1 h2; ⟨H2, by omega, h4⟩)
    hik ⟨H, Nat.le_refl _, hH⟩
  rw [hH'] at hH''
  cases hH''
  exact stays (P := fun s : State => s.store.stored m = true) (fun k => hkeep k m h3) hk'
    (hfull m h1 (by omega) h3)

end run

end Lumina.Proofs.SyncerFair

/-
  C10 inherits the containers' soundness: a sample block accepted by the multihasher carries the share at the
  coordinates of its CID in the square committed by the stored header at the CID's height.

  Here: what a decoded sample and a parsed identifier guarantee (sizes, well-formed proof nodes), read off the decoders'
  specification lemmas of `Proofs/DecodersRows.lean`; `decodedSample` names the sample the hash hypothesis of
  `mh_sample_sound` is relative to.
-/
import Lumina.Proofs.Eds
import Lumina.Model.ShwapHasher
import Lumina.Proofs.DecodersRows

namespace Lumina.Proofs.ShwapSound
open Lumina.Util Lumina.Model.Nmt Lumina.Model.Eds Lumina.Model.ShwapId Lumina.Model.Decoders Lumina.Model.ShwapHasher
open Lumina.Proofs.Nmt Lumina.Proofs.Eds Lumina.Proofs.Decoders
open Lumina.Model.Sample (shareFromRaw shareParity)

theorem share_ns_length {sh : Share} (h : NS_SIZE ≤ sh.data.length) : sh.ns.length = NS_SIZE :=
  Lumina.Proofs.Sample.share_ns_length h

theorem ofCid_ok {α : Type} {codec size mh : Nat} {decode : Bytes → Except Lumina.Model.ShwapId.Err α} {c : Cid} {id : α}
    (h : Lumina.Model.ShwapId.ofCid codec size mh decode c = .ok id) : decode c.digest = .ok id := by
  unfold Lumina.Model.ShwapId.ofCid at h
  split at h; · cases h
  split at h; · cases h
  split at h; · cases h
  split at h
  · cases h
  · rename_i hd; cases h; exact hd

/-- the sample a block carries for the multihasher: identifier from the block's CID, container decoded for it
    (`none` when one of the decoding steps fails) -/
def decodedSample (P : Params) (input : Bytes) : Option (SampleId × Lumina.Model.Sample.Sample) :=
  match P.decodeBlock input with
  | none => none
  | some (cidB, cont) =>
    match Cid.read cidB with
    | none => none
    | some cid =>
      match SampleId.ofCid cid with
      | .error _ => none
      | .ok id =>
        match P.decodeSample cont with
        | none => none
        | some raw =>
          match sampleFromRaw id.row.index id.column raw with
          | .ok s => some (id, s)
          | _ => none

theorem ofBytes?_WF {b : Bytes} {h : NsHash} (e : NsHash.ofBytes? b = some h) : h.WF := by
  unfold NsHash.ofBytes? at e
  split at e
  · rename_i hl
    injection e with e
    subst e
    simp only [NsHash.WF, NAMESPACED_HASH_SIZE, NS_SIZE, HASH_LEN] at hl ⊢
    simp [List.length_take, List.length_drop]; omega
  · cases e

theorem parseNodes_WF : ∀ {l : List Bytes} {hs : List NsHash}, parseNodes l = some hs → ∀ p ∈ hs, p.WF
  | [], hs, e, p, hp => by simp [parseNodes] at e; subst e; simp at hp
  | b :: rest, hs, e, p, hp => by
    simp only [parseNodes] at e
    cases h1 : NsHash.ofBytes? b with
    | none => simp [h1] at e
    | some h =>
      cases h2 : parseNodes rest with
      | none => simp [h1, h2] at e
      | some t =>
        simp only [h1, h2, Option.some.injEq] at e
        subst e
        rcases List.mem_cons.mp hp with rfl | hp
        · exact ofBytes?_WF h1
        · exact parseNodes_WF h2 p hp

theorem ofRaw_WF {st en : Nat} {nodes : List Bytes} {leaf : Bytes} {ign : Bool} {q : NsProof}
    (e : NsProof.ofRaw st en nodes leaf ign = some q) : ∀ p ∈ q.siblings, p.WF :=
  parseNodes_WF (ofRaw_eq_some e).1

theorem share_size {d : Bytes} {s : Share} (h : shareFromRaw d = .ok s ∨ shareParity d = .ok s) :
    s.data.length = SHARE_SIZE := by
  rcases h with h | h
  · unfold shareFromRaw at h
    split at h; · cases h
    rename_i hl
    split at h
    · cases h
    · cases h; simpa using hl
  · unfold shareParity at h
    split at h; · cases h
    rename_i hl
    cases h; simpa using hl

theorem sampleFromRaw_ok {row col : Nat} {raw : RawSample} {s : Lumina.Model.Sample.Sample}
    (e : sampleFromRaw row col raw = .ok s) : s.share.data.length = SHARE_SIZE ∧ ∀ p ∈ s.proof.siblings, p.WF := by
  obtain ⟨_, _, _, hq, _, hs⟩ := (sampleFromRaw_sat row col raw).of_ok e
  exact ⟨share_size hs, ofRaw_WF (proofFromRaw_eq_ok.mp hq)⟩

end Lumina.Proofs.ShwapSound

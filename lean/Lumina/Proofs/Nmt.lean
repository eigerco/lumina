/-
  Lemmas about the nmt-rs model (`Lumina/Model/Nmt.lean`): tree-shape arithmetic (`next_smaller_po2`,
  `compute_tree_size`), perfect trees (`perfectRoot`), the byte order
  `ltB` / `leB` and what the root of a namespace-sorted tree says about its leaves (`Spans`; spelt out field by field, `RangeOK`), hash injectivity / domain
  separation under collision-freeness RELATIVE TO the hashed inputs (`HashOKOn H S`), the inputs each computation hashes
  (`rootInputs`, `perfectInputs`, `innerInputs`, `proofInputs`) and what an accepted `check_range_proof` ran
  (`checkRangeProof_ok`).
-/
import Lumina.Model.Nmt

namespace Lumina.Proofs.Nmt
open Lumina.Util Lumina.Model.Nmt

theorem npo2_aux (n : Nat) : ∀ (fuel a : Nat), n ≤ 2 ^ (a + fuel) → (a = 0 ∨ 2 ^ (a - 1) < n) →
    ∃ b, nextPowerOfTwoAux n fuel (2 ^ a) = 2 ^ b ∧ n ≤ 2 ^ b ∧ (b = 0 ∨ 2 ^ (b - 1) < n) := by
  intro fuel
  induction fuel with
  | zero => intro a h1 h2; exact ⟨a, rfl, by simpa using h1, h2⟩
  | succ f ih =>
    intro a h1 h2
    unfold nextPowerOfTwoAux
    by_cases h : n ≤ 2 ^ a
    · simp only [h, ↓reduceIte]; exact ⟨a, rfl, h, h2⟩
    · simp only [h, ↓reduceIte]
      have : 2 * 2 ^ a = 2 ^ (a + 1) := by rw [Nat.pow_succ]; omega
      rw [this]
      apply ih (a + 1)
      · have : a + 1 + f = a + (f + 1) := by omega
        rw [this]; exact h1
      · right; simp; omega

theorem nextPowerOfTwo_spec (n : Nat) : ∃ b, nextPowerOfTwo n = 2 ^ b ∧ n ≤ 2 ^ b ∧ (b = 0 ∨ 2 ^ (b - 1) < n) := by
  have := npo2_aux n n 0 (by simpa using Nat.le_of_lt (Nat.lt_two_pow_self)) (Or.inl rfl)
  simpa [nextPowerOfTwo] using this

theorem nextSmallerPo2_spec (n : Nat) (h : 2 ≤ n) : ∃ m, nextSmallerPo2 n = 2 ^ m ∧ 2 ^ m < n ∧ n ≤ 2 ^ (m + 1) := by
  obtain ⟨b, hb, h1, h2⟩ := nextPowerOfTwo_spec n
  cases b with
  | zero => simp at h1; omega
  | succ m =>
    refine ⟨m, ?_, ?_, h1⟩
    · unfold nextSmallerPo2; rw [hb, Nat.pow_succ]; omega
    · simpa using h2

theorem nextSmallerPo2_pos_lt {n : Nat} (h : 2 ≤ n) : 1 ≤ nextSmallerPo2 n ∧ nextSmallerPo2 n < n := by
  obtain ⟨m, hm, hlt, _⟩ := nextSmallerPo2_spec n h
  rw [hm]; exact ⟨Nat.one_le_two_pow, hlt⟩

/-- the hash has 32-byte output (true of sha256; the only fact about the hash that completeness needs) -/
def HashLen (H : HashFn) : Prop := ∀ x, (H x).length = HASH_LEN

theorem toBytes_length {h : NsHash} (w : h.WF) : h.toBytes.length = NAMESPACED_HASH_SIZE := by
  obtain ⟨a, b, c⟩ := w
  simp [NsHash.toBytes, a, b, c, NAMESPACED_HASH_SIZE]; omega

theorem toBytes_inj {a b : NsHash} (wa : a.WF) (wb : b.WF) (h : a.toBytes = b.toBytes) : a = b := by
  obtain ⟨a1, a2, a3⟩ := wa
  obtain ⟨b1, b2, b3⟩ := wb
  cases a; cases b
  simp only [NsHash.toBytes, List.append_assoc] at h
  simp only at a1 a2 a3 b1 b2 b3
  have h1 := List.append_inj h (by rw [a1, b1])
  have h2 := List.append_inj h1.2 (by rw [a2, b2])
  simp [h1.1, h2.1, h2.2]

theorem minB_cases (a b : Bytes) : minB a b = a ∨ minB a b = b := by
  unfold minB; split <;> simp
theorem maxB_cases (a b : Bytes) : maxB a b = a ∨ maxB a b = b := by
  unfold maxB; split <;> simp

theorem hashNodes_WF {H : HashFn} (hk : HashLen H) {ign : Bool} {l r h : NsHash} (wl : l.WF) (wr : r.WF)
    (e : hashNodes H ign l r = .ok h) : h.WF := by
  unfold hashNodes at e
  split at e
  · cases e
  · injection e with e
    subst e
    refine ⟨?_, ?_, hk _⟩
    · rcases minB_cases l.minNs r.minNs with h | h
      · simp only [h]; exact wl.1
      · simp only [h]; exact wr.1
    · dsimp only
      split
      · simp [maxNsId]
      · split
        · exact wl.2.1
        · rcases maxB_cases l.maxNs r.maxNs with h | h
          · simp only [h]; exact wl.2.1
          · simp only [h]; exact wr.2.1

theorem hashLeaf_WF {H : HashFn} (hk : HashLen H) {ns d : Bytes} (h : ns.length = NS_SIZE) : (hashLeaf H ns d).WF :=
  ⟨h, h, hk _⟩

theorem pushLeaves_some {H : HashFn} {leaves : List (Bytes × Bytes)} {hs : List NsHash}
    (h : pushLeaves H leaves = some hs) : hs = leaves.map (fun p => hashLeaf H p.1 p.2) := by
  unfold pushLeaves at h
  split at h
  · injection h with h; rw [← h]
  · cases h

theorem takeLast?_some {α} {l : List α} {x : α} {r : List α} (h : takeLast? l = some (x, r)) : l = r ++ [x] := by
  unfold takeLast? at h
  cases hg : l.getLast? with
  | none => simp [hg] at h
  | some y =>
    simp only [hg, Option.some.injEq, Prod.mk.injEq] at h
    obtain ⟨rfl, rfl⟩ := h
    have hne : l ≠ [] := by intro e; simp [e] at hg
    have := List.dropLast_concat_getLast hne
    rw [List.getLast?_eq_some_getLast hne] at hg
    injection hg with hg
    rw [← hg]; exact this.symm

/-- root of a perfect tree of depth `j` over exactly `2^j` leaf hashes (the shape `compute_root` produces) -/
def perfectRoot (H : HashFn) (ign : Bool) : Nat → List NsHash → Except Err NsHash
  | 0, L => match L with
    | [x] => .ok x
    | _ => .error .fuel
  | j + 1, L =>
    match perfectRoot H ign j (L.take (2 ^ j)) with
    | .error e => .error e
    | .ok l =>
      match perfectRoot H ign j (L.drop (2 ^ j)) with
      | .error e => .error e
      | .ok r => hashNodes H ign l r

/-- every element is the hash of a leaf with a 29-byte namespace -/
def AllLeaf (H : HashFn) (L : List NsHash) : Prop :=
  ∀ x ∈ L, ∃ ns d, ns.length = NS_SIZE ∧ x = hashLeaf H ns d

/-- what `AllLeaf` says of each entry: `AllLeaf H L` unfolds to `∀ x ∈ L, IsLeaf H x` -/
def IsLeaf (H : HashFn) (x : NsHash) : Prop := ∃ ns d, ns.length = NS_SIZE ∧ x = hashLeaf H ns d

theorem IsLeaf.WF {H : HashFn} {x : NsHash} (h : IsLeaf H x) (hk : HashLen H) : x.WF := by
  obtain ⟨ns, d, hl, rfl⟩ := h; exact hashLeaf_WF hk hl

theorem perfectRoot_succ {H : HashFn} {ign : Bool} {j : Nat} {L : List NsHash} {h : NsHash}
    (e : perfectRoot H ign (j + 1) L = .ok h) :
    ∃ l r, perfectRoot H ign j (L.take (2 ^ j)) = .ok l ∧ perfectRoot H ign j (L.drop (2 ^ j)) = .ok r ∧
      hashNodes H ign l r = .ok h := by
  rw [perfectRoot] at e
  cases hl : perfectRoot H ign j (L.take (2 ^ j)) with
  | error er => simp [hl] at e
  | ok l =>
    cases hr : perfectRoot H ign j (L.drop (2 ^ j)) with
    | error er => simp [hl, hr] at e
    | ok r => simp only [hl, hr] at e; exact ⟨l, r, rfl, rfl, e⟩

theorem perfectRoot_zero {H : HashFn} {ign : Bool} {L : List NsHash} {h : NsHash}
    (e : perfectRoot H ign 0 L = .ok h) : L = [h] := by
  match L, e with
  | [x], e => simp [perfectRoot] at e; rw [e]
  | [], e => simp [perfectRoot] at e
  | _ :: _ :: _, e => simp [perfectRoot] at e

theorem nextSmallerPo2_unique {n m : Nat} (h1 : 2 ^ m < n) (h2 : n ≤ 2 ^ (m + 1)) : nextSmallerPo2 n = 2 ^ m := by
  have hn : 2 ≤ n := by have : 1 ≤ 2 ^ m := Nat.one_le_two_pow; omega
  obtain ⟨m', hm', hlt, hle⟩ := nextSmallerPo2_spec n hn
  rw [hm']
  have a : m' < m + 1 := (Nat.pow_lt_pow_iff_right (by omega)).mp (Nat.lt_of_lt_of_le hlt h2)
  have b : m < m' + 1 := (Nat.pow_lt_pow_iff_right (by omega)).mp (Nat.lt_of_lt_of_le h1 hle)
  have : m' = m := by omega
  rw [this]

theorem nextSmallerPo2_pow (m : Nat) : nextSmallerPo2 (2 ^ (m + 1)) = 2 ^ m :=
  nextSmallerPo2_unique (Nat.pow_lt_pow_right (by omega) (Nat.lt_succ_self m)) (Nat.le_refl _)

theorem two_le_two_pow_succ (m : Nat) : 2 ≤ 2 ^ (m + 1) := by
  have : 1 ≤ 2 ^ m := Nat.one_le_two_pow
  rw [Nat.pow_succ]; omega

theorem computeTreeSizeAux_ge : ∀ (fuel rem idx mask n : Nat),
    computeTreeSizeAux fuel rem idx mask = .ok n → idx + 1 ≤ n := by
  intro fuel
  induction fuel with
  | zero => intro rem idx mask n e; simp [computeTreeSizeAux] at e
  | succ f ih =>
    intro rem idx mask n e
    unfold computeTreeSizeAux at e
    by_cases hr : rem = 0
    · simp [hr] at e; omega
    · simp only [hr, ↓reduceIte] at e
      have key : ∀ (hit : Bool), (if (if hit then idx + mask else idx) = U32_MAX then Except.error Err.treeTooLarge
          else computeTreeSizeAux f (if hit then rem - 1 else rem) (if hit then idx + mask else idx) (mask * 2 % USIZE_MOD)) = .ok n →
          idx + 1 ≤ n := by
        intro hit e
        cases hit
        · simp only [Bool.false_eq_true, ↓reduceIte] at e
          by_cases hu : idx = U32_MAX
          · simp [hu] at e
          · simp only [hu, ↓reduceIte] at e
            have := ih _ _ _ _ e; omega
        · simp only [↓reduceIte] at e
          by_cases hu : idx + mask = U32_MAX
          · simp [hu] at e
          · simp only [hu, ↓reduceIte] at e
            have := ih _ _ _ _ e; omega
      exact key _ e

theorem computeTreeSize_ge {nr last n : Nat} (e : computeTreeSize nr last = .ok n) : last + 1 ≤ n :=
  computeTreeSizeAux_ge _ _ _ _ _ e

theorem computeTreeSize_ge_two {nr n : Nat} (hnr : 1 ≤ nr) (e : computeTreeSize nr 0 = .ok n) : 2 ≤ n := by
  unfold computeTreeSize at e
  unfold computeTreeSizeAux at e
  have : ¬ nr = 0 := by omega
  simp only [this, ↓reduceIte] at e
  simp at e
  by_cases hu : 1 = U32_MAX
  · simp [U32_MAX] at hu
  · simp only [hu, ↓reduceIte] at e
    have := computeTreeSizeAux_ge _ _ _ _ _ e
    omega

theorem computeRootAux_perfect {H : HashFn} {ign : Bool} : ∀ (j fuel : Nat) (L : List NsHash),
    L.length = 2 ^ j → 2 ^ j < fuel → computeRootAux H ign fuel L = perfectRoot H ign j L := by
  intro j
  induction j with
  | zero =>
    intro fuel L hl hf
    match L, hl with
    | [x], _ =>
      cases fuel with
      | zero => simp at hf
      | succ f => simp [computeRootAux, perfectRoot]
  | succ j ih =>
    intro fuel L hl hf
    cases fuel with
    | zero => simp at hf
    | succ f =>
      have h2 := two_le_two_pow_succ j
      match L, hl with
      | [], hl => simp at hl; omega
      | [_], hl => simp at hl; omega
      | a :: b :: rest, hl =>
        unfold computeRootAux
        simp only
        rw [hl, nextSmallerPo2_pow]
        have h1 : ((a :: b :: rest).take (2 ^ j)).length = 2 ^ j := by rw [List.length_take, hl]; omega
        have h3 : ((a :: b :: rest).drop (2 ^ j)).length = 2 ^ j := by rw [List.length_drop, hl]; omega
        rw [ih f _ h1 (by omega), ih f _ h3 (by omega)]
        rw [perfectRoot]
        cases perfectRoot H ign j (List.take (2 ^ j) (a :: b :: rest)) with
        | error er => rfl
        | ok l =>
          cases perfectRoot H ign j (List.drop (2 ^ j) (a :: b :: rest)) with
          | error er => rfl
          | ok r => rfl

theorem computeRoot_perfect {H : HashFn} {ign : Bool} {j : Nat} {L : List NsHash} (hl : L.length = 2 ^ j) :
    computeRoot H ign L = perfectRoot H ign j L :=
  computeRootAux_perfect j _ L hl (by rw [hl]; omega)

/-- number of zero bits among the low `n` bits of `q` -/
def zerosLow : Nat → Nat → Nat
  | _, 0 => 0
  | q, n + 1 => (if q % 2 = 0 then 1 else 0) + zerosLow (q / 2) n

theorem popcount_zeros : ∀ (j q fuel : Nat), q < 2 ^ j → q ≤ fuel → popcountAux fuel q + zerosLow q j = j := by
  intro j
  induction j with
  | zero =>
    intro q fuel h _
    simp at h; subst h
    cases fuel <;> simp [popcountAux, zerosLow]
  | succ j ih =>
    intro q fuel h hf
    have hq2 : q / 2 < 2 ^ j := by rw [Nat.pow_succ] at h; omega
    by_cases hq0 : q = 0
    · subst hq0
      have := ih 0 fuel (by simpa using hq2) (Nat.zero_le _)
      have hp : popcountAux fuel 0 = 0 := by cases fuel <;> simp [popcountAux]
      rw [hp] at this ⊢
      unfold zerosLow
      simp at this ⊢
      omega
    · cases fuel with
      | zero => omega
      | succ f =>
        unfold popcountAux zerosLow
        simp only [hq0, ↓reduceIte]
        have := ih (q / 2) f hq2 (by omega)
        by_cases h0 : q % 2 = 0
        · simp [h0]; omega
        · have : q % 2 = 1 := by omega
          simp [this]; omega

theorem fill_even (h P : Nat) (hP : 1 ≤ P) : 2 * h * P + (P - 1) + P = h * (2 * P) + (2 * P - 1) := by
  have e1 : 2 * h * P = 2 * (h * P) := Nat.mul_assoc 2 h P
  have e2 : h * (2 * P) = 2 * (h * P) := Nat.mul_left_comm h 2 P
  rw [e1, e2]; omega

theorem fill_odd (h P : Nat) (hP : 1 ≤ P) : (2 * h + 1) * P + (P - 1) = h * (2 * P) + (2 * P - 1) := by
  have e1 : (2 * h + 1) * P = 2 * (h * P) + P := by rw [Nat.add_mul, Nat.mul_assoc, Nat.one_mul]
  have e2 : h * (2 * P) = 2 * (h * P) := Nat.mul_left_comm h 2 P
  rw [e1, e2]; omega

theorem fill_div (q P : Nat) (hP : 1 ≤ P) : (q * P + (P - 1)) / P = q := by
  rw [Nat.mul_comm, Nat.mul_add_div (by omega)]
  have : (P - 1) / P = 0 := Nat.div_eq_of_lt (by omega)
  omega

theorem div_pow_succ (e t : Nat) : e / 2 ^ (t + 1) = e / 2 ^ t / 2 := by
  rw [Nat.div_div_eq_div_mul, Nat.pow_succ]

theorem computeTreeSizeAux_zero (f idx mask : Nat) : computeTreeSizeAux (f + 1) 0 idx mask = .ok (idx + 1) := by
  rw [computeTreeSizeAux, if_pos rfl]

/-- one round of the loop of `compute_tree_size` at bit `t` of an index whose low `t` bits are already set
    (`q` = the bits above): bit `t` is set, which uses up one of the `rem` requested zero bits if it was zero -/
theorem computeTreeSizeAux_step {f rem q t : Nat} (hr : rem ≠ 0) (ht : t ≤ 62) :
    computeTreeSizeAux (f + 1) rem (q * 2 ^ t + (2 ^ t - 1)) (2 ^ t) =
      if q / 2 * 2 ^ (t + 1) + (2 ^ (t + 1) - 1) = U32_MAX then .error .treeTooLarge
      else computeTreeSizeAux f (if q % 2 = 0 then rem - 1 else rem) (q / 2 * 2 ^ (t + 1) + (2 ^ (t + 1) - 1)) (2 ^ (t + 1)) := by
  have hpt : 1 ≤ 2 ^ t := Nat.one_le_two_pow
  have hm0 : ¬ (2 ^ t = 0) := by omega
  have hmask : 2 ^ t * 2 % USIZE_MOD = 2 ^ (t + 1) := by
    rw [← Nat.pow_succ]
    apply Nat.mod_eq_of_lt
    have : 2 ^ (t + 1) ≤ 2 ^ 63 := Nat.pow_le_pow_right (by omega) (by omega)
    simp [USIZE_MOD]; omega
  have hpow1 : 2 ^ (t + 1) = 2 * 2 ^ t := by rw [Nat.pow_succ]; omega
  conv => lhs; unfold computeTreeSizeAux
  simp only [hr, hm0, ↓reduceIte, fill_div q _ hpt, hmask, hpow1]
  by_cases h0 : q % 2 = 0
  · have hq' : q = 2 * (q / 2) := by omega
    have hidx : q * 2 ^ t + (2 ^ t - 1) + 2 ^ t = q / 2 * (2 * 2 ^ t) + (2 * 2 ^ t - 1) := by
      conv => lhs; rw [hq']
      exact fill_even _ _ hpt
    simp only [h0, beq_self_eq_true, ↓reduceIte, hidx]
  · have hq' : q = 2 * (q / 2) + 1 := by omega
    have hidx : q * 2 ^ t + (2 ^ t - 1) = q / 2 * (2 * 2 ^ t) + (2 * 2 ^ t - 1) := by
      conv => lhs; rw [hq']
      exact fill_odd _ _ hpt
    have hb : (q % 2 == 0) = false := by simp [h0]
    simp only [h0, hb, Bool.false_eq_true, ↓reduceIte, hidx]

theorem takeLast?_append_singleton {α} (pre : List α) (a : α) : takeLast? (pre ++ [a]) = some (a, pre) := by
  simp [takeLast?]

theorem buildRangeProofAux_unfold {H : HashFn} {ign : Bool} {fuel : Nat} {L : List NsHash} (h2 : 2 ≤ L.length)
    (off s e : Nat) :
    buildRangeProofAux H ign (fuel + 1) L off s e =
      (match (if s ≥ off + nextSmallerPo2 L.length then (computeRoot H ign (L.take (nextSmallerPo2 L.length))).map (fun x => [x])
              else if s > off ∨ e < off + nextSmallerPo2 L.length then buildRangeProofAux H ign fuel (L.take (nextSmallerPo2 L.length)) off s e
              else .ok []) with
       | .error er => .error er
       | .ok l =>
         match (if e ≤ off + nextSmallerPo2 L.length then (computeRoot H ign (L.drop (nextSmallerPo2 L.length))).map (fun x => [x])
                else if s > off + nextSmallerPo2 L.length ∨ e < off + L.length then
                  buildRangeProofAux H ign fuel (L.drop (nextSmallerPo2 L.length)) (off + nextSmallerPo2 L.length) s e
                else .ok []) with
         | .error er => .error er
         | .ok r => .ok (l ++ r)) := by
  match L, h2 with
  | a :: b :: rest, _ => rfl

theorem nextSmallerPo2_two : nextSmallerPo2 2 = 1 := by decide

theorem computeRoot_single {H : HashFn} {ign : Bool} (a : NsHash) : computeRoot H ign [a] = .ok a := rfl

theorem emptyRoot_WF {H : HashFn} (hk : HashLen H) : (emptyRoot H).WF := by
  refine ⟨by simp [emptyRoot], by simp [emptyRoot], hk _⟩

theorem computeRootAux_step {H : HashFn} {ign : Bool} {fuel : Nat} {L : List NsHash} (h2 : 2 ≤ L.length) :
    computeRootAux H ign (fuel + 1) L =
      (match computeRootAux H ign fuel (L.take (nextSmallerPo2 L.length)) with
       | .error e => .error e
       | .ok l =>
         match computeRootAux H ign fuel (L.drop (nextSmallerPo2 L.length)) with
         | .error e => .error e
         | .ok r => hashNodes H ign l r) := by
  match L, h2 with
  | a :: b :: rest, _ => rfl

theorem computeRootAux_cons2 {H : HashFn} {ign : Bool} {fuel : Nat} {L : List NsHash} {r : NsHash} (h2 : 2 ≤ L.length)
    (e : computeRootAux H ign (fuel + 1) L = .ok r) :
    ∃ l rr, computeRootAux H ign fuel (L.take (nextSmallerPo2 L.length)) = .ok l ∧
      computeRootAux H ign fuel (L.drop (nextSmallerPo2 L.length)) = .ok rr ∧
      hashNodes H ign l rr = .ok r := by
  rw [computeRootAux_step h2] at e
  split at e
  · cases e
  · rename_i l hl
    split at e
    · cases e
    · rename_i rr hr
      exact ⟨l, rr, hl, hr, e⟩

theorem computeRootAux_WF {H : HashFn} (hk : HashLen H) {ign : Bool} : ∀ (fuel : Nat) {L : List NsHash} {r : NsHash},
    (∀ x ∈ L, x.WF) → computeRootAux H ign fuel L = .ok r → r.WF := by
  intro fuel
  induction fuel with
  | zero => intro L r _ e; simp [computeRootAux] at e
  | succ f ih =>
    intro L r wl e
    match L, wl, e with
    | [], _, e => simp [computeRootAux] at e; rw [← e]; exact emptyRoot_WF hk
    | [x], wl, e => simp [computeRootAux] at e; rw [← e]; exact wl x (by simp)
    | a :: b :: rest, wl, e =>
      obtain ⟨l, rr, hl, hr, hn⟩ := computeRootAux_cons2 (by simp) e
      exact hashNodes_WF hk (ih (fun x hx => wl x (List.mem_of_mem_take hx)) hl)
        (ih (fun x hx => wl x (List.mem_of_mem_drop hx)) hr) hn

theorem computeRoot_WF {H : HashFn} (hk : HashLen H) {ign : Bool} {L : List NsHash} {r : NsHash}
    (wl : ∀ x ∈ L, x.WF) (e : computeRoot H ign L = .ok r) : r.WF := computeRootAux_WF hk _ wl e

theorem ofBytes_toBytes {h : NsHash} (w : h.WF) : NsHash.ofBytes? h.toBytes = some h := by
  obtain ⟨a, b, c⟩ := w
  cases h with
  | mk mn mx hs =>
    simp only at a b c
    unfold NsHash.ofBytes? NsHash.toBytes
    have hl : (mn ++ mx ++ hs).length = NAMESPACED_HASH_SIZE := by simp [a, b, c, NAMESPACED_HASH_SIZE]; omega
    simp only [hl, ↓reduceIte, Option.some.injEq, NsHash.mk.injEq]
    refine ⟨?_, ?_, ?_⟩
    · rw [List.append_assoc, List.take_left' a]
    · rw [List.append_assoc, List.drop_left' a, List.take_left' b]
    · exact List.drop_left' (by simp [a, b]; omega)

theorem parseNodes_toBytes : ∀ {sibs : List NsHash}, (∀ p ∈ sibs, p.WF) → parseNodes (sibs.map NsHash.toBytes) = some sibs := by
  intro sibs
  induction sibs with
  | nil => intro _; rfl
  | cons a t ih =>
    intro w
    simp only [List.map_cons, parseNodes, ofBytes_toBytes (w a (by simp)), ih (fun p hp => w p (by simp [hp]))]

theorem AllLeaf.allWF {H : HashFn} (hk : HashLen H) {L : List NsHash} (al : AllLeaf H L) : ∀ x ∈ L, x.WF :=
  fun x hx => IsLeaf.WF (al x hx) hk

theorem ltB_iff : ∀ {a b : Bytes}, ltB a b = true ↔ a < b
  | [], [] => by simp [ltB]
  | [], _ :: _ => by simp [ltB]
  | _ :: _, [] => by simp [ltB]
  | x :: a, y :: b => by
    simp only [ltB, List.cons_lt_cons_iff, ← ltB_iff (a := a) (b := b)]
    by_cases h1 : x < y
    · simp [h1]
    · by_cases h2 : x = y <;> simp [h1, h2]

theorem ltB_irrefl (a : Bytes) : ltB a a = false :=
  Bool.eq_false_iff.mpr fun h => List.lt_irrefl a (ltB_iff.mp h)

theorem ne_of_ltB {a b : Bytes} (h : ltB a b = true) : a ≠ b := by
  intro he; subst he; rw [ltB_irrefl] at h; cases h

theorem ltB_trichotomy (a b : Bytes) : ltB a b = true ∨ a = b ∨ ltB b a = true := by
  simp only [ltB_iff]
  by_cases h1 : a < b
  · exact Or.inl h1
  · by_cases h2 : b < a
    · exact Or.inr (Or.inr h2)
    · exact Or.inr (Or.inl (List.le_antisymm (List.not_lt.mp h2) (List.not_lt.mp h1)))

theorem ltB_asymm {a b : Bytes} (h : ltB a b = true) : ltB b a = false :=
  Bool.eq_false_iff.mpr fun h' => List.lt_asymm (ltB_iff.mp h) (ltB_iff.mp h')

theorem ltB_trans {a b c : Bytes} (h1 : ltB a b = true) (h2 : ltB b c = true) : ltB a c = true :=
  ltB_iff.mpr (List.lt_trans (ltB_iff.mp h1) (ltB_iff.mp h2))

theorem leB_iff {a b : Bytes} : leB a b = true ↔ a ≤ b := by
  rw [← List.not_lt, ← ltB_iff, leB]; simp

theorem leB_refl (a : Bytes) : leB a a = true := by simp [leB, ltB_irrefl]

theorem leB_trans {a b c : Bytes} (h1 : leB a b = true) (h2 : leB b c = true) : leB a c = true :=
  leB_iff.mpr (List.le_trans (leB_iff.mp h1) (leB_iff.mp h2))

theorem leB_antisymm {a b : Bytes} (h1 : leB a b = true) (h2 : leB b a = true) : a = b :=
  List.le_antisymm (leB_iff.mp h1) (leB_iff.mp h2)

theorem ltB_of_not_leB {a b : Bytes} (h : leB a b = false) : ltB b a = true := by
  unfold leB at h; simpa using h

theorem leB_of_not_ltB {a b : Bytes} (h : ltB a b = false) : leB b a = true := by unfold leB; simp [h]

theorem not_ltB_of_leB {a b : Bytes} (h : leB a b = true) : ltB b a = false := by
  simpa [leB] using h

theorem leB_of_ltB {a b : Bytes} (h : ltB a b = true) : leB a b = true := by
  unfold leB; simp [ltB_asymm h]

theorem ltB_of_ltB_of_leB {a b c : Bytes} (h1 : ltB a b = true) (h2 : leB b c = true) : ltB a c = true :=
  ltB_iff.mpr (Std.lt_of_lt_of_le (ltB_iff.mp h1) (leB_iff.mp h2))

theorem ltB_of_leB_of_ltB {a b c : Bytes} (h1 : leB a b = true) (h2 : ltB b c = true) : ltB a c = true :=
  ltB_iff.mpr (List.lt_of_le_of_lt (leB_iff.mp h1) (ltB_iff.mp h2))

/-- `push_leaf`'s order check passes exactly on namespaces in order that are all at least `hi` (`highest_ns` so far) -/
theorem pushOrderOk_iff : ∀ (nss : List Bytes) (hi : Bytes), pushOrderOk hi nss = true ↔
    nss.Pairwise (fun a b => leB a b = true) ∧ ∀ x ∈ nss, leB hi x = true := by
  intro nss
  induction nss with
  | nil => exact fun _ => ⟨fun _ => ⟨.nil, nofun⟩, fun _ => rfl⟩
  | cons a t ih =>
    intro hi
    rw [pushOrderOk, List.pairwise_cons, List.forall_mem_cons]
    cases h : ltB a hi
    · have ha := leB_of_not_ltB h
      rw [if_neg Bool.false_ne_true, ih a]
      exact ⟨fun ⟨h1, h2⟩ => ⟨⟨h2, h1⟩, ha, fun x hx => leB_trans ha (h2 x hx)⟩, fun ⟨⟨h2, h1⟩, _⟩ => ⟨h1, h2⟩⟩
    · exact ⟨nofun, fun ⟨_, ha, _⟩ => by rw [not_ltB_of_leB ha] at h; cases h⟩

theorem leB_replicate_max : ∀ (n : Nat) (a : Bytes), a.length = n → leB a (List.replicate n 255) = true := by
  intro n
  induction n with
  | zero => intro a h; have : a = [] := List.eq_nil_of_length_eq_zero h
            subst this; rfl
  | succ n ih =>
    intro a h
    cases a with
    | nil => simp at h
    | cons x t =>
      have ht : t.length = n := by simpa using h
      have := ih t ht
      unfold leB at this ⊢
      simp only [List.replicate_succ, ltB]
      have hx : ¬ ((255 : UInt8) < x) := by
        intro hh
        have := UInt8.lt_iff_toNat_lt.mp hh
        have := UInt8.toNat_lt x
        simp at *; omega
      simp only [hx, ↓reduceIte]
      by_cases h2 : (255 : UInt8) = x
      · simp only [h2, ↓reduceIte]; rw [← h2]; exact this
      · simp [h2]

theorem leB_maxNsId {a : Bytes} (h : a.length = NS_SIZE) : leB a maxNsId = true := leB_replicate_max _ a h

/-- a leaf hash: equal min and max namespace of 29 bytes -/
def LeafNs (x : NsHash) : Prop := x.minNs = x.maxNs ∧ x.minNs.length = NS_SIZE

theorem eq_maxNsId_of_le {a : Bytes} (hl : a.length = NS_SIZE) (h : leB maxNsId a = true) : a = maxNsId :=
  leB_antisymm (leB_maxNsId hl) h

/-- what the root of a namespace-sorted list of leaf hashes says about their namespaces (`ignore_max_ns = true`) -/
structure RangeOK (L : List NsHash) (r : NsHash) : Prop where
  minLe : ∀ x ∈ L, leB r.minNs x.minNs = true
  minMem : ∃ x ∈ L, r.minNs = x.minNs
  maxGe : ∀ x ∈ L, x.minNs ≠ maxNsId → leB x.minNs r.maxNs = true
  maxAll : (∀ x ∈ L, x.minNs = maxNsId) → r.maxNs = maxNsId
  maxNotAll : (∃ x ∈ L, x.minNs ≠ maxNsId) → r.maxNs ≠ maxNsId
  maxMem : ∃ x ∈ L, leB r.maxNs x.minNs = true
  maxMemNon : (∃ x ∈ L, x.minNs ≠ maxNsId) → ∃ x ∈ L, x.minNs ≠ maxNsId ∧ leB r.maxNs x.minNs = true
  minMax : leB r.minNs r.maxNs = true

/-- the namespace range of `r` is that of the leaf hashes `L`, parity leaves ignored: its minimum is the least namespace,
    its maximum the greatest namespace other than the parity namespace (the parity namespace if there is no other) -/
structure Spans (L : List NsHash) (r : NsHash) : Prop where
  min : ∃ x ∈ L, r.minNs = x.minNs ∧ ∀ y ∈ L, leB x.minNs y.minNs = true
  max : (r.maxNs = maxNsId ∧ ∀ x ∈ L, x.minNs = maxNsId) ∨
    ∃ z ∈ L, z.minNs ≠ maxNsId ∧ r.maxNs = z.minNs ∧ ∀ y ∈ L, y.minNs ≠ maxNsId → leB y.minNs z.minNs = true

theorem Spans.rangeOK {L : List NsHash} {r : NsHash} (s : Spans L r) (hleaf : ∀ x ∈ L, LeafNs x) : RangeOK L r := by
  obtain ⟨x, hx, ex, mx⟩ := s.min
  rcases s.max with ⟨em, hall⟩ | ⟨z, hz, hzn, ez, bz⟩
  · exact ⟨fun y hy => ex ▸ mx y hy, ⟨x, hx, ex⟩, fun y hy hn => absurd (hall y hy) hn, fun _ => em,
      fun ⟨y, hy, hn⟩ => absurd (hall y hy) hn, ⟨x, hx, by rw [em, hall x hx]; exact leB_refl _⟩,
      fun ⟨y, hy, hn⟩ => absurd (hall y hy) hn, by rw [ex, em]; exact leB_maxNsId (hleaf x hx).2⟩
  · exact ⟨fun y hy => ex ▸ mx y hy, ⟨x, hx, ex⟩, fun y hy hn => ez ▸ bz y hy hn, fun h => absurd (h z hz) hzn,
      fun _ => ez ▸ hzn, ⟨z, hz, by rw [ez]; exact leB_refl _⟩, fun _ => ⟨z, hz, hzn, by rw [ez]; exact leB_refl _⟩,
      by rw [ex, ez]; exact mx z hz⟩

theorem Spans.single {x : NsHash} (h : x.minNs = x.maxNs) : Spans [x] x := by
  have hm : ∀ y ∈ [x], y = x := fun y hy => by simpa using hy
  refine ⟨⟨x, by simp, rfl, fun y hy => hm y hy ▸ leB_refl _⟩, ?_⟩
  by_cases hp : x.minNs = maxNsId
  · exact Or.inl ⟨h ▸ hp, fun y hy => hm y hy ▸ hp⟩
  · exact Or.inr ⟨x, by simp, hp, h.symm, fun y hy _ => hm y hy ▸ leB_refl _⟩

/-- `hash_nodes` (ignoring the parity namespace) on the roots of the two parts of a sorted list of leaf hashes: the minimum
    is the left one's; the maximum is the right one's unless the right part is all parity -/
theorem Spans.node {H : HashFn} {A B : List NsHash} {l rr r : NsHash} (hleaf : ∀ x ∈ A ++ B, LeafNs x)
    (hcross : ∀ a ∈ A, ∀ b ∈ B, leB a.minNs b.minNs = true) (sl : Spans A l) (sr : Spans B rr)
    (hn : hashNodes H true l rr = .ok r) : Spans (A ++ B) r := by
  obtain ⟨xl, hxl, el, ml⟩ := sl.min
  obtain ⟨xr, hxr, er, mr⟩ := sr.min
  have hlr : leB l.minNs rr.minNs = true := by rw [el, er]; exact hcross xl hxl xr hxr
  have hmin : ∀ y ∈ A ++ B, leB xl.minNs y.minNs = true := fun y hy =>
    (List.mem_append.mp hy).elim (ml y) (hcross xl hxl y)
  -- a part whose least namespace is the parity namespace is all parity
  have par : ∀ {M : List NsHash} {x : NsHash}, (∀ y ∈ M, LeafNs y) → (∀ y ∈ M, leB x.minNs y.minNs = true) →
      x.minNs = maxNsId → ∀ y ∈ M, y.minNs = maxNsId := fun hl hm hx y hy =>
    eq_maxNsId_of_le (hl y hy).2 (hx ▸ hm y hy)
  unfold hashNodes at hn
  split at hn
  · cases hn
  · injection hn with hn
    subst hn
    have hmin' : minB l.minNs rr.minNs = xl.minNs := by unfold minB; rw [if_pos hlr]; exact el
    refine ⟨⟨xl, List.mem_append_left _ hxl, hmin', hmin⟩, ?_⟩
    simp only [Bool.true_and, beq_iff_eq]
    by_cases cA : l.minNs = maxNsId
    · rw [if_pos cA]
      exact Or.inl ⟨rfl, par hleaf hmin (el ▸ cA)⟩
    · have nl : ∀ {P : Prop}, (l.maxNs = maxNsId ∧ ∀ x ∈ A, x.minNs = maxNsId) → P := fun h =>
        absurd (el ▸ h.2 xl hxl) cA
      by_cases cB : rr.minNs = maxNsId
      · rw [if_neg cA, if_pos cB]
        have hB := par (fun y hy => hleaf y (List.mem_append_right _ hy)) mr (er ▸ cB)
        rcases sl.max with h | ⟨z, hz, hzn, ez, bz⟩
        · exact nl h
        · exact Or.inr ⟨z, List.mem_append_left _ hz, hzn, ez, fun y hy hyn =>
            (List.mem_append.mp hy).elim (fun h => bz y h hyn) (fun h => absurd (hB y h) hyn)⟩
      · rw [if_neg cA, if_neg cB]
        rcases sr.max with h | ⟨z, hz, hzn, ez, bz⟩
        · exact absurd (er ▸ h.2 xr hxr) cB
        · have hle : leB l.maxNs rr.maxNs = true := by
            rcases sl.max with h | ⟨zl, hzl, _, ezl, _⟩
            · exact nl h
            · rw [ezl, ez]; exact hcross zl hzl z hz
          have hmax : maxB l.maxNs rr.maxNs = z.minNs := by unfold maxB; rw [if_pos hle]; exact ez
          exact Or.inr ⟨z, List.mem_append_right _ hz, hzn, hmax, fun y hy hyn =>
            (List.mem_append.mp hy).elim (fun h => hcross y h z hz) (fun h => bz y h hyn)⟩

theorem computeRootAux_spans {H : HashFn} : ∀ (fuel : Nat) {L : List NsHash} {r : NsHash},
    L ≠ [] → (∀ x ∈ L, LeafNs x) → L.Pairwise (fun a b => leB a.minNs b.minNs = true) →
    computeRootAux H true fuel L = .ok r → Spans L r := by
  intro fuel
  induction fuel with
  | zero => intro L r _ _ _ e; simp [computeRootAux] at e
  | succ f ih =>
    intro L r hne hleaf hsort e
    match L, hne, hleaf, hsort, e with
    | [x], _, hleaf, _, e =>
      simp [computeRootAux] at e
      subst e
      exact Spans.single (hleaf x (by simp)).1
    | a :: b :: rest, _, hleaf, hsort, e =>
      obtain ⟨l, rr, hl, hr, hn⟩ := computeRootAux_cons2 (by simp) e
      obtain ⟨hk1, hklt⟩ := nextSmallerPo2_pos_lt (n := (a :: b :: rest).length) (by simp)
      have htne : (a :: b :: rest).take (nextSmallerPo2 (a :: b :: rest).length) ≠ [] :=
        List.ne_nil_of_length_pos (by rw [List.length_take]; omega)
      have hdne : (a :: b :: rest).drop (nextSmallerPo2 (a :: b :: rest).length) ≠ [] :=
        List.ne_nil_of_length_pos (by rw [List.length_drop]; omega)
      rw [← List.take_append_drop (nextSmallerPo2 (a :: b :: rest).length) (a :: b :: rest)] at hleaf hsort ⊢
      obtain ⟨hst, hsd, hcross⟩ := List.pairwise_append.mp hsort
      exact Spans.node hleaf hcross (ih htne (fun x hx => hleaf x (List.mem_append_left _ hx)) hst hl)
        (ih hdne (fun x hx => hleaf x (List.mem_append_right _ hx)) hsd hr) hn

theorem computeRootAux_range {H : HashFn} : ∀ (fuel : Nat) {L : List NsHash} {r : NsHash},
    L ≠ [] → (∀ x ∈ L, LeafNs x) → L.Pairwise (fun a b => leB a.minNs b.minNs = true) →
    computeRootAux H true fuel L = .ok r → RangeOK L r :=
  fun fuel _ _ hne hleaf hs e => (computeRootAux_spans fuel hne hleaf hs e).rangeOK hleaf

/-! ## Collision-freeness RELATIVE to the byte strings actually hashed

Injectivity on ALL byte strings with 32-byte output is contradictory (pigeonhole): a theorem assuming it is vacuous.
The satisfiable formulation: the hash has no collision among an explicitly given set `S` of inputs —
the inputs hashed by the two computations a theorem compares (honest roots, verifier). -/

def NoCollOn (H : HashFn) (S : Bytes → Prop) : Prop := ∀ a b, S a → S b → H a = H b → a = b

structure HashOKOn (H : HashFn) (S : Bytes → Prop) : Prop where
  inj : NoCollOn H S
  len : HashLen H

theorem NoCollOn.mono {H : HashFn} {S S' : Bytes → Prop} (h : NoCollOn H S) (hs : ∀ x, S' x → S x) : NoCollOn H S' :=
  fun a b ha hb => h a b (hs a ha) (hs b hb)

theorem HashOKOn.mono {H : HashFn} {S S' : Bytes → Prop} (h : HashOKOn H S) (hs : ∀ x, S' x → S x) : HashOKOn H S' :=
  ⟨h.inj.mono hs, h.len⟩

/-- a violation of `NoCollOn` is an explicit collision among inputs of `S` -/
def CollisionIn (H : HashFn) (S : Bytes → Prop) : Prop := ∃ x y, S x ∧ S y ∧ x ≠ y ∧ H x = H y

theorem noCollOn_or_collision (H : HashFn) (S : Bytes → Prop) : NoCollOn H S ∨ CollisionIn H S := by
  by_cases h : NoCollOn H S
  · exact Or.inl h
  · right
    apply Classical.byContradiction
    intro hn
    apply h
    intro a b ha hb hab
    apply Classical.byContradiction
    intro hne
    exact hn ⟨a, b, ha, hb, hne, hab⟩

/-- reduction form: what holds when `H` has no collision on `S` holds, or `S` contains an explicit collision -/
theorem or_collision {H : HashFn} (hl : HashLen H) {S : Bytes → Prop} {P : Prop} (h : HashOKOn H S → P) :
    P ∨ CollisionIn H S :=
  (noCollOn_or_collision H S).imp_left fun hn => h ⟨hn, hl⟩

/-- the byte string hashed for a leaf: `0x00 ‖ ns ‖ data` -/
def leafInput (ns d : Bytes) : Bytes := LEAF_PREFIX :: (ns ++ d)
/-- the byte string hashed for an inner node: `0x01 ‖ left ‖ right` -/
def nodeInput (l r : NsHash) : Bytes := NODE_PREFIX :: (l.toBytes ++ r.toBytes)

/-- `x` is the hash of a leaf with a 29-byte namespace whose preimage is among the inputs in `S` -/
def IsLeafOn (H : HashFn) (S : Bytes → Prop) (x : NsHash) : Prop :=
  ∃ ns d, ns.length = NS_SIZE ∧ x = hashLeaf H ns d ∧ S (leafInput ns d)

def AllLeafOn (H : HashFn) (S : Bytes → Prop) (L : List NsHash) : Prop := ∀ x ∈ L, IsLeafOn H S x

theorem IsLeafOn.isLeaf {H : HashFn} {S : Bytes → Prop} {x : NsHash} (h : IsLeafOn H S x) : IsLeaf H x := by
  obtain ⟨ns, d, hl, hx, _⟩ := h; exact ⟨ns, d, hl, hx⟩
theorem AllLeafOn.allLeaf {H : HashFn} {S : Bytes → Prop} {L : List NsHash} (h : AllLeafOn H S L) : AllLeaf H L :=
  fun x hx => (h x hx).isLeaf
theorem AllLeafOn.mono {H : HashFn} {S S' : Bytes → Prop} {L : List NsHash} (h : AllLeafOn H S L) (hs : ∀ x, S x → S' x) :
    AllLeafOn H S' L := by
  intro x hx; obtain ⟨ns, d, hl, he, hS⟩ := h x hx; exact ⟨ns, d, hl, he, hs _ hS⟩

/-- inputs hashed by `compute_root` over the leaf hashes `ls` (the inner nodes; leaves are hashed before) -/
def rootInputs (H : HashFn) (ign : Bool) : Nat → List NsHash → List Bytes
  | 0, _ => []
  | fuel + 1, ls =>
    match ls with
    | [] => []
    | [_] => []
    | _ =>
      let k := nextSmallerPo2 ls.length
      rootInputs H ign fuel (ls.take k) ++ rootInputs H ign fuel (ls.drop k) ++
        (match computeRootAux H ign fuel (ls.take k), computeRootAux H ign fuel (ls.drop k) with
         | .ok l, .ok r => [nodeInput l r]
         | _, _ => [])

/-- inputs hashed by the root computation of a perfect tree of depth `j` -/
def perfectInputs (H : HashFn) (ign : Bool) : Nat → List NsHash → List Bytes
  | 0, _ => []
  | j + 1, L =>
    perfectInputs H ign j (L.take (2 ^ j)) ++ perfectInputs H ign j (L.drop (2 ^ j)) ++
      (match perfectRoot H ign j (L.take (2 ^ j)), perfectRoot H ign j (L.drop (2 ^ j)) with
       | .ok l, .ok r => [nodeInput l r]
       | _, _ => [])

/-- inputs hashed by `check_range_proof_inner` (the `hash_nodes` calls of the recursion) -/
def innerInputs (H : HashFn) (ign : Bool) :
    Nat → List NsHash → List NsHash → Nat → Nat → Nat → List Bytes
  | 0, _, _, _, _, _ => []
  | fuel + 1, leaves, proof, start, size, offset =>
    let split := nextSmallerPo2 size
    if leaves.length + start = 0 then []
    else
      let endIdx := leaves.length + start - 1
      let rIn : List Bytes :=
        if endIdx ≥ split + offset then
          if size - split = 1 then [] else innerInputs H ign fuel leaves proof start (size - split) (offset + split)
        else []
      let rightRes : Except Err (NsHash × List NsHash × List NsHash) :=
        if endIdx ≥ split + offset then
          let rsize := size - split
          if rsize = 1 then
            match takeLast? leaves with
            | none => .error .missingLeaf
            | some (x, rest) => .ok (x, rest, proof)
          else checkRangeProofInner H ign fuel leaves proof start rsize (offset + split)
        else
          match takeLast? proof with
          | none => .error .missingProofNode
          | some (x, rest) => .ok (x, leaves, rest)
      match rightRes with
      | .error _ => rIn
      | .ok (right, leaves1, proof1) =>
        let lIn : List Bytes :=
          if start < split + offset then
            if split = 1 then [] else innerInputs H ign fuel leaves1 proof1 start split offset
          else []
        let leftRes : Except Err (NsHash × List NsHash × List NsHash) :=
          if start < split + offset then
            if split = 1 then
              match takeLast? leaves1 with
              | none => .error .missingLeaf
              | some (x, rest) => .ok (x, rest, proof1)
            else checkRangeProofInner H ign fuel leaves1 proof1 start split offset
          else
            match takeLast? proof1 with
            | none => .error .missingProofNode
            | some (x, rest) => .ok (x, leaves1, rest)
        match leftRes with
        | .error _ => rIn ++ lIn
        | .ok (left, _, _) => rIn ++ lIn ++ [nodeInput left right]

/-- inputs hashed by `check_range_proof(root, leaves, proof, start)` -/
def proofInputs (H : HashFn) (ign : Bool) (leaves proof : List NsHash) (start : Nat) : List Bytes :=
  if leaves.length = 0 then []
  else if leaves.length = 1 ∧ proof.isEmpty then []
  else
    let numLeft := computeNumLeftSiblings start
    if proof.length < numLeft then []
    else
      match computeTreeSize (proof.length - numLeft) (start + leaves.length - 1) with
      | .error _ => []
      | .ok treeSize => innerInputs H ign treeSize leaves proof start treeSize 0

/-! ### the five uses of injectivity, with membership side conditions -/

theorem hashNodes_hash_inj_on {H : HashFn} {S : Bytes → Prop} (hi : NoCollOn H S) {ign ign' : Bool}
    {l r l' r' h h' : NsHash} (wl : l.WF) (wr : r.WF) (wl' : l'.WF) (wr' : r'.WF)
    (e : hashNodes H ign l r = .ok h) (e' : hashNodes H ign' l' r' = .ok h')
    (hS : S (nodeInput l r)) (hS' : S (nodeInput l' r')) (hh : h.hash = h'.hash) : l = l' ∧ r = r' := by
  unfold hashNodes at e e'
  split at e
  · cases e
  · split at e'
    · cases e'
    · injection e with e; injection e' with e'
      subst e; subst e'
      have := hi _ _ hS hS' hh
      unfold nodeInput at this
      injection this with _ this
      have h1 := List.append_inj this (by rw [toBytes_length wl, toBytes_length wl'])
      exact ⟨toBytes_inj wl wl' h1.1, toBytes_inj wr wr' h1.2⟩

theorem leaf_ne_node_on {H : HashFn} {S : Bytes → Prop} (hi : NoCollOn H S) {ign : Bool} {ns d : Bytes} {l r h : NsHash}
    (e : hashNodes H ign l r = .ok h) (hS : S (leafInput ns d)) (hS' : S (nodeInput l r))
    (hh : (hashLeaf H ns d).hash = h.hash) : False := by
  unfold hashNodes at e
  split at e
  · cases e
  · injection e with e
    subst e
    have := hi _ _ hS hS' hh
    simp [leafInput, nodeInput, LEAF_PREFIX, NODE_PREFIX] at this

theorem hashLeaf_inj_on {H : HashFn} {S : Bytes → Prop} (hi : NoCollOn H S) {ns ns' d d' : Bytes}
    (hl : ns.length = ns'.length) (hS : S (leafInput ns d)) (hS' : S (leafInput ns' d'))
    (hh : (hashLeaf H ns d).hash = (hashLeaf H ns' d').hash) : ns = ns' ∧ d = d' := by
  have := hi _ _ hS hS' hh
  unfold leafInput at this
  injection this with _ this
  exact List.append_inj this hl

/-- a leaf hash determines its leaf: the namespace is stored in it, the data is bound by the hash -/
theorem hashLeaf_eq_on {H : HashFn} {S : Bytes → Prop} (hi : NoCollOn H S) {ns ns' d d' : Bytes}
    (hS : S (leafInput ns d)) (hS' : S (leafInput ns' d')) (h : hashLeaf H ns d = hashLeaf H ns' d') :
    ns = ns' ∧ d = d' :=
  hashLeaf_inj_on hi (congrArg (fun x => x.minNs.length) h) hS hS' (congrArg NsHash.hash h)

/-- equal lists of leaf hashes come from the same leaves, whatever the leaves are read off (`n`, `d`: namespace and data) -/
theorem map_hashLeaf_inj_on {H : HashFn} {S : Bytes → Prop} (hi : NoCollOn H S) {α β : Type} {n d : α → Bytes}
    {n' d' : β → Bytes} : ∀ {l : List α} {l' : List β},
    (∀ a ∈ l, S (leafInput (n a) (d a))) → (∀ b ∈ l', S (leafInput (n' b) (d' b))) →
    l.map (fun a => hashLeaf H (n a) (d a)) = l'.map (fun b => hashLeaf H (n' b) (d' b)) →
    l.map n = l'.map n' ∧ l.map d = l'.map d'
  | [], [], _, _, _ => ⟨rfl, rfl⟩
  | [], _ :: _, _, _, h => by simp at h
  | _ :: _, [], _, _, h => by simp at h
  | a :: l, b :: l', hS, hS', h => by
    simp only [List.map_cons, List.cons.injEq] at h ⊢
    obtain ⟨e1, e2⟩ := hashLeaf_eq_on hi (hS a (by simp)) (hS' b (by simp)) h.1
    obtain ⟨t1, t2⟩ := map_hashLeaf_inj_on hi (fun x hx => hS x (by simp [hx])) (fun x hx => hS' x (by simp [hx])) h.2
    exact ⟨⟨e1, t1⟩, e2, t2⟩

theorem emptyRoot_ne_node_on {H : HashFn} {S : Bytes → Prop} (hi : NoCollOn H S) {ign : Bool} {l r h : NsHash}
    (e : hashNodes H ign l r = .ok h) (hE : S []) (hS : S (nodeInput l r)) (hh : (emptyRoot H).hash = h.hash) : False := by
  unfold hashNodes at e
  split at e
  · cases e
  · injection e with e
    subst e
    have := hi _ _ hE hS hh
    simp [nodeInput] at this

theorem emptyRoot_ne_leaf_on {H : HashFn} {S : Bytes → Prop} (hi : NoCollOn H S) {ns d : Bytes}
    (hE : S []) (hS : S (leafInput ns d)) (hh : (emptyRoot H).hash = (hashLeaf H ns d).hash) : False := by
  have := hi _ _ hE hS hh
  simp [leafInput] at this

theorem perfectInputs_succ {H : HashFn} {ign : Bool} {j : Nat} {L : List NsHash} {l r : NsHash}
    (hl : perfectRoot H ign j (L.take (2 ^ j)) = .ok l) (hr : perfectRoot H ign j (L.drop (2 ^ j)) = .ok r) :
    perfectInputs H ign (j + 1) L =
      perfectInputs H ign j (L.take (2 ^ j)) ++ perfectInputs H ign j (L.drop (2 ^ j)) ++ [nodeInput l r] := by
  conv => lhs; unfold perfectInputs
  simp only [hl, hr]

theorem IsLeafOn.WF {H : HashFn} {S : Bytes → Prop} {x : NsHash} (h : IsLeafOn H S x) (hk : HashLen H) : x.WF :=
  h.isLeaf.WF hk

/-- an accepted non-trivial `check_range_proof`: there are enough proof nodes, `compute_tree_size` gives a tree size of at
    least 2 and `check_range_proof_inner` computes the root; the inputs hashed are those of that call -/
theorem checkRangeProof_ok {H : HashFn} {ign : Bool} {root : NsHash} {X P : List NsHash} {s : Nat}
    (hX : 1 ≤ X.length) (hnt : ¬ (X.length = 1 ∧ P = [])) (h : checkRangeProof H ign root X P s = .ok ()) :
    computeNumLeftSiblings s ≤ P.length ∧ ∃ T X' P',
      computeTreeSize (P.length - computeNumLeftSiblings s) (s + X.length - 1) = .ok T ∧ 2 ≤ T ∧
      checkRangeProofInner H ign T X P s T 0 = .ok (root, X', P') ∧
      proofInputs H ign X P s = innerInputs H ign T X P s T 0 := by
  unfold checkRangeProof at h
  have h0 : ¬ (X.length = 0) := by omega
  simp only [h0, ↓reduceIte] at h
  have hnt' : ¬ (X.length = 1 ∧ P.isEmpty = true) := by
    intro hc; exact hnt ⟨hc.1, by simpa using hc.2⟩
  simp only [hnt', ↓reduceIte] at h
  split at h
  · cases h
  · rename_i hnl
    split at h
    · cases h
    · rename_i T hts
      split at h
      · cases h
      · rename_i computed X' P' hin
        split at h
        · rename_i heq
          have heq' : computed = root := by simpa using heq
          subst heq'
          have hge := computeTreeSize_ge hts
          have hT2 : 2 ≤ T := by
            by_cases h2 : 2 ≤ X.length
            · omega
            · have hx1 : X.length = 1 := by omega
              have hP : P ≠ [] := fun hp => hnt ⟨hx1, hp⟩
              by_cases hs0 : s = 0
              · subst hs0
                have hn0 : computeNumLeftSiblings 0 = 0 := rfl
                rw [hn0, hx1] at hts
                have : 1 ≤ P.length := by
                  cases P with
                  | nil => exact absurd rfl hP
                  | cons a b => simp
                exact computeTreeSize_ge_two (by omega) hts
              · omega
          refine ⟨by omega, T, X', P', hts, hT2, hin, ?_⟩
          unfold proofInputs
          simp only [h0, ↓reduceIte, hnt', hnl, hts]
        · cases h

theorem checkRangeProof_nil {H : HashFn} {ign : Bool} {root x : NsHash} {s : Nat}
    (h : checkRangeProof H ign root [x] [] s = .ok ()) : x = root ∧ s = 0 := by
  unfold checkRangeProof at h
  simp only [List.length_singleton, Nat.one_ne_zero, ↓reduceIte, List.isEmpty_nil, and_self] at h
  split at h
  · rename_i hc; simpa using hc
  · cases h

theorem rootInputs_cons2 {H : HashFn} {ign : Bool} {fuel : Nat} {L : List NsHash} {l rr : NsHash} (h2 : 2 ≤ L.length)
    (hl : computeRootAux H ign fuel (L.take (nextSmallerPo2 L.length)) = .ok l)
    (hr : computeRootAux H ign fuel (L.drop (nextSmallerPo2 L.length)) = .ok rr) :
    rootInputs H ign (fuel + 1) L =
      rootInputs H ign fuel (L.take (nextSmallerPo2 L.length)) ++
      rootInputs H ign fuel (L.drop (nextSmallerPo2 L.length)) ++ [nodeInput l rr] := by
  match L, h2 with
  | a :: b :: rest, _ =>
    conv => lhs; unfold rootInputs
    simp only [hl, hr]

end Lumina.Proofs.Nmt

/-
  Lemmas for C11: `build_sparse_share` / `split_blob_to_shares` produce exactly the shares of the
  share format (`Spec.C11.expectedShares`), their number, and the reconstruction round trip.  `Chunks d cs` is the graph
  of the 482-byte chunking; the split loop and the reconstruction loop are both inductions over it.
-/
import Lumina.Model.Blob
import Lumina.Spec.C11
import Lumina.Props.C14
import Lumina.Proofs.BigEndian
open Lumina.Util Lumina.Model.Blob Lumina.Gen.C11 Lumina.Spec.C11
open Lumina.Proofs.BigEndian (blob_be blob_ofBe be32_eq ofBe_be)

namespace Lumina.Proofs.C11

theorem shareFromRaw_ok (ns rest : Bytes) (hns : Lumina.Spec.C14.validRaw ns = true)
    (hl : (ns ++ rest).length = 512) : shareFromRaw (ns ++ rest) = .ok ⟨ns ++ rest, false⟩ := by
  have h29 := Lumina.Proofs.Namespace.validRaw_length hns
  unfold shareFromRaw
  have ht : (ns ++ rest).take NS_SIZE = ns := by
    simp only [NS_SIZE]; rw [← h29]; exact List.take_left
  simp only [hl, SHARE_SIZE, ne_eq, not_true_eq_false, ↓reduceIte, ht, Lumina.Proofs.Namespace.fromRaw_ok_iff.mpr ⟨hns, rfl⟩]
  have : infoByteFromRaw ((ns ++ rest).getD NS_SIZE 0) = .ok ((ns ++ rest).getD NS_SIZE 0) := by
    unfold infoByteFromRaw
    have := UInt8.toNat_lt ((ns ++ rest).getD NS_SIZE 0)
    rw [if_neg (by simp only [MAX_SHARE_VERSION]; omega)]
  rw [this]

/-- the common tail of `build_sparse_share` once the header is known: `cap` bytes fit behind it -/
theorem build_tail (ns hdrRest rest : Bytes) (cap : Nat) (hns : Lumina.Spec.C14.validRaw ns = true)
    (hh : (ns ++ hdrRest).length + cap = 512) :
    finishShare (ns ++ hdrRest) rest = .ok (⟨padTo512 (ns ++ hdrRest ++ rest.take cap), false⟩, rest.drop cap) := by
  have hc : 512 - (ns ++ hdrRest).length = cap := by omega
  unfold finishShare
  simp only [SHARE_SIZE, hc, ← List.take_eq_take_min, ← List.drop_eq_drop_min]
  have hl : (ns ++ (hdrRest ++ (rest.take cap ++ List.replicate (cap - min cap rest.length) 0))).length = 512 := by
    simp only [List.length_append, List.length_take, List.length_replicate] at hh ⊢
    omega
  rw [List.append_assoc, List.append_assoc, shareFromRaw_ok ns _ hns hl]
  simp only [padTo512, List.append_assoc, List.length_append, List.length_take]
  rw [show 512 - (ns.length + (hdrRest.length + min cap rest.length)) = cap - min cap rest.length by
    simp only [List.length_append] at hh; omega]

theorem be_length (w n : Nat) : (be w n).length = w := by
  rw [blob_be]; exact Lumina.Proofs.BigEndian.be_length w n

theorem build_cont (ns : Bytes) (ver : Nat) (sg : Option Bytes) (len : Nat) (rest : Bytes)
    (hns : Lumina.Spec.C14.validRaw ns = true) (hv : ver ≤ 127) :
    buildSparseShare ns ver sg len false rest =
      .ok (⟨padTo512 (ns ++ [UInt8.ofNat (2 * ver)] ++ rest.take 482), false⟩, rest.drop 482) := by
  have h29 := Lumina.Proofs.Namespace.validRaw_length hns
  unfold buildSparseShare infoByteNew
  rw [if_neg (by simp only [MAX_SHARE_VERSION]; omega)]
  simp only [Bool.false_eq_true, ↓reduceIte, Nat.add_zero]
  rw [build_tail ns [UInt8.ofNat (ver * 2)] rest 482 hns (by simp [h29]), Nat.mul_comm]

theorem build_first (ns : Bytes) (sg : Option Bytes) (len : Nat) (rest : Bytes)
    (hns : Lumina.Spec.C14.validRaw ns = true) (hlen : len < 2 ^ 32) (hsg : ∀ s, sg = some s → s.length = 20) :
    buildSparseShare ns (if sg.isSome then 1 else 0) sg len true rest =
      .ok (⟨padTo512 (ns ++ [UInt8.ofNat (2 * (if sg.isSome then 1 else 0) + 1)] ++ be 4 len ++ sg.getD [] ++
              rest.take (firstCap sg.isSome)), false⟩, rest.drop (firstCap sg.isSome)) := by
  have h29 := Lumina.Proofs.Namespace.validRaw_length hns
  unfold buildSparseShare infoByteNew
  rw [if_neg (by simp only [MAX_SHARE_VERSION]; split <;> omega)]
  simp only [↓reduceIte, U32_MAX, SHARE_VERSION_ONE, SEQUENCE_LEN_BYTES]
  rw [if_neg (by omega)]
  cases sg with
  | none =>
    have := build_tail ns ([UInt8.ofNat (0 * 2 + 1)] ++ be 4 len) rest (firstCap false) hns
      (by simp [h29, be_length, firstCap])
    simpa using this
  | some s =>
    have := build_tail ns ([UInt8.ofNat (1 * 2 + 1)] ++ be 4 len ++ s) rest (firstCap true) hns
      (by simp [h29, be_length, hsg s rfl, firstCap])
    simpa using this

def mkCont (ns : Bytes) (ver : Nat) (c : Bytes) : Share := ⟨padTo512 (ns ++ [UInt8.ofNat (2 * ver)] ++ c), false⟩

/-- `cs` is `d` cut into consecutive pieces of 482 bytes, the last one possibly shorter: what
    `chunks482` computes with enough fuel, and what the loops of the model walk along -/
inductive Chunks : Bytes → List Bytes → Prop
  | nil : Chunks [] []
  | cons {d cs} : d ≠ [] → Chunks (d.drop 482) cs → Chunks d (d.take 482 :: cs)

theorem chunks482_chunks : ∀ (f : Nat) (d : Bytes), d.length ≤ f → Chunks d (chunks482 f d)
  | 0, d, h => by
    obtain rfl : d = [] := List.eq_nil_of_length_eq_zero (by omega)
    exact .nil
  | _ + 1, [], _ => .nil
  | f + 1, a :: t, h =>
    .cons (List.cons_ne_nil a t) (chunks482_chunks f _ (by simp only [List.length_drop, List.length_cons] at h ⊢; omega))

/-- the continuation chunks of a blob whose first share takes `cap` bytes -/
theorem chunks_drop (data : Bytes) (cap : Nat) : Chunks (data.drop cap) (chunks482 data.length (data.drop cap)) :=
  chunks482_chunks _ _ (by simp only [List.length_drop]; omega)

theorem Chunks.length {d : Bytes} {cs : List Bytes} (h : Chunks d cs) : cs.length = (d.length + 481) / 482 := by
  induction h with
  | nil => rfl
  | cons hne _ ih =>
    have := List.length_pos_iff.2 hne
    simp only [List.length_cons, ih, List.length_drop]
    omega

theorem split_cont (ns : Bytes) (ver : Nat) (sg : Option Bytes) (len : Nat)
    (hns : Lumina.Spec.C14.validRaw ns = true) (hv : ver ≤ 127) {d : Bytes} {cs : List Bytes} (h : Chunks d cs) :
    ∀ f, d.length ≤ f → splitLoop ns ver sg len f false d = .ok (cs.map (mkCont ns ver)) := by
  induction h with
  | nil => intro f _; cases f <;> rfl
  | @cons d cs hne _ ih =>
    intro f hf
    have := List.length_pos_iff.2 hne
    obtain ⟨f, rfl⟩ : ∃ g, f = g + 1 := ⟨f - 1, by omega⟩
    have he : d.isEmpty = false := by simpa using hne
    simp only [splitLoop, he, Bool.false_eq_true, ↓reduceIte, build_cont ns ver sg len d hns hv,
      ih f (by simp only [List.length_drop]; omega)]
    rfl

theorem split_eq (ns data : Bytes) (sg : Option Bytes)
    (hns : Lumina.Spec.C14.validRaw ns = true) (hne : data ≠ []) (hlen : data.length < 2 ^ 32)
    (hsg : ∀ s, sg = some s → s.length = 20) :
    splitBlobToShares ns (if sg.isSome then 1 else 0) data sg =
      .ok ((expectedShares ns data sg).map (fun d => (⟨d, false⟩ : Share))) := by
  unfold splitBlobToShares
  have hpos : 0 < data.length := List.length_pos_iff.2 hne
  obtain ⟨n, hn⟩ : ∃ n, data.length = n + 1 := ⟨data.length - 1, by omega⟩
  rw [hn]
  simp only [splitLoop]
  have he : data.isEmpty = false := by cases data <;> simp_all
  simp only [he, Bool.false_eq_true, ↓reduceIte]
  rw [← hn, build_first ns sg data.length data hns hlen hsg]
  simp only
  have hv : (if sg.isSome then 1 else 0) ≤ 127 := by split <;> omega
  have hcap : 0 < firstCap sg.isSome := by simp only [firstCap]; split <;> omega
  rw [split_cont ns _ sg data.length hns hv (chunks_drop data _) n (by simp only [List.length_drop]; omega)]
  simp only [expectedShares, List.map_cons, List.map_map]
  congr 2
  congr 1
  simp only [be32, be, List.append_assoc]
  simp

theorem chunks_count (data : Bytes) (hs : Bool) :
    (chunks482 data.length (data.drop (firstCap hs))).length + 1 = sharesNeeded data.length hs := by
  rw [(chunks_drop data _).length, List.length_drop, sharesNeeded]
  split <;> omega

theorem expected_length (ns data : Bytes) (sg : Option Bytes) :
    (expectedShares ns data sg).length = sharesNeeded data.length sg.isSome := by
  simp only [expectedShares, List.length_cons, List.length_map, chunks_count]

theorem sharesNeededForBlob_eq (len : Nat) (hs : Bool) : sharesNeededForBlob len hs = sharesNeeded len hs := by
  have hc : (if hs then FIRST_SPARSE_SHARE_CONTENT_SIZE - SIGNER_SIZE else FIRST_SPARSE_SHARE_CONTENT_SIZE) =
      firstCap hs := by cases hs <;> rfl
  simp only [sharesNeededForBlob, sharesNeeded, hc, CONTINUATION_SPARSE_SHARE_CONTENT_SIZE]
  -- the two differ only in how they treat `len = firstCap hs`, where the quotient is 0
  split <;> split <;> omega

theorem share_ns (ns body : Bytes) (ib : UInt8) (h29 : ns.length = 29) :
    (⟨ns ++ ib :: body, false⟩ : Share).ns = ns := by
  simp only [Share.ns, Bool.false_eq_true, ↓reduceIte, NS_SIZE]
  rw [← h29]; exact List.take_left

theorem share_ib (ns body : Bytes) (ib : UInt8) (h29 : ns.length = 29) :
    (⟨ns ++ ib :: body, false⟩ : Share).infoByte = some ib := by
  simp only [Share.infoByte, Bool.false_eq_true, ↓reduceIte, NS_SIZE, List.getD_eq_getElem?_getD]
  rw [← h29, List.getElem?_append_right (Nat.le_refl _)]
  simp

theorem share_drop (ns body : Bytes) (ib : UInt8) (h29 : ns.length = 29) (k : Nat) :
    (ns ++ ib :: body).drop (30 + k) = body.drop k := by
  have : 30 + k = ns.length + (1 + k) := by omega
  rw [this, List.drop_append]
  simp [Nat.add_comm 1 k]

theorem share_drop30 (ns body : Bytes) (ib : UInt8) (h29 : ns.length = 29) : (ns ++ ib :: body).drop 30 = body := by
  have := share_drop ns body ib h29 0; simpa using this
theorem share_drop34 (ns body : Bytes) (ib : UInt8) (h29 : ns.length = 29) : (ns ++ ib :: body).drop 34 = body.drop 4 :=
  share_drop ns body ib h29 4
theorem share_drop54 (ns body : Bytes) (ib : UInt8) (h29 : ns.length = 29) : (ns ++ ib :: body).drop 54 = body.drop 24 :=
  share_drop ns body ib h29 24

theorem toNat_ofNat (n : Nat) : (UInt8.ofNat n).toNat = n % 256 := rfl

theorem ib_cont (v : Nat) (hv : v ≤ 127) :
    ibVersion (UInt8.ofNat (2 * v)) = v ∧ ibSeqStart (UInt8.ofNat (2 * v)) = false := by
  simp only [ibVersion, ibSeqStart, toNat_ofNat]
  refine ⟨by omega, ?_⟩
  simp only [beq_eq_false_iff_ne, ne_eq]; omega

theorem ib_first (v : Nat) (hv : v ≤ 127) :
    ibVersion (UInt8.ofNat (2 * v + 1)) = v ∧ ibSeqStart (UInt8.ofNat (2 * v + 1)) = true := by
  simp only [ibVersion, ibSeqStart, toNat_ofNat]
  refine ⟨by omega, ?_⟩
  simp only [beq_iff_eq]; omega

/-- a padded share in `ns ‖ info byte ‖ body` form: 482 bytes follow the info byte -/
theorem pad_form (ns body : Bytes) (ib : UInt8) (h29 : ns.length = 29) :
    padTo512 (ns ++ [ib] ++ body) = ns ++ ib :: (body ++ List.replicate (482 - body.length) 0) := by
  simp only [padTo512, List.append_assoc, List.cons_append, List.nil_append, List.length_append, List.length_cons,
    h29]
  rw [show 512 - (29 + (body.length + 1)) = 482 - body.length by omega]

theorem reconLoop_step (ns : Bytes) (ver : Nat) (c : Bytes) (n : Nat) (tail : List Share) (acc : Bytes)
    (h29 : ns.length = 29) (hv : ver ≤ 127) :
    reconLoop ns ver (n + 1) (mkCont ns ver c :: tail) acc =
      reconLoop ns ver n tail (acc ++ (c ++ List.replicate (482 - c.length) 0)) := by
  rw [mkCont, pad_form ns c _ h29]
  obtain ⟨hv1, hv2⟩ := ib_cont ver hv
  simp only [reconLoop, share_ns _ _ _ h29, ne_eq, not_true_eq_false, ↓reduceIte, share_ib _ _ _ h29,
    Share.payload, Share.sequenceLength, hv1, hv2, Bool.false_eq_true, Option.isSome_none]
  simp only [SEQ_LEN_OFFSET, NS_SIZE, SHARE_INFO_BYTES, share_drop30 _ _ _ h29]

/-- a piece of `cap` bytes padded to `cap`, then the rest: padding is only there when the rest is empty -/
theorem take_pad_drop (d : Bytes) (cap m : Nat) :
    ∃ m', d.take cap ++ List.replicate (cap - (d.take cap).length) 0 ++ (d.drop cap ++ List.replicate m 0) =
      d ++ List.replicate m' 0 := by
  by_cases h : cap ≤ d.length
  · refine ⟨m, ?_⟩
    rw [List.length_take, Nat.min_eq_left h, Nat.sub_self, List.replicate_zero, List.append_nil,
      ← List.append_assoc, List.take_append_drop]
  · rw [List.take_of_length_le (by omega), List.drop_of_length_le (by omega)]
    exact ⟨cap - d.length + m, by simp⟩

theorem reconLoop_chunks (ns : Bytes) (ver : Nat) (h29 : ns.length = 29) (hv : ver ≤ 127) (tail : List Share)
    {d : Bytes} {cs : List Bytes} (h : Chunks d cs) :
    ∀ acc, ∃ m, reconLoop ns ver cs.length (cs.map (mkCont ns ver) ++ tail) acc =
      .ok (acc ++ d ++ List.replicate m 0, tail) := by
  induction h with
  | nil => exact fun acc => ⟨0, by simp [reconLoop]⟩
  | @cons d cs _ _ ih =>
    intro acc
    obtain ⟨m, hm⟩ := ih (acc ++ (d.take 482 ++ List.replicate (482 - (d.take 482).length) 0))
    obtain ⟨m', e⟩ := take_pad_drop d 482 m
    refine ⟨m', ?_⟩
    rw [List.length_cons, List.map_cons, List.cons_append,
      reconLoop_step ns ver (d.take 482) _ _ acc h29 hv, hm]
    simp only [List.append_assoc] at e ⊢
    rw [e]

theorem ofBe_be32 (n : Nat) (h : n < 2 ^ 32) : ofBe (be32 n) = n := by
  rw [blob_ofBe, be32_eq, ofBe_be, Nat.mod_eq_of_lt (by simpa using h)]

theorem be32_length (n : Nat) : (be32 n).length = 4 := rfl

theorem nsIsReserved_eq (ns : Bytes) : nsIsReserved ns = isReserved ns := by
  have h := Lumina.Props.C14.isReserved_spec ns
  simp only [Lumina.Spec.C14.specIsReserved, beq_iff_eq] at h
  simp only [nsIsReserved, isReserved, h]

def mkShare (d : Bytes) : Share := ⟨d, false⟩

/-- the first share of a blob, in `ns ‖ info ‖ body` form -/
theorem first_form (ns data : Bytes) (sg : Option Bytes) (h29 : ns.length = 29)
    (hsg : ∀ s, sg = some s → s.length = 20) :
    padTo512 (ns ++ [UInt8.ofNat (2 * (if sg.isSome then 1 else 0) + 1)] ++ be32 data.length ++ sg.getD [] ++
        data.take (firstCap sg.isSome)) =
      ns ++ UInt8.ofNat (2 * (if sg.isSome then 1 else 0) + 1) ::
        (be32 data.length ++ (sg.getD [] ++ (data.take (firstCap sg.isSome) ++
          List.replicate (firstCap sg.isSome - (data.take (firstCap sg.isSome)).length) 0))) := by
  have hl : (sg.getD []).length + firstCap sg.isSome = 478 := by
    cases sg with
    | none => simp [firstCap]
    | some s => simp [firstCap, hsg s rfl]
  rw [List.append_assoc _ (sg.getD []), List.append_assoc _ (be32 data.length), pad_form _ _ _ h29]
  simp only [List.append_assoc, List.length_append, be32_length, List.length_take]
  rw [show 482 - (4 + ((sg.getD []).length + min (firstCap sg.isSome) data.length)) =
    firstCap sg.isSome - min (firstCap sg.isSome) data.length by omega]

theorem validateBlob_ok (sg : Option Bytes) (app : Nat) (h : ∀ s, sg = some s → 3 ≤ app) :
    validateBlob (if sg.isSome then 1 else 0) sg.isSome app = .ok () := by
  cases sg with
  | none => simp [validateBlob, SHARE_VERSION_ZERO, SHARE_VERSION_ONE]
  | some s => simp [validateBlob, SHARE_VERSION_ZERO, SHARE_VERSION_ONE, Nat.not_lt.2 (h s rfl)]

theorem blob_new_ok (ns data : Bytes) (sg : Option Bytes) (app : Nat)
    (hns : Lumina.Spec.C14.validRaw ns = true) (hne : data ≠ []) (hlen : data.length < 2 ^ 32)
    (hsg : ∀ s, sg = some s → s.length = 20 ∧ 3 ≤ app) :
    Blob.new ns data sg app = .ok ⟨ns, data, if sg.isSome then 1 else 0, sg⟩ := by
  have hver : (if sg.isNone then SHARE_VERSION_ZERO else SHARE_VERSION_ONE) = if sg.isSome then 1 else 0 := by
    cases sg <;> rfl
  simp only [Blob.new, hver, validateBlob_ok sg app fun s h => (hsg s h).2,
    split_eq ns data sg hns hne hlen fun s h => (hsg s h).1]

theorem take_data (data : Bytes) (cap m : Nat) :
    (data.take cap ++ List.replicate (cap - (data.take cap).length) 0 ++ data.drop cap ++ List.replicate m 0).take
      data.length = data := by
  obtain ⟨m', e⟩ := take_pad_drop data cap m
  rw [List.append_assoc _ (data.drop cap), e, List.take_left]

/-- the shares of one blob, followed by anything, reconstruct to that blob and leave the rest -/
theorem reconstruct_split (ns data : Bytes) (sg : Option Bytes) (app : Nat) (tail : List Share)
    (hns : Lumina.Spec.C14.validRaw ns = true) (hres : isReserved ns = false)
    (hne : data ≠ []) (hlen : data.length < 2 ^ 32) (hsg : ∀ s, sg = some s → s.length = 20 ∧ 3 ≤ app) :
    reconstruct ((expectedShares ns data sg).map mkShare ++ tail) app =
      .ok (⟨ns, data, if sg.isSome then 1 else 0, sg⟩, tail) := by
  have h29 := Lumina.Proofs.Namespace.validRaw_length hns
  have hv : (if sg.isSome then 1 else 0) ≤ 127 := by split <;> omega
  obtain ⟨hib1, hib2⟩ := ib_first _ hv
  have hff := first_form ns data sg h29 (fun s h => (hsg s h).1)
  have hnew := blob_new_ok ns data sg app hns hne hlen hsg
  obtain ⟨m, hm⟩ := reconLoop_chunks ns _ h29 hv tail (chunks_drop data (firstCap sg.isSome))
    (data.take (firstCap sg.isSome) ++ List.replicate (firstCap sg.isSome - (data.take (firstCap sg.isSome)).length) 0)
  simp only [expectedShares, List.map_cons, List.cons_append, List.map_map]
  have hcomp : (mkShare ∘ fun c => padTo512 (ns ++ [UInt8.ofNat (2 * (if sg.isSome then 1 else 0))] ++ c)) =
      mkCont ns (if sg.isSome then 1 else 0) := by funext c; rfl
  rw [hcomp, hff]
  cases sg with
  | none =>
    simp only [Option.isSome_none, Bool.false_eq_true, ↓reduceIte, Option.getD_none, List.nil_append] at hib1 hib2 hm hnew ⊢
    simp only [mkShare, reconstruct, Share.sequenceLength, share_ib _ _ _ h29, hib2, ↓reduceIte, share_ns _ _ _ h29,
      nsIsReserved_eq, hres, Bool.false_eq_true, Share.payload, Share.signer, hib1,
      SEQ_LEN_OFFSET, SIGNER_OFFSET, NS_SIZE, SHARE_INFO_BYTES, SEQUENCE_LEN_BYTES, SIGNER_SIZE,
      SHARE_VERSION_ONE, SHARE_VERSION_ZERO, Nat.reduceAdd, share_drop30 _ _ _ h29, share_drop34 _ _ _ h29,
      Nat.zero_ne_one, beq_iff_eq, sharesNeededForBlob_eq,
      List.take_left' (be32_length data.length), List.drop_left' (be32_length data.length), ofBe_be32 _ hlen]
    simp only [show ((0 : Nat) == 1) = false from rfl, Bool.and_false, Bool.false_eq_true, ↓reduceIte,
      Option.isSome_none]
    rw [← chunks_count, Nat.add_sub_cancel, hm]
    simp only
    rw [take_data, hnew]
  | some s =>
    have h20 := (hsg s rfl).1
    simp only [Option.isSome_some, ↓reduceIte, Option.getD_some] at hib1 hib2 hm hnew ⊢
    have hd24 : (be32 data.length ++ (s ++ (data.take (firstCap true) ++
        List.replicate (firstCap true - (data.take (firstCap true)).length) 0))).drop 24 =
        data.take (firstCap true) ++ List.replicate (firstCap true - (data.take (firstCap true)).length) 0 := by
      rw [← List.append_assoc]
      exact List.drop_left' (by simp [be32_length, h20])
    have ht20 : (s ++ (data.take (firstCap true) ++
        List.replicate (firstCap true - (data.take (firstCap true)).length) 0)).take 20 = s :=
      List.take_left' h20
    simp only [mkShare, reconstruct, Share.sequenceLength, share_ib _ _ _ h29, hib2, ↓reduceIte, share_ns _ _ _ h29,
      nsIsReserved_eq, hres, Bool.false_eq_true, Share.payload, Share.signer, hib1,
      SEQ_LEN_OFFSET, SIGNER_OFFSET, NS_SIZE, SHARE_INFO_BYTES, SEQUENCE_LEN_BYTES, SIGNER_SIZE,
      SHARE_VERSION_ONE, SHARE_VERSION_ZERO, Nat.reduceAdd, share_drop30 _ _ _ h29, share_drop34 _ _ _ h29,
      share_drop54 _ _ _ h29, beq_self_eq_true, Bool.and_true, Option.isSome_some, sharesNeededForBlob_eq,
      List.take_left' (be32_length data.length), List.drop_left' (be32_length data.length), ofBe_be32 _ hlen,
      hd24, ht20, Nat.succ_ne_zero]
    rw [← chunks_count, Nat.add_sub_cancel, hm]
    simp only
    rw [take_data]
    simp [hnew]

theorem inScope_unpack (ns data : Bytes) (sg : Option Bytes) (app : Nat) (h : inScope ns data sg app = true) :
    Lumina.Spec.C14.validRaw ns = true ∧ isReserved ns = false ∧ data ≠ [] ∧ data.length < 2 ^ 32 ∧
    (∀ s, sg = some s → s.length = 20 ∧ 3 ≤ app) := by
  simp only [inScope, Bool.and_eq_true, Bool.not_eq_true', decide_eq_true_eq] at h
  obtain ⟨⟨⟨⟨h1, h2⟩, h3⟩, h4⟩, h5⟩ := h
  refine ⟨h3, h4, ?_, h2, ?_⟩
  · intro e; subst e; simp at h1
  · intro s hs
    subst hs
    simp only [Bool.and_eq_true, beq_iff_eq, decide_eq_true_eq] at h5
    exact h5

def blobOf (b : BlobObs) : Blob := ⟨b.1, b.2.1, if b.2.2.isSome then 1 else 0, b.2.2⟩

theorem reconstruct_scope (b : BlobObs) (app : Nat) (tail : List Share) (h : inScope b.1 b.2.1 b.2.2 app = true) :
    reconstruct ((expectedShares b.1 b.2.1 b.2.2).map mkShare ++ tail) app = .ok (blobOf b, tail) := by
  obtain ⟨h1, h2, h3, h4, h5⟩ := inScope_unpack _ _ _ app h
  exact reconstruct_split _ _ _ app tail h1 h2 h3 h4 h5

theorem reconstruct_ok_start (s : Share) (r : List Share) (app : Nat) (x : Blob × List Share)
    (h : reconstruct (s :: r) app = .ok x) : s.sequenceLength.isNone = false := by
  cases hs : s.sequenceLength with
  | none => simp [reconstruct, hs] at h
  | some n => rfl

theorem expected_cons (ns data : Bytes) (sg : Option Bytes) :
    ∃ f r, (expectedShares ns data sg).map mkShare = f :: r := by
  simp only [expectedShares, List.map_cons]
  exact ⟨_, _, rfl⟩

theorem reconAll_concat (app : Nat) : ∀ (bs : List BlobObs) (fuel : Nat), bs.length ≤ fuel →
    (∀ b ∈ bs, inScope b.1 b.2.1 b.2.2 app = true) →
    reconAllLoop app fuel ((bs.map (fun b => (expectedShares b.1 b.2.1 b.2.2).map mkShare)).flatten) =
      .ok (bs.map blobOf) := by
  intro bs
  induction bs with
  | nil =>
    intro fuel _ _
    cases fuel <;> simp [reconAllLoop]
  | cons b bs ih =>
    intro fuel hf hs
    obtain ⟨fuel', rfl⟩ : ∃ f', fuel = f' + 1 := ⟨fuel - 1, by simp at hf; omega⟩
    simp only [List.map_cons, List.flatten_cons, reconAllLoop]
    have hrec := reconstruct_scope b app ((bs.map (fun b => (expectedShares b.1 b.2.1 b.2.2).map mkShare)).flatten)
      (hs b (by simp))
    obtain ⟨f, r, hfr⟩ := expected_cons b.1 b.2.1 b.2.2
    rw [hfr] at hrec ⊢
    simp only [List.cons_append] at hrec ⊢
    have hstart := reconstruct_ok_start _ _ _ _ hrec
    rw [List.dropWhile_cons_of_neg (by simp [hstart])]
    simp only [hrec]
    rw [ih fuel' (by simp at hf; omega) (fun b' hb' => hs b' (by simp [hb']))]

/-- **reconstructing all blobs from their concatenated shares interleaved with reserved-namespace
    shares returns them in order** -/
theorem reconstructAll_of_filter (app : Nat) (bs : List BlobObs) (L : List Share)
    (hs : ∀ b ∈ bs, inScope b.1 b.2.1 b.2.2 app = true)
    (hL : L.filter (fun s => !nsIsReserved s.ns) =
      (bs.map (fun b => (expectedShares b.1 b.2.1 b.2.2).map mkShare)).flatten) :
    reconstructAll L app = .ok (bs.map blobOf) := by
  unfold reconstructAll
  simp only
  rw [hL]
  apply reconAll_concat app bs _ _ hs
  -- every blob contributes at least one share
  have : ∀ (l : List BlobObs), l.length ≤ ((l.map (fun b => (expectedShares b.1 b.2.1 b.2.2).map mkShare)).flatten).length := by
    intro l
    induction l with
    | nil => simp
    | cons b l ih =>
      obtain ⟨f, r, hfr⟩ := expected_cons b.1 b.2.1 b.2.2
      simp only [List.map_cons, List.flatten_cons, List.length_append, List.length_cons, hfr]
      omega
  have := this bs
  omega

end Lumina.Proofs.C11

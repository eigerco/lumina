/-
  Merkle trees of given hashes (`PT`) and what collision-freeness says about two of them with the same root.

  `Ev H ign S t h`: the tree `t` evaluates to `h`, hashing only inputs of `S`.  The verifier's recursion, `compute_root` and
  the perfect-tree root are each turned into such a judgment once (`canon_of_root`, `canon_of_perfect` here, `frontier_inner`
  in `NmtRange.lean`); monotonicity of "the inputs are in `S`" under sub-computations is then the shape of the constructor.
  `Ev.prune` is where collision-freeness does its work: a tree with the root of a tree of leaf hashes is that tree with some
  subtrees cut down to their root hash.  What follows from a `Prune` is combinatorics (`Prune.segs` in `NmtRange.lean`: the
  given hashes are roots of consecutive segments), except that a cut at a leaf hash cuts nothing (`Ev.eq_leaf`: a leaf hash
  is not the value of a node), which `Prune.leaf` needs to place a leaf of the pruned tree in the full one.
  `Ev.eq_of_hash` and `Ev.ne_empty` compare two trees of leaf hashes by the hash part of their roots only.
-/
import Lumina.Proofs.Nmt

namespace Lumina.Proofs.NmtRange
open Lumina.Util Lumina.Model.Nmt Lumina.Proofs.Nmt

/-- a binary tree with given hashes at the frontier: the verifier's proof tree (leaf hashes and siblings) or the real tree
    (leaf hashes only, `Canon`) -/
inductive PT where
  | leaf (h : NsHash)
  | node (l r : PT)

def PT.eval (H : HashFn) (ign : Bool) : PT → Except Err NsHash
  | .leaf h => .ok h
  | .node l r =>
    match l.eval H ign, r.eval H ign with
    | .ok a, .ok b => hashNodes H ign a b
    | .error e, _ => .error e
    | _, .error e => .error e

def PT.frontier : PT → List NsHash
  | .leaf h => [h]
  | .node l r => l.frontier ++ r.frontier

theorem PT.mem_left {l r : PT} {x : NsHash} (h : x ∈ l.frontier) : x ∈ (PT.node l r).frontier := List.mem_append_left _ h
theorem PT.mem_right {l r : PT} {x : NsHash} (h : x ∈ r.frontier) : x ∈ (PT.node l r).frontier := List.mem_append_right _ h

variable {H : HashFn} {ign ign' : Bool} {S : Bytes → Prop}

/-- `t` evaluates to `h`, and every `hash_nodes` input of the evaluation is in `S` -/
inductive Ev (H : HashFn) (ign : Bool) (S : Bytes → Prop) : PT → NsHash → Prop where
  | leaf {x : NsHash} : Ev H ign S (.leaf x) x
  | node {l r : PT} {a b h : NsHash} : Ev H ign S l a → Ev H ign S r b → hashNodes H ign a b = .ok h →
      S (nodeInput a b) → Ev H ign S (.node l r) h

theorem Ev.eval {t : PT} {h : NsHash} (e : Ev H ign S t h) : t.eval H ign = .ok h := by
  induction e with
  | leaf => rfl
  | node _ _ hn _ iha ihb => simp only [PT.eval, iha, ihb, hn]

theorem Ev.WF (hk : HashLen H) {t : PT} {h : NsHash} (e : Ev H ign S t h) (w : ∀ x ∈ t.frontier, x.WF) : h.WF := by
  induction e with
  | leaf => exact w _ (by simp [PT.frontier])
  | node _ _ hn _ iha ihb =>
    exact hashNodes_WF hk (iha (fun x hx => w x (PT.mem_left hx))) (ihb (fun x hx => w x (PT.mem_right hx))) hn

theorem Ev.WF_of_leaves (hk : HashLen H) {t : PT} {h : NsHash} (e : Ev H ign S t h)
    (lt : ∀ x ∈ t.frontier, IsLeafOn H S x) : h.WF :=
  e.WF hk (fun x hx => (lt x hx).WF hk)

/-- a leaf hash is not the value of an inner node -/
theorem Ev.eq_leaf (hi : NoCollOn H S) {t : PT} {x : NsHash} (e : Ev H ign S t x) (lx : IsLeafOn H S x) : t = .leaf x := by
  cases e with
  | leaf => rfl
  | node _ _ hn hS =>
    obtain ⟨ns, d, _, rfl, hx⟩ := lx
    exact (leaf_ne_node_on hi hn hx hS rfl).elim

/-- `t` is `t'` with some subtrees replaced by their root hash -/
inductive Prune (H : HashFn) (ign' : Bool) (S : Bytes → Prop) : PT → PT → Prop where
  | cut {x : NsHash} {t' : PT} : Ev H ign' S t' x → Prune H ign' S (.leaf x) t'
  | node {l r l' r' : PT} : Prune H ign' S l l' → Prune H ign' S r r' → Prune H ign' S (.node l r) (.node l' r')

/-- **Two trees with the same root**, the second one over leaf hashes: the first is the second, pruned.  (The SAME root, not
    only the same hash part: with `ign ≠ ign'` two roots can agree in the hash and differ in the namespaces; one level
    down the children are equal in full, see `Ev.eq_of_hash`.) -/
theorem Ev.prune (hk : HashOKOn H S) : ∀ {t t' : PT} {h : NsHash}, Ev H ign S t h → Ev H ign' S t' h →
    (∀ x ∈ t.frontier, x.WF) → (∀ x ∈ t'.frontier, IsLeafOn H S x) → Prune H ign' S t t' := by
  intro t
  induction t with
  | leaf x => intro t' h e e' _ _; cases e; exact .cut e'
  | node l r ihl ihr =>
    intro t' h e e' w lt
    have wl : ∀ x ∈ l.frontier, x.WF := fun x hx => w x (PT.mem_left hx)
    have wr : ∀ x ∈ r.frontier, x.WF := fun x hx => w x (PT.mem_right hx)
    cases e with
    | node ea eb hn hS =>
      cases e' with
      | leaf =>
        -- the real tree is one leaf hash, which is not the value of a node
        cases (Ev.node ea eb hn hS).eq_leaf hk.inj (lt h (by simp [PT.frontier]))
      | node ea' eb' hn' hS' =>
        obtain ⟨rfl, rfl⟩ := hashNodes_hash_inj_on hk.inj (ea.WF hk.len wl) (eb.WF hk.len wr)
          (ea'.WF_of_leaves hk.len (fun x hx => lt x (PT.mem_left hx)))
          (eb'.WF_of_leaves hk.len (fun x hx => lt x (PT.mem_right hx))) hn hn' hS hS' rfl
        exact .node (ihl ea ea' wl (fun x hx => lt x (PT.mem_left hx))) (ihr eb eb' wr (fun x hx => lt x (PT.mem_right hx)))

/-- `x` is the hash given at the frontier of `t` at depth `d`, number `n` (the path as a binary number, left = 0) -/
inductive Leaf : PT → Nat → Nat → NsHash → Prop where
  | here {x : NsHash} : Leaf (.leaf x) 0 0 x
  | left {l r : PT} {d n : Nat} {x : NsHash} : Leaf l d n x → Leaf (.node l r) (d + 1) n x
  | right {l r : PT} {d n : Nat} {x : NsHash} : Leaf r d n x → Leaf (.node l r) (d + 1) (2 ^ d + n) x

theorem Prune.leaf (hi : NoCollOn H S) {t t' : PT} (p : Prune H ign' S t t') {d n : Nat} {x : NsHash} (lf : Leaf t d n x)
    (lx : IsLeafOn H S x) : Leaf t' d n x := by
  induction lf generalizing t' with
  | here => cases p with | cut e => rw [e.eq_leaf hi lx]; exact .here
  | left _ ih => cases p with | node pl _ => exact .left (ih pl lx)
  | right _ ih => cases p with | node _ pr => exact .right (ih pr lx)

theorem computeRootAux_fuel {H : HashFn} {ign : Bool} : ∀ (f f' : Nat) (L : List NsHash), L.length < f → L.length < f' →
    computeRootAux H ign f L = computeRootAux H ign f' L := by
  intro f
  induction f with
  | zero => intro f' L h; omega
  | succ f ih =>
    intro f' L h h'
    obtain ⟨g, rfl⟩ : ∃ g, f' = g + 1 := ⟨f' - 1, by omega⟩
    match L, h, h' with
    | [], _, _ => rfl
    | [x], _, _ => rfl
    | a :: b :: rest, h, h' =>
      obtain ⟨h1, h2⟩ := nextSmallerPo2_pos_lt (n := (a :: b :: rest).length) (by simp)
      unfold computeRootAux
      simp only
      rw [ih g _ (by rw [List.length_take]; omega) (by rw [List.length_take]; omega),
        ih g _ (by rw [List.length_drop]; omega) (by rw [List.length_drop]; omega)]

/-- `t` is the tree `compute_root` builds over the non-empty list `L`: split at `next_smaller_po2` down to single leaves -/
inductive Canon : List NsHash → PT → Prop where
  | one {x : NsHash} : Canon [x] (.leaf x)
  | node {L : List NsHash} {l r : PT} : 2 ≤ L.length → Canon (L.take (nextSmallerPo2 L.length)) l →
      Canon (L.drop (nextSmallerPo2 L.length)) r → Canon L (.node l r)

theorem Canon.frontier {L : List NsHash} {t : PT} (c : Canon L t) : t.frontier = L := by
  induction c with
  | one => rfl
  | node _ _ _ ihl ihr => simp [PT.frontier, ihl, ihr]

theorem Canon.ne_nil {L : List NsHash} {t : PT} (c : Canon L t) : L ≠ [] := by
  cases c with
  | one => simp
  | node h _ _ => intro e; rw [e] at h; simp at h

theorem canon_of_root : ∀ (fuel : Nat) {L : List NsHash} {r : NsHash}, L ≠ [] → L.length < fuel →
    (∀ y ∈ rootInputs H ign fuel L, S y) → computeRootAux H ign fuel L = .ok r → ∃ t, Canon L t ∧ Ev H ign S t r := by
  intro fuel
  induction fuel with
  | zero => intro L r _ h; omega
  | succ f ih =>
    intro L r hne hf hT e
    match L, hne, hf, hT, e with
    | [x], _, _, _, e =>
      simp only [computeRootAux, Except.ok.injEq] at e
      subst e; exact ⟨_, .one, .leaf⟩
    | a :: b :: rest, _, hf, hT, e =>
      have h2 : 2 ≤ (a :: b :: rest).length := by simp
      obtain ⟨l, rr, hl, hr, hn⟩ := computeRootAux_cons2 h2 e
      rw [rootInputs_cons2 h2 hl hr] at hT
      obtain ⟨h1, hlt⟩ := nextSmallerPo2_pos_lt h2
      obtain ⟨tl, cl, el⟩ := ih (List.ne_nil_of_length_pos (by rw [List.length_take]; omega))
        (by rw [List.length_take]; omega)
        (fun y hy => hT y (List.mem_append_left _ (List.mem_append_left _ hy))) hl
      obtain ⟨tr, cr, er⟩ := ih (List.ne_nil_of_length_pos (by rw [List.length_drop]; omega))
        (by rw [List.length_drop]; omega)
        (fun y hy => hT y (List.mem_append_left _ (List.mem_append_right _ hy))) hr
      exact ⟨_, .node h2 cl cr, .node el er hn (hT _ (List.mem_append_right _ (List.mem_singleton.mpr rfl)))⟩

theorem Canon.rootAux {L : List NsHash} {t : PT} (c : Canon L t) : ∀ {r : NsHash} (fuel : Nat), L.length < fuel →
    Ev H ign S t r → computeRootAux H ign fuel L = .ok r ∧ ∀ y ∈ rootInputs H ign fuel L, S y := by
  induction c with
  | one =>
    intro r fuel hf e
    obtain ⟨f, rfl⟩ : ∃ f, fuel = f + 1 := ⟨fuel - 1, by omega⟩
    cases e; exact ⟨rfl, by simp [rootInputs]⟩
  | @node L l r h2 cl cr ihl ihr =>
    intro x fuel hf e
    obtain ⟨f, rfl⟩ : ∃ f, fuel = f + 1 := ⟨fuel - 1, by omega⟩
    cases e with
    | node ea eb hn hS =>
      obtain ⟨h1, hlt⟩ := nextSmallerPo2_pos_lt h2
      obtain ⟨hl, hTl⟩ := ihl f (by rw [List.length_take]; omega) ea
      obtain ⟨hr, hTr⟩ := ihr f (by rw [List.length_drop]; omega) eb
      refine ⟨by rw [computeRootAux_step h2, hl, hr]; exact hn, ?_⟩
      intro y hy
      rw [rootInputs_cons2 h2 hl hr] at hy
      simp only [List.mem_append, List.mem_singleton] at hy
      rcases hy with (hy | hy) | hy
      · exact hTl y hy
      · exact hTr y hy
      · rw [hy]; exact hS

theorem Canon.root {L : List NsHash} {t : PT} (c : Canon L t) {r : NsHash} (e : Ev H ign S t r) :
    computeRoot H ign L = .ok r ∧ ∀ y ∈ rootInputs H ign (L.length + 1) L, S y :=
  c.rootAux _ (Nat.lt_succ_self _) e

theorem canon_of_perfect : ∀ (j : Nat) {L : List NsHash} {h : NsHash},
    (∀ y ∈ perfectInputs H ign j L, S y) → perfectRoot H ign j L = .ok h →
    ∃ t, Canon L t ∧ Ev H ign S t h ∧ L.length = 2 ^ j := by
  intro j
  induction j with
  | zero =>
    intro L h _ e
    have := perfectRoot_zero e
    subst this
    exact ⟨_, .one, .leaf, rfl⟩
  | succ j ih =>
    intro L h hT e
    obtain ⟨a, b, ha, hb, hn⟩ := perfectRoot_succ e
    rw [perfectInputs_succ ha hb] at hT
    obtain ⟨tl, cl, el, ll⟩ := ih (fun y hy => hT y (by simp [hy])) ha
    obtain ⟨tr, cr, er, lr⟩ := ih (fun y hy => hT y (by simp [hy])) hb
    have hlen : L.length = 2 ^ (j + 1) := by
      rw [List.length_take] at ll; rw [List.length_drop] at lr; rw [Nat.pow_succ]; omega
    have hk2 : nextSmallerPo2 L.length = 2 ^ j := by rw [hlen]; exact nextSmallerPo2_pow j
    refine ⟨_, .node (by rw [hlen]; exact two_le_two_pow_succ j) (by rw [hk2]; exact cl) (by rw [hk2]; exact cr),
      .node el er hn (hT _ (by simp)), hlen⟩

theorem Canon.leaf_perfect {L : List NsHash} {t : PT} (c : Canon L t) : ∀ {j d n : Nat} {x : NsHash}, L.length = 2 ^ j →
    Leaf t d n x → d = j ∧ L[n]? = some x := by
  induction c with
  | one =>
    intro j d n x hl lf
    cases lf
    cases j with
    | zero => exact ⟨rfl, rfl⟩
    | succ j => have := two_le_two_pow_succ j; simp at hl; omega
  | @node L l r h2 _ _ ihl ihr =>
    intro j d n x hl lf
    obtain ⟨j', rfl⟩ : ∃ j', j = j' + 1 := by
      cases j with
      | zero => simp at hl; omega
      | succ j' => exact ⟨j', rfl⟩
    have hk2 : nextSmallerPo2 L.length = 2 ^ j' := by rw [hl]; exact nextSmallerPo2_pow j'
    cases lf with
    | left lf =>
      obtain ⟨rfl, hx⟩ := ihl (j := j') (by rw [List.length_take, hk2]; omega) lf
      rw [hk2, List.getElem?_take] at hx
      split at hx
      · exact ⟨rfl, hx⟩
      · cases hx
    | right lf =>
      obtain ⟨rfl, hx⟩ := ihr (j := j') (by rw [List.length_drop, hk2]; omega) lf
      rw [hk2, List.getElem?_drop] at hx
      exact ⟨rfl, hx⟩

/-- **A path of a proof tree that ends in a leaf hash is a path of the real tree**: when the proof tree has the root of the
    tree `t'` that `compute_root` builds over `2 ^ j` leaves `L`, the leaf hash sits at depth `j` and is `L` at the number of
    its path -/
theorem Ev.leaf_real (hk : HashOKOn H S) {t : PT} {d n : Nat} {x : NsHash} (lf : Leaf t d n x) (lx : IsLeafOn H S x)
    {h : NsHash} {j : Nat} {L : List NsHash} (ev : Ev H ign S t h) (w : ∀ x ∈ t.frontier, x.WF) (al : AllLeafOn H S L)
    {t' : PT} (c : Canon L t') (ev' : Ev H ign' S t' h) (hl : L.length = 2 ^ j) : d = j ∧ L[n]? = some x :=
  c.leaf_perfect hl ((ev.prune hk ev' w (by rw [c.frontier]; exact al)).leaf hk.inj lf lx)

/-- two trees of leaf hashes whose roots have the same HASH part (the namespace parts may differ: `ign ≠ ign'`) are the
    same tree -/
theorem Ev.eq_of_hash (hk : HashOKOn H S) {t : PT} {h : NsHash} (e : Ev H ign S t h) : ∀ {t' : PT} {h' : NsHash},
    Ev H ign' S t' h' → h.hash = h'.hash → (∀ x ∈ t.frontier, IsLeafOn H S x) → (∀ x ∈ t'.frontier, IsLeafOn H S x) →
    t = t' := by
  induction e with
  | @leaf x =>
    intro t' h' e' hh lt lt'
    obtain ⟨ns, d, hl, rfl, hx⟩ := lt x (by simp [PT.frontier])
    cases e' with
    | leaf =>
      obtain ⟨ns', d', hl', rfl, hx'⟩ := lt' h' (by simp [PT.frontier])
      obtain ⟨rfl, rfl⟩ := hashLeaf_inj_on hk.inj (by rw [hl, hl']) hx hx' hh
      rfl
    | node _ _ hn hS => exact (leaf_ne_node_on hk.inj hn hx hS hh).elim
  | @node l r a b h ea eb hn hS ihl ihr =>
    intro t' h' e' hh lt lt'
    have ll : ∀ x ∈ l.frontier, IsLeafOn H S x := fun x hx => lt x (PT.mem_left hx)
    have lr : ∀ x ∈ r.frontier, IsLeafOn H S x := fun x hx => lt x (PT.mem_right hx)
    cases e' with
    | leaf =>
      obtain ⟨ns', d', _, rfl, hx'⟩ := lt' h' (by simp [PT.frontier])
      exact (leaf_ne_node_on hk.inj hn hx' hS hh.symm).elim
    | node ea' eb' hn' hS' =>
      obtain ⟨rfl, rfl⟩ := hashNodes_hash_inj_on hk.inj (ea.WF_of_leaves hk.len ll) (eb.WF_of_leaves hk.len lr)
        (ea'.WF_of_leaves hk.len (fun x hx => lt' x (PT.mem_left hx)))
        (eb'.WF_of_leaves hk.len (fun x hx => lt' x (PT.mem_right hx))) hn hn' hS hS' hh
      rw [ihl ea' rfl ll (fun x hx => lt' x (PT.mem_left hx)), ihr eb' rfl lr (fun x hx => lt' x (PT.mem_right hx))]

theorem Ev.ne_empty (hi : NoCollOn H S) (hE : S []) {t : PT} {h : NsHash} (e : Ev H ign S t h)
    (lt : ∀ x ∈ t.frontier, IsLeafOn H S x) (hh : (emptyRoot H).hash = h.hash) : False := by
  cases e with
  | leaf =>
    obtain ⟨ns, d, _, rfl, hx⟩ := lt h (by simp [PT.frontier])
    exact emptyRoot_ne_leaf_on hi hE hx hh
  | node _ _ hn hS => exact emptyRoot_ne_node_on hi hn hE hS hh

end Lumina.Proofs.NmtRange

namespace Lumina.Proofs.Nmt
open Lumina.Util Lumina.Model.Nmt Lumina.Proofs.NmtRange

/-- the hash part of an NMT root determines the leaves (relative collision-freeness) -/
theorem computeRoot_hash_inj_on {H : HashFn} {S : Bytes → Prop} (hk : HashOKOn H S) (hE : S []) {ign ign' : Bool} {L L' : List NsHash} {r r' : NsHash}
    (al : AllLeafOn H S L) (al' : AllLeafOn H S L')
    (hT : ∀ y ∈ rootInputs H ign (L.length + 1) L, S y) (hT' : ∀ y ∈ rootInputs H ign' (L'.length + 1) L', S y) (e : computeRoot H ign L = .ok r) (e' : computeRoot H ign' L' = .ok r')
    (hh : r.hash = r'.hash) : L = L' := by
  -- either the empty list with the empty-tree root, or a tree of leaf hashes
  have key : ∀ {ign : Bool} {L : List NsHash} {r : NsHash}, AllLeafOn H S L → (∀ y ∈ rootInputs H ign (L.length + 1) L, S y) →
      computeRoot H ign L = .ok r → (L = [] ∧ r = emptyRoot H) ∨
        ∃ t, t.frontier = L ∧ Ev H ign S t r ∧ ∀ x ∈ t.frontier, IsLeafOn H S x := by
    intro ign L r al hT e
    by_cases hL : L = []
    · subst hL; cases e; exact .inl ⟨rfl, rfl⟩
    · obtain ⟨t, c, ev⟩ := canon_of_root _ hL (Nat.lt_succ_self _) hT e
      exact .inr ⟨t, c.frontier, ev, by rw [c.frontier]; exact al⟩
  rcases key al hT e with ⟨rfl, rfl⟩ | ⟨t, rfl, ev, lt⟩
  · rcases key al' hT' e' with ⟨rfl, rfl⟩ | ⟨t', rfl, ev', lt'⟩
    · rfl
    · exact (ev'.ne_empty hk.inj hE lt' hh).elim
  · rcases key al' hT' e' with ⟨rfl, rfl⟩ | ⟨t', rfl, ev', lt'⟩
    · exact (ev.ne_empty hk.inj hE lt hh.symm).elim
    · rw [ev.eq_of_hash hk ev' hh lt lt']

end Lumina.Proofs.Nmt

/-
  For C46: `fromRaw (toRaw x) = x` for the lumina-owned conversion layers, and the predicates saying which
  values a layer can carry (`ValidShare`, `WFProof`, `ValidMerkle`, `ValidRowProof`, `ValidShareProof`, `ValidBefp`),
  over which the theorems of `Props/C46.lean` are stated.
-/
import Lumina.Model.RoundTrip
import Lumina.Proofs.Namespace
import Lumina.Proofs.Nmt

namespace Lumina.Proofs.RoundTrip
open Lumina.Util Lumina.Model.Nmt Lumina.Model.Eds Lumina.Model.Decoders Lumina.Model.RoundTrip
open Lumina.Model
open Lumina.Proofs.Nmt (ofBytes_toBytes parseNodes_toBytes toBytes_length)

theorem optMapM_map {α β} (f : α → β) (g : β → Option α) : ∀ (l : List α), (∀ x ∈ l, g (f x) = some x) →
    optMapM g (l.map f) = some l := by
  intro l
  induction l with
  | nil => intro _; rfl
  | cons x xs ih =>
    intro h
    simp only [List.map_cons, optMapM]
    rw [h x List.mem_cons_self, ih (fun y hy => h y (List.mem_cons_of_mem _ hy))]

theorem dah_roundtrip (d : Dah) (hr : ∀ h ∈ d.rowRoots, h.WF) (hc : ∀ h ∈ d.colRoots, h.WF) :
    dahFromRaw (dahToRaw d) = some d := by
  unfold dahFromRaw dahToRaw
  simp only [parseNodes_toBytes hr, parseNodes_toBytes hc]

/-- a share as `Share::from_raw` makes it -/
def ValidShare (s : Share) : Prop :=
  s.isParity = false ∧ s.data.length = SHARE_SIZE ∧ ∃ ns, Namespace.fromRaw (s.data.take NS_SIZE) = .ok ns

theorem share_roundtrip (s : Share) (h : ValidShare s) : shareFromRaw (shareToRaw s) = some s := by
  obtain ⟨h1, h2, ns, h3⟩ := h
  unfold shareFromRaw shareToRaw Lumina.Model.Sample.shareFromRaw
  have : ¬ s.data.length ≠ SHARE_SIZE := by simp [h2]
  simp only [this, ↓reduceIte, h3]
  cases s
  simp_all

/-- a proof value as the Rust types allow it: `u32` range, 90-byte nodes, a leaf exactly for absence proofs
    (`AbsenceProof { leaf: None }` is the value excluded here) -/
def WFProof (p : NsProof) : Prop :=
  p.start < 2 ^ 32 ∧ p.end_ < 2 ^ 32 ∧ (∀ s ∈ p.siblings, s.WF) ∧
  (if p.isAbsence = true then ∃ l, p.leaf = some l ∧ l.WF else p.leaf = none)

theorem ofRaw_toRaw (p : NsProof) (h : WFProof p) :
    NsProof.ofRaw p.start p.end_ (p.siblings.map NsHash.toBytes) (proofLeafBytes p) p.ignoreMaxNs = some p := by
  obtain ⟨h1, h2, h3, h4⟩ := h
  unfold NsProof.ofRaw proofLeafBytes proofLeaf
  rw [parseNodes_toBytes h3]
  simp only
  have m1 : p.start % 4294967296 = p.start := Nat.mod_eq_of_lt h1
  have m2 : p.end_ % 4294967296 = p.end_ := Nat.mod_eq_of_lt h2
  by_cases ha : p.isAbsence = true
  · simp only [ha, ↓reduceIte] at h4 ⊢
    obtain ⟨l, hl, hw⟩ := h4
    rw [hl]
    simp only
    have hne : l.toBytes.isEmpty = false := by
      cases hb : l.toBytes with
      | nil => exact absurd (hb ▸ toBytes_length hw) (by decide)
      | cons _ _ => rfl
    simp only [hne, Bool.false_eq_true, ↓reduceIte, ofBytes_toBytes hw, m1, m2]
    cases p
    simp_all
  · simp only [ha, Bool.false_eq_true, ↓reduceIte] at h4 ⊢
    simp only [List.isEmpty_nil, ↓reduceIte, m1, m2]
    cases p
    simp_all

theorem proof_roundtrip (p : NsProof) (h : WFProof p) : proofFromRaw (proofToRaw p) = .ok p := by
  simp only [proofFromRaw, proofToRaw]
  rw [ofRaw_toRaw p h]

theorem toU32_toI32 (n : Nat) (h : n < 2 ^ 32) : toU32 (toI32 (n : Int)) = n := by
  unfold toU32 toI32
  simp only
  split <;> omega

theorem nmtproof_roundtrip (p : NsProof) (h : WFProof p) (hi : p.ignoreMaxNs = true) :
    nmtProofFromRaw (nmtProofToRaw p) = some p := by
  unfold nmtProofFromRaw nmtProofToRaw proofToRaw
  simp only [toU32_toI32 _ h.1, toU32_toI32 _ h.2.1]
  have := ofRaw_toRaw p h
  rw [hi] at this
  exact this

def ValidMerkle (p : MerkleProof) : Prop :=
  p.index < 2 ^ 63 ∧ 1 ≤ p.total ∧ p.total < 2 ^ 63 ∧ p.leafHash.length = 32 ∧ ∀ a ∈ p.aunts, a.length = 32

theorem merkle_roundtrip (p : MerkleProof) (h : ValidMerkle p) : merkleFromRaw (merkleToRaw p) = some p := by
  obtain ⟨h1, h2, h3, h4, h5⟩ := h
  unfold merkleFromRaw merkleToRaw usizeToI64
  have i1 : p.index < 9223372036854775808 := by simpa using h1
  have i2 : p.total < 9223372036854775808 := by simpa using h3
  simp only [i1, i2, ↓reduceIte]
  have n1 : ¬ ((p.index : Int) < 0) := by omega
  have n2 : ¬ ((p.total : Int) ≤ 0) := by omega
  have n3 : ¬ p.leafHash.length ≠ 32 := by simp [h4]
  have n4 : p.aunts.any (fun a => a.length != 32) = false := by
    rw [List.any_eq_false]
    intro a ha
    simp [h5 a ha]
  simp only [n1, n2, n3, n4, ↓reduceIte, Bool.false_eq_true, Int.toNat_natCast]

def ValidRowProof (p : RowProof) : Prop :=
  (∀ h ∈ p.rowRoots, h.WF) ∧ (∀ m ∈ p.proofs, ValidMerkle m) ∧ p.startRow ≤ 65535 ∧ p.endRow ≤ 65535

theorem rowproof_roundtrip (p : RowProof) (h : ValidRowProof p) : rowProofFromRaw (rowProofToRaw p) = some p := by
  obtain ⟨h1, h2, h3, h4⟩ := h
  unfold rowProofFromRaw rowProofToRaw
  simp only [parseNodes_toBytes h1, optMapM_map merkleToRaw merkleFromRaw p.proofs (fun m hm => merkle_roundtrip m (h2 m hm))]
  have n1 : ¬ p.startRow > 65535 := by omega
  have n2 : ¬ p.endRow > 65535 := by omega
  simp only [n1, n2, ↓reduceIte]

/-- `Namespace::new(ns.version(), ns.id())` gives the namespace back -/
theorem namespace_new_parts (ns : Bytes) (h : Namespace.fromRaw ns = .ok ns) :
    Namespace.new (UInt8.ofNat (Namespace.version ns).toNat) (Namespace.idBytes ns) = .ok ns := by
  unfold Namespace.fromRaw at h
  split at h
  · cases h
  · cases ns with
    | nil => simp at h
    | cons v id =>
      simp only at h
      simpa [Namespace.version, Namespace.idBytes] using h

def ValidShareProof (p : ShareProof) : Prop :=
  (∀ d ∈ p.data, d.length = SHARE_SIZE) ∧ Namespace.fromRaw p.namespaceId = .ok p.namespaceId ∧
  (∀ q ∈ p.shareProofs, WFProof q ∧ q.ignoreMaxNs = true) ∧ ValidRowProof p.rowProof

theorem shareproof_roundtrip (p : ShareProof) (h : ValidShareProof p) :
    shareProofFromRaw (shareProofToRaw p) = some p := by
  obtain ⟨h1, h2, h3, h4⟩ := h
  unfold shareProofFromRaw shareProofToRaw
  have n1 : p.data.any (fun d => d.length != SHARE_SIZE) = false := by
    rw [List.any_eq_false]
    intro d hd
    simp [h1 d hd]
  have n2 : ¬ (Namespace.version p.namespaceId).toNat > 255 := by
    have := UInt8.toNat_lt (Namespace.version p.namespaceId); omega
  simp only [n1, Bool.false_eq_true, ↓reduceIte, n2, namespace_new_parts _ h2,
    optMapM_map nmtProofToRaw nmtProofFromRaw p.shareProofs (fun q hq => nmtproof_roundtrip q (h3 q hq).1 (h3 q hq).2),
    rowproof_roundtrip _ h4]

def ValidSwp (s : ShareWithProof) : Prop :=
  Namespace.fromRaw s.ns = .ok s.ns ∧ s.share.length = SHARE_SIZE ∧ WFProof s.proof ∧ s.proof.isAbsence = false

def ValidBefp (p : BefpFull) : Prop :=
  (∀ h, p.headerHash = some h → h.length = 32) ∧ p.befp.height ≤ I64_MAX ∧ p.befp.index ≤ U16_MAX ∧
  (∀ s, some s ∈ p.befp.shares → ValidSwp s)

theorem axis_roundtrip (a : Axis) : axisOfI32 (axisToI32 a) = some a := by
  cases a <;> rfl

theorem swp_roundtrip (s : ShareWithProof) (h : ValidSwp s) :
    shareWithProofFromRaw ⟨s.ns ++ s.share, some (proofToRaw s.proof), axisToI32 s.proofAxis⟩ (proofToRaw s.proof) = .ok s := by
  obtain ⟨h1, h2, h3, h4⟩ := h
  have hl : s.ns.length = NS_SIZE := Lumina.Proofs.Namespace.length_of_fromRaw h1
  unfold shareWithProofFromRaw
  have n1 : ¬ (s.ns ++ s.share).length ≠ NMT_LEAF_SIZE := by
    simp [hl, h2, NMT_LEAF_SIZE, NS_SIZE, SHARE_SIZE]
  have e1 : (s.ns ++ s.share).take NS_SIZE = s.ns := by rw [← hl, List.take_left]
  have e2 : (s.ns ++ s.share).drop NS_SIZE = s.share := by rw [← hl, List.drop_left]
  simp only [n1, ↓reduceIte, e1, e2, h1, proof_roundtrip _ h3, Out.bind, h4, Bool.false_eq_true, axis_roundtrip]

theorem collectOut_map {α β} (f : β → Out α) (m : α → β) : ∀ (l : List α), (∀ x ∈ l, f (m x) = .ok x) →
    collectOut f (l.map m) = .ok l := by
  intro l
  induction l with
  | nil => intro _; rfl
  | cons x xs ih =>
    intro h
    simp only [List.map_cons, collectOut]
    rw [h x List.mem_cons_self, ih (fun y hy => h y (List.mem_cons_of_mem _ hy))]

theorem befp_shares_roundtrip (shares : List (Option ShareWithProof)) (h : ∀ s, some s ∈ shares → ValidSwp s) :
    collectOut befpShareFromRaw (shares.map befpShareToRaw) = .ok shares := by
  apply collectOut_map
  intro o ho
  cases o with
  | none => rfl
  | some s =>
    simp only [befpShareToRaw, befpShareFromRaw]
    rw [swp_roundtrip s (h s ho)]
    rfl

theorem befp_core_roundtrip (p : BefpFull) (h : ValidBefp p) : befpFromRaw (befpToRaw p) = .ok p.befp := by
  obtain ⟨h1, h2, h3, h4⟩ := h
  have n1 : ¬ p.befp.index > U16_MAX := by omega
  have n2 : ¬ p.befp.height > I64_MAX := by omega
  have n3 : ¬ ((p.headerHash.getD []).length ≠ 0 ∧ (p.headerHash.getD []).length ≠ 32) := by
    cases hh : p.headerHash with
    | none => simp
    | some hsh => simp [h1 hsh hh]
  simp only [befpFromRaw, befpToRaw, axis_roundtrip, n1, ↓reduceIte]
  rw [befp_shares_roundtrip _ h4]
  simp only [Out.bind, n2, n3, ↓reduceIte]

theorem befp_roundtrip (p : BefpFull) (h : ValidBefp p) : befpFromRawFull (befpToRaw p) = some p := by
  unfold befpFromRawFull
  rw [befp_core_roundtrip p h]
  simp only
  obtain ⟨h1, _, _, _⟩ := h
  cases p with
  | mk hash befp =>
    cases hash with
    | none => simp [befpToRaw]
    | some hsh =>
      have := h1 hsh rfl
      simp [befpToRaw, this]

theorem hexUpperVal_digit : ∀ n < 16, hexUpperVal (hexUpperDigit n) = some n := by decide +kernel

/-- what is assumed of prost, for the one message at hand: decoding what it encoded gives the message back -/
def PbRoundTripOn (pb : PbCodec) (r : RawBefp) : Prop := pb.dec (pb.enc r) = some r

theorem fraud_raw_roundtrip (pb : PbCodec) (p : BefpFull) (hpb : PbRoundTripOn pb (befpToRaw p)) (h : ValidBefp p) :
    fraudFromRaw pb (fraudToRaw pb p) = some p := by
  unfold PbRoundTripOn at hpb
  simp only [fraudFromRaw, fraudToRaw, ↓reduceIte, hpb]
  exact befp_roundtrip p h

end Lumina.Proofs.RoundTrip

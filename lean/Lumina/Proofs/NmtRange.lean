/-
  General range proofs of the nmt-rs model: one call of the verifier's recursion taken apart (`Step`: the two children, each
  a `ChildRes` or a sibling, then `hash_nodes`; `inner_step`, `Step.inner`, `Step.inputs`); the recursion evaluates a proof
  tree (`Ev`, `NmtTree.lean`) of a shape fixed by the tree size and the claimed range (`Shaped`), whose frontier is
  (left siblings) ++ (leaves) ++ (right siblings) (`frontier_child`, with `frontier_inner` its case of a call: the one place
  where the recursion with its two stacks is followed), how many siblings it takes on each side (`nLeft`, `nRight`) and
  that `compute_tree_size` makes it consume ALL proof nodes
  (`checkRangeProof_frontier_on`); siblings as roots of consecutive segments of the leaves (`Segs`), ordered when the leaves
  are namespace-sorted (`Segs.ordered`); agreement of a proof tree with the real tree under relative collision-freeness
  (`agree_on`, from `Ev.prune`), so that an accepted proof cuts the real leaves into (left of the range) ++ (the range) ++
  (right of it) with the proof nodes as segment roots (`accepted_block_on`; the single-leaf tree's empty proof is no special
  case: its tree is the leaf); what the NMT's own `check_range_proof` adds for the answer Complete
  (`nmtCheckRangeProof_complete_iff`, `CompleteOK`) and what that says about the leaves outside the range (`left_none`,
  `right_none`); soundness of `verify_complete_namespace` (`vcn_sound_on`).
-/
import Lumina.Proofs.NmtTree
import Lumina.Proofs.NmtMultiArith

namespace Lumina.Proofs.NmtRange
open Lumina.Util Lumina.Model.Nmt Lumina.Proofs.Nmt

/-- result of processing a child: a single leaf is taken directly, larger children recurse -/
def ChildRes (H : HashFn) (ign : Bool) (fuel : Nat) (X P : List NsHash) (s csize coff : Nat)
    (h : NsHash) (X' P' : List NsHash) : Prop :=
  if csize = 1 then takeLast? X = some (h, X') ∧ P' = P
  else checkRangeProofInner H ign fuel X P s csize coff = .ok (h, X', P')

/-- inputs hashed while processing a child that overlaps the range -/
def _root_.Lumina.Proofs.NmtMulti.childInputs (H : HashFn) (ign : Bool) (fuel : Nat) (X P : List NsHash) (s csize coff : Nat) :
    List Bytes :=
  if csize = 1 then [] else innerInputs H ign fuel X P s csize coff

open Lumina.Proofs.NmtMulti (childInputs)

/-- how a node of `check_range_proof_inner` obtains a child: one that overlaps the range (`c`) is a single leaf taken
    from the leaves (`c1`) or a recursive call `rec`; one outside the range is a sibling taken from the proof -/
theorem child_ok_iff {c c1 : Prop} [Decidable c] [Decidable c1] {X P : List NsHash}
    {rec : Except Err (NsHash × List NsHash × List NsHash)} {r : NsHash} {X1 P1 : List NsHash} :
    (if c then (if c1 then (match takeLast? X with
                            | none => Except.error Err.missingLeaf
                            | some (x, rest) => Except.ok (x, rest, P)) else rec)
     else (match takeLast? P with
           | none => Except.error Err.missingProofNode
           | some (x, rest) => Except.ok (x, X, rest))) = .ok (r, X1, P1) ↔
    if c then (if c1 then takeLast? X = some (r, X1) ∧ P1 = P else rec = .ok (r, X1, P1))
    else takeLast? P = some (r, P1) ∧ X1 = X := by
  split
  · split
    · cases takeLast? X with
      | none => simp
      | some v => simp only [Except.ok.injEq, Prod.mk.injEq, Option.some.injEq]; constructor <;> (rintro ⟨rfl, rfl, rfl⟩; simp)
    · rfl
  · cases takeLast? P with
    | none => simp
    | some v => simp only [Except.ok.injEq, Prod.mk.injEq, Option.some.injEq]; constructor <;> (rintro ⟨rfl, rfl, rfl⟩; simp)

/-- what one step of `check_range_proof_inner` does at a node of `size` leaves at `off`: the right child, then the left
    child (each a `ChildRes` if it overlaps the range, else a sibling taken from the proof), then `hash_nodes` -/
structure Step (H : HashFn) (ign : Bool) (fuel : Nat) (X P : List NsHash) (s size off : Nat) (h : NsHash)
    (X2 P2 : List NsHash) (right left : NsHash) (X1 P1 : List NsHash) : Prop where
  rightOK : if X.length + s - 1 ≥ nextSmallerPo2 size + off then
      ChildRes H ign fuel X P s (size - nextSmallerPo2 size) (off + nextSmallerPo2 size) right X1 P1
    else takeLast? P = some (right, P1) ∧ X1 = X
  leftOK : if s < nextSmallerPo2 size + off then ChildRes H ign fuel X1 P1 s (nextSmallerPo2 size) off left X2 P2
    else takeLast? P1 = some (left, P2) ∧ X2 = X1
  hash : hashNodes H ign left right = .ok h

theorem Step.inner {H : HashFn} {ign : Bool} {fuel : Nat} {X P : List NsHash} {s size off : Nat}
    {h right left : NsHash} {X1 P1 X2 P2 : List NsHash} (st : Step H ign fuel X P s size off h X2 P2 right left X1 P1)
    (h0 : X.length + s ≠ 0) : checkRangeProofInner H ign (fuel + 1) X P s size off = .ok (h, X2, P2) := by
  unfold checkRangeProofInner
  simp only [h0, ↓reduceIte]
  split <;> rename_i hr <;> cases (child_ok_iff.mpr st.rightOK).symm.trans hr
  split <;> rename_i hl <;> cases (child_ok_iff.mpr st.leftOK).symm.trans hl
  simp only [st.hash]

theorem Step.inputs {H : HashFn} {ign : Bool} {fuel : Nat} {X P : List NsHash} {s size off : Nat}
    {h right left : NsHash} {X1 P1 X2 P2 : List NsHash} (st : Step H ign fuel X P s size off h X2 P2 right left X1 P1)
    (h0 : X.length + s ≠ 0) :
    innerInputs H ign (fuel + 1) X P s size off =
      (if X.length + s - 1 ≥ nextSmallerPo2 size + off then
         childInputs H ign fuel X P s (size - nextSmallerPo2 size) (off + nextSmallerPo2 size) else []) ++
      (if s < nextSmallerPo2 size + off then childInputs H ign fuel X1 P1 s (nextSmallerPo2 size) off else []) ++
      [nodeInput left right] := by
  conv => lhs; unfold innerInputs
  simp only [h0, ↓reduceIte]
  split <;> rename_i hr <;> cases (child_ok_iff.mpr st.rightOK).symm.trans hr
  split <;> rename_i hl <;> cases (child_ok_iff.mpr st.leftOK).symm.trans hl
  rfl

theorem inner_step {H : HashFn} {ign : Bool} {fuel : Nat} {X P : List NsHash} {s size off : Nat}
    {h : NsHash} {X2 P2 : List NsHash}
    (e : checkRangeProofInner H ign (fuel + 1) X P s size off = .ok (h, X2, P2)) :
    X.length + s ≠ 0 ∧ ∃ right left X1 P1, Step H ign fuel X P s size off h X2 P2 right left X1 P1 := by
  unfold checkRangeProofInner at e
  by_cases h0 : X.length + s = 0
  · simp [h0] at e
  · simp only [h0, ↓reduceIte] at e
    split at e
    · cases e
    · rename_i right X1 P1 hr
      split at e
      · cases e
      · rename_i left _ _ hl
        split at e
        · cases e
        · rename_i _ hn
          cases e
          exact ⟨h0, right, left, X1, P1, child_ok_iff.mp hr, child_ok_iff.mp hl, hn⟩

/-- the shape of the verifier's proof tree for the node of `size` leaves at `off`, the claimed range being `[s, last]`
    (both ends included) with leaves `X` (`X[p - s]` at index `p`): a subtree outside the range is one given hash (a
    sibling), inside it the tree splits at `next_smaller_po2` down to single leaves -/
inductive Shaped (X : List NsHash) (s last : Nat) : Nat → Nat → PT → Prop where
  | leaf {off : Nat} {x : NsHash} : s ≤ off → off ≤ last → X[off - s]? = some x → Shaped X s last 1 off (.leaf x)
  | sib {size off : Nat} {x : NsHash} : 1 ≤ size → (off + size ≤ s ∨ last < off) → Shaped X s last size off (.leaf x)
  | node {size off : Nat} {l r : PT} : 2 ≤ size → s < off + size → off ≤ last →
      Shaped X s last (nextSmallerPo2 size) off l →
      Shaped X s last (size - nextSmallerPo2 size) (off + nextSmallerPo2 size) r → Shaped X s last size off (.node l r)

/-- a subtree that ends before `last1 + 1` does not see whether the range goes on beyond `last1` -/
theorem Shaped.mono {X1 R : List NsHash} {s last1 last : Nat} (he : last1 ≤ last) : ∀ {size off : Nat} {t : PT},
    Shaped X1 s last1 size off t → off + size ≤ last1 + 1 → Shaped (X1 ++ R) s last size off t := by
  intro size off t h
  induction h with
  | leaf h1 h2 h3 =>
    intro _
    refine .leaf h1 (by omega) ?_
    rw [List.getElem?_append_left (by
      have := List.getElem?_eq_some_iff.mp h3
      exact this.1)]
    exact h3
  | sib h1 h2 => intro hb; exact .sib h1 (by omega)
  | @node size off l r h2 h3 h4 _ _ ihl ihr =>
    intro hb
    obtain ⟨m, hm, hmlt, _⟩ := nextSmallerPo2_spec size h2
    exact .node h2 h3 (by omega) (ihl (by omega)) (ihr (by omega))

/-- what a successful (sub)call did: it evaluated a proof tree of the verifier's shape whose frontier is
    (left siblings) ++ (consumed leaves) ++ (right siblings), all taken from the ends of the two stacks.  The call on the
    node at `off` with leaves `X` (indices `s .. X.length + s - 1`, the last one inside the node) returns `X'`, `P'`:
    it consumed `XS`, the leaves from index `max s off` on, so `X'` holds those below `off`
    (`X'.length + s = max s off`; none when the range starts inside the node), and `PL ++ PR` from the end of `P`, as many
    as `nLeft` / `nRight` count (no left sibling when the range starts left of the node, `s < off`). -/
def FrontierOK (H : HashFn) (ign : Bool) (S : Bytes → Prop) (fuel : Nat) (X P : List NsHash) (s size off : Nat)
    (h : NsHash) (X' P' : List NsHash) : Prop :=
  ∃ (t : PT) (PL XS PR : List NsHash), X = X' ++ XS ∧ P = P' ++ PL ++ PR ∧
    t.frontier = PL ++ XS ++ PR ∧ Ev H ign S t h ∧ Shaped X s (X.length + s - 1) size off t ∧
    X'.length + s = max s off ∧
    PR.length = nRight fuel (X.length + s - 1 - off) size ∧
    PL.length = (if off ≤ s then nLeft fuel (s - off) size else 0)

theorem frontier_leaf {H : HashFn} {ign : Bool} {S : Bytes → Prop} {f : Nat} {X P : List NsHash} {s coff : Nat} {h : NsHash}
    {X' : List NsHash} (h1 : coff ≤ X.length + s - 1) (h2 : X.length + s - 1 < coff + 1)
    (htl : takeLast? X = some (h, X')) : FrontierOK H ign S f X P s 1 coff h X' P := by
  have hx := takeLast?_some htl
  have hlen : X.length = X'.length + 1 := by rw [hx]; simp
  exact ⟨.leaf h, [], [h], [], hx, by rw [List.append_nil, List.append_nil], rfl, .leaf,
    .leaf (by omega) h1 (by rw [hx, show coff - s = X'.length by omega]; simp), by omega, (nRight_one _ _).symm,
    by rw [nLeft_one, ite_self]; rfl⟩

/-- the index arithmetic of a node both of whose children overlap the range: the right child left `x1` of the `xl` leaves,
    those below the split `off + sp`; stated apart because `omega` is slow among the hypotheses of `frontier_child` -/
theorem overlap_arith {xl x1 s off sp : Nat} (hsp : 1 ≤ sp) (cL : s < sp + off) (hx1 : x1 + s = max s (off + sp))
    (hle : x1 ≤ xl) :
    off ≤ x1 + s - 1 ∧ x1 + s - 1 < off + sp ∧ 1 ≤ x1 ∧ x1 + s - 1 - off = sp - 1 ∧
      x1 + s - 1 ≤ xl + s - 1 ∧ off + sp ≤ x1 + s - 1 + 1 := by
  omega

/-- **what a child that overlaps the range did** (`ChildRes`: one leaf, or a call of the recursion) -/
theorem frontier_child {H : HashFn} {ign : Bool} {S : Bytes → Prop} : ∀ {f : Nat} {X P : List NsHash} {s size off : Nat}
    {h : NsHash} {X' P' : List NsHash},
    1 ≤ size → off ≤ X.length + s - 1 → X.length + s - 1 < off + size → 1 ≤ X.length →
    (∀ y ∈ childInputs H ign f X P s size off, S y) →
    ChildRes H ign f X P s size off h X' P' → FrontierOK H ign S f X P s size off h X' P' := by
  intro f
  induction f with
  | zero =>
    intro X P s size off h X' P' _ h1 h2 _ _ e
    unfold ChildRes at e
    split at e
    · subst ‹size = 1›; exact e.2 ▸ frontier_leaf h1 h2 e.1
    · simp [checkRangeProofInner] at e
  | succ f ih =>
    intro X P s size off h X2 P2 _ h1 h2 h4 hV e
    unfold ChildRes at e
    unfold childInputs at hV
    by_cases hcs : size = 1
    · subst hcs; exact e.2 ▸ frontier_leaf h1 h2 e.1
    rw [if_neg hcs] at e hV
    have hsz : 2 ≤ size := by omega
    have h3 : s < off + size := by omega
    obtain ⟨m, hm, hmlt, hmle⟩ := nextSmallerPo2_spec size hsz
    have hsp1 : 1 ≤ nextSmallerPo2 size := by rw [hm]; exact Nat.one_le_two_pow
    have hspl : nextSmallerPo2 size < size := by rw [hm]; exact hmlt
    obtain ⟨hne0, right, left, X1, P1, st⟩ := inner_step e
    rw [st.inputs hne0] at hV
    obtain ⟨hR, hL, hn⟩ := st
    have hVn : S (nodeInput left right) := hV _ (List.mem_append_right _ (List.mem_singleton.mpr rfl))
    have hsz1 : ¬ (size ≤ 1) := by omega
    by_cases cA : X.length + s - 1 ≥ nextSmallerPo2 size + off
    · -- the right child overlaps the range
      simp only [cA, ↓reduceIte] at hR hV
      have hAge : X.length + s - 1 - off ≥ nextSmallerPo2 size := by omega
      obtain ⟨tR, PLr, XSr, PRr, hX, hP, hfr, hev, hsh, hxs, hpr, hpl⟩ :=
        ih (by omega) (by omega) (by omega) h4
          (fun y hy => hV y (List.mem_append_left _ (List.mem_append_left _ hy))) hR
      by_cases cL : s < nextSmallerPo2 size + off
      · -- … and so does the left child
        simp only [cL, ↓reduceIte] at hL hV
        have hnl : ¬ (off + nextSmallerPo2 size ≤ s) := by omega
        simp only [hnl, ↓reduceIte] at hpl
        have hPLr : PLr = [] := List.eq_nil_of_length_eq_zero hpl
        subst hPLr
        obtain ⟨hl1, hl2, hX1pos, hX1, hmo1, hmo2⟩ :=
          overlap_arith (xl := X.length) hsp1 cL hxs (by rw [hX, List.length_append]; exact Nat.le_add_right _ _)
        obtain ⟨tL, PLl, XSl, PRl, hX', hP', hfr', hev', hsh', hxs', hpr', hpl'⟩ :=
          ih hsp1 hl1 hl2 hX1pos
            (fun y hy => hV y (List.mem_append_left _ (List.mem_append_right _ hy))) hL
        have hPRl : PRl = [] := by
          apply List.eq_nil_of_length_eq_zero
          rw [hpr', hX1, hm]; exact nRight_last f m
        subst hPRl
        refine ⟨.node tL tR, PLl, XSl ++ XSr, PRr, ?_, ?_, ?_, .node hev' hev hn hVn, ?_, hxs', ?_, ?_⟩
        · rw [hX, hX']; simp
        · rw [hP, hP']; simp
        · simp [PT.frontier, hfr, hfr']
        · refine .node hsz h3 h1 ?_ hsh
          have := hsh'.mono (R := XSr) (last := X.length + s - 1) hmo1 hmo2
          rwa [← hX] at this
        · rw [hpr, nRight_succ hsz1, if_pos hAge, Nat.sub_add_eq]
        · rw [hpl']
          split
          · rw [nLeft_succ hsz1, if_neg (by omega)]
          · rfl
      · -- the left child is a sibling
        simp only [cL, ↓reduceIte] at hL
        obtain ⟨htl, rfl⟩ := hL
        have hP1 := takeLast?_some htl
        have hge : off + nextSmallerPo2 size ≤ s := by omega
        simp only [hge, ↓reduceIte] at hpl
        refine ⟨.node (.leaf left) tR, left :: PLr, XSr, PRr, hX, ?_, ?_, .node .leaf hev hn hVn, ?_, ?_, ?_, ?_⟩
        · rw [hP, hP1]; simp
        · simp [PT.frontier, hfr]
        · exact .node hsz h3 h1 (.sib hsp1 (Or.inl hge)) hsh
        · rw [hxs, Nat.max_eq_left hge, Nat.max_eq_left (Nat.le_trans (Nat.le_add_right _ _) hge)]
        · rw [hpr, nRight_succ hsz1, if_pos hAge, Nat.sub_add_eq]
        · have ho : off ≤ s := by omega
          simp only [ho, ↓reduceIte, List.length_cons, hpl]
          rw [nLeft_succ hsz1, if_pos (by omega), Nat.sub_sub]; omega
    · -- the right child is a sibling; the left child contains the whole remaining range
      simp only [cA, ↓reduceIte] at hR hV
      have hAlt : ¬ X.length + s - 1 - off ≥ nextSmallerPo2 size := by omega
      obtain ⟨htl, hx⟩ := hR
      have hx' := hx.symm
      subst hx'
      have hP1 := takeLast?_some htl
      have cL : s < nextSmallerPo2 size + off := by omega
      simp only [cL, ↓reduceIte] at hL hV
      obtain ⟨tL, PLl, XSl, PRl, hX', hP', hfr', hev', hsh', hxs', hpr', hpl'⟩ :=
        ih hsp1 h1 (by omega) h4
          (fun y hy => hV y (List.mem_append_left _ (List.mem_append_right _ hy))) hL
      refine ⟨.node tL (.leaf right), PLl, XSl, PRl ++ [right], hX', ?_, ?_, .node hev' .leaf hn hVn, ?_, hxs', ?_, ?_⟩
      · rw [hP1, hP']; simp
      · simp [PT.frontier, hfr']
      · exact .node hsz h3 h1 hsh' (.sib (Nat.sub_pos_of_lt hspl) (Or.inr (by rw [Nat.add_comm off]; exact Nat.lt_of_not_ge cA)))
      · simp only [List.length_append, List.length_singleton, hpr']
        rw [nRight_succ hsz1, if_neg hAlt]; omega
      · rw [hpl']
        split
        · rw [nLeft_succ hsz1, if_neg (by omega)]
        · rfl

/-- a call of the recursion is the case of a child of at least two leaves -/
theorem frontier_inner {H : HashFn} {ign : Bool} {S : Bytes → Prop} (f : Nat) {X P : List NsHash} {s size off : Nat}
    {h : NsHash} {X' P' : List NsHash} (hsz : 2 ≤ size) (h1 : off ≤ X.length + s - 1) (h2 : X.length + s - 1 < off + size)
    (h4 : 1 ≤ X.length) (hV : ∀ y ∈ innerInputs H ign f X P s size off, S y)
    (e : checkRangeProofInner H ign f X P s size off = .ok (h, X', P')) : FrontierOK H ign S f X P s size off h X' P' := by
  have hcs : size ≠ 1 := by omega
  exact frontier_child (by omega) h1 h2 h4 (by unfold childInputs; rwa [if_neg hcs]) (by unfold ChildRes; rwa [if_neg hcs])

/-- `roots` are the roots of consecutive non-empty segments that partition `M` -/
inductive Segs (H : HashFn) (ign : Bool) : List NsHash → List NsHash → Prop where
  | nil : Segs H ign [] []
  | cons {seg rest : List NsHash} {r : NsHash} {rs : List NsHash} :
      seg ≠ [] → computeRoot H ign seg = .ok r → Segs H ign rest rs → Segs H ign (seg ++ rest) (r :: rs)

/-- `Segs` whose segment root computations only hash inputs in `S` -/
inductive SegsOn (H : HashFn) (ign : Bool) (S : Bytes → Prop) : List NsHash → List NsHash → Prop where
  | nil : SegsOn H ign S [] []
  | cons {seg rest : List NsHash} {r : NsHash} {rs : List NsHash} :
      seg ≠ [] → computeRoot H ign seg = .ok r → (∀ y ∈ rootInputs H ign (seg.length + 1) seg, S y) →
      SegsOn H ign S rest rs → SegsOn H ign S (seg ++ rest) (r :: rs)

theorem SegsOn.segs {H : HashFn} {ign : Bool} {S : Bytes → Prop} {M roots : List NsHash} (h : SegsOn H ign S M roots) :
    Segs H ign M roots := by
  induction h with
  | nil => exact Segs.nil
  | cons hne hr _ _ ih => exact Segs.cons hne hr ih

theorem SegsOn.append {H : HashFn} {ign : Bool} {S : Bytes → Prop} {M1 M2 r1 r2 : List NsHash}
    (h1 : SegsOn H ign S M1 r1) (h2 : SegsOn H ign S M2 r2) : SegsOn H ign S (M1 ++ M2) (r1 ++ r2) := by
  induction h1 with
  | nil => simpa using h2
  | cons hne hr hT _ ih => rw [List.append_assoc]; exact SegsOn.cons hne hr hT ih

theorem SegsOn.single {H : HashFn} {ign : Bool} {S : Bytes → Prop} {seg : List NsHash} {r : NsHash} (hne : seg ≠ [])
    (hr : computeRoot H ign seg = .ok r) (hT : ∀ y ∈ rootInputs H ign (seg.length + 1) seg, S y) :
    SegsOn H ign S seg [r] := by
  have := SegsOn.cons hne hr hT (SegsOn.nil (H := H) (ign := ign) (S := S))
  simpa using this

theorem SegsOn.split {H : HashFn} {ign : Bool} {S : Bytes → Prop} : ∀ (r1 : List NsHash) {M r2 : List NsHash},
    SegsOn H ign S M (r1 ++ r2) → ∃ M1 M2, M = M1 ++ M2 ∧ SegsOn H ign S M1 r1 ∧ SegsOn H ign S M2 r2 := by
  intro r1
  induction r1 with
  | nil => intro M r2 h; exact ⟨[], M, rfl, SegsOn.nil, h⟩
  | cons a t ih =>
    intro M r2 h
    cases h with
    | @cons seg rest _ _ hne hr hT hrest =>
      obtain ⟨M1, M2, he, h1, h2⟩ := ih hrest
      exact ⟨seg ++ M1, M2, by rw [he, List.append_assoc], SegsOn.cons hne hr hT h1, h2⟩

/-- `Segs` is `SegsOn` with nothing asked of the inputs; its `append`, `single`, `split` are those of `SegsOn` -/
theorem Segs.on_true {H : HashFn} {ign : Bool} {M roots : List NsHash} (h : Segs H ign M roots) :
    SegsOn H ign (fun _ => True) M roots := by
  induction h with
  | nil => exact SegsOn.nil
  | cons hne hr _ ih => exact SegsOn.cons hne hr (fun _ _ => trivial) ih

theorem Segs.append {H : HashFn} {ign : Bool} {M1 M2 r1 r2 : List NsHash} (h1 : Segs H ign M1 r1) (h2 : Segs H ign M2 r2) :
    Segs H ign (M1 ++ M2) (r1 ++ r2) :=
  (h1.on_true.append h2.on_true).segs

theorem Segs.single {H : HashFn} {ign : Bool} {seg : List NsHash} {r : NsHash} (hne : seg ≠ [])
    (hr : computeRoot H ign seg = .ok r) : Segs H ign seg [r] :=
  (SegsOn.single (S := fun _ => True) hne hr (fun _ _ => trivial)).segs

theorem Segs.split {H : HashFn} {ign : Bool} (r1 : List NsHash) {M r2 : List NsHash} (h : Segs H ign M (r1 ++ r2)) :
    ∃ M1 M2, M = M1 ++ M2 ∧ Segs H ign M1 r1 ∧ Segs H ign M2 r2 :=
  let ⟨M1, M2, he, h1, h2⟩ := SegsOn.split r1 h.on_true
  ⟨M1, M2, he, h1.segs, h2.segs⟩

theorem Segs.length_le {H : HashFn} {ign : Bool} {M roots : List NsHash} (h : Segs H ign M roots) :
    roots.length ≤ M.length := by
  induction h with
  | nil => simp
  | @cons seg rest r rs hne _ _ ih =>
    have : 1 ≤ seg.length := by
      cases seg with
      | nil => exact absurd rfl hne
      | cons a t => simp
    simp only [List.length_cons, List.length_append]; omega

theorem Segs.mem {H : HashFn} {ign : Bool} {M roots : List NsHash} (h : Segs H ign M roots) :
    ∀ r ∈ roots, ∃ seg, seg ≠ [] ∧ seg.Sublist M ∧ computeRoot H ign seg = .ok r := by
  induction h with
  | nil => intro r hr; simp at hr
  | @cons seg rest r0 rs hne hr _ ih =>
    intro r hmem
    rcases List.mem_cons.mp hmem with h | h
    · subst h; exact ⟨seg, hne, List.sublist_append_left seg rest, hr⟩
    · obtain ⟨s, h1, h2, h3⟩ := ih r h
      exact ⟨s, h1, h2.trans (List.sublist_append_right seg rest), h3⟩

theorem Segs.roots_nil {H : HashFn} {ign : Bool} {M roots : List NsHash}
    (h : Segs H ign M roots) (h0 : M.length = 0) : roots = [] :=
  List.eq_nil_of_length_eq_zero (by have := h.length_le; omega)

theorem Segs.WF {H : HashFn} (hk : HashLen H) {ign : Bool} {M roots : List NsHash}
    (h : Segs H ign M roots) (wl : ∀ x ∈ M, x.WF) : ∀ r ∈ roots, r.WF := by
  intro r hr
  obtain ⟨seg, _, hsub, hroot⟩ := h.mem r hr
  exact computeRoot_WF hk (fun x hx => wl x (hsub.subset hx)) hroot

theorem Segs.leaves_nil {H : HashFn} {ign : Bool} {M : List NsHash} (h : Segs H ign M []) : M = [] := by
  cases h; rfl

theorem Segs.single_inv {H : HashFn} {ign : Bool} {M : List NsHash} {r : NsHash} (h : Segs H ign M [r]) :
    M ≠ [] ∧ computeRoot H ign M = .ok r := by
  cases h with
  | @cons seg rest _ _ hne hr hrest =>
    have := hrest.leaves_nil
    subst this
    simp only [List.append_nil]
    exact ⟨hne, hr⟩

abbrev SortedNs (L : List NsHash) : Prop := L.Pairwise (fun a b => leB a.minNs b.minNs = true)

theorem SortedNs.append_iff {A B : List NsHash} :
    SortedNs (A ++ B) ↔ SortedNs A ∧ SortedNs B ∧ ∀ a ∈ A, ∀ b ∈ B, leB a.minNs b.minNs = true :=
  List.pairwise_append

theorem computeRoot_range {H : HashFn} {L : List NsHash} {r : NsHash} (hne : L ≠ []) (hleaf : ∀ x ∈ L, LeafNs x)
    (hs : SortedNs L) (e : computeRoot H true L = .ok r) : RangeOK L r :=
  computeRootAux_range _ hne hleaf hs e

/-- roots of consecutive segments of a sorted list of leaf hashes are ordered: `min ≤ max` each, `max ≤ next min` -/
theorem Segs.ordered {H : HashFn} {M roots : List NsHash} (h : Segs H true M roots) (hleaf : ∀ x ∈ M, LeafNs x)
    (hs : SortedNs M) : adjacentBad roots = false ∧ ∀ r ∈ roots, ltB r.maxNs r.minNs = false := by
  induction h with
  | nil => exact ⟨rfl, by intro r hr; simp at hr⟩
  | @cons seg rest r0 rs hne hr hrest ih =>
    obtain ⟨hsseg, hsrest, hcross⟩ := SortedNs.append_iff.mp hs
    have R0 := computeRoot_range hne (fun x hx => hleaf x (List.mem_append_left _ hx)) hsseg hr
    obtain ⟨ih1, ih2⟩ := ih (fun x hx => hleaf x (List.mem_append_right _ hx)) hsrest
    refine ⟨?_, ?_⟩
    · cases hrest with
      | nil => rfl
      | @cons seg2 rest2 r2 rs2 hne2 hr2 hrest2 =>
        simp only [adjacentBad, Bool.or_eq_false_iff]
        refine ⟨?_, ih1⟩
        have hs2 : SortedNs seg2 := (SortedNs.append_iff.mp hsrest).1
        have R2 := computeRoot_range hne2
          (fun x hx => hleaf x (List.mem_append_right _ (List.mem_append_left _ hx))) hs2 hr2
        obtain ⟨x, hx, hxle⟩ := R0.maxMem
        obtain ⟨y, hy, hye⟩ := R2.minMem
        exact not_ltB_of_leB (by rw [hye]; exact leB_trans hxle (hcross x hx y (List.mem_append_left _ hy)))
    · intro r hmem
      rcases List.mem_cons.mp hmem with h | h
      · subst h; exact not_ltB_of_leB R0.minMax
      · exact ih2 r h

/-- an accepted non-trivial `check_range_proof` is a successful call of the recursion for the whole tree of the size `T`
    that `compute_tree_size` derives, with root `root`; the claimed range lies inside that tree -/
theorem checkRangeProof_call {H : HashFn} {ign : Bool} {S : Bytes → Prop} {root : NsHash} {X P : List NsHash} {s : Nat}
    (hX : 1 ≤ X.length) (hnt : ¬ (X.length = 1 ∧ P = [])) (hV : ∀ y ∈ proofInputs H ign X P s, S y)
    (h : checkRangeProof H ign root X P s = .ok ()) :
    computeNumLeftSiblings s ≤ P.length ∧ ∃ T X' P',
      computeTreeSize (P.length - computeNumLeftSiblings s) (s + X.length - 1) = .ok T ∧ s + X.length ≤ T ∧
      FrontierOK H ign S T X P s T 0 root X' P' := by
  obtain ⟨hnl, T, X', P', hts, hT2, hin, hPI⟩ := checkRangeProof_ok hX hnt h
  rw [hPI] at hV
  have hge := computeTreeSize_ge hts
  exact ⟨hnl, T, X', P', hts, by omega, frontier_inner T hT2 (Nat.zero_le _) (by omega) hX hV hin⟩

/-- **What `check_range_proof` evaluates**: when it accepts a proof it has evaluated a proof tree whose
    frontier is exactly (the first `popcount(start)` proof nodes) ++ (all the leaves) ++ (ALL the remaining proof nodes):
    `compute_tree_size` makes the recursion consume every proof node. -/
theorem checkRangeProof_frontier_on {H : HashFn} {ign : Bool} {S : Bytes → Prop} {root : NsHash} {X P : List NsHash} {s : Nat}
    (hX : 1 ≤ X.length) (hu : s + X.length ≤ U32_MAX + 1)
    (hV : ∀ y ∈ proofInputs H ign X P s, S y) (h : checkRangeProof H ign root X P s = .ok ()) :
    computeNumLeftSiblings s ≤ P.length ∧
    ∃ t : PT, t.frontier = P.take (computeNumLeftSiblings s) ++ X ++ P.drop (computeNumLeftSiblings s) ∧
      Ev H ign S t root := by
  by_cases hnt : X.length = 1 ∧ P = []
  · -- one leaf and no proof node: the tree is that leaf, which the verifier compared with the root
    obtain ⟨hx1, rfl⟩ := hnt
    obtain ⟨x, rfl⟩ := List.length_eq_one_iff.mp hx1
    obtain ⟨rfl, rfl⟩ := checkRangeProof_nil h
    exact ⟨Nat.zero_le _, .leaf x, rfl, .leaf⟩
  obtain ⟨hnl, T, X', P', hts, hT, t, PL, XS, PR, hXe, hPe, hfr, hev, _, hxs, hpr, hpl⟩ := checkRangeProof_call hX hnt hV h
  refine ⟨hnl, ?_⟩
  -- all leaves consumed
  have hX' : X' = [] := List.eq_nil_of_length_eq_zero (by omega)
  subst hX'
  simp only [List.nil_append] at hXe
  subst hXe
  -- sibling counts: `popcount(start)` on the left, and on the right what `compute_tree_size` was asked for
  simp only [Nat.zero_le, ↓reduceIte, Nat.sub_zero] at hpl hpr
  rw [nLeft_popcount T T s (Nat.le_refl _) (by omega)] at hpl
  rw [Nat.add_comm X.length s, computeTreeSize_nRight (by omega) hts] at hpr
  have hP' : P' = [] := by
    apply List.eq_nil_of_length_eq_zero
    have := congrArg List.length hPe
    simp at this; omega
  subst hP'
  simp only [List.nil_append] at hPe
  have hPL : PL = P.take (computeNumLeftSiblings s) := by
    rw [hPe, ← hpl]; simp
  have hPR : PR = P.drop (computeNumLeftSiblings s) := by
    rw [hPe, ← hpl]; simp
  exact ⟨t, by rw [hfr, hPL, hPR], hev⟩

theorem checkRangeProof_frontier {H : HashFn} {ign : Bool} {root : NsHash} {X P : List NsHash} {s : Nat}
    (hX : 1 ≤ X.length) (hnt : ¬ (X.length = 1 ∧ P = [])) (hu : s + X.length ≤ U32_MAX + 1)
    (h : checkRangeProof H ign root X P s = .ok ()) :
    computeNumLeftSiblings s ≤ P.length ∧
    ∃ t : PT, t.frontier = P.take (computeNumLeftSiblings s) ++ X ++ P.drop (computeNumLeftSiblings s) ∧
      t.eval H ign = .ok root :=
  have ⟨hn, t, hf, he⟩ := checkRangeProof_frontier_on (S := fun _ => True) hX hu (fun _ _ => trivial) h
  ⟨hn, t, hf, he.eval⟩

theorem Segs.last_range {H : HashFn} {ML init : List NsHash} {r : NsHash} (hsegs : Segs H true ML (init ++ [r]))
    (hleaf : ∀ x ∈ ML, LeafNs x) (hs : SortedNs ML) :
    ∃ M1 seg, ML = M1 ++ seg ∧ RangeOK seg r ∧ ∀ y ∈ M1, ∀ z ∈ seg, leB y.minNs z.minNs = true := by
  obtain ⟨M1, seg, hM, _, h2⟩ := Segs.split init hsegs
  obtain ⟨hne, hroot⟩ := h2.single_inv
  subst hM
  obtain ⟨_, hsseg, hcross⟩ := SortedNs.append_iff.mp hs
  exact ⟨M1, seg, rfl, computeRoot_range hne (fun x hx => hleaf x (List.mem_append_right _ hx)) hsseg hroot, hcross⟩

theorem take_pred_last {α} {P : List α} {n : Nat} (hn : n - 1 < P.length) (h0 : n ≠ 0) :
    P.take n = P.take (n - 1) ++ [P[n - 1]] := by
  obtain ⟨m, rfl⟩ : ∃ m, n = m + 1 := ⟨n - 1, by omega⟩
  simp only [Nat.add_sub_cancel] at hn ⊢
  rw [List.take_add_one, List.getElem?_eq_getElem hn]; rfl

/-- nothing left of the range has the namespace, when the proof node next to the range on the left (if there is one) has
    its max below it.  `hall`: with `ignore_max_ns` that max says nothing about parity leaves, so for the parity namespace
    the caller has to know that there are no others. -/
theorem left_none {H : HashFn} {ML P : List NsHash} {n : Nat} {ns : Bytes}
    (hsegs : Segs H true ML (P.take n)) (hn : n ≤ P.length) (hleaf : ∀ x ∈ ML, LeafNs x) (hs : SortedNs ML)
    (hns : ns.length = NS_SIZE) (hall : ns = maxNsId → ∀ x ∈ ML, x.minNs = maxNsId)
    (hchk : ∀ sib, n ≠ 0 → P[n - 1]? = some sib → ltB sib.maxNs ns = true) : ∀ y ∈ ML, y.minNs ≠ ns := by
  by_cases h0 : n = 0
  · rw [h0, List.take_zero] at hsegs
    obtain rfl := hsegs.leaves_nil
    intro y hy; simp at hy
  have hlt : n - 1 < P.length := by omega
  rw [take_pred_last hlt h0] at hsegs
  have hchk := hchk _ h0 (List.getElem?_eq_getElem hlt)
  obtain ⟨M1, seg, rfl, R, hcross⟩ := hsegs.last_range hleaf hs
  -- the segment is not all-parity
  have hex : ∃ z ∈ seg, z.minNs ≠ maxNsId := by
    apply Classical.byContradiction
    intro hno
    have hp : ∀ x ∈ seg, x.minNs = maxNsId := fun x hx => Decidable.byContradiction fun hne' => hno ⟨x, hx, hne'⟩
    rw [R.maxAll hp, not_ltB_of_leB (leB_maxNsId hns)] at hchk
    cases hchk
  obtain ⟨z, hz, hzne⟩ := hex
  have hnm : ns ≠ maxNsId := fun he => hzne (hall he z (List.mem_append_right _ hz))
  have hzle : ltB z.minNs ns = true := ltB_of_leB_of_ltB (R.maxGe z hz hzne) hchk
  intro y hy heq
  rcases List.mem_append.mp hy with h | h
  · have := hcross y h z hz
    rw [heq] at this
    exact ne_of_ltB (ltB_of_leB_of_ltB this hzle) rfl
  · have := R.maxGe y h (by rw [heq]; exact hnm)
    rw [heq] at this
    exact ne_of_ltB (ltB_of_leB_of_ltB this hchk) rfl

/-- nothing right of the range has the namespace, when the proof node next to the range on the right (if there is one) has
    its min above it -/
theorem right_none {H : HashFn} {MR P : List NsHash} {n : Nat} {ns : Bytes}
    (hsegs : Segs H true MR (P.drop n)) (hleaf : ∀ x ∈ MR, LeafNs x) (hs : SortedNs MR)
    (hchk : ∀ sib, P[n]? = some sib → ltB ns sib.minNs = true) : ∀ y ∈ MR, y.minNs ≠ ns := by
  cases hdr : P.drop n with
  | nil =>
    rw [hdr] at hsegs
    obtain rfl := hsegs.leaves_nil
    intro y hy; simp at hy
  | cons r rest =>
    rw [hdr] at hsegs
    have hchk := hchk r (by rw [← List.head?_drop, hdr]; rfl)
    cases hsegs with
    | @cons seg rest' _ _ hne hroot hrest =>
      obtain ⟨hsseg, _, hcross⟩ := SortedNs.append_iff.mp hs
      have R := computeRoot_range hne (fun x hx => hleaf x (List.mem_append_left _ hx)) hsseg hroot
      obtain ⟨z, hz, hze⟩ := R.minMem
      intro y hy heq
      rcases List.mem_append.mp hy with h | h
      · have := R.minLe y h
        rw [heq] at this
        exact ne_of_ltB (ltB_of_ltB_of_leB hchk this) rfl
      · have := hcross z hz y h
        rw [← hze, heq] at this
        exact ne_of_ltB (ltB_of_ltB_of_leB hchk this) rfl

theorem AllLeaf.leafNs {H : HashFn} {L : List NsHash} (al : AllLeaf H L) : ∀ x ∈ L, LeafNs x := by
  intro x hx
  obtain ⟨ns, d, hl, rfl⟩ := al x hx
  exact ⟨rfl, hl⟩

theorem filter_key_block {α} (k : α → Bytes) {ns : Bytes} {A B R : List α} (hA : ∀ x ∈ A, k x ≠ ns)
    (hB : ∀ x ∈ B, k x = ns) (hR : ∀ x ∈ R, k x ≠ ns) : (A ++ B ++ R).filter (fun x => k x == ns) = B := by
  rw [List.filter_append, List.filter_append]
  have h1 : A.filter (fun x => k x == ns) = [] := by
    rw [List.filter_eq_nil_iff]; intro a ha; simpa using hA a ha
  have h2 : R.filter (fun x => k x == ns) = [] := by
    rw [List.filter_eq_nil_iff]; intro a ha; simpa using hR a ha
  have h3 : B.filter (fun x => k x == ns) = B := by
    rw [List.filter_eq_self]; intro a ha; simpa using hB a ha
  rw [h1, h2, h3]; simp

/-- lumina's wrappers only add rejections (the shape validation) in front of the nmt-rs verifiers -/
theorem luminaVCN_ok {H : HashFn} {p : NsProof} {root : NsHash} {l : List Bytes} {ns : Bytes}
    (h : luminaVerifyCompleteNamespace H p root l ns = .ok ()) : verifyCompleteNamespace H p root l ns = .ok () := by
  unfold luminaVerifyCompleteNamespace at h
  split at h
  · cases h
  · exact h

theorem luminaVerifyRange_ok {H : HashFn} {p : NsProof} {root : NsHash} {l : List Bytes} {ns : Bytes}
    (h : luminaVerifyRange H p root l ns = .ok ()) : verifyRange H p root l ns = .ok () := by
  unfold luminaVerifyRange at h
  split at h
  · cases h
  · exact h

theorem Prune.segs {H : HashFn} {ign' : Bool} {S : Bytes → Prop} {t t' : PT} (p : Prune H ign' S t t') :
    ∀ {L : List NsHash}, Canon L t' → SegsOn H ign' S L t.frontier := by
  induction p with
  | cut e => intro L c; obtain ⟨hr, hT⟩ := c.root e; exact SegsOn.single c.ne_nil hr hT
  | node _ _ ihl ihr =>
    intro L c
    cases c with
    | node _ cl cr =>
      have := (ihl cl).append (ihr cr)
      rwa [List.take_append_drop] at this

/-- **agreement of a proof tree with the real tree** under collision-freeness relative to the inputs hashed by the two
    evaluations -/
theorem agree_on {H : HashFn} {S : Bytes → Prop} (hk : HashOKOn H S) {ign ign' : Bool} {t : PT} {L : List NsHash} {r : NsHash}
    (hne : L ≠ []) (al : AllLeafOn H S L) (w : ∀ x ∈ t.frontier, x.WF) (ev : Ev H ign S t r)
    (hT : ∀ y ∈ rootInputs H ign' (L.length + 1) L, S y) (e' : computeRoot H ign' L = .ok r) :
    SegsOn H ign' S L t.frontier := by
  obtain ⟨t', c, ev'⟩ := canon_of_root _ hne (Nat.lt_succ_self _) hT e'
  exact (ev.prune hk ev' w (by rw [c.frontier]; exact al)).segs c

/-- segments whose roots are leaf hashes are single leaves -/
theorem SegsOn.leaves {H : HashFn} {S : Bytes → Prop} (hi : NoCollOn H S) {ign : Bool} : ∀ {X M : List NsHash},
    SegsOn H ign S M X → (∀ x ∈ X, IsLeafOn H S x) → M = X := by
  intro X
  induction X with
  | nil => intro M h _; exact h.segs.leaves_nil
  | cons x t ih =>
    intro M h lx
    cases h with
    | @cons seg rest _ _ hne hr hT hrest =>
      obtain ⟨u, c, ev⟩ := canon_of_root _ hne (Nat.lt_succ_self _) hT hr
      rw [ev.eq_leaf hi (lx x (by simp))] at c
      rw [← c.frontier, ih hrest (fun y hy => lx y (List.mem_cons_of_mem _ hy))]
      rfl

theorem computeRoot_ne_empty_on {H : HashFn} {S : Bytes → Prop} (hi : NoCollOn H S) (hE : S []) {ign : Bool}
    {L : List NsHash} {r : NsHash} (hne : L ≠ []) (al : AllLeafOn H S L)
    (hT : ∀ y ∈ rootInputs H ign (L.length + 1) L, S y) (h : computeRoot H ign L = .ok r) : r ≠ emptyRoot H := by
  intro he
  obtain ⟨t, c, ev⟩ := canon_of_root _ hne (Nat.lt_succ_self _) hT h
  exact ev.ne_empty hi hE (by rw [c.frontier]; exact al) (by rw [he])

theorem accepted_block_on {H : HashFn} {S : Bytes → Prop} (hk : HashOKOn H S) {ign : Bool} {L : List NsHash}
    {root : NsHash} {X P : List NsHash} {s : Nat}
    (hne : L ≠ []) (al : AllLeafOn H S L) (hroot : computeRoot H true L = .ok root)
    (hT : ∀ y ∈ rootInputs H true (L.length + 1) L, S y) (hV : ∀ y ∈ proofInputs H ign X P s, S y)
    (wp : ∀ x ∈ P, x.WF) (wx : ∀ x ∈ X, x.WF)
    (hX : 1 ≤ X.length) (hu : s + X.length ≤ U32_MAX + 1)
    (h : checkRangeProof H ign root X P s = .ok ()) :
    computeNumLeftSiblings s ≤ P.length ∧ ∃ ML MX MR, L = ML ++ MX ++ MR ∧
      SegsOn H true S ML (P.take (computeNumLeftSiblings s)) ∧ SegsOn H true S MX X ∧
      SegsOn H true S MR (P.drop (computeNumLeftSiblings s)) := by
  obtain ⟨hnl, t, hfr, hev⟩ := checkRangeProof_frontier_on hX hu hV h
  refine ⟨hnl, ?_⟩
  have wf : ∀ x ∈ t.frontier, x.WF := by
    intro x hx
    rw [hfr] at hx
    rcases List.mem_append.mp hx with h1 | h1
    · rcases List.mem_append.mp h1 with h2 | h2
      · exact wp x (List.mem_of_mem_take h2)
      · exact wx x h2
    · exact wp x (List.mem_of_mem_drop h1)
  have hseg := agree_on hk hne al wf hev hT hroot
  rw [hfr, List.append_assoc] at hseg
  obtain ⟨ML, M2, hL, hsl, h2⟩ := SegsOn.split _ hseg
  obtain ⟨MX, MR, hM2, hsx, hsr⟩ := SegsOn.split _ h2
  exact ⟨ML, MX, MR, by rw [hL, hM2, List.append_assoc], hsl, hsx, hsr⟩

/-- inputs hashed by `verify_complete_namespace`: the claimed leaves' preimages and the `hash_nodes` calls of the range-proof
    check (over the claimed leaves for a presence proof, over the proof's leaf hash for an absence proof) -/
def vcnInputs (H : HashFn) (p : NsProof) (datas : List Bytes) (ns : Bytes) : List Bytes :=
  datas.map (leafInput ns) ++
    proofInputs H p.ignoreMaxNs (if p.isAbsence then p.leaf.toList else datas.map (hashLeaf H ns)) p.siblings p.start

/-- absence proofs: an accepted proof means no leaf of the tree has the namespace -/
theorem absence_sound_on {H : HashFn} {S : Bytes → Prop} (hk : HashOKOn H S) {ign : Bool} {L : List NsHash} {root : NsHash} {P : List NsHash} {s : Nat}
    {lf : NsHash} {ns : Bytes}
    (hne : L ≠ []) (al : AllLeafOn H S L) (hs : SortedNs L) (hroot : computeRoot H true L = .ok root)
    (hT : ∀ y ∈ rootInputs H true (L.length + 1) L, S y) (hV : ∀ y ∈ proofInputs H ign [lf] P s, S y)
    (wp : ∀ x ∈ P, x.WF) (wlf : lf.WF) (hstart : s ≤ U32_MAX) (hns : ns.length = NS_SIZE)
    (hlt : ltB ns lf.minNs = true)
    (hleft : ∀ sib, computeNumLeftSiblings s ≠ 0 → P[computeNumLeftSiblings s - 1]? = some sib → ltB sib.maxNs ns = true)
    (h : checkRangeProof H ign root [lf] P s = .ok ()) : ∀ y ∈ L, y.minNs ≠ ns := by
  have hleaf := AllLeaf.leafNs al.allLeaf
  obtain ⟨hnl, ML, MX, MR, hL, hsl, hsx, hsr⟩ := accepted_block_on hk hne al hroot hT hV wp
    (by intro x hx; simp at hx; subst hx; exact wlf) (by simp) (by simp; omega) h
  obtain ⟨hxne, hxroot⟩ := hsx.segs.single_inv
  obtain ⟨hsML, hsrest, _⟩ := SortedNs.append_iff.mp (show SortedNs (ML ++ (MX ++ MR)) by rw [← List.append_assoc, ← hL]; exact hs)
  obtain ⟨hsMX, hsMR, hcrossXR⟩ := SortedNs.append_iff.mp hsrest
  have hsub : ∀ y, (y ∈ ML ∨ y ∈ MX ∨ y ∈ MR) → y ∈ L := fun y hy => by simpa [hL, or_assoc] using hy
  have RX := computeRoot_range hxne (fun x hx => hleaf x (hsub x (Or.inr (Or.inl hx)))) hsMX hxroot
  -- ns is not the parity namespace
  have hnm : ns ≠ maxNsId := by
    intro he
    rw [he, not_ltB_of_leB (leB_maxNsId wlf.1)] at hlt
    cases hlt
  intro y hy heq
  rcases (show y ∈ ML ∨ y ∈ MX ∨ y ∈ MR by simpa [hL, or_assoc] using hy) with hm | hm | hm
  · exact left_none hsl.segs hnl (fun x hx => hleaf x (hsub x (Or.inl hx))) hsML hns (fun he => absurd he hnm) hleft y hm heq
  · -- the segment of the leaf: its least namespace is the leaf's
    have := RX.minLe y hm
    rw [heq] at this
    exact ne_of_ltB (ltB_of_ltB_of_leB hlt this) rfl
  · obtain ⟨z, hz, hze⟩ := RX.minMem
    have := hcrossXR z hz y hm
    rw [← hze, heq] at this
    exact ne_of_ltB (ltB_of_ltB_of_leB hlt this) rfl

/-- what `NamespaceMerkleTree::check_range_proof` asks for its answer Complete, beyond the range check itself: no proof node
    has `max < min`, and the proof nodes next to the range (`P[n - 1]`, `P[n]`, where there are such) exclude the namespaces
    of its first and last leaf (`check_proof_completeness`) -/
structure CompleteOK (X P : List NsHash) (n : Nat) : Prop where
  ordered : P.any (fun h => ltB h.maxNs h.minNs) = false
  left : ∀ sib first, n ≠ 0 → P[n - 1]? = some sib → X.head? = some first → ltB sib.maxNs first.minNs = true
  right : ∀ sib last, P[n]? = some sib → X.getLast? = some last → ltB last.maxNs sib.minNs = true

theorem CompleteOK.nil {X : List NsHash} {n : Nat} : CompleteOK X [] n :=
  ⟨rfl, fun _ _ _ h _ => (nomatch h), fun _ _ h _ => (nomatch h)⟩

/-- **`NamespaceMerkleTree::check_range_proof` answers Complete** exactly when the range proof is accepted and `CompleteOK` -/
theorem nmtCheckRangeProof_complete_iff {H : HashFn} {ign : Bool} {root : NsHash} {X P : List NsHash} {s : Nat} :
    nmtCheckRangeProof H ign root X P s = .ok true ↔
      checkRangeProof H ign root X P s = .ok () ∧ CompleteOK X P (computeNumLeftSiblings s) := by
  -- the empty tree and the single-leaf tree: the same comparison in both functions, and no proof node
  have triv : ∀ (c : Bool) (e : Err), (c = true → P.isEmpty = true) →
      ((if c = true then (Except.ok true : Except Err Bool) else .error e) = .ok true ↔
       (if c = true then (Except.ok () : Except Err Unit) else .error e) = .ok () ∧
         CompleteOK X P (computeNumLeftSiblings s)) := by
    intro c e hP
    cases c
    · exact ⟨nofun, fun h => nomatch h.1⟩
    · obtain rfl := List.isEmpty_iff.mp (hP rfl)
      exact ⟨fun _ => ⟨rfl, .nil⟩, fun _ => rfl⟩
  by_cases h0 : X.length = 0
  · rw [nmtCheckRangeProof, if_pos h0, checkRangeProof, if_pos h0]
    exact triv _ _ fun hc => (Bool.and_eq_true_iff.mp hc).2
  by_cases h1 : X.length = 1 ∧ P.isEmpty = true
  · rw [nmtCheckRangeProof, if_neg h0, if_pos h1, checkRangeProof, if_neg h0, if_pos h1]
    exact triv _ _ fun _ => h1.2
  rw [nmtCheckRangeProof, if_neg h0, if_neg h1]
  dsimp only
  cases hany : P.any (fun h => ltB h.maxNs h.minNs)
  case true => exact ⟨nofun, fun h => nomatch hany.symm.trans h.2.ordered⟩
  cases hchk : checkRangeProof H ign root X P s with
  | error e => cases checkProofCompleteness X P (computeNumLeftSiblings s) <;> exact ⟨nofun, fun h => nomatch h.1⟩
  | ok u =>
    -- an accepted proof has its left proof nodes, so the completeness check reads inside the proof
    have hnl := (checkRangeProof_ok (by omega) (fun hc => h1 ⟨hc.1, by simp [hc.2]⟩) hchk).1
    rw [checkProofCompleteness, if_neg (show ¬ (computeNumLeftSiblings s ≠ 0 ∧ P.length < computeNumLeftSiblings s) by omega)]
    dsimp only
    rw [if_neg Bool.false_ne_true, Except.ok.injEq, Bool.and_eq_true]
    refine ⟨fun ⟨hl, hr⟩ => ⟨rfl, hany, fun sib first hz e1 e2 => ?_, fun sib last e1 e2 => ?_⟩, fun ⟨_, hc⟩ => ⟨?_, ?_⟩⟩
    · rw [if_pos hz, e1, e2] at hl; exact hl
    · have := (List.getElem?_eq_some_iff.mp e1).1
      rw [if_pos (by omega), e1, e2] at hr; exact hr
    · split
      · split
        · exact hc.left _ _ ‹_› ‹_› ‹_›
        · rfl
      · rfl
    · split
      · split
        · exact hc.right _ _ ‹_› ‹_›
        · rfl
      · rfl

/-- presence proofs: an accepted complete-namespace proof means the leaves are exactly the tree's leaves of the namespace -/
theorem presence_sound_on {H : HashFn} {S : Bytes → Prop} (hk : HashOKOn H S) {ign : Bool} {L : List NsHash} {root : NsHash} {P : List NsHash} {s : Nat}
    {ns : Bytes} {datas : List Bytes}
    (hne : L ≠ []) (al : AllLeafOn H S L) (hs : SortedNs L) (hroot : computeRoot H true L = .ok root)
    (hT : ∀ y ∈ rootInputs H true (L.length + 1) L, S y)
    (hV : ∀ y ∈ proofInputs H ign (datas.map (hashLeaf H ns)) P s, S y) (hXin : ∀ d ∈ datas, S (leafInput ns d))
    (wp : ∀ x ∈ P, x.WF) (hend : s + datas.length ≤ U32_MAX + 1) (hns : ns.length = NS_SIZE)
    (hcont : root.contains H ns = true) (hd : datas ≠ [])
    (h : nmtCheckRangeProof H ign root (datas.map (hashLeaf H ns)) P s = .ok true) :
    L.filter (fun x => x.minNs == ns) = datas.map (hashLeaf H ns) := by
  have hleaf := AllLeaf.leafNs al.allLeaf
  have hXleaf : ∀ x ∈ datas.map (hashLeaf H ns), IsLeafOn H S x := by
    intro x hx; obtain ⟨d, hd', rfl⟩ := List.mem_map.mp hx; exact ⟨ns, d, hns, rfl, hXin d hd'⟩
  have hXns : ∀ x ∈ datas.map (hashLeaf H ns), x.minNs = ns := by
    intro x hx; obtain ⟨d, _, rfl⟩ := List.mem_map.mp hx; rfl
  obtain ⟨hchk, _, hc1, hc2⟩ := nmtCheckRangeProof_complete_iff.mp h
  obtain ⟨hnl, ML, MX, MR, hL, hsl, hsx, hsr⟩ := accepted_block_on hk hne al hroot hT hV wp
    (fun x hx => (hXleaf x hx).WF hk.len) (by rw [List.length_map]; exact List.length_pos_iff.mpr hd)
    (by rw [List.length_map]; exact hend) hchk
  have hsub : ∀ y, (y ∈ ML ∨ y ∈ MX ∨ y ∈ MR) → y ∈ L := fun y hy => by simpa [hL, or_assoc] using hy
  obtain rfl : MX = datas.map (hashLeaf H ns) := SegsOn.leaves hk.inj hsx hXleaf
  obtain ⟨hsML, hsrest, _⟩ := SortedNs.append_iff.mp (show SortedNs (ML ++ (datas.map (hashLeaf H ns) ++ MR)) by
    rw [← List.append_assoc, ← hL]; exact hs)
  obtain ⟨_, hsMR, _⟩ := SortedNs.append_iff.mp hsrest
  rw [hL]
  refine filter_key_block NsHash.minNs ?_ hXns ?_
  · refine left_none hsl.segs hnl (fun x hx => hleaf x (hsub x (Or.inl hx))) hsML hns ?_ fun sib h0 hget => ?_
    · -- the parity namespace inside the root's range: with `ignore_max_ns` the whole tree is parity
      intro hnm x hx
      unfold NsHash.contains at hcont
      simp only [Bool.and_eq_true] at hcont
      have wroot := computeRoot_WF hk.len (AllLeaf.allWF hk.len al.allLeaf) hroot
      have hrm : root.maxNs = maxNsId := eq_maxNsId_of_le wroot.2.1 (by rw [← hnm]; exact hcont.1.2)
      exact Decidable.byContradiction fun hne' =>
        (computeRoot_range hne hleaf hs hroot).maxNotAll ⟨x, hsub x (Or.inl hx), hne'⟩ hrm
    · exact hc1 sib _ h0 hget (by rw [List.head?_map, List.head?_eq_some_head hd]; rfl)
  · refine right_none hsr.segs (fun x hx => hleaf x (hsub x (Or.inr (Or.inr hx)))) hsMR fun sib hget => ?_
    exact hc2 sib _ hget (by rw [List.getLast?_map, List.getLast?_eq_some_getLast hd]; rfl)

theorem contains_not_empty {H : HashFn} {root : NsHash} {ns : Bytes} (h : root.contains H ns = true) :
    root.isEmptyRoot H = false := by
  unfold NsHash.contains at h
  simp only [Bool.and_eq_true, Bool.not_eq_true'] at h
  exact h.2

/-- **Soundness of `verify_complete_namespace`** against the root of a namespace-sorted list of leaf hashes whose
    range covers the namespace: accepted raw leaves are exactly the tree's leaves of that namespace (none for an
    absence proof) -/
theorem vcn_sound_on {H : HashFn} {S : Bytes → Prop} (hk : HashOKOn H S) {L : List NsHash} {root : NsHash} {p : NsProof} {ns : Bytes} {datas : List Bytes}
    (hne : L ≠ []) (al : AllLeafOn H S L) (hs : SortedNs L) (hroot : computeRoot H true L = .ok root)
    (hT : ∀ y ∈ rootInputs H true (L.length + 1) L, S y) (hV : ∀ y ∈ vcnInputs H p datas ns, S y)
    (wp : ∀ x ∈ p.siblings, x.WF) (wl : ∀ l, p.leaf = some l → l.WF)
    (hstart : p.start ≤ U32_MAX) (hend : p.end_ ≤ U32_MAX) (hns : ns.length = NS_SIZE)
    (hcont : root.contains H ns = true)
    (h : verifyCompleteNamespace H p root datas ns = .ok ()) :
    L.filter (fun x => x.minNs == ns) = datas.map (hashLeaf H ns) := by
  unfold verifyCompleteNamespace at h
  split at h
  · cases h
  · rename_i hlen
    unfold verifyNamespace at h
    have hnotempty := contains_not_empty hcont
    simp only [hnotempty, Bool.false_and, Bool.false_eq_true, ↓reduceIte, hcont, Bool.not_true] at h
    by_cases hab : p.isAbsence = true
    · -- absence proof: the verifier itself refuses leaves
      simp only [hab, ↓reduceIte] at h
      cases hleaf : p.leaf with
      | none => simp [hleaf] at h
      | some lf =>
        cases datas with
        | cons a t => simp [hleaf] at h
        | nil =>
          simp only [hleaf, List.isEmpty_nil, Bool.not_true, Bool.false_eq_true, ↓reduceIte] at h
          by_cases hlt : leB lf.minNs ns = true
          · simp [hlt] at h
          · simp only [hlt, Bool.false_eq_true, ↓reduceIte] at h
            by_cases hnp : computeNumLeftSiblings p.start > 0 ∧ p.siblings.length < computeNumLeftSiblings p.start
            · simp [hnp] at h
            · simp only [hnp, ↓reduceIte] at h
              generalize hbad : (if computeNumLeftSiblings p.start > 0 then
                  match p.siblings[computeNumLeftSiblings p.start - 1]? with
                  | some sib => leB ns sib.maxNs
                  | none => false
                else false) = bad at h
              cases bad with
              | true => simp at h
              | false =>
                simp only [Bool.false_eq_true, ↓reduceIte] at h
                have hnone := absence_sound_on hk hne al hs hroot hT
                  (fun y hy => hV y (by unfold vcnInputs; simp only [hab, ↓reduceIte, hleaf, Option.toList_some]; exact List.mem_append_right _ hy))
                  wp (wl lf hleaf) hstart hns (ltB_of_not_leB ((Bool.not_eq_true _).mp hlt))
                  (fun sib h0 hget => by
                    rw [if_pos (Nat.pos_of_ne_zero h0), hget] at hbad
                    exact ltB_of_not_leB hbad) h
                rw [List.map_nil, List.filter_eq_nil_iff]
                exact fun a ha hb => hnone a ha (eq_of_beq hb)
    · -- presence proof
      have hab' : p.isAbsence = false := (Bool.not_eq_true _).mp hab
      simp only [hab', Bool.false_eq_true, ↓reduceIte] at h
      split at h
      · cases h
      · rename_i complete hck
        split at h
        · rename_i hc
          subst hc
          -- without leaves the range proof would have to be that of the empty tree
          have hd : datas ≠ [] := by
            rintro rfl
            have hc := (nmtCheckRangeProof_complete_iff.mp hck).1
            unfold checkRangeProof at hc
            unfold NsHash.isEmptyRoot at hnotempty
            rw [List.map_nil, if_pos List.length_nil, hnotempty] at hc
            cases hc
          have hend' : p.start + datas.length ≤ U32_MAX + 1 := by
            simp only [hab', Bool.not_false, Bool.true_and, decide_eq_true_eq, ne_eq, Decidable.not_not] at hlen
            unfold NsProof.rangeLen at hlen; omega
          exact presence_sound_on hk hne al hs hroot hT
            (fun y hy => hV y (by unfold vcnInputs; simp only [hab', Bool.false_eq_true, ↓reduceIte]; exact List.mem_append_right _ hy))
            (fun d hd' => hV _ (by unfold vcnInputs; exact List.mem_append_left _ (List.mem_map.mpr ⟨d, hd', rfl⟩)))
            wp hend' hns hcont hd hck
        · cases h

end Lumina.Proofs.NmtRange

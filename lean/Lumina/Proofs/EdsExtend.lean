/-
  The erasure extension `Eds.extendRaw` (the three passes of `ExtendedDataSquare::from_ods`) in closed form:
  under the shape hypothesis on the codec (`k` data shards ↦ `k` parity shards) the extended square is the
  `2k × 2k` grid of `extCell`, and each of its rows is `src ++ enc src` for the `k` shards `src` it was encoded from;
  what an accepted `from_ods` gives in these terms (`ExtOK`).
-/
import Lumina.Proofs.EdsCode

namespace Lumina.Proofs.EdsExtend
open Lumina.Util Lumina.Model.Nmt Lumina.Model.Eds Lumina.Model.EdsCode Lumina.Proofs.EdsCode

/-- shape of the codec: `k` data shards give `k` parity shards (leopard writes the parity in place into the `k`
    trailing buffers it is handed) -/
def EncShape (enc : List Bytes → List Bytes) (k : Nat) : Prop := ∀ row, row.length = k → (enc row).length = k

def odsRow (k : Nat) (ods : List Bytes) (r : Nat) : List Bytes := (ods.drop (r * k)).take k
def odsCol (k : Nat) (ods : List Bytes) (c : Nat) : List Bytes := (List.range k).map (fun r => ods.getD (r * k + c) [])
def q2Row (enc : List Bytes → List Bytes) (k : Nat) (ods : List Bytes) (r : Nat) : List Bytes :=
  (List.range k).map (fun c => (enc (odsCol k ods c)).getD r [])

/-- the share at `(r, c)` of the extension of the `k × k` square `ods` -/
def extCell (enc : List Bytes → List Bytes) (k : Nat) (ods : List Bytes) (r c : Nat) : Bytes :=
  if r < k then
    if c < k then ods.getD (r * k + c) [] else (enc (odsRow k ods r)).getD (c - k) []
  else
    if c < k then (enc (odsCol k ods c)).getD (r - k) [] else (enc (q2Row enc k ods (r - k))).getD (c - k) []

def extGrid (enc : List Bytes → List Bytes) (k : Nat) (ods : List Bytes) : List Bytes :=
  ((List.range (2 * k)).map (fun r => (List.range (2 * k)).map (extCell enc k ods r))).flatten

theorem odsRow_length {k : Nat} {ods : List Bytes} (hl : ods.length = k * k) {r : Nat} (hr : r < k) :
    (odsRow k ods r).length = k := by
  unfold odsRow
  rw [List.length_take, List.length_drop, hl]
  have : r * k + k ≤ k * k := by
    calc r * k + k = (r + 1) * k := by rw [Nat.succ_mul]
      _ ≤ k * k := Nat.mul_le_mul_right k hr
  omega

theorem odsRow_getElem? {k : Nat} {ods : List Bytes} {r c : Nat} (hc : c < k) :
    (odsRow k ods r)[c]? = ods[r * k + c]? := by
  unfold odsRow
  rw [List.getElem?_take_of_lt hc, List.getElem?_drop]

theorem row_cells {k : Nat} (data par : List Bytes) (hd : data.length = k) (hp : par.length = k)
    (f : Nat → Bytes) (h1 : ∀ c, c < k → f c = data.getD c []) (h2 : ∀ c, k ≤ c → c < 2 * k → f c = par.getD (c - k) []) :
    data ++ par = (List.range (2 * k)).map f := by
  apply List.ext_getElem?
  intro c
  by_cases hck : c < k
  · rw [List.getElem?_append_left (by omega), List.getElem?_map, List.getElem?_range (by omega)]
    simp only [Option.map_some, h1 c hck, List.getD_eq_getElem?_getD]
    rw [List.getElem?_eq_getElem (by omega)]; rfl
  · by_cases hc2 : c < 2 * k
    · rw [List.getElem?_append_right (by omega), List.getElem?_map, List.getElem?_range hc2]
      simp only [Option.map_some, h2 c (by omega) hc2, List.getD_eq_getElem?_getD, hd]
      rw [List.getElem?_eq_getElem (by omega)]; rfl
    · rw [List.getElem?_eq_none (by simp; omega), List.getElem?_eq_none (by simp; omega)]

def extRow (enc : List Bytes → List Bytes) (k : Nat) (ods : List Bytes) (r : Nat) : List Bytes :=
  (List.range (2 * k)).map (extCell enc k ods r)

/-- the `k` shards a row of the extension is encoded from: a row of the original square (upper half) or of Q2 -/
def rowSrc (enc : List Bytes → List Bytes) (k : Nat) (ods : List Bytes) (r : Nat) : List Bytes :=
  if r < k then odsRow k ods r else q2Row enc k ods (r - k)

theorem q2Row_length (enc : List Bytes → List Bytes) (k : Nat) (ods : List Bytes) (r : Nat) :
    (q2Row enc k ods r).length = k := by simp [q2Row]

theorem rowSrc_length {enc : List Bytes → List Bytes} {k : Nat} {ods : List Bytes} (hl : ods.length = k * k) (r : Nat) :
    (rowSrc enc k ods r).length = k := by
  unfold rowSrc
  split
  · exact odsRow_length hl ‹_›
  · exact q2Row_length enc k ods _

/-- **Rows are codewords by construction**: upper rows extend the original rows, lower rows extend the rows of Q2 -/
theorem extRow_eq {enc : List Bytes → List Bytes} {k : Nat} {ods : List Bytes} (hs : EncShape enc k)
    (hl : ods.length = k * k) (r : Nat) :
    extRow enc k ods r = rowSrc enc k ods r ++ enc (rowSrc enc k ods r) := by
  symm
  apply row_cells _ _ (rowSrc_length hl r) (hs _ (rowSrc_length hl r))
  · intro c hc
    by_cases hrk : r < k
    · simp only [extCell, rowSrc, hrk, hc, ↓reduceIte, List.getD_eq_getElem?_getD]
      rw [odsRow_getElem? (k := k) (ods := ods) (r := r) hc]
    · simp only [extCell, rowSrc, hrk, hc, ↓reduceIte, q2Row, getD_map_range _ hc]
  · intro c hc _
    have : ¬ c < k := by omega
    by_cases hrk : r < k <;> simp only [extCell, rowSrc, hrk, this, ↓reduceIte]

/-- **closed form of the three passes** -/
theorem extendRaw_grid {enc : List Bytes → List Bytes} {k : Nat} {ods : List Bytes} (hs : EncShape enc k)
    (hl : ods.length = k * k) : extendRaw enc k ods = extGrid enc k ods := by
  have split : (List.range (2 * k)).map (extRow enc k ods) =
      (List.range k).map (extRow enc k ods) ++ (List.range k).map (fun r => extRow enc k ods (k + r)) := by
    rw [show 2 * k = k + k by omega, List.range_add, List.map_append, List.map_map]
    rfl
  unfold extendRaw
  show _ = ((List.range (2 * k)).map (extRow enc k ods)).flatten
  rw [split]
  simp only [List.map_map]
  congr 2 <;> apply List.map_congr_left <;> intro r hr <;> have hr' := List.mem_range.mp hr
  · rw [extRow_eq hs hl, rowSrc, if_pos hr']
    rfl
  · rw [extRow_eq hs hl, rowSrc, if_neg (by omega), Nat.add_sub_cancel_left]
    simp [q2Row, odsCol, Function.comp_def]

theorem extGrid_length (enc : List Bytes → List Bytes) (k : Nat) (ods : List Bytes) :
    (extGrid enc k ods).length = 2 * k * (2 * k) := grid_length _ _ _

theorem extGrid_getD (enc : List Bytes → List Bytes) (k : Nat) (ods : List Bytes) {r c : Nat}
    (hr : r < 2 * k) (hc : c < 2 * k) : (extGrid enc k ods).getD (r * (2 * k) + c) [] = extCell enc k ods r c :=
  grid_getD _ hr hc _

theorem extGrid_q0 (enc : List Bytes → List Bytes) {k : Nat} (ods : List Bytes) {r c : Nat} (hr : r < k) (hc : c < k) :
    (extGrid enc k ods).getD (r * (2 * k) + c) [] = ods.getD (r * k + c) [] := by
  rw [extGrid_getD enc k ods (by omega) (by omega), extCell, if_pos hr, if_pos hc]

/-- everything an accepted `from_ods` gives, with the codec shape hypothesis it was read under -/
structure ExtOK (enc : List Bytes → List Bytes) (ver : Nat) (ods : List Bytes) (e : Eds) (k : Nat) : Prop where
  shape : EncShape enc k
  sq : ods.length = k * k
  newOK : NewOK ver (extGrid enc k ods) e
  width : e.width = 2 * k
  data : e.shares.map Share.data = extGrid enc k ods
  kpos : 1 ≤ k

theorem ExtOK.of_fromOds {enc : List Bytes → List Bytes} {ver : Nat} {ods : List Bytes} {e : Eds}
    (hs : EncShape enc (isqrt ods.length)) (h : fromOds enc ver ods = .ok e) : ExtOK enc ver ods e (isqrt ods.length) := by
  obtain ⟨hsq, _, hn⟩ := fromOds_ok_iff.mp h
  have hg := extendRaw_grid hs hsq.symm
  rw [hg] at hn
  have hw : e.width = 2 * isqrt ods.length := hn.width_eq (by rw [extGrid_length])
  have := hn.two_le
  exact ⟨hs, hsq.symm, hn, hw, hn.data, by omega⟩

/-- every share of the original square is a cell of the accepted square, hence 512 bytes long -/
theorem ExtOK.ods_size {enc : List Bytes → List Bytes} {ver : Nat} {ods : List Bytes} {e : Eds} {k : Nat}
    (x : ExtOK enc ver ods e k) : ∀ s ∈ ods, s.length = SHARE_SIZE := by
  rw [forall_mem_sq x.sq []]
  intro r c hr hc
  have := (x.newOK.cellOK (r := r) (c := c) (by rw [x.width]; omega) (by rw [x.width]; omega)).size
  simp only [cell] at this
  rwa [x.width, extGrid_q0 enc ods hr hc] at this

end Lumina.Proofs.EdsExtend

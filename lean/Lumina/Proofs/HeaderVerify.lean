/-
  The C02 spec's link condition read on the model's headers, and the `verify_range` loop taken apart.
-/
import Lumina.Model.HeaderVerifyBridge

namespace Lumina.Proofs.HeaderVerify
open Lumina.Model.Commit Lumina.Model.HeaderVerify Lumina.Spec.C02

/-- `linkOK` on model headers, condition by condition in the order `verify` checks them -/
theorem linkOK_toH_iff (ok : Oracle) (now : Int) (tr un : Hdr) :
    linkOK ok now (toH tr) (toH un) = true ↔
      (un.height > tr.height ∧ un.chainId = tr.chainId ∧ un.time > tr.time ∧
       un.time < now + 10000000000 ∧
       (if tr.height + 1 = un.height then
          un.validatorsHash = tr.nextValidatorsHash ∧ un.lastHeaderHash = tr.hash
        else 3 * Lumina.Spec.C03.validPowerTrusting (specInput tr.valset 0 0 un.sigs) ok >
          1 * sumPowers tr.valset.vals)) := by
  have hadj : (toH un).height = (toH tr).height + 1 ↔ tr.height + 1 = un.height := eq_comm
  simp only [linkOK, hadj, Bool.and_eq_true, decide_eq_true_eq, beq_iff_eq, and_assoc]
  refine and_congr_right fun _ => and_congr_right fun _ => and_congr_right fun _ =>
    and_congr_right fun _ => ?_
  split
  · simp only [Bool.and_eq_true, beq_iff_eq]; exact and_comm
  · simp only [decide_eq_true_eq]; rfl

/-- what `specVerifyAdjacentExact` says of a verdict `p`, read as one step of `chainOK` -/
theorem chainStep_iff {ok : Valid} {now : Int} {t u : H} {p : Prop} [Decidable p]
    (h : specVerifyAdjacentExact ok now t u (decide p) = true) :
    (decide (u.height = t.height + 1) && linkOK ok now t u) = true ↔ u.height = t.height + 1 ∧ p := by
  unfold specVerifyAdjacentExact at h
  by_cases ha : u.height = t.height + 1
  · rw [decide_eq_true ha, Bool.not_true, Bool.false_or, beq_iff_eq] at h
    rw [decide_eq_true ha, Bool.true_and, ← h, decide_eq_true_iff, and_iff_right ha]
  · simp [ha]

variable {oks : Nat → Oracle} {drift tn td : Nat} {now : Int} {tr un : Hdr} {rest : List Hdr}

/-- one turn of the `verify_range` loop: adjacency is demanded from the second step on -/
theorem verifyRangeFrom_cons_ok {i : Nat} :
    verifyRangeFrom oks drift tn td now i tr (un :: rest) = .ok ↔
      (i ≠ 0 → un.height = tr.height + 1) ∧ verify (oks i) drift tn td now tr un = .ok ∧
        verifyRangeFrom oks drift tn td now (i + 1) un rest = .ok := by
  rw [verifyRangeFrom]
  by_cases h : i ≠ 0 ∧ tr.height + 1 ≠ un.height
  · rw [if_pos h]; exact ⟨nofun, fun h' => absurd (h'.1 h.1).symm h.2⟩
  · rw [if_neg h]
    cases verify (oks i) drift tn td now tr un with
    | ok => exact ⟨fun e => ⟨fun hi => (Decidable.not_not.1 fun hn => h ⟨hi, hn⟩).symm, rfl, e⟩, fun e => e.2.2⟩
    | _ => exact ⟨nofun, fun e => nomatch e.2.1⟩

end Lumina.Proofs.HeaderVerify

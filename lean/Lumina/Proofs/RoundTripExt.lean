/-
  C46: round trips and acceptance conditions of the Blob and ExtendedHeader conversion layers
  of `Model/RoundTripExt.lean`.
-/
import Lumina.Model.RoundTripExt
import Lumina.Model.Commitment
import Lumina.Proofs.RoundTrip

namespace Lumina.Proofs.RoundTrip
open Lumina.Util Lumina.Model.Nmt Lumina.Model.Eds Lumina.Model.RoundTrip
open Lumina.Model

/-- what makes a `Blob` a value the protobuf form can carry for app version `av`:
    valid namespace, `u8` share version, 20-byte signer, NO index (the proto has no such field)
    and the commitment is the one `Commitment::from_blob` computes (`Blob::validate(av)` is `Ok`) -/
def ValidBlobPb {C E : Type} (commit : Bytes → Bytes → Nat → Option Bytes → Nat → Except E C) (av : Nat)
    (b : BlobV C) : Prop :=
  Namespace.fromRaw b.ns = .ok b.ns ∧ b.shareVersion ≤ 255 ∧
  (∀ s, b.signer = some s → s.length = ACC_ADDRESS_LEN) ∧ b.index = none ∧
  commit b.ns b.data b.shareVersion b.signer av = .ok b.commitment

theorem signerOfRaw_getD (s : Option Bytes) (h : ∀ x, s = some x → x.length = ACC_ADDRESS_LEN) :
    signerOfRaw (s.getD []) = s := by
  cases s with
  | none => simp [signerOfRaw, ACC_ADDRESS_LEN]
  | some x => simp [signerOfRaw, h x rfl]

/-- everything but the index comes back, whatever the index was -/
theorem blob_pb_roundtrip_upto_index {C E : Type}
    (commit : Bytes → Bytes → Nat → Option Bytes → Nat → Except E C) (av : Nat) (b : BlobV C)
    (h1 : Namespace.fromRaw b.ns = .ok b.ns) (h2 : b.shareVersion ≤ 255)
    (h3 : ∀ s, b.signer = some s → s.length = ACC_ADDRESS_LEN)
    (h5 : commit b.ns b.data b.shareVersion b.signer av = .ok b.commitment) :
    blobFromRaw commit (blobToRaw b) av = .ok { b with index := none } := by
  unfold blobFromRaw blobToRaw
  have n2 : ¬ b.shareVersion > 255 := by omega
  simp only [namespace_new_parts _ h1, n2, ↓reduceIte, signerOfRaw_getD _ h3, h5]

theorem blob_pb_roundtrip {C E : Type}
    (commit : Bytes → Bytes → Nat → Option Bytes → Nat → Except E C) (av : Nat) (b : BlobV C)
    (h : ValidBlobPb commit av b) : blobFromRaw commit (blobToRaw b) av = .ok b := by
  obtain ⟨h1, h2, h3, h4, h5⟩ := h
  rw [blob_pb_roundtrip_upto_index commit av b h1 h2 h3 h5]
  cases b
  simp only at h4
  subst h4
  rfl

/-- with C12's commitment model: `Blob::validate(av) = Ok` is the commitment condition -/
theorem validate_ok_iff {D : Type} [DecidableEq D] (H : Merkle.HashFns D) (h : Nmt.HashFn) (b : Blob.Blob) (stored : D)
    (av : Nat) :
    Commitment.validate H h b stored av = .ok ↔
      Commitment.fromBlob H h b.ns b.data b.shareVersion b.signer av = .ok stored := by
  unfold Commitment.validate
  cases hf : Commitment.fromBlob H h b.ns b.data b.shareVersion b.signer av with
  | error e => simp
  | ok c =>
    by_cases hc : stored = c
    · subst hc; simp
    · simp only [ne_eq, hc, not_false_eq_true, ↓reduceIte]
      constructor
      · intro hh; cases hh
      · intro hh; injection hh with hh; exact absurd hh.symm hc

/-- what makes a `Blob` a value the JSON form can carry: valid namespace, 32-byte commitment
    (any: the JSON form does not recompute it), share version 0 without signer or 1 with a
    20-byte signer, index (if any) below 2^63 -/
def ValidBlobJson (b : BlobV Bytes) : Prop :=
  Namespace.fromRaw b.ns = .ok b.ns ∧ b.commitment.length = HASH_LEN ∧
  ((b.shareVersion = 0 ∧ b.signer = none) ∨
   (b.shareVersion = 1 ∧ ∃ s, b.signer = some s ∧ s.length = ACC_ADDRESS_LEN)) ∧
  (∀ i, b.index = some i → i ≤ I64_MAX_NAT)

theorem index_wire_roundtrip (i : Option Nat) (h : ∀ x, i = some x → x ≤ I64_MAX_NAT) :
    ∃ w, indexToWire i = some w ∧ indexFromWire w = i := by
  cases i with
  | none => exact ⟨-1, rfl, by decide⟩
  | some x =>
    refine ⟨(x : Int), by simp [indexToWire, h x rfl], ?_⟩
    have : (x : Int) ≥ 0 := by omega
    simp [indexFromWire, this]

theorem signer_wire_roundtrip (s : Option Bytes) (h : ∀ x, s = some x → x.length = ACC_ADDRESS_LEN) :
    signerFromWire (signerToWire s) = some s := by
  cases s with
  | none => rfl
  | some x =>
    have hl := h x rfl
    have hne : x.isEmpty = false := by
      cases x with
      | nil => simp [ACC_ADDRESS_LEN] at hl
      | cons a r => rfl
    simp [signerFromWire, signerToWire, Lumina.Proofs.Namespace.b64_roundtrip, hne, hl]

theorem blob_json_roundtrip (b : BlobV Bytes) (h : ValidBlobJson b) :
    ∃ j, blobToJson b = some j ∧ blobFromJson j = .ok b := by
  obtain ⟨h1, h2, h3, h4⟩ := h
  obtain ⟨w, hw1, hw2⟩ := index_wire_roundtrip b.index h4
  have hsl : ∀ x, b.signer = some x → x.length = ACC_ADDRESS_LEN := by
    intro x hx
    rcases h3 with ⟨_, hn⟩ | ⟨_, s, hs, hl⟩
    · rw [hn] at hx; cases hx
    · rw [hs] at hx; injection hx with hx; subst hx; exact hl
  have hv : validateBlobNoApp b.shareVersion b.signer.isSome = .ok () := by
    rcases h3 with ⟨e1, e2⟩ | ⟨e1, s, e2, _⟩ <;> simp [validateBlobNoApp, e1, e2]
  have hsv : ¬ b.shareVersion > 255 := by
    rcases h3 with ⟨e1, _⟩ | ⟨e1, _⟩ <;> omega
  refine ⟨{ ns := Namespace.serialize b.ns, data := Namespace.b64Encode b.data, shareVersion := b.shareVersion,
            commitment := Namespace.b64Encode b.commitment, index := some w, signer := signerToWire b.signer },
    by simp only [blobToJson, hw1], ?_⟩
  unfold blobFromJson
  simp only [Lumina.Proofs.Namespace.serde_roundtrip _ h1, Lumina.Proofs.Namespace.b64_roundtrip, commitmentFromWire, h2, ↓reduceIte,
    signer_wire_roundtrip _ hsl, hsv, hw2, hv]

theorem eh_roundtrip {H C V RH RC RV : Type} (T : TmConv H C V RH RC RV) (validate : Eh H C V → Bool)
    (eh : Eh H C V)
    (hh : T.hFrom (T.hTo eh.header) = some eh.header)
    (hc : T.cFrom (T.cTo eh.commit) = some eh.commit)
    (hv : T.vFrom (T.vTo eh.validatorSet) = some eh.validatorSet)
    (hr : ∀ x ∈ eh.dah.rowRoots, x.WF) (hcr : ∀ x ∈ eh.dah.colRoots, x.WF)
    (hval : validate eh = true) :
    ehFromRaw T validate (ehToRaw T eh) = .ok eh := by
  unfold ehFromRaw ehToRaw
  simp only [hh, hc, hv, dah_roundtrip eh.dah hr hcr]
  cases eh
  simp only at hval ⊢
  rw [if_pos hval]

/-- exactly which raw headers `TryFrom<RawExtendedHeader>` accepts -/
theorem ehFromRaw_ok_iff {H C V RH RC RV : Type} (T : TmConv H C V RH RC RV) (validate : Eh H C V → Bool)
    (r : RawEh RH RC RV) (eh : Eh H C V) :
    ehFromRaw T validate r = .ok eh ↔
      ∃ rh rc rv rd, r.header = some rh ∧ r.commit = some rc ∧ r.validatorSet = some rv ∧ r.dah = some rd ∧
        T.hFrom rh = some eh.header ∧ T.cFrom rc = some eh.commit ∧ T.vFrom rv = some eh.validatorSet ∧
        dahFromRaw rd = some eh.dah ∧ validate eh = true := by
  unfold ehFromRaw
  constructor
  · intro e
    repeat' split at e
    all_goals try cases e
    dsimp only at e
    split at e
    · cases e
      exact ⟨_, _, _, _, ‹_›, ‹_›, ‹_›, ‹_›, ‹_›, ‹_›, ‹_›, ‹_›, ‹_›⟩
    · cases e
  · rintro ⟨rh, rc, rv, rd, e1, e2, e3, e4, f1, f2, f3, f4, hv⟩
    simp only [e1, e2, e3, e4, f1, f2, f3, f4]
    exact if_pos hv

end Lumina.Proofs.RoundTrip

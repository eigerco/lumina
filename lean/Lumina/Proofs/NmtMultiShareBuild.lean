/-
  Multi-leaf range proofs: honestly built share proofs verify (C13, completeness of `ShareProof`).

  `buildLoop_ok`: the per-row loop of the honest construction succeeds, and both loops of `ShareProof::verify`
  (`shares_needed`, the range-proof loop against the DAH's roots of the rows it was built for) accept its output.
-/
import Lumina.Proofs.NmtMultiShare
import Lumina.Proofs.DecodersBridge

namespace Lumina.Proofs.NmtMulti
open Lumina.Util Lumina.Model.Nmt Lumina.Model.Eds
open Lumina.Proofs.Nmt Lumina.Proofs.NmtRange Lumina.Proofs.Eds Lumina.Proofs.Sample
open Lumina.Model.ShareProof (sharesNeeded rangeLoop buildLoop BuildOutcome u32Max u64Max)

/-- **the honest per-row construction succeeds and both loops of `ShareProof::verify` accept it**, the range-proof loop
    against the DAH's own roots of the rows it was built for -/
theorem buildLoop_ok {h : HashFn} (hl : HashLen h) {e : Eds} {dah : Dah}
    (hd : Dah.ofEds h e = .ok dah) (hsz : ∀ sh ∈ e.shares, NS_SIZE ≤ sh.data.length) (hw : e.width ≤ 65535) (ns : Bytes) :
    ∀ (ranges : List (Nat × Nat)) (row : Nat), row + ranges.length ≤ e.width →
      (∀ i s en shares, ranges[i]? = some (s, en) → e.row? (row + i) = some shares →
        s < en ∧ en ≤ e.width ∧ ∀ sh ∈ (shares.drop s).take (en - s), sh.ns = ns) →
      ∃ d ps, buildLoop h e row ranges = .ok (d, ps) ∧ ps.length = ranges.length ∧
        d.length ≤ ranges.length * e.width ∧
        (∀ acc, acc + d.length ≤ u32Max → sharesNeeded acc ps = .ok (acc + d.length)) ∧
        rangeLoop h ns d ps (((dah.rowRoots.drop row).take ranges.length).map NsHash.toBytes) = .ok := by
  intro ranges
  induction ranges with
  | nil =>
    intro row _ _
    exact ⟨[], [], rfl, rfl, by simp, fun acc _ => by simp [sharesNeeded], by simp [rangeLoop]⟩
  | cons rg rest ih =>
    intro row hrow hrg
    obtain ⟨s, en⟩ := rg
    simp only [List.length_cons] at hrow
    have hroww : row < e.width := by omega
    obtain ⟨shares, root, hget, T⟩ := dah_axisTree hd .row hroww
    have hax := T.axis
    obtain ⟨hse, hen, hall⟩ := hrg 0 s en shares rfl (by simpa [Eds.row?] using hax)
    obtain ⟨sibs, hbr, hvr⟩ := T.range_complete hsz (by omega) hse hen hall
    rw [Lumina.Proofs.Decoders.luminaVerifyRange_eq] at hvr
    have hslen := T.length
    obtain ⟨d', ps', hbl, hpsl, hdl, hsn, hrl'⟩ := ih (row + 1) (by omega)
      (by
        intro i s' en' shares' hi hrow'
        have e1 : row + 1 + i = row + (i + 1) := by omega
        rw [e1] at hrow'
        exact hrg (i + 1) s' en' shares' (by simpa using hi) hrow')
    have hBlen : (((shares.drop s).take (en - s)).map Share.data).length = en - s := by
      rw [List.length_map, List.length_take, List.length_drop]; omega
    refine ⟨((shares.drop s).take (en - s)).map Share.data ++ d', ⟨s, en, sibs, true, false, none⟩ :: ps', ?_, ?_, ?_, ?_, ?_⟩
    · unfold buildLoop
      simp only [T.leafHashes, Eds.row?, hax, hbr, hbl]
    · simp [hpsl]
    · rw [List.length_append, hBlen, List.length_cons, Nat.add_mul, Nat.one_mul]; omega
    · intro acc hacc
      rw [List.length_append, hBlen] at hacc
      unfold sharesNeeded
      have c2 : ¬ (en ≤ s) := by omega
      have h3264 : u32Max ≤ u64Max := by decide
      have c3 : ¬ (u64Max < acc + (en - s)) := by omega
      simp only [Bool.false_eq_true, ↓reduceIte, c2, c3]
      rw [hsn (acc + (en - s)) (by omega), List.length_append, hBlen]
      congr 1; omega
    · have hr := (List.getElem?_eq_some_iff.mp hget)
      rw [List.drop_eq_getElem_cons hr.1, hr.2, List.length_cons, List.take_succ_cons, List.map_cons]
      exact Lumina.Proofs.C13.rangeLoop_cons_ok.mpr ⟨by rw [List.length_append, hBlen]; exact Nat.le_add_right _ _, root,
        ofBytes_toBytes (T.rootWF hl hsz), by rw [List.take_left' hBlen, hvr], by rw [List.drop_left' hBlen]; exact hrl'⟩

end Lumina.Proofs.NmtMulti

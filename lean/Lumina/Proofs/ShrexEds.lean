/-
  Lemmas for C09: `chunks`, when `decode_and_verify` accepts (`decode_ok_iff`), the bridge between the model's DAH
  (`Dah.ofEds`) and the spec's (`Spec.C09.commits`: `commits_of_dah`), and that two accepted squares with one DAH are one square (`dah_binds`,
  row by row from `EdsBind.axis_root_binds`).
-/
import Lumina.Proofs.EdsBind
import Lumina.Model.ShrexEds
import Lumina.Spec.C09

namespace Lumina.Proofs.ShrexEds
open Lumina.Util Lumina.Model.Nmt Lumina.Model.Eds Lumina.Model.EdsCode Lumina.Model.ShrexEds
open Lumina.Proofs.Nmt Lumina.Proofs.Eds Lumina.Proofs.EdsCode Lumina.Proofs.EdsBind

theorem chunksAux_flatten {n : Nat} (hn : 0 < n) : ∀ (fuel : Nat) (l : Bytes), l.length ≤ fuel →
    (chunksAux n fuel l).flatten = l
  | 0, l, h => by
    have : l = [] := List.eq_nil_of_length_eq_zero (by omega)
    subst this; rfl
  | fuel + 1, l, h => by
    simp only [chunksAux]
    split
    · rename_i he; simp at he; subst he; rfl
    · simp only [List.flatten_cons]
      rw [chunksAux_flatten hn fuel (l.drop n) (by rw [List.length_drop]; omega), List.take_append_drop]

theorem chunks_flatten {n : Nat} (hn : 0 < n) (l : Bytes) : (chunks n l).flatten = l :=
  chunksAux_flatten hn l.length l (Nat.le_refl _)

theorem chunksAux_len {n : Nat} (hn : 0 < n) : ∀ (fuel : Nat) (l : Bytes), l.length % n = 0 →
    ∀ c ∈ chunksAux n fuel l, c.length = n
  | 0, _, _, c, hc => by simp [chunksAux] at hc
  | fuel + 1, l, hm, c, hc => by
    simp only [chunksAux] at hc
    split at hc
    · simp at hc
    · rename_i hne
      have hpos : 0 < l.length := by
        cases l with
        | nil => simp at hne
        | cons a t => simp
      have hge : n ≤ l.length := by
        have := Nat.div_add_mod l.length n
        rw [hm] at this
        have hq : 0 < l.length / n := by
          cases hq : l.length / n with
          | zero => rw [hq] at this; omega
          | succ q => omega
        calc n = n * 1 := (Nat.mul_one n).symm
          _ ≤ n * (l.length / n) := Nat.mul_le_mul_left n hq
          _ ≤ l.length := by omega
      rcases List.mem_cons.mp hc with rfl | hc
      · rw [List.length_take]; omega
      · apply chunksAux_len hn fuel (l.drop n) _ c hc
        rw [List.length_drop]
        have : (l.length - n) % n = l.length % n := by
          conv => rhs; rw [← Nat.sub_add_cancel hge]
          rw [Nat.add_mod_right]
        rw [this, hm]

theorem chunks_len {n : Nat} (hn : 0 < n) (l : Bytes) (hm : l.length % n = 0) : ∀ c ∈ chunks n l, c.length = n :=
  chunksAux_len hn l.length l hm

theorem chunksAux_of_flatten {n : Nat} (hn : 0 < n) : ∀ (L : List Bytes) (fuel : Nat), (∀ c ∈ L, c.length = n) →
    L.flatten.length ≤ fuel → chunksAux n fuel L.flatten = L
  | [], 0, _, _ => rfl
  | [], fuel + 1, _, _ => by simp [chunksAux]
  | c :: t, 0, h, hf => by
    have := h c (by simp)
    rw [List.flatten_cons, List.length_append] at hf; omega
  | c :: t, fuel + 1, h, hf => by
    have hc := h c (by simp)
    simp only [chunksAux, List.flatten_cons]
    have hne : (c ++ t.flatten).isEmpty = false := by
      cases c with
      | nil => simp at hc; omega
      | cons a b => rfl
    simp only [hne, Bool.false_eq_true, ↓reduceIte]
    have h1 : (c ++ t.flatten).take n = c := by rw [← hc]; simp
    have h2 : (c ++ t.flatten).drop n = t.flatten := by rw [← hc]; simp
    rw [h1, h2, chunksAux_of_flatten hn t fuel (fun x hx => h x (by simp [hx]))
      (by rw [List.flatten_cons, List.length_append] at hf; omega)]

theorem chunks_of_flatten {n : Nat} (hn : 0 < n) (L : List Bytes) (h : ∀ c ∈ L, c.length = n) :
    chunks n L.flatten = L :=
  chunksAux_of_flatten hn L _ h (Nat.le_refl _)

theorem flatten_length_const {n : Nat} {L : List Bytes} (h : ∀ s ∈ L, s.length = n) : L.flatten.length = n * L.length := by
  rw [List.length_flatten, List.map_congr_left h, List.map_const', List.sum_replicate_nat, Nat.mul_comm]

theorem cell_leafHash (H : HashFn) (w : Nat) (shares : List Bytes) (r c : Nat) :
    (cell w shares r c).leafHash H =
      hashLeaf H (Lumina.Spec.C09.leafNs w r c (shares.getD (r * w + c) [])) (shares.getD (r * w + c) []) := by
  rw [Share.leafHash, cell_ns]; rfl

theorem commits_of_dah {ver : Nat} {shares : List Bytes} {e : Eds} (h : NewOK ver shares e) (H : HashFn) {dah : Dah}
    (hd : Dah.ofEds H e = .ok dah) :
    Lumina.Spec.C09.commits H e.width shares dah.rowRoots dah.colRoots = true := by
  obtain ⟨hrl, hcl, _, _⟩ := dah_ofEds_roots hd
  unfold Lumina.Spec.C09.commits
  simp only [Bool.and_eq_true, beq_iff_eq, List.all_eq_true, List.mem_range]
  refine ⟨⟨⟨h.sq.symm, hrl⟩, hcl⟩, fun i hi => ⟨?_, ?_⟩⟩
  · obtain ⟨r, hdr, _, hc⟩ := h.dahRoot hd .row hi
    simp only [lineCells, List.map_map, Function.comp_def, axisCoord, cell_leafHash] at hc
    rw [Lumina.Spec.C09.rowRoot, hc]
    exact hdr.symm
  · obtain ⟨r, hdr, _, hc⟩ := h.dahRoot hd .col hi
    simp only [lineCells, List.map_map, Function.comp_def, axisCoord, cell_leafHash] at hc
    rw [Lumina.Spec.C09.colRoot, hc]
    exact hdr.symm

/-- the pieces of an accepted `decode_and_verify` -/
structure DecodeOK (H : HashFn) (enc : List Bytes → List Bytes) (raw : Bytes) (dah : Dah) (ver : Nat) (e : Eds) : Prop where
  nonempty : raw ≠ []
  whole : raw.length % SHARE_SIZE = 0
  ext : fromOds enc ver (chunks SHARE_SIZE raw) = .ok e
  dah : Dah.ofEds H e = .ok dah

theorem decode_ok_iff {H : HashFn} {enc : List Bytes → List Bytes} {raw : Bytes} {dah : Dah} {ver : Nat} {e : Eds} :
    decodeAndVerify H enc raw dah ver = .ok e ↔ DecodeOK H enc raw dah ver e := by
  constructor
  · intro h
    unfold decodeAndVerify at h
    simp only [Util.guard_ok_iff, ne_eq, Decidable.not_not, Bool.not_eq_true] at h
    obtain ⟨hne, hm, h⟩ := h
    split at h
    · cases h
    · rename_i eds hf
      split at h
      · cases h
      · rename_i computed hd
        obtain ⟨heq, h⟩ := Util.guard_ok_iff.mp h
        cases h
        rw [Decidable.not_not.mp heq] at hd
        exact ⟨by rintro rfl; simp at hne, hm, hf, hd⟩
  · intro h
    have hne : raw.isEmpty = false := by
      cases raw with
      | nil => exact (h.nonempty rfl).elim
      | cons _ _ => rfl
    simp [decodeAndVerify, hne, h.whole, h.ext, h.dah]

theorem allLeaf_lineCells {ver : Nat} {shares : List Bytes} {e : Eds} (h : NewOK ver shares e) (H : HashFn) (ax : Axis)
    {i : Nat} (hi : i < e.width) : AllLeaf H ((lineCells e.width shares ax i).map (Share.leafHash H)) := by
  intro x hx
  obtain ⟨sh, hsh, rfl⟩ := List.mem_map.mp hx
  exact ⟨sh.ns, sh.data, Sample.share_ns_length (by rw [(h.cells i hi ax sh hsh).size]; decide), rfl⟩

/-- **Two accepted squares with the same row roots are the same square** — no collision among the byte strings hashed
    by `Dah.ofEds` for the two squares -/
theorem dah_binds {H : HashFn} {ver ver' : Nat} {X X' : List Bytes} {e e' : Eds}
    (h : NewOK ver X e) (h' : NewOK ver' X' e') {dah : Dah} (hd : Dah.ofEds H e = .ok dah)
    (hd' : Dah.ofEds H e' = .ok dah) (hk : HashOKOn H (fun y => y ∈ edsInputs H e ++ edsInputs H e')) : X = X' ∧ e = e' := by
  have hw : e'.width = e.width := by
    have := (dah_ofEds_roots hd).1
    have := (dah_ofEds_roots hd').1
    omega
  -- row by row: the row of `X'` hashes to the committed root of the row of `X`
  have hrow : ∀ i, i < e.width →
      (lineCells e.width X' .row i).map Share.data = (lineCells e.width X .row i).map Share.data := by
    intro i hi
    have hi' : i < e'.width := by omega
    obtain ⟨r, hr, _, hq⟩ := h.dahRoot hd .row hi
    obtain ⟨r', hr', _, hq'⟩ := h'.dahRoot hd' .row hi'
    obtain rfl : r = r' := by rw [hr] at hr'; injection hr'
    have hax' := h'.axis .row hi'
    have hA' : ∀ y ∈ axisInputs H e' .row i, y ∈ edsInputs H e ++ edsInputs H e' :=
      fun y hy => List.mem_append_right _ (axisInputs_mem_eds hi' hy)
    rw [hw] at hq' hax'
    rw [← zipWith_leafHash] at hq'
    refine axis_root_binds hk h (fun y hy => List.mem_append_left _ hy) .row hi (by simp)
      (fun ns hns => ?_) (fun p hp => hA' _ ?_) (fun y hy => hA' y ?_) hq' hq
    · obtain ⟨c, hc, rfl⟩ := List.mem_map.mp hns
      exact Sample.share_ns_length (by rw [(h'.cells i hi' .row c (hw ▸ hc)).size]; decide)
    · rw [List.zip_map'] at hp
      obtain ⟨c, hc, rfl⟩ := List.mem_map.mp hp
      exact axis_leafInput_mem hax' hc
    · rw [zipWith_leafHash] at hy
      exact axis_rootInputs_mem hax' hy
  have hX : X = X' := by
    refine sq_ext [] h.sq.symm (by rw [← hw]; exact h'.sq.symm) fun r c hr hc => ?_
    have := congrArg (·.getD c []) (hrow r hr)
    simp only [lineCells_data_getD _ _ _ hc] at this
    exact this.symm
  exact ⟨hX, by rw [h.eq_ofRaw, h'.eq_ofRaw, hw, hX]⟩

end Lumina.Proofs.ShrexEds

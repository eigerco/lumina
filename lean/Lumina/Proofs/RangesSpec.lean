/-
  Bridge between the independent decidable spec `Lumina/Spec/C17.lean` and the model-level
  vocabulary (`mem`, `Inv`, `card`).
-/
import Lumina.Proofs.RangesTrunc
import Lumina.Spec.C17

namespace Lumina.Proofs.Ranges
open Lumina.Model.Ranges hiding Inv
open Lumina.Spec.C17

open Lumina.Model.Ranges renaming Inv → RInv

/-- what the harness prints for a ranges-valued operation, as an observation -/
def obsOf : Res Ranges → Obs
  | .ok rs => .ok rs
  | .error (.invalid r) => .errInvalid r
  | .error .unsorted => .errUnsorted
  | .error _ => .panic

theorem member_eq_memB (rs : Ranges) (h : Nat) : member rs h = memB rs h := rfl

theorem member_iff (rs : Ranges) (h : Nat) : member rs h = true ↔ mem rs h := memB_iff_mem rs h

theorem member_false_iff (rs : Ranges) (h : Nat) : member rs h = false ↔ ¬ mem rs h :=
  memB_eq_false_iff rs h

theorem validR_eq_valid (r : Range) : validR r = Range.valid r := by
  rw [Bool.eq_iff_iff, valid_iff]
  simp [validR]

theorem gaps_eq_sortedB : ∀ rs : Ranges, gaps rs = sortedB rs
  | [] => rfl
  | [_] => rfl
  | a :: b :: rest => by simp only [gaps, sortedB, gaps_eq_sortedB (b :: rest)]

theorem canonical_iff_inv (rs : Ranges) : Lumina.Spec.C17.canonical rs = true ↔ RInv rs := by
  rw [← invB_iff]
  simp only [Lumina.Spec.C17.canonical, invB, gaps_eq_sortedB, allValidB, validR, U64MAX, U64_MAX, Bool.and_eq_true,
    List.all_eq_true, decide_eq_true_eq]
  exact Iff.rfl

theorem canonical_of_inv {rs : Ranges} (h : RInv rs) : Lumina.Spec.C17.canonical rs = true := (canonical_iff_inv rs).2 h

theorem spec_card_eq (rs : Ranges) : Lumina.Spec.C17.card rs = card rs := rfl

theorem denotes_of_iff {out : Ranges} (hi : RInv out) (vals : List R) (pts : List Nat)
    {f : Nat → Bool} {P : Nat → Prop} (hm : ∀ h, mem out h ↔ P h) (hf : ∀ h, f h = true ↔ P h) :
    denotes out vals pts f = true := by
  simp only [denotes, canonical_of_inv hi, Bool.true_and, sameOn, List.all_eq_true, beq_iff_eq]
  intro h _
  rw [Bool.eq_iff_iff, member_iff, hm, hf]

/-- an operation that denotes `P` passes a checker that, on a value, is `denotes … f` with `f` the
    Boolean form of `P` -/
theorem Denotes.specOK {x : Res Ranges} {P : Nat → Prop} (hx : Denotes x P) {spec : Obs → Bool}
    {vals : List R} {pts : List Nat} {f : Nat → Bool}
    (hs : ∀ out, spec (.ok out) = denotes out vals pts f) (hf : ∀ h, f h = true ↔ P h) :
    spec (obsOf x) = true := by
  obtain ⟨out, rfl, io, mo⟩ := hx
  rw [obsOf, hs]
  exact denotes_of_iff io _ _ mo hf

theorem not_or_eq_true_iff_imp (a b : Bool) : (!a || b) = true ↔ (a = true → b = true) := by
  cases a <;> simp

theorem prefix_below {rs out : Ranges} {post : List Nat} (hi : RInv rs) (io : RInv out)
    (hp : heights rs = heights out ++ post) (h : Nat) :
    (mem out h → mem rs h) ∧ (mem rs h ∧ ¬ mem out h → ∀ r ∈ out, r.2 < h) := by
  have hs := heights_sorted hi
  rw [hp, List.pairwise_append] at hs
  simp only [← mem_heights, hp, List.mem_append]
  refine ⟨Or.inl, fun ⟨h1, h2⟩ r hr => ?_⟩
  exact hs.2.2 r.2 ((mem_heights out r.2).2 (mem_end io hr)) h
    (h1.resolve_left h2)

theorem suffix_above {rs out : Ranges} {pre : List Nat} (hi : RInv rs) (io : RInv out)
    (hp : heights rs = pre ++ heights out) (h : Nat) :
    (mem out h → mem rs h) ∧ (mem rs h ∧ ¬ mem out h → ∀ r ∈ out, h < r.1) := by
  have hs := heights_sorted hi
  rw [hp, List.pairwise_append] at hs
  simp only [← mem_heights, hp, List.mem_append]
  refine ⟨Or.inr, fun ⟨h1, h2⟩ r hr => ?_⟩
  exact hs.2.2 h (h1.resolve_right h2) r.1
    ((mem_heights out r.1).2 (mem_start io hr))

/-- the window `[a + 1, b - 1]` of the `left_of` / `right_of` checkers is the open gap `(a, b)`: no
    range meets it when it holds no member (a range meeting it has its start, or `a + 1`, inside) -/
theorem gap_not_meets {rs : Ranges} {a b : Nat} (h : ∀ x, mem rs x → a < x → ¬ x < b) :
    (rs.all fun r => !meets r (a + 1) (b - 1)) = true := by
  simp only [List.all_eq_true, Bool.not_eq_true', meets, decide_eq_false_iff_not]
  intro r hr hc
  have := h (max r.1 (a + 1)) ⟨r, hr, Nat.le_max_left .., by omega⟩
  omega

end Lumina.Proofs.Ranges

/-
  C29 (header-ex server): the model's store and responses read as the spec's (`toEntry`, `toResp`; `storedAt_eq`,
  `storedWithHash_eq`, `isHead_of_max`), the by-height loop (`collect_spec`), and the handler as a case list
  (`answer`, `serve_false`).
-/
import Lumina.Model.HeaderExServer
import Lumina.Spec.C29
import Lumina.Proofs.Util

namespace Lumina.Proofs.HeaderExServer
open Lumina.Util Lumina.Model.HeaderExServer
open Lumina.Model.Framing (HeaderRequest ReqData)
open Lumina.Spec.C29 (Entry Obs Req specServe storedAt storedWithHash isHead isRunFrom)

def toEntry (e : Stored) : Entry := { height := e.height, hash := e.hash, body := e.body }

def toResp : Lumina.Model.HeaderExServer.Resp → Lumina.Spec.C29.Resp
  | .ok b => .ok b
  | .notFound => .notFound
  | .invalid => .invalid

theorem storedAt_eq (s : Store) (h : Nat) :
    storedAt (s.map toEntry) h = (getByHeight s h).map (·.body) := by
  unfold storedAt getByHeight
  rw [List.find?_map, Option.map_map]
  rfl

theorem storedWithHash_eq (s : Store) (h : Bytes) :
    storedWithHash (s.map toEntry) h = (getByHash s h).map (·.body) := by
  unfold storedWithHash getByHash
  rw [List.find?_map, Option.map_map]
  rfl

theorem getHead_cons (s : Store) : ∀ a : Stored,
    ∃ m, getHead (a :: s) = some m ∧ m ∈ a :: s ∧ ∀ e ∈ a :: s, e.height ≤ m.height := by
  induction s with
  | nil =>
    exact fun a => ⟨a, rfl, List.mem_singleton.mpr rfl, fun e he => by
      cases List.mem_singleton.mp he; exact Nat.le_refl _⟩
  | cons x t ih =>
    intro a
    have hstep : getHead (a :: x :: t) = getHead ((if x.height > a.height then x else a) :: t) := by
      unfold getHead
      simp only [List.foldl_cons]
      split <;> rfl
    rw [hstep]
    split
    · rename_i hx
      obtain ⟨m, hm, hmem, hall⟩ := ih x
      refine ⟨m, hm, List.mem_cons_of_mem _ hmem, fun e he => ?_⟩
      rcases List.mem_cons.mp he with rfl | he
      · exact Nat.le_trans (Nat.le_of_lt hx) (hall x (List.mem_cons_self ..))
      · exact hall e he
    · rename_i hx
      obtain ⟨m, hm, hmem, hall⟩ := ih a
      refine ⟨m, hm, ?_, fun e he => ?_⟩
      · rcases List.mem_cons.mp hmem with rfl | h
        · exact List.mem_cons_self ..
        · exact List.mem_cons_of_mem _ (List.mem_cons_of_mem _ h)
      · rcases List.mem_cons.mp he with rfl | he
        · exact hall _ (List.mem_cons_self ..)
        · rcases List.mem_cons.mp he with rfl | he
          · exact Nat.le_trans (Nat.le_of_not_lt hx) (hall a (List.mem_cons_self ..))
          · exact hall e (List.mem_cons_of_mem _ he)

theorem isHead_of_max (s : Store) (m : Stored) (hm : m ∈ s) (hall : ∀ e ∈ s, e.height ≤ m.height) :
    isHead (s.map toEntry) m.body = true := by
  unfold isHead
  rw [List.any_eq_true]
  refine ⟨toEntry m, List.mem_map_of_mem hm, ?_⟩
  simp only [toEntry, beq_self_eq_true, Bool.true_and, List.all_eq_true, List.mem_map]
  rintro e' ⟨e, he, rfl⟩
  exact decide_eq_true (hall e he)

/-- the by-height loop returns the longest run from `i` of at most `n` stored headers -/
theorem collect_spec (s : Store) : ∀ (n i : Nat),
    (collect s i n).length ≤ n ∧ isRunFrom (s.map toEntry) i ((collect s i n).map toResp) = true ∧
    ((collect s i n).length = n ∨ storedAt (s.map toEntry) (i + (collect s i n).length) = none) := by
  intro n
  induction n with
  | zero => intro i; simp [collect, isRunFrom]
  | succ n ih =>
    intro i
    unfold collect
    cases hg : getByHeight s i with
    | none =>
      simp only [List.length_nil, Nat.zero_le, List.map_nil, isRunFrom, Nat.add_zero, true_and]
      right
      rw [storedAt_eq, hg]; rfl
    | some e =>
      obtain ⟨h1, h2, h3⟩ := ih (i + 1)
      simp only [List.length_cons, List.map_cons, isRunFrom, toResp]
      refine ⟨Nat.succ_le_succ h1, ?_, ?_⟩
      · rw [storedAt_eq, hg]
        simp [h2]
      · rcases h3 with h | h
        · exact Or.inl (congrArg (· + 1) h)
        · right
          rwa [Nat.add_comm _ 1, ← Nat.add_assoc]

theorem collect_nonempty (s : Store) (i n : Nat) (e : Stored) (hg : getByHeight s i = some e) (hn : 0 < n) :
    1 ≤ (collect s i n).length := by
  cases n with
  | zero => omega
  | succ n => simp [collect, hg]

theorem getByHeight_height (s : Store) (i : Nat) (e : Stored) (hg : getByHeight s i = some e) :
    e ∈ s ∧ e.height = i :=
  Util.find?_key_some _ hg

/-- what the handler with `origin.saturating_add(amount)` (`checked = false`) answers while it is
    not stopping, case by case in the order the property names them -/
def answer (maxAmount : Nat) (s : Store) (r : HeaderRequest) : List Lumina.Model.HeaderExServer.Resp :=
  match r.data with
  | .none => [.invalid]
  | .hash h => if h.length = 32 ∧ r.amount = 1 then [respOf (getByHash s h)] else [.invalid]
  | .origin o =>
    if r.amount = 0 then [.invalid]
    else if o = 0 then (if r.amount = 1 then [respOf (getHead s)] else [.invalid])
    else
      let rs := collect s o (min (o + min r.amount maxAmount) U64_MAX - o)
      if rs.isEmpty then [.notFound] else rs

theorem serve_false (maxAmount : Nat) (s : Store) (r : HeaderRequest) :
    serve false maxAmount s false r = .responses (answer maxAmount s r) := by
  obtain ⟨a, d⟩ := r
  cases d with
  | none => rfl
  | hash h =>
    by_cases ha : a = 0
    · simp [serve, isValid, answer, ha]
    · by_cases hl : h.length = 32 <;> by_cases h1 : a = 1 <;>
        simp [serve, isValid, answer, HASH_SIZE, ha, hl, h1] <;> omega
  | origin o =>
    by_cases ha : a = 0
    · simp [serve, isValid, answer, ha]
    · by_cases ho : o = 0
      · by_cases h1 : a = 1 <;> simp [serve, isValid, answer, ha, ho, h1] <;> omega
      · simp [serve, isValid, answer, byHeight, ha, ho]

end Lumina.Proofs.HeaderExServer

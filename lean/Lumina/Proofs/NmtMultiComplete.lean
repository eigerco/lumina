/-
  Multi-leaf range proofs of the nmt-rs model: COMPLETENESS.

  `build_check`: a real (sub)tree at absolute offset `off` is written `A ++ M ++ B`, with `M` the (non-empty) part of
  the range `[s, e)` that falls into it.  `build_range_proof_inner` returns `pl ++ pr` where `pl` / `pr` are the roots
  of consecutive segments of `A` / `B` (`Segs`), `popcount |A|` and `nRight` many; and `check_range_proof_inner`, run
  with ANY tree size compatible with the real one (`Compat`), on the leaves `M` and that proof, recomputes the real root
  and consumes exactly those leaves and proof nodes.

  `range_complete_split` (the tree written `A ++ M ++ B`; `range_complete` for a range `[s, e)` of a list):
  `build_range_proof(s..e)` of a tree with `n ≤ 2^31` leaves, `s < e ≤ n`, is accepted by `check_range_proof` for the
  leaves `L[s..e)` at `start = s` (arbitrary `n`, not only powers of two).  The bound `2^31` keeps the size that
  `compute_tree_size` derives (at most the next power of two, `nRight_compat`) below its `u32::MAX` failure.
-/
import Lumina.Proofs.NmtRange

namespace Lumina.Proofs.NmtMulti
open Lumina.Util Lumina.Model.Nmt Lumina.Proofs.Nmt Lumina.Proofs.NmtRange

theorem computeRoot_split {H : HashFn} {ign : Bool} {L : List NsHash} {root : NsHash} (h2 : 2 ≤ L.length)
    (h : computeRoot H ign L = .ok root) :
    ∃ l r, computeRoot H ign (L.take (nextSmallerPo2 L.length)) = .ok l ∧
      computeRoot H ign (L.drop (nextSmallerPo2 L.length)) = .ok r ∧ hashNodes H ign l r = .ok root := by
  obtain ⟨hp, hlt⟩ := nextSmallerPo2_pos_lt h2
  obtain ⟨l, r, hl, hr, hn⟩ := computeRootAux_cons2 h2 h
  refine ⟨l, r, ?_, ?_, hn⟩
  · rw [← hl]; exact computeRootAux_fuel _ _ _ (by omega) (by rw [List.length_take]; omega)
  · rw [← hr]; exact computeRootAux_fuel _ _ _ (by omega) (by rw [List.length_drop]; omega)

theorem append_split {α} {L X Y : List α} (h : L = X ++ Y) : L.take X.length = X ∧ L.drop X.length = Y := by
  subst h; exact ⟨List.take_left' rfl, List.drop_left' rfl⟩

theorem exists_split {α} (A : List α) {k : Nat} (h : k ≤ A.length) : ∃ A1 A2, A = A1 ++ A2 ∧ A1.length = k :=
  ⟨A.take k, A.drop k, (List.take_append_drop k A).symm, by rw [List.length_take]; omega⟩

/-- the builder descends into a child only when the range cuts it; when it does not, the child lies inside the range
    and contributes no proof node either way -/
theorem ite_build {c : Prop} [Decidable c] {x : Except Err (List NsHash)} {p : List NsHash} (hx : x = .ok p)
    (hn : ¬ c → p = []) : (if c then x else .ok []) = .ok p := by
  split
  · exact hx
  · rw [hn ‹_›]

/-- **builder and verifier agree on every subtree** (see the file header).  `r` is the index, relative to the subtree, of
    the last leaf of `M` (`r + 1 = |A| + |M|`); `s` and `e` are the absolute bounds of the whole range `[s, e)` (`e`
    exclusive as in `build_range_proof`, whereas `Shaped` / `FrontierOK` carry the last index), which may extend beyond the
    subtree on a side where nothing of the subtree is left out (`A = []`, resp. `B = []`).  In the last conjunct `Xpre` and
    `pre` are what lies below on the verifier's two stacks: the leaves of the range left of the subtree, and any proof
    nodes; the call returns exactly them.  The node case splits three ways at `2 ^ m = next_smaller_po2`: the range ends in
    the left child (`r < 2 ^ m`: `B` is cut, the right child is a sibling); it spans both children (`M` is cut at the
    split); it lies in the right child (`A` is cut, the left child is a sibling). -/
theorem build_check {H : HashFn} {ign : Bool} : ∀ (fuelB : Nat) (A M B : List NsHash) (off s e r : Nat) (root : NsHash),
    (A ++ M ++ B).length < fuelB → computeRoot H ign (A ++ M ++ B) = .ok root →
    r + 1 = A.length + M.length → A.length ≤ r →
    s ≤ off + A.length → (A.length = 0 ∨ s = off + A.length) → off + r < e → (B.length = 0 ∨ e = off + r + 1) →
    ∃ pl pr, buildRangeProofAux H ign fuelB (A ++ M ++ B) off s e = .ok (pl ++ pr) ∧
      Segs H ign A pl ∧ Segs H ign B pr ∧ pl.length = computeNumLeftSiblings A.length ∧
      pr.length = nRight (A ++ M ++ B).length r (A ++ M ++ B).length ∧
      ∀ (size fuelC : Nat) (Xpre pre : List NsHash), Compat (A ++ M ++ B).length size r → size ≤ fuelC →
        s + Xpre.length = off + A.length →
        ChildRes H ign fuelC (Xpre ++ M) (pre ++ (pl ++ pr)) s size off root Xpre pre := by
  intro fuelB
  induction fuelB with
  | zero => intro A M B off s e r root h; omega
  | succ fb ih =>
    intro A M B off s e r root hfb hroot hr hAr hs hsA he heB
    generalize hL : A ++ M ++ B = L at hfb hroot ⊢
    have hlen : L.length = A.length + M.length + B.length := by rw [← hL]; simp only [List.length_append]
    by_cases h1 : L.length = 1
    · have hA : A = [] := List.length_eq_zero_iff.mp (by omega)
      have hB : B = [] := List.length_eq_zero_iff.mp (by omega)
      subst hA hB
      simp only [List.nil_append, List.append_nil] at hL
      subst hL
      match M, h1 with
      | [x], _ =>
        cases hroot
        refine ⟨[], [], ?_, .nil, .nil, rfl, (nRight_one _ _).symm, ?_⟩
        · have : s ≤ off ∧ off < e := by simp only [List.length_nil] at hs; omega
          simp [buildRangeProofAux, this]
        · intro size fuelC Xpre pre hc _ _
          have : size = 1 := by
            cases hc with
            | refl => rfl
            | left h2 => simp at h2
            | right h2 => simp at h2
          subst this
          simp [ChildRes, takeLast?]
    · have hn2 : 2 ≤ L.length := by omega
      clear h1
      obtain ⟨m, hm, hmlt, hmle⟩ := nextSmallerPo2_spec L.length hn2
      have hk1 : 1 ≤ 2 ^ m := Nat.one_le_two_pow
      obtain ⟨n', hn'⟩ : ∃ n', L.length = 2 ^ m + n' := ⟨L.length - 2 ^ m, by omega⟩
      have hn'le : n' ≤ 2 ^ m := by rw [Nat.pow_succ] at hmle; omega
      clear hmle
      obtain ⟨l, rt, hlroot, hrroot, hn⟩ := computeRoot_split hn2 hroot
      have hbu := buildRangeProofAux_unfold (H := H) (ign := ign) (fuel := fb) hn2 off s e
      have hsub : L.length - 2 ^ m = n' := by omega
      have hnR := nRight_node (r := r) hn2
      rw [hm] at hlroot hrroot hbu hnR
      rw [hsub] at hnR
      -- every check of this node splits at `2 ^ m`, whatever compatible size it runs with
      have hnode : ∀ {size fuelC : Nat}, Compat L.length size r → size ≤ fuelC →
          nextSmallerPo2 size = 2 ^ m ∧ size ≠ 1 ∧ ∃ fc, fuelC = fc + 1 := by
        intro size fuelC hc hfc
        have := hc.le
        exact ⟨by rw [hc.split, hm], by omega, fuelC - 1, by omega⟩
      rcases Nat.lt_or_ge r (2 ^ m) with hrk | hrk
      · -- the range ends in the left child; the right child is a sibling
        clear hsub
        obtain ⟨j, hj⟩ : ∃ j, 2 ^ m = A.length + M.length + j := ⟨2 ^ m - (A.length + M.length), by omega⟩
        obtain ⟨B1, B2, rfl, hB1⟩ := exists_split B (k := j) (by omega)
        simp only [List.length_append] at hlen heB
        have hX : (A ++ M ++ B1).length = 2 ^ m := by simp only [List.length_append]; omega
        obtain ⟨hT, hD⟩ := append_split (show L = (A ++ M ++ B1) ++ B2 by rw [← hL]; simp only [List.append_assoc])
        rw [hX] at hT hD
        rw [hT, hD] at hbu
        rw [hT] at hlroot
        rw [hD] at hrroot
        -- the index arithmetic of this case, in one go (each `omega` pays for every hypothesis in scope)
        obtain ⟨hB2l, hfu, heB1, hg1, hg2, hnil⟩ : B2.length ≠ 0 ∧ 2 ^ m < fb ∧ (B1.length = 0 ∨ e = off + r + 1) ∧
            ¬ s ≥ off + 2 ^ m ∧ e ≤ off + 2 ^ m ∧
            (¬ (s > off ∨ e < off + 2 ^ m) → A.length = 0 ∧ B1.length = 0) := by omega
        have hB2 : B2 ≠ [] := fun h => hB2l (by rw [h]; rfl)
        obtain ⟨pll, prl, hbl, hsegLl, hsegRl, hcLl, hcRl, hchkL⟩ :=
          ih A M B1 off s e r l (by rw [hX]; exact hfu) hlroot hr hAr hs hsA he heB1
        rw [hX] at hcRl hchkL
        refine ⟨pll, prl ++ [rt], ?_, hsegLl, hsegRl.append (Segs.single hB2 hrroot), hcLl, ?_, ?_⟩
        · rw [hbu, if_neg hg1, ite_build hbl, if_pos hg2, hrroot]
          · exact congrArg Except.ok (List.append_assoc ..)
          · intro hc
            rw [hsegLl.roots_nil (hnil hc).1, hsegRl.roots_nil (hnil hc).2]; rfl
        · rw [hnR, if_neg (Nat.not_le.mpr hrk), List.length_append, hcRl, List.length_singleton]
          exact Nat.add_comm _ _
        · intro size fuelC Xpre pre hc hfc hxl
          obtain ⟨hsk, hne1, fc, rfl⟩ := hnode hc hfc
          have hsz := hc.le
          clear hfb he heB hsA hnR hcRl hbl hbu hcLl hn'le hn' hj hB1 hX hn2 hfu heB1 hg1 hg2 hnil
          obtain ⟨hv0, hv1, hv2, hv3⟩ : Xpre.length + M.length + s ≠ 0 ∧
              ¬ Xpre.length + M.length + s - 1 ≥ 2 ^ m + off ∧ s < 2 ^ m + off ∧ 2 ^ m ≤ fc := by omega
          unfold ChildRes
          rw [if_neg hne1]
          refine Step.inner (right := rt) (left := l) (X1 := Xpre ++ M) (P1 := pre ++ (pll ++ prl)) ⟨?_, ?_, hn⟩ ?_
          · rw [hsk, if_neg (by rw [List.length_append]; exact hv1)]
            have : pre ++ (pll ++ (prl ++ [rt])) = (pre ++ (pll ++ prl)) ++ [rt] := by simp only [List.append_assoc]
            rw [this]
            exact ⟨takeLast?_append_singleton _ _, rfl⟩
          · rw [hsk, if_pos hv2]
            exact hchkL (2 ^ m) fc Xpre pre (Compat.refl _ _) hv3 hxl
          · rw [List.length_append]; exact hv0
      · -- the range reaches into the right child
        obtain ⟨rr, rfl⟩ : ∃ rr, r = 2 ^ m + rr := ⟨r - 2 ^ m, by omega⟩
        rw [if_pos hrk, Nat.add_sub_cancel_left] at hnR
        have hcomp : ∀ {size : Nat}, Compat L.length size (2 ^ m + rr) → Compat n' (size - 2 ^ m) rr := by
          intro size hc
          have := hc.child_right (by rw [hm]; exact hrk)
          rwa [hm, hsub, Nat.add_sub_cancel_left] at this
        clear hsub
        rcases Nat.lt_or_ge A.length (2 ^ m) with hAk | hAk
        · -- ... and starts in the left child
          obtain ⟨j, hj⟩ : ∃ j, 2 ^ m = A.length + j := ⟨2 ^ m - A.length, by omega⟩
          obtain ⟨M1, M2, rfl, hM1⟩ := exists_split M (k := j) (by omega)
          simp only [List.length_append] at hlen hr
          have hX : (A ++ M1 ++ []).length = 2 ^ m := by simp only [List.length_append, List.length_nil]; omega
          have hY : ([] ++ M2 ++ B).length = n' := by simp only [List.length_append, List.length_nil]; omega
          obtain ⟨hT, hD⟩ := append_split (show L = (A ++ M1 ++ []) ++ ([] ++ M2 ++ B) by
            rw [← hL]; simp only [List.append_assoc, List.nil_append, List.append_nil])
          rw [hX] at hT hD
          rw [hT, hD] at hbu
          rw [hT] at hlroot
          rw [hD] at hrroot
          obtain ⟨rl, hrl⟩ : ∃ rl, 2 ^ m = rl + 1 := ⟨2 ^ m - 1, by omega⟩
          obtain ⟨hl1, hl2, hl3, hfl, hfr, hr1, hr2, hr3, hr4, hg1, hg2, hnilB, hnilA⟩ :
              rl + 1 = A.length + M1.length ∧ A.length ≤ rl ∧ off + rl < e ∧ 2 ^ m < fb ∧ n' < fb ∧
              rr + 1 = 0 + M2.length ∧ s ≤ off + 2 ^ m ∧ off + 2 ^ m + rr < e ∧ (B.length = 0 ∨ e = off + 2 ^ m + rr + 1) ∧
              ¬ s ≥ off + 2 ^ m ∧ ¬ e ≤ off + 2 ^ m ∧ (¬ (s > off + 2 ^ m ∨ e < off + L.length) → B.length = 0) ∧
              (¬ (s > off ∨ e < off + 2 ^ m) → A.length = 0) := by omega
          obtain ⟨pll, prl, hbl, hsegLl, hsegRl, hcLl, -, hchkL⟩ :=
            ih A M1 [] off s e rl l (by rw [hX]; exact hfl) hlroot hl1 hl2 hs hsA hl3 (.inl rfl)
          obtain ⟨plr, prr, hbr, hsegLr, hsegRr, -, hcRr, hchkR⟩ :=
            ih [] M2 B (off + 2 ^ m) s e rr rt (by rw [hY]; exact hfr) hrroot hr1 (Nat.zero_le _) hr2 (.inl rfl) hr3 hr4
          have hprl := hsegRl.roots_nil rfl
          have hplr := hsegLr.roots_nil rfl
          subst hprl hplr
          rw [hX] at hchkL
          rw [hY] at hcRr hchkR
          refine ⟨pll, prr, ?_, hsegLl, hsegRr, hcLl, by rw [hnR, hcRr], ?_⟩
          · rw [hbu, if_neg hg1, ite_build hbl, if_neg hg2, ite_build hbr]
            · simp only [List.append_nil, List.nil_append]
            · intro hc
              rw [hsegRr.roots_nil (hnilB hc)]; rfl
            · intro hc
              rw [hsegLl.roots_nil (hnilA hc)]; rfl
          · intro size fuelC Xpre pre hc hfc hxl
            obtain ⟨hsk, hne1, fc, rfl⟩ := hnode hc hfc
            have hsz := hc.le
            clear hfb he heB hsA hnR hcRr hbl hbr hbu hcLl hn'le hn' hX hY hn2 hrl hl1 hl2 hl3 hfl hfr hr1 hr2 hr3 hr4 hg1 hg2 hnilB
              hnilA
            obtain ⟨hv0, hv1, hv2, hv3, hv4, hv5⟩ : Xpre.length + (M1.length + M2.length) + s ≠ 0 ∧
                Xpre.length + (M1.length + M2.length) + s - 1 ≥ 2 ^ m + off ∧ s < 2 ^ m + off ∧ size - 2 ^ m ≤ fc ∧
                s + (Xpre.length + M1.length) = off + 2 ^ m + 0 ∧ 2 ^ m ≤ fc := by omega
            unfold ChildRes
            rw [if_neg hne1]
            refine Step.inner (right := rt) (left := l) (X1 := Xpre ++ M1) (P1 := pre ++ pll) ⟨?_, ?_, hn⟩ ?_
            · rw [hsk, if_pos (by simp only [List.length_append]; exact hv1)]
              have := hchkR (size - 2 ^ m) fc (Xpre ++ M1) (pre ++ pll) (hcomp hc) hv3
                (by simp only [List.length_append]; exact hv4)
              simp only [List.append_assoc, List.nil_append] at this
              exact this
            · rw [hsk, if_pos hv2]
              have := hchkL (2 ^ m) fc Xpre pre (Compat.refl _ _) hv5 hxl
              simp only [List.append_nil] at this
              exact this
            · simp only [List.length_append]; exact hv0
        · -- ... where it also starts; the left child is a sibling
          obtain ⟨A1, A2, rfl, hA1⟩ := exists_split A hAk
          simp only [List.length_append] at hlen hr hAr hs hsA
          have hY : (A2 ++ M ++ B).length = n' := by simp only [List.length_append]; omega
          obtain ⟨hT, hD⟩ := append_split (show L = A1 ++ (A2 ++ M ++ B) by rw [← hL]; simp only [List.append_assoc])
          rw [hA1] at hT hD
          rw [hT, hD] at hbu
          rw [hT] at hlroot
          rw [hD] at hrroot
          obtain ⟨hA1l, hfr, hr1, hr2, hr3, hr4, hr5, hr6, hg1, hg2, hnil, hlt⟩ :
              A1.length ≠ 0 ∧ n' < fb ∧ rr + 1 = A2.length + M.length ∧ A2.length ≤ rr ∧ s ≤ off + 2 ^ m + A2.length ∧
              s = off + 2 ^ m + A2.length ∧ off + 2 ^ m + rr < e ∧ (B.length = 0 ∨ e = off + 2 ^ m + rr + 1) ∧
              s ≥ off + 2 ^ m ∧ ¬ e ≤ off + 2 ^ m ∧
              (¬ (s > off + 2 ^ m ∨ e < off + L.length) → A2.length = 0 ∧ B.length = 0) ∧ A2.length < 2 ^ m := by omega
          have hA1ne : A1 ≠ [] := fun h => hA1l (by rw [h]; rfl)
          obtain ⟨plr, prr, hbr, hsegLr, hsegRr, hcLr, hcRr, hchkR⟩ :=
            ih A2 M B (off + 2 ^ m) s e rr rt (by rw [hY]; exact hfr) hrroot hr1 hr2 hr3 (.inr hr4) hr5 hr6
          rw [hY] at hcRr hchkR
          refine ⟨l :: plr, prr, ?_, (Segs.single hA1ne hlroot).append hsegLr, hsegRr, ?_, by rw [hnR, hcRr], ?_⟩
          · rw [hbu, if_pos hg1, hlroot, if_neg hg2, ite_build hbr]
            · rfl
            · intro hc
              rw [hsegLr.roots_nil (hnil hc).1, hsegRr.roots_nil (hnil hc).2]; rfl
          · rw [List.length_cons, hcLr, List.length_append, hA1, cnls_add_pow m _ hlt]
            exact Nat.add_comm _ _
          · intro size fuelC Xpre pre hc hfc hxl
            obtain ⟨hsk, hne1, fc, rfl⟩ := hnode hc hfc
            unfold ChildRes
            rw [if_neg hne1]
            rw [List.length_append] at hxl
            clear hfb he heB hnR hcRr hcLr hbr hbu hn'le hn' hY hn2 hfr hr1 hr2 hr3 hr5 hr6 hg1 hg2 hnil hlt
            obtain ⟨hv0, hv1, hv2, hv3, hv4⟩ : Xpre.length + M.length + s ≠ 0 ∧
                Xpre.length + M.length + s - 1 ≥ 2 ^ m + off ∧ size - 2 ^ m ≤ fc ∧
                s + Xpre.length = off + 2 ^ m + A2.length ∧ ¬ s < 2 ^ m + off := by omega
            refine Step.inner (right := rt) (left := l) (X1 := Xpre) (P1 := pre ++ [l]) ⟨?_, ?_, hn⟩ ?_
            · rw [hsk, if_pos (by rw [List.length_append]; exact hv1)]
              have := hchkR (size - 2 ^ m) fc Xpre (pre ++ [l]) (hcomp hc) hv2 hv3
              simp only [List.append_assoc, List.cons_append, List.nil_append] at this
              exact this
            · rw [hsk, if_neg hv4]
              exact ⟨takeLast?_append_singleton _ _, rfl⟩
            · rw [List.length_append]; exact hv0

/-- `range_complete_split`, with the number of right siblings -/
theorem range_complete_split_counts {H : HashFn} {ign : Bool} {A M B : List NsHash} {root : NsHash}
    (hroot : computeRoot H ign (A ++ M ++ B) = .ok root) (hM : M ≠ []) (hn : (A ++ M ++ B).length ≤ 2 ^ 31) :
    ∃ pl pr, buildRangeProof H ign (A ++ M ++ B) A.length (A.length + M.length) = .ok (pl ++ pr) ∧
      Segs H ign A pl ∧ Segs H ign B pr ∧ pl.length = computeNumLeftSiblings A.length ∧
      pr.length = nRight (A ++ M ++ B).length (A.length + M.length - 1) (A ++ M ++ B).length ∧
      checkRangeProof H ign root M (pl ++ pr) A.length = .ok () := by
  have hMl : M.length ≠ 0 := fun h => hM (List.length_eq_zero_iff.mp h)
  obtain ⟨r, hr⟩ : ∃ r, r + 1 = A.length + M.length := ⟨A.length + M.length - 1, by omega⟩
  obtain ⟨pl, pr, hb, hsl, hsr, hpl, hpr, hchk⟩ := build_check ((A ++ M ++ B).length + 1) A M B 0 A.length
    (A.length + M.length) r root (by omega) hroot hr (by omega) (by omega) (.inr (by omega)) (by omega) (.inr (by omega))
  generalize hL : A ++ M ++ B = L at *
  have hlen : L.length = A.length + M.length + B.length := by rw [← hL]; simp only [List.length_append]
  refine ⟨pl, pr, ?_, hsl, hsr, hpl, (by rw [show A.length + M.length - 1 = r by omega]; exact hpr), ?_⟩
  · unfold buildRangeProof
    rw [hroot]
    simp only
    rw [if_neg (by omega)]
    exact hb
  · obtain ⟨t, hz, hc, hbd⟩ := nRight_compat L.length r (by omega)
    have hT31 : treeSizeOf r t ≤ 2 ^ 31 := hbd 31 hn
    have ht : t ≤ 31 := by
      have := two_pow_le_treeSizeOf r t
      have : 2 ^ t ≤ 2 ^ 31 := by omega
      exact (Nat.pow_le_pow_iff_right (by omega)).mp this
    have hts : computeTreeSize pr.length (A.length + M.length - 1) = .ok (treeSizeOf r t) := by
      have : A.length + M.length - 1 = r := by omega
      rw [this, hpr]
      exact computeTreeSize_fwd hz (by simp [U32_MAX]; omega) (by omega)
    have hck := hchk (treeSizeOf r t) (treeSizeOf r t) [] [] hc (Nat.le_refl _) (by rw [List.length_nil]; omega)
    simp only [List.nil_append] at hck
    unfold checkRangeProof
    rw [if_neg hMl]
    by_cases htriv : M.length = 1 ∧ (pl ++ pr).isEmpty = true
    · -- a single leaf and no proof node: the tree is that leaf
      rw [if_pos htriv]
      obtain ⟨hpl0, hpr0⟩ := List.append_eq_nil_iff.mp (List.isEmpty_iff.mp htriv.2)
      subst hpl0 hpr0
      have hA := hsl.leaves_nil
      have hB := hsr.leaves_nil
      subst hA hB
      simp only [List.nil_append, List.append_nil] at hL
      subst hL
      match M, htriv.1, hroot with
      | [x], _, hroot =>
        cases hroot
        simp
    · rw [if_neg htriv]
      have hnl : ¬ ((pl ++ pr).length < computeNumLeftSiblings A.length) := by
        rw [List.length_append, hpl]; omega
      rw [if_neg hnl]
      have hnr : (pl ++ pr).length - computeNumLeftSiblings A.length = pr.length := by
        rw [List.length_append, hpl]; omega
      simp only [hnr, hts]
      have hT2 : ¬ (treeSizeOf r t = 1) := by
        intro h1
        have hle := hc.le
        have hn1 : L.length = 1 := by omega
        apply htriv
        refine ⟨by omega, ?_⟩
        have hpl0 : pl.length = 0 := by rw [hpl, show A.length = 0 by omega]; rfl
        have hpr0 : pr.length = 0 := by rw [hpr, hn1, nRight_one]
        rw [List.isEmpty_iff_length_eq_zero, List.length_append]; omega
      unfold ChildRes at hck
      rw [if_neg hT2] at hck
      rw [hck]
      simp

/-- **Completeness of multi-leaf range proofs**, for a tree written as (left of the range) ++ (the range) ++ (right of
    it): any tree size up to 2^31 leaves, any non-empty range.  `build_range_proof` succeeds whenever the root can be
    computed; its nodes are the roots of consecutive segments of `A` (exactly `popcount |A|` of them) followed by those
    of `B`; and `check_range_proof` accepts it for the leaves `M` at `start = |A|`.  No hypothesis on the hash. -/
theorem range_complete_split {H : HashFn} {ign : Bool} {A M B : List NsHash} {root : NsHash}
    (hroot : computeRoot H ign (A ++ M ++ B) = .ok root) (hM : M ≠ []) (hn : (A ++ M ++ B).length ≤ 2 ^ 31) :
    ∃ pl pr, buildRangeProof H ign (A ++ M ++ B) A.length (A.length + M.length) = .ok (pl ++ pr) ∧
      Segs H ign A pl ∧ Segs H ign B pr ∧ pl.length = computeNumLeftSiblings A.length ∧
      checkRangeProof H ign root M (pl ++ pr) A.length = .ok () :=
  let ⟨pl, pr, h1, h2, h3, h4, _, h6⟩ := range_complete_split_counts hroot hM hn
  ⟨pl, pr, h1, h2, h3, h4, h6⟩

/-- `range_complete_split` for the range `[s, e)` of a list -/
theorem range_complete {H : HashFn} {ign : Bool} {L : List NsHash} {root : NsHash} {s e : Nat}
    (hroot : computeRoot H ign L = .ok root) (hse : s < e) (hen : e ≤ L.length) (hn : L.length ≤ 2 ^ 31) :
    ∃ pl pr, buildRangeProof H ign L s e = .ok (pl ++ pr) ∧ Segs H ign (L.take s) pl ∧ Segs H ign (L.drop e) pr ∧
      pl.length = computeNumLeftSiblings s ∧
      checkRangeProof H ign root ((L.drop s).take (e - s)) (pl ++ pr) s = .ok () := by
  have hL : L.take s ++ (L.drop s).take (e - s) ++ L.drop e = L := by
    have : L.drop e = (L.drop s).drop (e - s) := by rw [List.drop_drop]; congr 1; omega
    rw [this, List.append_assoc, List.take_append_drop, List.take_append_drop]
  have hAl : (L.take s).length = s := by rw [List.length_take]; omega
  have hMl : ((L.drop s).take (e - s)).length = e - s := by rw [List.length_take, List.length_drop]; omega
  have := range_complete_split (H := H) (ign := ign) (A := L.take s) (M := (L.drop s).take (e - s)) (B := L.drop e)
    (root := root) (by rw [hL]; exact hroot) (by intro h; rw [h] at hMl; simp only [List.length_nil] at hMl; omega)
    (by rw [hL]; exact hn)
  rwa [hL, hAl, hMl, show s + (e - s) = e by omega] at this

end Lumina.Proofs.NmtMulti

namespace Lumina.Proofs.Nmt
open Lumina.Util Lumina.Model.Nmt Lumina.Proofs.NmtRange Lumina.Proofs.NmtMulti

/-- the honest single-leaf proof on a perfect tree of `2^j` leaves: `j` nodes, the roots of the segments left of the
    leaf followed by those right of it, accepted by `check_range_proof` -/
theorem range_single_complete_segs {H : HashFn} {ign : Bool} {j : Nat} {L : List NsHash} {root x : NsHash} {idx : Nat}
    (hj : j ≤ 31) (hl : L.length = 2 ^ j) (hroot : computeRoot H ign L = .ok root)
    (hi : idx < 2 ^ j) (hx : L[idx]? = some x) :
    ∃ pl pr, buildRangeProof H ign L idx (idx + 1) = .ok (pl ++ pr) ∧ (pl ++ pr).length = j ∧
      Segs H ign (L.take idx) pl ∧ Segs H ign (L.drop (idx + 1)) pr ∧ pl.length = computeNumLeftSiblings idx ∧
      checkRangeProof H ign root [x] (pl ++ pr) idx = .ok () := by
  have hidx : idx < L.length := by omega
  have hL : L.take idx ++ [x] ++ L.drop (idx + 1) = L := by
    have h1 : L.drop idx = x :: L.drop (idx + 1) := by
      rw [List.drop_eq_getElem_cons hidx, (List.getElem?_eq_some_iff.mp hx).2]
    rw [List.append_assoc, List.singleton_append, ← h1, List.take_append_drop]
  have hAl : (L.take idx).length = idx := by rw [List.length_take]; omega
  have h31 : (2 : Nat) ^ j ≤ 2 ^ 31 := Nat.pow_le_pow_right (by omega) hj
  obtain ⟨pl, pr, hb, hsl, hsr, hpl, hpr, hchk⟩ := range_complete_split_counts (H := H) (ign := ign) (A := L.take idx)
    (M := [x]) (B := L.drop (idx + 1)) (root := root) (by rw [hL]; exact hroot) (by simp) (by rw [hL]; omega)
  rw [hL, hAl] at hb hpr
  rw [hAl] at hpl hchk
  simp only [List.length_singleton, Nat.add_sub_cancel] at hb hpr
  refine ⟨pl, pr, hb, ?_, hsl, hsr, hpl, hchk⟩
  have := popcount_zeros j idx idx hi (Nat.le_refl _)
  rw [List.length_append, hpl, hpr, hl, nRight_perfect j _ idx (Nat.le_refl _) hi]
  exact this

/-- **Completeness of single-leaf range proofs on perfect trees**: the proof `build_range_proof(idx..idx+1)`
    builds for a tree of `2^j` leaves (1 ≤ j ≤ 31) has `j` siblings and is accepted by `check_range_proof`. -/
theorem range_single_complete {H : HashFn} {ign : Bool} {j : Nat} {L : List NsHash} {root x : NsHash} {idx : Nat}
    (hj1 : 1 ≤ j) (hj : j ≤ 31) (hl : L.length = 2 ^ j) (hroot : computeRoot H ign L = .ok root)
    (hi : idx < 2 ^ j) (hx : L[idx]? = some x) :
    ∃ sibs, buildRangeProof H ign L idx (idx + 1) = .ok sibs ∧ sibs.length = j ∧
      checkRangeProof H ign root [x] sibs idx = .ok () :=
  let ⟨pl, pr, hb, hlen, _, _, _, hchk⟩ := range_single_complete_segs hj hl hroot hi hx
  ⟨pl ++ pr, hb, hlen, hchk⟩

end Lumina.Proofs.Nmt

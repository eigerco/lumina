/-
  `calculate_range_to_fetch` (C24).  The function in normal form: on a well-formed synced set it
  returns the top of the interval above the highest synced height (behind the head), or the top of
  the gap below the highest synced range (caught up); the code is unfolded once, in `calc_list`.  The
  facts about a scheduled batch (`SyncerGate.calc_cases`, `calc_total`) are read off `calc_eq`, the
  clauses of `Spec/C24.lean` in each branch are put together in `calc_spec`.
-/
import Lumina.Proofs.RangesSpec
import Lumina.Model.FetchRange
import Lumina.Spec.C24

namespace Lumina.Proofs.FetchRange
open Lumina.Model.Ranges hiding Inv
open Lumina.Model.FetchRange
open Lumina.Proofs.Ranges
open Lumina.Spec.C24

open Lumina.Model.Ranges renaming Inv → RInv

attribute [local simp] ok_bind err_bind map_ok map_err pure_eq throw_eq

/-- The three branches of the code on an `Inv` value: nothing synced; the highest synced range `hr`
    ends below the head; or it reaches the head, and `pen` is the end of the range below it (0: none). -/
theorem calc_list {synced : Ranges} (hi : RInv synced) (head limit : Nat) :
    (synced = [] ∧ calculateRangeToFetch head synced limit = .ok (Range.tailn (1, head) limit)) ∨
    (∃ ys hr, synced = ys ++ [hr] ∧ hr.2 < head ∧ calculateRangeToFetch head synced limit =
      (addU64 hr.2 1 >>= fun s => .ok (Range.tailn (s, head) limit))) ∨
    (∃ ys hr pen, synced = ys ++ [hr] ∧ ¬ hr.2 < head ∧
      calculateRangeToFetch head synced limit = .ok (Range.headn (pen + 1, hr.1 - 1) limit) ∧
      (∀ x ∈ ys, x.2 ≤ pen) ∧ (pen = 0 ∨ mem synced pen ∧ pen + 1 < hr.1)) := by
  rcases List.eq_nil_or_concat synced with rfl | ⟨ys, hr, rfl⟩
  · exact Or.inl ⟨rfl, rfl⟩
  · rw [List.concat_eq_append] at hi ⊢
    have ⟨_, _, _⟩ := inv_validR hi (r := hr) (by simp)
    by_cases hbh : hr.2 < head
    · exact Or.inr (Or.inl ⟨ys, hr, rfl, hbh, by simp [calculateRangeToFetch, hbh]⟩)
    · -- `pen + 1` cannot overflow: `pen` lies below `hr.1`
      rcases List.eq_nil_or_concat ys with rfl | ⟨zs, p, rfl⟩
      · exact Or.inr (Or.inr ⟨[], hr, 0, rfl, hbh,
          by simp [calculateRangeToFetch, hbh, satSub, addU64, show 0 + 1 ≤ U64_MAX by decide], by simp, Or.inl rfl⟩)
      · rw [List.concat_eq_append] at hi ⊢
        have hgap := (inv_append.1 hi).2.2 p (by simp) hr (by simp)
        exact Or.inr (Or.inr ⟨zs ++ [p], hr, p.2, rfl, hbh,
          by simp [calculateRangeToFetch, hbh, satSub, addU64, show p.2 + 1 ≤ U64_MAX by omega],
          fun x hx => (inv_le_last (inv_append.1 hi).1 x hx).2, Or.inr ⟨mem_end hi (by simp), hgap⟩⟩)

/-- The same in terms of members.  Behind the head: the lowest `limit` heights of `(t, head]`, `t` the
    highest synced height (0: none).  Caught up: the highest `limit` heights of the gap `(pen, lo)` below
    the highest synced range `[lo, hi]`, `head ≤ hi`; `pen` (the end of the range below it, 0: none) bounds the synced heights below `lo`.
    The only error is the overflow of `t + 1`, which needs a head above `u64::MAX`. -/
theorem calc_eq {synced : Ranges} (hi : RInv synced) (head limit : Nat) :
    (U64_MAX < head ∧ ∃ e, calculateRangeToFetch head synced limit = .error e) ∨
    (∃ t, calculateRangeToFetch head synced limit = .ok (Range.tailn (t + 1, head) limit) ∧
      (∀ x, mem synced x → x ≤ t) ∧ (synced = [] ∧ t = 0 ∨ mem synced t ∧ t < head)) ∨
    (∃ lo pen, calculateRangeToFetch head synced limit = .ok (Range.headn (pen + 1, lo - 1) limit) ∧
      lo ≤ U64_MAX ∧ mem synced lo ∧ (∀ x, lo ≤ x → x ≤ head → mem synced x) ∧
      (∀ x, mem synced x → x ≤ pen ∨ lo ≤ x) ∧ (pen = 0 ∨ pen + 1 < lo)) := by
  rcases calc_list hi head limit with ⟨rfl, e⟩ | ⟨ys, hr, rfl, hbh, e⟩ | ⟨ys, hr, pen, rfl, hbh, e, hpen1, hpen2⟩
  · exact Or.inr (Or.inl ⟨0, e, fun x hx => absurd hx (mem_nil x), Or.inl ⟨rfl, rfl⟩⟩)
  · obtain ⟨hm, hmax⟩ := head_spec hi (x := hr.2) (by simp [Lumina.Model.Ranges.head])
    by_cases hov : hr.2 + 1 ≤ U64_MAX
    · exact Or.inr (Or.inl ⟨hr.2, by simp [e, addU64, hov], hmax, Or.inr ⟨hm, hbh⟩⟩)
    · exact Or.inl ⟨by omega, by simp [e, addU64, hov]⟩
  · have ⟨_, hv2, _⟩ := inv_validR hi (r := hr) (by simp)
    refine Or.inr (Or.inr ⟨hr.1, pen, e, by omega, mem_start hi (by simp),
      fun x h1 h2 => ⟨hr, by simp, h1, by omega⟩, ?_, hpen2.imp id (·.2)⟩)
    rintro x ⟨y, hy, h1, h2⟩
    rcases List.mem_append.1 hy with hy | hy
    · have := hpen1 y hy; omega
    · rw [List.mem_singleton.1 hy] at h1; exact Or.inr h1

/-- every clause of the property except (c) "not above the network head" -/
structure Clauses (head : Nat) (synced : Ranges) (limit : Nat) (b : Range) : Prop where
  valid : Lumina.Spec.C17.validR b = true
  missing : clauseMissing synced b = true
  size : clauseSize limit b = true
  anchor : clauseAnchor head synced b = true
  max : clauseMax head synced limit b = true
  insertable : clauseInsertable synced b = true

theorem Clauses.failing {head limit : Nat} {synced : Ranges} {b : Range}
    (h : Clauses head synced limit b) (hne : ¬ b.2 < b.1) :
    failing head synced limit b = if clauseHead head b then [] else ["head"] := by
  simp [Spec.C24.failing, hne, h.valid, h.missing, h.size, h.anchor, h.max, h.insertable]

theorem failing_nobatch {head limit : Nat} {synced : Ranges} {b : Range} (he : b.2 < b.1)
    (h : clauseNoBatch head synced limit = true) : failing head synced limit b = [] := by
  simp [failing, he, h]

theorem top_concat (ys : Ranges) (hr : Range) : top (ys ++ [hr]) = some hr.2 := by
  simp [top]

theorem validR_of {b : Range} (h1 : 1 ≤ b.1) (h2 : b.1 ≤ b.2) : Lumina.Spec.C17.validR b = true := by
  simp [Lumina.Spec.C17.validR, h1, h2]

theorem admitted_free {synced : Ranges} {b : Range} (hv : Lumina.Spec.C17.validR b = true)
    (hd : ∀ x ∈ synced, x.2 < b.1 ∨ b.2 < x.1)
    (hp : (∀ x ∈ synced, x.2 < b.1) ∨ mem synced (b.2 + 1)) : clauseInsertable synced b = true := by
  simp only [clauseInsertable, Lumina.Spec.C18.admitted, hv, Bool.true_and, Bool.and_eq_true,
    Bool.not_eq_true']
  constructor
  · simp only [Lumina.Spec.C18.sharesHeight, List.any_eq_false, Bool.and_eq_true, decide_eq_true_eq,
      not_and]
    intro x hx h1
    have := hd x hx; omega
  · simp only [Lumina.Spec.C18.placementOk, Lumina.Spec.C18.touchesStored, Lumina.Spec.C18.aboveStored,
      Lumina.Spec.C18.aboveHighest, Bool.or_eq_true, List.all_eq_true, decide_eq_true_eq, member_iff]
    exact hp.imp Or.inr Or.inr

/-- what the function returns, as the property's cases: no batch where none is due, or a batch
    that meets every clause but (c) -/
def Outcome (head : Nat) (synced : Ranges) (limit : Nat) (b : Range) : Prop :=
  (b.2 < b.1 ∧ clauseNoBatch head synced limit = true) ∨
  (b.1 ≤ b.2 ∧ b.2 ≤ U64_MAX ∧ Clauses head synced limit b ∧
    ((∀ x, mem synced x → x < b.1) ∨ mem synced (b.2 + 1)) ∧
    (clauseHead head b = true ∨ ∃ x, mem synced x ∧ head < x ∧ head < b.2))

/-- behind the head (highest synced height `t`, or `t = 0` with nothing synced): the batch
    continues above `t`, towards the head -/
theorem outcome_above {synced : Ranges} {head limit t : Nat} (hh : head ≤ U64_MAX)
    (hbeh : behind head synced = true) (htop : top synced = none ∧ t = 0 ∨ top synced = some t)
    (habove : ∀ x ∈ synced, x.2 ≤ t) (hlt : t < head ∨ synced = []) :
    Outcome head synced limit (Range.tailn (t + 1, head) limit) := by
  by_cases hnone : limit = 0 ∨ head ≤ t
  · -- no batch: batch size 0, or nothing synced and head 0
    refine Or.inl ⟨?_, ?_⟩
    · rcases hnone with rfl | h
      · simp [Range.tailn, Range.isEmpty, checkedSub]
      · have : Range.isEmpty (t + 1, head) = true := by simp [Range.isEmpty]; omega
        simp [Range.tailn, this]
    · rcases hnone with rfl | h
      · simp [clauseNoBatch]
      · obtain rfl : synced = [] := hlt.resolve_left (by omega)
        obtain rfl : t = 0 := htop.elim (·.2) (by simp [top])
        simp [clauseNoBatch, behind, top, show head = 0 by omega]
  · obtain ⟨k, rfl⟩ : ∃ k, limit = k + 1 := ⟨limit - 1, by omega⟩
    -- everything up to the head, or a full batch
    obtain ⟨b, hb, hbv, hb1, hb2⟩ := rangeTailn_cut (x := (t + 1, head))
      ⟨Nat.le_add_left 1 t, by show t + 1 ≤ head; omega, hh⟩ k
    dsimp only at hb1 hb2
    have hv := validR_of hbv.1 hbv.2.1
    have hab : ∀ x ∈ synced, x.2 < b.1 := fun x hx => by have := habove x hx; omega
    have hdis : ∀ x ∈ synced, x.2 < b.1 ∨ b.2 < x.1 := fun x hx => Or.inl (hab x hx)
    rw [hb]
    refine Or.inr ⟨by omega, by omega, ⟨hv, ?_, ?_, ?_, ?_, admitted_free hv hdis (Or.inl hab)⟩,
      Or.inl fun x ⟨r, hr, _, h2⟩ => by have := hab r hr; omega, Or.inl ?_⟩
    · simp only [clauseMissing, List.all_eq_true, Bool.or_eq_true, decide_eq_true_eq]; exact hdis
    · simp only [clauseSize, decide_eq_true_eq]; omega
    · rcases htop with ⟨hc, rfl⟩ | hc <;> simp [clauseAnchor, hbeh, hc, hb1]
    · simp only [clauseMax, hbeh, ↓reduceIte, Bool.or_eq_true, decide_eq_true_eq, beq_iff_eq]; omega
    · simp only [clauseHead, decide_eq_true_eq]; omega

/-- the highest synced range `hr` reaches the head: the batch fills the gap below `hr`, from the
    top; `pen` is the end of the range below it (`0` if there is none) -/
theorem outcome_below {ys : Ranges} {hr : Range} {head limit pen : Nat} (hi : RInv (ys ++ [hr]))
    (hbh : ¬ hr.2 < head) (hpen1 : ∀ x ∈ ys, x.2 ≤ pen)
    (hpen2 : pen = 0 ∨ (mem (ys ++ [hr]) pen ∧ pen + 1 < hr.1)) :
    Outcome head (ys ++ [hr]) limit (Range.headn (pen + 1, hr.1 - 1) limit) := by
  have ⟨_, hv2, _⟩ := inv_validR hi (r := hr) (by simp)
  have hbeh : behind head (ys ++ [hr]) = false := by simp [behind, top_concat, hbh]
  have hlast : (ys ++ [hr]).getLast? = some hr := List.getLast?_concat
  have hmem1 : mem (ys ++ [hr]) hr.1 := mem_start hi (by simp)
  by_cases hnone : limit = 0 ∨ hr.1 - 1 < pen + 1
  · refine Or.inl ⟨?_, ?_⟩
    · by_cases hgap : hr.1 - 1 < pen + 1
      · simp [Range.headn, Range.isEmpty, hgap]
      · obtain rfl : limit = 0 := hnone.resolve_right hgap
        have h1 : Range.isEmpty (pen + 1, hr.1 - 1) = false := by
          simp only [Range.isEmpty, Bool.not_eq_false', decide_eq_true_eq]; omega
        have : Range.headn (pen + 1, hr.1 - 1) 0 = (max (pen + 1) (hr.1 - 1 + 1), hr.1 - 1) := by
          simp [Range.headn, h1, checkedAdd, satSub, show hr.1 - 1 + 1 ≤ U64_MAX by omega]
        rw [this]; show hr.1 - 1 < max (pen + 1) (hr.1 - 1 + 1); omega
    · rcases hnone with rfl | h
      · simp [clauseNoBatch]
      · simp [clauseNoBatch, hbeh, hlast]; omega
  · obtain ⟨k, rfl⟩ : ∃ k, limit = k + 1 := ⟨limit - 1, by omega⟩
    -- the whole gap, or a full batch ending just below `hr`
    obtain ⟨b, hb, hbv, hb2, hb1⟩ := rangeHeadn_cut (x := (pen + 1, hr.1 - 1))
      ⟨Nat.le_add_left 1 pen, by show pen + 1 ≤ hr.1 - 1; omega, by show hr.1 - 1 ≤ U64_MAX; omega⟩ k
    dsimp only at hb1 hb2
    replace hb2 : b.2 + 1 = hr.1 := by omega
    have hv := validR_of hbv.1 hbv.2.1
    have hdis : ∀ x ∈ ys ++ [hr], x.2 < b.1 ∨ b.2 < x.1 := fun x hx => by
      rcases List.mem_append.1 hx with hx | hx
      · have := hpen1 x hx; omega
      · rw [List.mem_singleton.1 hx]; omega
    have hnext : mem (ys ++ [hr]) (b.2 + 1) := by rwa [hb2]
    rw [hb]
    refine Or.inr ⟨by omega, by omega, ⟨hv, ?_, ?_, ?_, ?_, admitted_free hv hdis (Or.inr hnext)⟩,
      Or.inr hnext, ?_⟩
    · simp only [clauseMissing, List.all_eq_true, Bool.or_eq_true, decide_eq_true_eq]; exact hdis
    · simp only [clauseSize, decide_eq_true_eq]; omega
    · simp only [clauseAnchor, hbeh, Bool.false_eq_true, ↓reduceIte, hlast, beq_iff_eq]; omega
    · simp only [clauseMax, hbeh, Bool.false_eq_true, ↓reduceIte, Bool.or_eq_true,
        decide_eq_true_eq, beq_iff_eq, member_iff]
      by_cases hfull : b.2 + 1 - b.1 = k + 1
      · exact Or.inl hfull
      · rcases hpen2 with h0 | ⟨hm, _⟩
        · exact Or.inr (Or.inl (by omega))
        · exact Or.inr (Or.inr (by rwa [show b.1 - 1 = pen by omega]))
    · by_cases hc : b.2 ≤ head
      · exact Or.inl (by simpa [clauseHead] using hc)
      · exact Or.inr ⟨hr.2, mem_end hi (by simp), by omega, by omega⟩

theorem calc_spec {synced : Ranges} (hi : RInv synced) (head limit : Nat) (hh : head ≤ U64_MAX) :
    ∃ b, calculateRangeToFetch head synced limit = .ok b ∧ Outcome head synced limit b := by
  rcases calc_list hi head limit with ⟨rfl, e⟩ | ⟨ys, hr, rfl, hbh, e⟩ | ⟨ys, hr, pen, rfl, hbh, e, hpen1, hpen2⟩
  · exact ⟨_, e, outcome_above hh rfl (Or.inl ⟨rfl, rfl⟩) (by simp) (Or.inr rfl)⟩
  · exact ⟨_, by simp [e, addU64, show hr.2 + 1 ≤ U64_MAX by omega],
      outcome_above hh (by simp [behind, top_concat, hbh]) (Or.inr (top_concat ..))
        (fun x hx => (inv_le_last hi x hx).2) (Or.inl hbh)⟩
  · exact ⟨_, e, outcome_below hi hbh hpen1 hpen2⟩

end Lumina.Proofs.FetchRange

/-
  Big-endian encode/decode round trips, for every width and value.  The models write the codec three times
  (`ShwapId.be/ofBe` for identifiers, `Blob.be/ofBe` for sequence lengths, the specifications' `beVal` and `be32`);
  the facts are proved for `ShwapId`'s, whose bytes are the base-256 digits of `Proofs/Digits` (`ofBe_eq_val`,
  `be_eq_digits`), and carried to the others by the bridges at the end.
-/
import Lumina.Model.ShwapId
import Lumina.Model.Blob
import Lumina.Spec.C11
import Lumina.Spec.C15
import Lumina.Proofs.Digits

namespace Lumina.Proofs.BigEndian
open Lumina.Util Lumina.Model.ShwapId Lumina.Proofs.Digits
open Lumina.Spec.C15 (beVal)

/-- core's `UInt8.toNat_ofNat'` with the modulus written as the codec's base -/
theorem toNat_ofNat (n : Nat) : (UInt8.ofNat n).toNat = n % 256 := rfl

theorem ofBe_eq_val (bs : Bytes) : ofBe bs = val 256 (bs.map UInt8.toNat) := by
  unfold ofBe
  rw [← List.foldl_map (f := UInt8.toNat) (g := fun a d => a * 256 + d), foldl_horner, Nat.zero_mul, Nat.zero_add]

theorem beVal_eq_val : ∀ bs : Bytes, beVal bs = val 256 (bs.map UInt8.toNat)
  | [] => rfl
  | b :: r => by rw [beVal, beVal_eq_val r, List.map_cons, val, List.length_map]

theorem be_eq_digits : ∀ w n, be w n = (digits 256 w n).map UInt8.ofNat
  | 0, _ => rfl
  | w + 1, n => by rw [be, be_eq_digits w n, digits, List.map_cons]

theorem ofBe_eq_beVal (bs : Bytes) : ofBe bs = beVal bs := (ofBe_eq_val bs).trans (beVal_eq_val bs).symm

theorem ofBe_lt (bs : Bytes) : ofBe bs < 256 ^ bs.length := by
  have := val_lt (B := 256) (ds := bs.map UInt8.toNat) toNat_lt_of_mem
  rwa [← ofBe_eq_val, List.length_map] at this

theorem be_length (w n : Nat) : (be w n).length = w := by
  rw [be_eq_digits, List.length_map, length_digits]

theorem ofBe_be (w n : Nat) : ofBe (be w n) = n % 256 ^ w := by
  rw [ofBe_eq_val, be_eq_digits, List.map_map, ← val_digits]
  congr 1
  refine (List.map_congr_left fun d hd => ?_).trans (List.map_id _)
  exact Nat.mod_eq_of_lt (digits_lt (by decide) w n d hd)

theorem be_ofBe (w : Nat) (bs : Bytes) (hw : bs.length = w) : be w (ofBe bs) = bs := by
  subst hw
  have h := digits_val (B := 256) (ds := bs.map UInt8.toNat) toNat_lt_of_mem
  rw [List.length_map] at h
  rw [be_eq_digits, ofBe_eq_val, h, List.map_map]
  exact (List.map_congr_left fun b _ => UInt8.ofNat_toNat).trans (List.map_id _)

theorem beVal_be (w n : Nat) (h : n < 256 ^ w) : beVal (be w n) = n := by
  rw [← ofBe_eq_beVal, ofBe_be, Nat.mod_eq_of_lt h]

theorem ofBe_take_lt (l : Bytes) (w : Nat) : ofBe (l.take w) < 256 ^ w :=
  Nat.lt_of_lt_of_le (ofBe_lt _) (Nat.pow_le_pow_right (by decide) (List.length_take_le _ _))

theorem be_inj {w a b : Nat} (ha : a < 256 ^ w) (hb : b < 256 ^ w) (e : be w a = be w b) : a = b := by
  have := congrArg ofBe e
  rw [ofBe_be, ofBe_be, Nat.mod_eq_of_lt ha, Nat.mod_eq_of_lt hb] at this
  exact this

theorem drop_be_append (w n : Nat) (r : Bytes) : (be w n ++ r).drop w = r := List.drop_left' (be_length w n)

theorem blob_ofBe : Lumina.Model.Blob.ofBe = ofBe := rfl

theorem blob_be : ∀ w n, Lumina.Model.Blob.be w n = be w n
  | 0, _ => rfl
  | w + 1, n => by simp only [Lumina.Model.Blob.be, be, blob_be w n]

theorem be32_eq (n : Nat) : Lumina.Spec.C11.be32 n = be 4 n := by
  simp [Lumina.Spec.C11.be32, be]

end Lumina.Proofs.BigEndian

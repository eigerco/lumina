/-
  Refinement of the in-memory store model (`MemStore`) to the abstract store: evaluation lemmas
  for every step of `InMemoryStoreInner::insert`, the relation `RangesRel` between three range
  lists and the abstract store (shared with the redb store), the relation `Rm`, and the
  per-operation simulation (results equal, relation preserved, failed operations leave the state
  unchanged).
-/
import Lumina.Proofs.StoreAbs
import Lumina.Proofs.RangesConstraints

open Lumina.Model.Store Lumina.Spec.C19
open Lumina.Model
open Lumina.Proofs.Ranges

namespace Lumina.Proofs.Store

open Lumina.Model.Ranges renaming Inv → RInv

theorem verifyRangeGo_false (v : Hdr → Hdr → Bool) (t : Hdr) (us : List Hdr) :
    verifyRangeGo v t us false = chainOK v (t :: us) := by
  induction us generalizing t with
  | nil => simp [verifyRangeGo, chainOK]
  | cons u rest ih =>
    simp only [verifyRangeGo, chainOK, ih]
    by_cases h1 : t.height + 1 = u.height
    · by_cases h2 : v t u = true
      · simp [h1, h2]
      · simp [h1, h2]
    · simp [h1]

theorem tryIntoVerified_eq (v : Hdr → Hdr → Bool) (batch : List Hdr) :
    tryIntoVerified v batch = if chainOK v batch then .ok batch else .error .headersVerificationFailed := by
  cases batch with
  | nil => simp [tryIntoVerified, chainOK]
  | cons a rest =>
    cases rest with
    | nil => simp [tryIntoVerified, verifyAdjacentRange, chainOK]
    | cons b rest2 =>
      simp only [tryIntoVerified, verifyAdjacentRange, verifyRangeGo, verifyRangeGo_false]
      by_cases h1 : a.height + 1 = b.height
      · by_cases h2 : v a b = true
        · simp [h1, h2, chainOK]
        · simp [h1, h2, chainOK]
      · simp [h1, chainOK]

theorem contains_eq (m : AMap Nat ν) (k : Nat) : AMap.contains m k = (AMap.get m k).isSome := rfl

theorem checkHashes_eq (s : MemStore) (seen known : List Hash) (l : List Hdr)
    (hk : ∀ q, (AMap.contains s.headers q || seen.contains q) = known.contains q) :
    MemStore.checkHashes s seen l =
      match firstDupHash known l with
      | some q => .error (.hashExists q)
      | none => .ok () := by
  induction l generalizing seen known with
  | nil => simp [MemStore.checkHashes, firstDupHash]
  | cons a rest ih =>
    simp only [MemStore.checkHashes, firstDupHash, hk a.hash]
    by_cases h : known.contains a.hash = true
    · simp only [h, if_true]
    · have h' : known.contains a.hash = false := by simpa using h
      simp only [h', Bool.false_eq_true, if_false]
      apply ih
      intro q
      have := hk q
      simp only [List.contains_cons]
      rw [← this]
      cases AMap.contains s.headers q <;> cases (q == a.hash) <;> simp

theorem insertLoop_eq (s : MemStore) (l : List Hdr)
    (hH : Fresh (·.height) s.heightToHash l) (hQ : Fresh (·.hash) s.headers l) :
    MemStore.insertLoop s l =
      ({ s with headers := insertAll (·.hash) id s.headers l,
                heightToHash := insertAll (·.height) (·.hash) s.heightToHash l }, .ok ()) := by
  induction l generalizing s with
  | nil => rfl
  | cons a rest ih =>
    obtain ⟨h1, hH'⟩ := hH.cons a.hash
    obtain ⟨h3, hQ'⟩ := hQ.cons a
    simp only [MemStore.insertLoop, AMap.contains, h1, h3, Option.isSome_none, Bool.false_eq_true, if_false]
    rw [ih _ hH' hQ']
    rfl

theorem all_iff_above (a : AbsStore) (rs : Ranges.Ranges) (hm : ∀ h, Ranges.mem rs h ↔ a.stored h = true)
    (lo hi : Nat) :
    (a.hdrs.all fun x => decide (x.height < lo)) = true ↔ AboveHead rs (lo, hi) := by
  simp only [List.all_eq_true, decide_eq_true_eq, AboveHead]
  constructor
  · intro h k hk
    obtain ⟨x, hx, e⟩ := (stored_iff a k).1 ((hm k).1 hk)
    rw [← e]; exact h x hx
  · intro h x hx
    exact h x.height ((hm _).2 (stored_of_mem hx))

theorem any_iff_overlap (a : AbsStore) (rs : Ranges.Ranges) (hm : ∀ h, Ranges.mem rs h ↔ a.stored h = true)
    (lo hi : Nat) :
    (a.hdrs.any fun x => between lo hi x.height) = true ↔ Overlap rs (lo, hi) := by
  simp only [List.any_eq_true, between, Bool.and_eq_true, decide_eq_true_eq, Overlap]
  constructor
  · rintro ⟨x, hx, h1, h2⟩
    exact ⟨x.height, (hm _).2 (stored_of_mem hx), h1, h2⟩
  · rintro ⟨k, hk, h1, h2⟩
    obtain ⟨x, hx, e⟩ := (stored_iff a k).1 ((hm k).1 hk)
    exact ⟨x, hx, by omega, by omega⟩

theorem memB_eq_stored (a : AbsStore) (rs : Ranges.Ranges) (hm : ∀ h, Ranges.mem rs h ↔ a.stored h = true)
    (k : Nat) : Ranges.memB rs k = a.stored k := by
  rw [Bool.eq_iff_iff, memB_iff_mem, hm]

/-- three range lists denoting the stored, sampled and pruned heights of an abstract store: what
    both store models keep next to their tables -/
structure RangesRel (hr sr pr : Ranges.Ranges) (a : AbsStore) : Prop where
  invH : RInv hr
  invS : RInv sr
  invP : RInv pr
  memH : ∀ h, Ranges.mem hr h ↔ a.stored h = true
  memS : ∀ h, Ranges.mem sr h ↔ h ∈ a.sampled
  memP : ∀ h, Ranges.mem pr h ↔ h ∈ a.pruned

theorem validR_of_stored {a : AbsStore} (hi : AbsInv a) {h : Nat} (hs : a.stored h = true) : ValidR (h, h) := by
  obtain ⟨x, hx, rfl⟩ := (stored_iff a h).1 hs
  exact ⟨(hi.bounds x hx).1, Nat.le_refl _, (hi.bounds x hx).2⟩

theorem RangesRel.constraints {rs sr pr : Ranges.Ranges} {a : AbsStore} (g : RangesRel rs sr pr a)
    (lo hi : Nat) (hhi : hi ≤ U64_MAX) :
    constraints (Ranges.checkInsertionConstraints rs (lo, hi)) =
      match AbsStore.placement a lo hi with
      | .error e => .error e
      | .ok () => .ok (a.stored (lo - 1), a.stored (hi + 1)) := by
  have hinv := g.invH
  have hm := g.memH
  by_cases hval : 1 ≤ lo ∧ lo ≤ hi
  · have hv : ValidR (lo, hi) := ⟨hval.1, hval.2, hhi⟩
    have hc2 : (lo == 0 || decide (lo > hi)) = false := by
      simp; omega
    unfold AbsStore.placement
    rw [hc2]
    simp only [Bool.false_eq_true, if_false]
    have hall := all_iff_above a rs hm lo hi
    have hany := any_iff_overlap a rs hm lo hi
    rcases checkInsertionConstraints_cases hinv hv with ⟨e, h1, h2⟩ | ⟨⟨o, e⟩, h1⟩ | ⟨e, h1, h2, h3, h4⟩
    · rw [e]
      have c1 : (a.hdrs.any fun x => between lo hi x.height) = false := by
        rw [← Bool.not_eq_true, hany]; exact h1
      have c2 : (!(a.hdrs.all fun x => decide (x.height < lo)) && !a.stored (lo - 1) && !a.stored (hi + 1)) = false := by
        rcases h2 with h2 | h2 | h2
        · rw [hall.2 h2]; simp
        · rw [(hm _).1 h2]; simp
        · rw [(hm _).1 h2]; simp
      simp only [c1, c2, Bool.and_false, Bool.false_eq_true, if_false, Store.constraints]
      rw [memB_eq_stored a rs hm, memB_eq_stored a rs hm]
    · rw [e]
      have c1 : (a.hdrs.any fun x => between lo hi x.height) = true := hany.2 h1
      have c0 : (a.hdrs.all fun x => decide (x.height < lo)) = false := by
        rw [← Bool.not_eq_true, hall]
        intro hab
        obtain ⟨k, hk, k1, k2⟩ := h1
        have := hab k hk
        simp at k1 this; omega
      simp [c1, c0, Store.constraints, rerrKind]
    · rw [e]
      have c1 : (a.hdrs.any fun x => between lo hi x.height) = false := by
        rw [← Bool.not_eq_true, hany]; exact h1
      have c0 : (a.hdrs.all fun x => decide (x.height < lo)) = false := by
        rw [← Bool.not_eq_true, hall]; exact h2
      have c3 : a.stored (lo - 1) = false := by
        rw [← Bool.not_eq_true, ← hm]; exact h3
      have c4 : a.stored (hi + 1) = false := by
        rw [← Bool.not_eq_true, ← hm]; exact h4
      simp [c1, c0, c3, c4, Store.constraints, rerrKind]
  · have hinvalid : Ranges.Range.valid (lo, hi) = false := by
      rw [← Bool.not_eq_true, valid_iff]; exact hval
    rw [checkInsertionConstraints_invalid hinvalid]
    have hc2 : (lo == 0 || decide (lo > hi)) = true := by
      simp; omega
    simp [AbsStore.placement, hc2, Store.constraints, rerrKind]

theorem ranges_eq_rangesOf (rs : Ranges.Ranges) (hinv : RInv rs) (p : Nat → Bool) (l : List Nat)
    (hm : ∀ h, Ranges.mem rs h ↔ p h = true) (hl : ∀ h, p h = true → h ∈ l)
    (hb : ∀ h ∈ l, h ≤ U64_MAX) : rs = rangesOf p (sup l) := by
  have h0 : p 0 = false := by
    rw [← Bool.not_eq_true, ← hm]
    intro hmem; have := mem_bounds hinv hmem; omega
  have hsup : sup l ≤ Ranges.U64_MAX := by
    by_cases e : l = []
    · subst e; simp [sup, Ranges.U64_MAX]
    · exact hb _ (sup_mem l e)
  obtain ⟨i2, m2⟩ := rangesOf_inv p (sup l) h0 hsup
  apply canonical hinv i2
  intro h
  rw [hm h, m2 h]
  constructor
  · intro hp; exact ⟨mem_sup l h (hl h hp), hp⟩
  · intro hp; exact hp.2

namespace RangesRel
variable {hr sr pr : Ranges.Ranges} {a : AbsStore}

theorem contains (g : RangesRel hr sr pr a) (h : Nat) : Ranges.contains hr h = a.stored h := by
  rw [Bool.eq_iff_iff, contains_iff_mem, g.memH]

theorem insert (g : RangesRel hr sr pr a) {v : Hdr → Hdr → Bool} {batch : List Hdr} {first last : Hdr}
    (ok : InsertOK v a batch first last) (hlast : last.height ≤ U64_MAX) :
    ∃ hr' sr' pr', Ranges.insertRelaxed hr (first.height, last.height) = .ok hr' ∧
      Ranges.removeRelaxed sr (first.height, last.height) = .ok sr' ∧
      Ranges.removeRelaxed pr (first.height, last.height) = .ok pr' ∧
      RangesRel hr' sr' pr' (added a batch first.height last.height) := by
  have hv : ValidR (first.height, last.height) := ⟨ok.lo_pos, ok.lo_le, hlast⟩
  obtain ⟨hr', eh, ih, mh⟩ := insertRelaxed_spec g.invH hv
  obtain ⟨sr', es, is, ms⟩ := removeRelaxed_spec g.invS hv
  obtain ⟨pr', ep, ip, mp⟩ := removeRelaxed_spec g.invP hv
  have out : ∀ (l : List Nat) (h : Nat), h ∈ l.filter (fun h => !between first.height last.height h) ↔
      h ∈ l ∧ ¬ (first.height ≤ h ∧ h ≤ last.height) := by
    intro l h; simp [between]; intro _; omega
  refine ⟨hr', sr', pr', eh, es, ep, ih, is, ip, fun h => ?_, fun h => ?_, fun h => ?_⟩
  · rw [mh, g.memH, added_stored v a batch first last ok]
  · rw [ms, g.memS]; exact (out _ _).symm
  · rw [mp, g.memP]; exact (out _ _).symm

theorem remove (g : RangesRel hr sr pr a) (hi : AbsInv a) {h : Nat} (hs : a.stored h = true) :
    ∃ hr' sr' pr', Ranges.removeRelaxed hr (h, h) = .ok hr' ∧ Ranges.removeRelaxed sr (h, h) = .ok sr' ∧
      Ranges.insertRelaxed pr (h, h) = .ok pr' ∧ RangesRel hr' sr' pr' (removed a h) := by
  have hv := validR_of_stored hi hs
  obtain ⟨hr', eh, ih, mh⟩ := removeRelaxed_spec g.invH hv
  obtain ⟨sr', es, is, ms⟩ := removeRelaxed_spec g.invS hv
  obtain ⟨pr', ep, ip, mp⟩ := insertRelaxed_spec g.invP hv
  refine ⟨hr', sr', pr', eh, es, ep, ih, is, ip, fun k => ?_, fun k => ?_, fun k => ?_⟩
  · rw [mh, g.memH, removed_stored]
    exact and_congr_right fun _ => by simp only; omega
  · rw [ms, g.memS]
    simp only [removed, List.mem_filter, bne_iff_ne, ne_eq]
    exact and_congr_right fun _ => by omega
  · rw [mp, g.memP]
    simp only [removed, List.mem_cons]
    exact ⟨fun h1 => h1.symm.imp_left (by omega), fun h1 => h1.symm.imp_right (by omega)⟩

/-- C19's range invariants on the concrete lists: sampled ⊆ stored, pruned ∩ stored = ∅ -/
theorem sampled_sub_pruned_disjoint (g : RangesRel hr sr pr a) (hi : AbsInv a) :
    (∀ h, Ranges.mem sr h → Ranges.mem hr h) ∧ (∀ h, Ranges.mem pr h → ¬ Ranges.mem hr h) := by
  refine ⟨fun h hs => (g.memH h).2 (hi.sampled h ((g.memS h).1 hs)), fun h hp hh => ?_⟩
  have := hi.pruned h ((g.memP h).1 hp)
  rw [(g.memH h).1 hh] at this; cases this

theorem withMetas (g : RangesRel hr sr pr a) (ms : List (Nat × List Cid)) :
    RangesRel hr sr pr { a with metas := ms } :=
  ⟨g.invH, g.invS, g.invP, g.memH, g.memS, g.memP⟩

theorem mark (g : RangesRel hr sr pr a) (hi : AbsInv a) {h : Nat} (hs : a.stored h = true) :
    ∃ sr', Ranges.insertRelaxed sr (h, h) = .ok sr' ∧
      RangesRel hr sr' pr { a with sampled := h :: a.sampled } := by
  obtain ⟨sr', es, is, ms⟩ := insertRelaxed_spec g.invS (validR_of_stored hi hs)
  refine ⟨sr', es, g.invH, is, g.invP, g.memH, fun k => ?_, g.memP⟩
  rw [ms, g.memS]
  simp only [List.mem_cons]
  exact ⟨fun h1 => h1.symm.imp_left (by omega), fun h1 => h1.symm.imp_right (by omega)⟩

theorem stored_eq (g : RangesRel hr sr pr a) (hi : AbsInv a) : hr = a.storedRanges := by
  unfold AbsStore.storedRanges
  apply ranges_eq_rangesOf hr g.invH a.stored _ g.memH
  · intro h hs
    obtain ⟨x, hx, e⟩ := (stored_iff a h).1 hs
    rw [← e]; exact List.mem_map_of_mem hx
  · intro h hh
    obtain ⟨x, hx, e⟩ := List.mem_map.1 hh
    rw [← e]; exact (hi.bounds x hx).2

theorem sampled_eq (g : RangesRel hr sr pr a) (hi : AbsInv a) : sr = a.sampledRanges := by
  unfold AbsStore.sampledRanges
  apply ranges_eq_rangesOf sr g.invS a.isSampled a.sampled
  · intro h; rw [g.memS]; simp [AbsStore.isSampled]
  · intro h hs; simpa [AbsStore.isSampled] using hs
  · intro h hh; exact (validR_of_stored hi (hi.sampled h hh)).2.2

theorem pruned_eq (g : RangesRel hr sr pr a) (hi : AbsInv a) : pr = a.prunedRanges := by
  unfold AbsStore.prunedRanges
  apply ranges_eq_rangesOf pr g.invP a.isPruned a.pruned
  · intro h; rw [g.memP]; simp [AbsStore.isPruned]
  · intro h hs; simpa [AbsStore.isPruned] using hs
  · intro h hh; exact (hi.prunedB h hh).2

theorem head (g : RangesRel hr sr pr a) : Ranges.head hr = a.headHeight := by
  unfold AbsStore.headHeight
  cases hrs : Ranges.head hr with
  | none =>
    have he : a.hdrs = [] := by
      cases hh : a.hdrs with
      | nil => rfl
      | cons x _ =>
        have := (g.memH x.height).2 (stored_of_mem (by simp [hh]))
        rw [head_eq_none_iff.1 hrs] at this; exact absurd this (mem_nil _)
    simp [he]
  | some x =>
    obtain ⟨h1, h2⟩ := head_spec g.invH hrs
    obtain ⟨z, hz, rfl⟩ := (stored_iff a x).1 ((g.memH x).1 h1)
    have hne : a.hdrs ≠ [] := by intro e; rw [e] at hz; cases hz
    obtain ⟨y, hy, ey⟩ := List.mem_map.1 (sup_mem (a.hdrs.map (·.height)) (by simpa using hne))
    have le1 := h2 _ ((g.memH _).2 ((stored_iff a _).2 ⟨y, hy, ey⟩))
    have le2 := mem_sup (a.hdrs.map (·.height)) z.height (List.mem_map_of_mem hz)
    rw [if_neg (by simpa using hne)]
    congr 1; omega

end RangesRel

/-- refinement relation between the in-memory store model and the abstract store -/
structure Rm (m : MemStore) (a : AbsStore) : Prop where
  ranges : RangesRel m.headerRanges m.sampledRanges m.prunedRanges a
  hth : ∀ h, AMap.get m.heightToHash h = (a.atHeight h).map (·.hash)
  hdr : ∀ q, AMap.get m.headers q = a.byHash q
  md : ∀ h, AMap.get m.samplingData h = a.metaOf h

theorem u64max_eq : Lumina.Model.Store.U64_MAX = Ranges.U64_MAX := rfl

theorem mem_getByHeight {m : MemStore} {a : AbsStore} (r : Rm m a) (hi : AbsInv a) (h : Nat) :
    m.getByHeight h = match a.atHeight h with
      | some x => .ok x
      | none => .error .notFound := by
  unfold MemStore.getByHeight
  rw [r.hth h]
  cases hx : a.atHeight h with
  | none => simp
  | some x =>
    simp only [Option.map_some]
    rw [r.hdr x.hash]
    have : a.byHash x.hash = some x := (byHash_some hi x.hash x).2 ⟨((atHeight_some hi h x).1 hx).1, rfl⟩
    rw [this]

theorem stored_eq_atHeight (a : AbsStore) (h : Nat) : a.stored h = (a.atHeight h).isSome := rfl

theorem pred64_of_pos {h : Nat} (hlo : 1 ≤ h) : pred64 h = .ok (h - 1) := by
  unfold pred64; rw [if_pos hlo]

theorem succ64_of_stored {a : AbsStore} (hi : AbsInv a) {h : Nat} {n : Hdr} (hn : a.atHeight (h + 1) = some n) :
    succ64 h = .ok (h + 1) := by
  have hm := (atHeight_some hi _ n).1 hn
  have := (hi.bounds n hm.1).2
  unfold succ64; rw [if_pos (by omega)]

theorem mem_verifyNeighbours {m : MemStore} {a : AbsStore} (r : Rm m a) (hi : AbsInv a)
    (v : Hdr → Hdr → Bool) (first last : Hdr) (hlo : 1 ≤ first.height) :
    m.verifyAgainstNeighbours v (if a.stored (first.height - 1) then some first else none)
        (if a.stored (last.height + 1) then some last else none) =
      if !AbsStore.prevOK v a first || !AbsStore.nextOK v a last then .error .neighborsVerificationFailed
      else .ok () := by
  have hpred := pred64_of_pos hlo
  unfold MemStore.verifyAgainstNeighbours AbsStore.prevOK AbsStore.nextOK
  rw [stored_eq_atHeight, stored_eq_atHeight]
  cases hp : a.atHeight (first.height - 1) with
  | none =>
    cases hn : a.atHeight (last.height + 1) with
    | none => simp [pure_eq]
    | some n =>
      simp only [Option.isSome_none, Option.isSome_some, Bool.false_eq_true, if_false, if_true, ok_bind,
        pure_eq, succ64_of_stored hi hn, MemStore.neighbour, mem_getByHeight r hi, hn]
      by_cases hv : v last n = true <;> simp [hv, throw_eq]
  | some p =>
    cases hn : a.atHeight (last.height + 1) with
    | none =>
      simp only [Option.isSome_none, Option.isSome_some, Bool.false_eq_true, if_false, if_true, ok_bind,
        pure_eq, hpred, MemStore.neighbour, mem_getByHeight r hi, hp]
      by_cases hv : v p first = true <;> simp [hv, err_bind, throw_eq]
    | some n =>
      simp only [Option.isSome_some, if_true, ok_bind, pure_eq, hpred,
        succ64_of_stored hi hn, MemStore.neighbour, mem_getByHeight r hi, hp, hn]
      by_cases hv : v p first = true <;> by_cases hv2 : v last n = true <;>
        simp [hv, hv2, err_bind, throw_eq]

theorem byHash_isSome (a : AbsStore) (q : Hash) :
    (a.byHash q).isSome = (a.hdrs.map (·.hash)).contains q := by
  rw [Bool.eq_iff_iff]
  unfold AbsStore.byHash
  rw [List.find?_isSome, List.contains_eq_mem, decide_eq_true_eq, List.mem_map]
  constructor
  · rintro ⟨x, hx, e⟩; exact ⟨x, hx, by simpa using e⟩
  · rintro ⟨x, hx, e⟩; exact ⟨x, hx, by simpa using e⟩

theorem mem_insertCommit {m : MemStore} {a : AbsStore} (r : Rm m a)
    {v : Hdr → Hdr → Bool} {batch : List Hdr} {first last : Hdr}
    (ok : InsertOK v a batch first last) (hwf : ∀ x ∈ batch, x.height ≤ U64_MAX) :
    ∃ m', MemStore.insertCommit m batch (first.height, last.height) = (m', .ok ()) ∧
      Rm m' (added a batch first.height last.height) := by
  obtain ⟨b1, b2, _⟩ := batch_heights v batch first last ok.chain ok.hd ok.lst
  have fH : Fresh (·.height) m.heightToHash batch := ⟨fun x hx => by
    rw [r.hth, atHeight_none_of_disjoint a _ _ ok.disjoint _ (b2 x hx)]; rfl, b1⟩
  have fQ : Fresh (·.hash) m.headers batch :=
    ⟨fun x hx => by rw [r.hdr, ok.byHash_none x hx], ((firstDup_none _ _).1 ok.nodup).2⟩
  obtain ⟨hr, sr, pr, eh, es, ep, g⟩ := r.ranges.insert ok (hwf last (List.mem_of_getLast? ok.lst))
  refine ⟨{ m with headers := insertAll (·.hash) id m.headers batch,
                   heightToHash := insertAll (·.height) (·.hash) m.heightToHash batch,
                   headerRanges := hr, sampledRanges := sr, prunedRanges := pr }, ?_, g,
    fun h => ?_, fun q => ?_, r.md⟩
  · simp only [MemStore.insertCommit, insertLoop_eq m batch fH fQ, eh, es, ep, expectR]
  · show AMap.get (insertAll (·.height) (·.hash) m.heightToHash batch) h = _
    rw [get_insertAll _ _ _ _ fH, r.hth, added_atHeight]; cases a.atHeight h <;> rfl
  · show AMap.get (insertAll (·.hash) id m.headers batch) q = _
    rw [get_insertAll _ _ _ _ fQ, r.hdr, added_byHash, Option.map_id, id]

/-- `InMemoryStore::insert` against the abstract checks: same error with the state untouched,
    or the batch is committed and the relation holds for the abstract post-state -/
theorem mem_insert_sim {m : MemStore} {a : AbsStore} (r : Rm m a) (hi : AbsInv a)
    (v : Hdr → Hdr → Bool) (batch : List Hdr) (hwf : ∀ x ∈ batch, x.height ≤ U64_MAX) :
    match AbsStore.insertCheck v a batch with
    | .error e => MemStore.insert v m batch = (m, .error e)
    | .ok none => MemStore.insert v m batch = (m, .ok ())
    | .ok (some (lo, hi')) => ∃ m', MemStore.insert v m batch = (m', .ok ()) ∧ Rm m' (added a batch lo hi') := by
  cases batch with
  | nil => simp [AbsStore.insertCheck, MemStore.insert, MemStore.insertWith, tryIntoVerified, MemStore.insertVerifiedWith]
  | cons b rest =>
    obtain ⟨last, hl⟩ := Option.isSome_iff_exists.1 (show ((b :: rest).getLast?).isSome by simp)
    have hf : (b :: rest).head? = some b := rfl
    unfold MemStore.insert MemStore.insertWith
    rw [tryIntoVerified_eq]
    unfold AbsStore.insertCheck
    simp only [hf, hl]
    by_cases hc : chainOK v (b :: rest) = true
    · simp only [hc, Bool.not_true, Bool.false_eq_true, if_false, if_true]
      unfold MemStore.insertVerifiedWith
      simp only [hf, hl]
      rw [r.ranges.constraints b.height last.height (hwf last (List.mem_of_getLast? hl))]
      cases hp : AbsStore.placement a b.height last.height with
      | error e => simp
      | ok u =>
        simp only
        rw [mem_verifyNeighbours r hi v b last (placement_ok a _ _ hp).1]
        by_cases hn : (!AbsStore.prevOK v a b || !AbsStore.nextOK v a last) = true
        · simp only [hn, if_true]
        · simp only [hn]
          rw [checkHashes_eq m [] (a.hdrs.map (·.hash)) (b :: rest)
            (by intro q; simp only [List.contains_nil, Bool.or_false]
                rw [contains_eq, r.hdr q, byHash_isSome])]
          cases hd : firstDupHash (a.hdrs.map (·.hash)) (b :: rest) with
          | some q => simp
          | none => exact mem_insertCommit r (InsertOK.of_checks hf hl hc hp (by simpa using hn) hd) hwf
    · simp [hc]

theorem mem_remove_sim {m : MemStore} {a : AbsStore} (r : Rm m a) (hi : AbsInv a) (h : Nat) :
    (a.stored h = false ∧ m.removeHeight h = (m, .error .notFound)) ∨
    (a.stored h = true ∧ ∃ m', m.removeHeight h = (m', .ok ()) ∧ Rm m' (removed a h)) := by
  cases hs : a.stored h with
  | false =>
    left; refine ⟨rfl, ?_⟩
    unfold MemStore.removeHeight
    rw [r.ranges.contains, hs]; rfl
  | true =>
    right; refine ⟨rfl, ?_⟩
    obtain ⟨hr, sr, pr, eh, es, ep, g⟩ := r.ranges.remove hi hs
    obtain ⟨x, hx, rfl⟩ := (stored_iff a h).1 hs
    have hat : a.atHeight x.height = some x := (atHeight_some hi _ x).2 ⟨hx, rfl⟩
    have hbh : a.byHash x.hash = some x := (byHash_some hi x.hash x).2 ⟨hx, rfl⟩
    refine ⟨{ m with samplingData := AMap.erase m.samplingData x.height,
                     heightToHash := AMap.erase m.heightToHash x.height,
                     headers := AMap.erase m.headers x.hash,
                     headerRanges := hr, sampledRanges := sr, prunedRanges := pr }, ?_, g,
      fun k => ?_, fun q => ?_, fun k => ?_⟩
    · unfold MemStore.removeHeight
      rw [r.ranges.contains, hs]
      simp only [Bool.not_true, Bool.false_eq_true, if_false, r.hth, hat, Option.map_some,
        contains_eq, r.hdr, hbh, Option.isSome_some, eh, es, ep, expectR]
    · show AMap.get (AMap.erase m.heightToHash x.height) k = _
      rw [get_erase, removed_atHeight, r.hth k]
      by_cases e : k = x.height <;> simp [e]
    · show AMap.get (AMap.erase m.headers x.hash) q = _
      rw [get_erase, removed_byHash hi hx, r.hdr q]
    · show AMap.get (AMap.erase m.samplingData x.height) k = _
      rw [get_erase, removed_metaOf, r.md k]

theorem mem_mark_sim {m : MemStore} {a : AbsStore} (r : Rm m a) (hi : AbsInv a) (h : Nat) :
    (a.stored h = false ∧ m.markAsSampled h = (m, .error .notFound)) ∨
    (a.stored h = true ∧ ∃ m', m.markAsSampled h = (m', .ok ()) ∧ Rm m' { a with sampled := h :: a.sampled }) := by
  cases hs : a.stored h with
  | false =>
    left; refine ⟨rfl, ?_⟩
    unfold MemStore.markAsSampled MemStore.containsHeight
    rw [r.ranges.contains, hs]; rfl
  | true =>
    right; refine ⟨rfl, ?_⟩
    obtain ⟨sr, es, g⟩ := r.ranges.mark hi hs
    refine ⟨{ m with sampledRanges := sr }, ?_, g, r.hth, r.hdr, r.md⟩
    unfold MemStore.markAsSampled MemStore.containsHeight
    rw [r.ranges.contains, hs]
    simp only [Bool.not_true, Bool.false_eq_true, if_false, es, expectR]

theorem mem_updMeta_sim {m : MemStore} {a : AbsStore} (r : Rm m a) (h : Nat) (cids : List Cid) :
    (a.stored h = false ∧ m.updateSamplingMetadata h cids = (m, .error .notFound)) ∨
    (a.stored h = true ∧ ∃ m', m.updateSamplingMetadata h cids = (m', .ok ()) ∧
        Rm m' (a.updateMeta h cids).1) := by
  cases hs : a.stored h with
  | false =>
    left; refine ⟨rfl, ?_⟩
    unfold MemStore.updateSamplingMetadata MemStore.containsHeight
    rw [r.ranges.contains, hs]; rfl
  | true =>
    right; refine ⟨rfl, ?_⟩
    rw [updateMeta_ok a h cids hs]
    refine ⟨{ m with samplingData := AMap.insert m.samplingData h (metaEntry a h cids) }, ?_,
      r.ranges.withMetas _, r.hth, r.hdr, fun k => ?_⟩
    · unfold MemStore.updateSamplingMetadata MemStore.containsHeight
      rw [r.ranges.contains, hs, r.md h]
      unfold metaEntry; cases a.metaOf h <;> rfl
    · show AMap.get (AMap.insert m.samplingData h _) k = _
      rw [get_insert, updated_metaOf, r.md k]

theorem toHeadersRange_eq (lo hi : Bound) (head : Nat) :
    toHeadersRange lo hi head = match AbsStore.resolve lo hi head with
      | some p => .ok p
      | none => .error .notFound := by
  unfold toHeadersRange AbsStore.resolve
  cases lo with
  | unbounded =>
    cases hi with
    | unbounded => simp [ok_bind, pure_eq]
    | included y =>
      by_cases c : y ≤ head
      · have : ¬ y > head := by omega
        simp [ok_bind, pure_eq, c, this]
      · have : y > head := by omega
        simp [ok_bind, pure_eq, c, this, err_bind, throw_eq]
    | excluded y =>
      by_cases c : y ≤ head + 1
      · have : ¬ y > head + 1 := by omega
        by_cases c0 : y = 0
        · subst c0; simp [ok_bind, pure_eq]
        · simp [ok_bind, pure_eq, c, this, c0]
      · have : y > head + 1 := by omega
        simp [ok_bind, pure_eq, c, this, err_bind, throw_eq]
  | included x =>
    by_cases cx : 1 ≤ x ∧ x ≤ head
    · have cx' : (decide (x > head) || x == 0) = false := by simp; omega
      cases hi with
      | unbounded => simp [ok_bind, pure_eq, cx, cx']
      | included y =>
        by_cases c : y ≤ head
        · have : ¬ y > head := by omega
          simp [ok_bind, pure_eq, c, this, cx, cx']
        · have : y > head := by omega
          simp [ok_bind, pure_eq, c, this, cx, cx', err_bind, throw_eq]
      | excluded y =>
        by_cases c : y ≤ head + 1
        · have : ¬ y > head + 1 := by omega
          by_cases c0 : y = 0
          · subst c0; simp [ok_bind, pure_eq, cx, cx']
          · simp [ok_bind, pure_eq, c, this, c0, cx, cx']
        · have : y > head + 1 := by omega
          simp [ok_bind, pure_eq, c, this, cx, cx', err_bind, throw_eq]
    · have cx' : (decide (x > head) || x == 0) = true := by simp; omega
      cases hi <;> simp [cx, cx', err_bind, map_err, throw_eq]
  | excluded x =>
    by_cases cx : x < head
    · have cx' : ¬ x ≥ head := by omega
      cases hi with
      | unbounded => simp [ok_bind, pure_eq, cx, cx']
      | included y =>
        by_cases c : y ≤ head
        · have : ¬ y > head := by omega
          simp [ok_bind, pure_eq, c, this, cx, cx']
        · have : y > head := by omega
          simp [ok_bind, pure_eq, c, this, cx, cx', err_bind, throw_eq]
      | excluded y =>
        by_cases c : y ≤ head + 1
        · have : ¬ y > head + 1 := by omega
          by_cases c0 : y = 0
          · subst c0; simp [ok_bind, pure_eq, cx, cx']
          · simp [ok_bind, pure_eq, c, this, c0, cx, cx']
        · have : y > head + 1 := by omega
          simp [ok_bind, pure_eq, c, this, cx, cx', err_bind, throw_eq]
    · have cx' : x ≥ head := by omega
      cases hi <;> simp [cx, cx', err_bind, map_err, throw_eq]

theorem getRangeGo_eq (a : AbsStore) (f : Nat → Except Err Hdr)
    (hf : ∀ h, f h = match a.atHeight h with | some x => .ok x | none => .error .notFound)
    (s n : Nat) (acc : List Hdr) :
    getRangeGo f s n acc = match a.span s n with
      | some l => .ok (acc.reverse ++ l)
      | none => .error .notFound := by
  induction n generalizing s acc with
  | zero => simp [getRangeGo, AbsStore.span]
  | succ n ih =>
    unfold getRangeGo AbsStore.span
    rw [hf s]
    cases hx : a.atHeight s with
    | none => simp
    | some x =>
      simp only
      rw [ih (s + 1) (x :: acc)]
      cases a.span (s + 1) n <;> simp

/-- `Store::get_range` over any store whose `head_height` / `get_by_height` agree with the abstract store -/
theorem getRange_eq (a : AbsStore) (hh : Except Err Nat) (f : Nat → Except Err Hdr)
    (hhh : hh = match a.headHeight with | some h => .ok h | none => .error .notFound)
    (hf : ∀ h, f h = match a.atHeight h with | some x => .ok x | none => .error .notFound)
    (lo hi : Bound) :
    toRes (getRange hh f lo hi) .hdrs = a.getRange lo hi := by
  unfold toRes getRange AbsStore.getRange
  rw [hhh]
  cases a.headHeight with
  | none => simp only [err_bind]
  | some head =>
    simp only [ok_bind]
    rw [toHeadersRange_eq]
    cases AbsStore.resolve lo hi head with
    | none => simp only [err_bind]
    | some p =>
      obtain ⟨s, e⟩ := p
      simp only [ok_bind]
      rw [getRangeGo_eq a f hf]
      cases a.span s (e + 1 - s) <;> simp

theorem mem_headHeight {m : MemStore} {a : AbsStore} (r : Rm m a) :
    m.getHeadHeight = match a.headHeight with | some h => .ok h | none => .error .notFound := by
  unfold MemStore.getHeadHeight
  rw [r.ranges.head]
  cases a.headHeight <;> rfl

/-- per-operation simulation of the in-memory store by the abstract store: equal results,
    the relation is preserved, and a failed call leaves the state untouched (C20) -/
theorem mem_step_sim {m : MemStore} {a : AbsStore} (r : Rm m a) (hi : AbsInv a)
    (v : Hdr → Hdr → Bool) (op : Op) (hwf : op.wf = true) :
    (MemStore.step v m op).2 = (AbsStore.step v a op).2 ∧
    Rm (MemStore.step v m op).1 (AbsStore.step v a op).1 ∧
    ((MemStore.step v m op).2.isErr = true → (MemStore.step v m op).1 = m) := by
  cases op
  case insert batch =>
    have hw : ∀ x ∈ batch, x.height ≤ U64_MAX := by
      simpa [Op.wf] using hwf
    have sim := mem_insert_sim r hi v batch hw
    simp only [MemStore.insert] at sim
    simp only [MemStore.step, MemStore.stepWith, AbsStore.step, AbsStore.insert]
    split at sim
    next e hc => simp [hc, sim, toRes, r, Res.isErr]
    next hc => simp [hc, sim, toRes, r, Res.isErr]
    next lo hi' hc =>
      obtain ⟨m', e, r'⟩ := sim
      simp only [hc, e, toRes, Res.isErr]
      exact ⟨trivial, r', fun h => by cases h⟩
  case remove h =>
    simp only [MemStore.step, MemStore.stepWith, AbsStore.step]
    rcases mem_remove_sim r hi h with ⟨hs, e⟩ | ⟨hs, m', e, r'⟩
    · simp [e, remove_err a h hs, toRes, r, Res.isErr]
    · simp [e, remove_ok a h hs, toRes, Res.isErr]; exact r'
  case mark h =>
    simp only [MemStore.step, MemStore.stepWith, AbsStore.step]
    rcases mem_mark_sim r hi h with ⟨hs, e⟩ | ⟨hs, m', e, r'⟩
    · simp [e, mark_err a h hs, toRes, r, Res.isErr]
    · simp [e, mark_ok a h hs, toRes, Res.isErr]; exact r'
  case updMeta h cids =>
    simp only [MemStore.step, MemStore.stepWith, AbsStore.step]
    rcases mem_updMeta_sim r h cids with ⟨hs, e⟩ | ⟨hs, m', e, r'⟩
    · simp [e, updateMeta_err a h cids hs, toRes, r, Res.isErr]
    · simp only [e, toRes, Res.isErr]
      exact ⟨by rw [updateMeta_ok a h cids hs], r', fun h => by cases h⟩
  all_goals
    simp only [MemStore.step, MemStore.stepWith, AbsStore.step]
    refine ⟨?_, r, fun _ => trivial⟩
  case getByHeight h =>
    rw [mem_getByHeight r hi]
    cases a.atHeight h <;> rfl
  case hasAt h =>
    simp only [MemStore.containsHeight]
    rw [r.ranges.contains]
  case getByHash q =>
    simp only [MemStore.getByHash]
    rw [r.hdr q]
    cases a.byHash q <;> rfl
  case has q =>
    simp only [MemStore.containsHash, contains_eq]
    rw [r.hdr q]
  case getMeta h =>
    simp only [MemStore.getSamplingMetadata, MemStore.containsHeight, r.ranges.contains, r.md h]
    cases a.stored h <;> rfl
  case head =>
    simp only [MemStore.getHead, mem_headHeight r]
    cases a.headHeight with
    | none => rfl
    | some h =>
      simp only [ok_bind]
      rw [mem_getByHeight r hi]
      cases a.atHeight h <;> rfl
  case headHeight =>
    rw [mem_headHeight r]
    cases a.headHeight <;> rfl
  case getRange lo hi' =>
    exact getRange_eq a _ _ (mem_headHeight r) (mem_getByHeight r hi) lo hi'
  case storedRanges =>
    rw [r.ranges.stored_eq hi]
  case sampledRanges =>
    rw [r.ranges.sampled_eq hi]
  case prunedRanges =>
    rw [r.ranges.pruned_eq hi]

end Lumina.Proofs.Store

/-
  C08: every row and every column of the extension is a codeword.

  Rows (`EdsExtend.extRow_eq`), and the columns through the original data, are codewords by construction.  The columns through the
  parity half (quadrants 1 and 3) are codewords because the encoder is LINEAR: with `A` the original square,
  `M` the encoder's matrix, Q1 = A·Mᵀ, Q2 = M·A, and the third pass computes Q3 = (M·A)·Mᵀ (rows of Q2) whereas a
  column codeword needs Q3 = M·(A·Mᵀ) (columns of Q1): `Matrix.mul_assoc`.  This is the "order of the three
  passes" argument.

  Linearity (over SOME commutative semiring structure on bytes, acting bytewise — GF(2^8) for leopard) is a
  hypothesis (`EncLinear`), validated against the real codec by the correspondence, not proved about leopard.
-/
import Mathlib.Data.Matrix.Mul
import Lumina.Proofs.EdsExtend
import Lumina.Proofs.Util

namespace Lumina.Proofs.EdsLinear
open Lumina.Util Lumina.Model.Nmt Lumina.Model.Eds Lumina.Model.EdsCode Lumina.Proofs.EdsCode Lumina.Proofs.EdsExtend
open Matrix
open Lumina.Proofs.Util (getD_mem)

/-- a codeword of the systematic rate-1/2 code: `k` data symbols followed by their `k` parity symbols -/
def IsCodeword (enc : List Bytes → List Bytes) (k : Nat) (axis : List Bytes) : Prop :=
  axis.length = 2 * k ∧ axis.drop k = enc (axis.take k)

def extCol (enc : List Bytes → List Bytes) (k : Nat) (ods : List Bytes) (c : Nat) : List Bytes :=
  (List.range (2 * k)).map (fun r => extCell enc k ods r c)

/-- column `c` of quadrant 1 -/
def q1Col (enc : List Bytes → List Bytes) (k : Nat) (ods : List Bytes) (c : Nat) : List Bytes :=
  (List.range k).map (fun i => (enc (odsRow k ods i)).getD c [])

theorem codeword_of_append {enc : List Bytes → List Bytes} {k : Nat} {data : List Bytes} (hd : data.length = k)
    (hp : (enc data).length = k) : IsCodeword enc k (data ++ enc data) := by
  refine ⟨by simp [hd, hp]; omega, ?_⟩
  rw [List.drop_left' hd, List.take_left' hd]

theorem odsCol_length (k : Nat) (ods : List Bytes) (c : Nat) : (odsCol k ods c).length = k := by simp [odsCol]
theorem q1Col_length (enc : List Bytes → List Bytes) (k : Nat) (ods : List Bytes) (c : Nat) :
    (q1Col enc k ods c).length = k := by simp [q1Col]

theorem extRow_codeword {enc : List Bytes → List Bytes} {k : Nat} {ods : List Bytes} (hs : EncShape enc k)
    (hl : ods.length = k * k) (r : Nat) : IsCodeword enc k (extRow enc k ods r) := by
  rw [extRow_eq hs hl]
  exact codeword_of_append (rowSrc_length hl r) (hs _ (rowSrc_length hl r))

/-- **Columns through the original data are codewords by construction** (second pass) -/
theorem extCol_left_eq {enc : List Bytes → List Bytes} {k : Nat} {ods : List Bytes} (hs : EncShape enc k)
    {c : Nat} (hc : c < k) : extCol enc k ods c = odsCol k ods c ++ enc (odsCol k ods c) := by
  unfold extCol
  symm
  apply row_cells _ _ (odsCol_length k ods c) (hs _ (odsCol_length k ods c))
  · intro r hr
    simp only [extCell, hr, hc, ↓reduceIte]
    simp only [odsCol, getD_map_range _ hr]
  · intro r hr _
    have : ¬ r < k := by omega
    simp only [extCell, this, hc, ↓reduceIte]

/-- the encoder acts bytewise as multiplication by a `k × k` matrix over a commutative semiring structure on bytes -/
structure EncLinear (enc : List Bytes → List Bytes) (k len : Nat) where
  F : Type
  [inst : CommSemiring F]
  toF : UInt8 → F
  toF_inj : Function.Injective toF
  M : Matrix (Fin k) (Fin k) F
  shape : ∀ row : List Bytes, row.length = k → (∀ s ∈ row, s.length = len) →
    (enc row).length = k ∧ ∀ s ∈ enc row, s.length = len
  spec : ∀ row : List Bytes, row.length = k → (∀ s ∈ row, s.length = len) → ∀ (j : Fin k) (b : Nat), b < len →
    toF (((enc row).getD j []).getD b 0) = ∑ i : Fin k, M j i * toF ((row.getD i []).getD b 0)

attribute [instance] EncLinear.inst

/-- the repetition code (parity = data) is linear: the identity matrix over ℕ-valued bytes -/
def encLinearRep (k : Nat) : EncLinear (fun row => row) k 512 where
  F := Nat
  toF := UInt8.toNat
  toF_inj := fun _ _ h => UInt8.toNat_inj.mp h
  M := 1
  shape := fun _ h1 h2 => ⟨h1, h2⟩
  spec := by
    intro row _ _ j b _
    simp [Matrix.one_apply]

/-- **The order of the passes does not matter** (matrix associativity): the third pass, which extends the rows of
    Q2, produces exactly the parity of the columns of Q1. -/
theorem q3_commutes {enc : List Bytes → List Bytes} {k len : Nat} (L : EncLinear enc k len) {ods : List Bytes}
    (hl : ods.length = k * k) (hlen : ∀ s ∈ ods, s.length = len) {r c : Nat} (hr : r < k) (hc : c < k) :
    (enc (q2Row enc k ods r)).getD c [] = (enc (q1Col enc k ods c)).getD r [] := by
  -- shapes
  have hcell : ∀ i x, i < k → x < k → (ods.getD (i * k + x) []).length = len := (forall_mem_sq hl []).mp hlen
  have hcolU : ∀ x, x < k → ∀ s ∈ odsCol k ods x, s.length = len := by
    intro x hx s hs
    obtain ⟨i, hi, rfl⟩ := List.mem_map.mp hs
    exact hcell i x (List.mem_range.mp hi) hx
  have hrowU : ∀ i, i < k → ∀ s ∈ odsRow k ods i, s.length = len := by
    intro i hi s hs
    exact hlen s (List.mem_of_mem_drop (List.mem_of_mem_take hs))
  have hq2U : ∀ s ∈ q2Row enc k ods r, s.length = len := by
    intro s hs
    obtain ⟨x, hx, rfl⟩ := List.mem_map.mp hs
    have hx' := List.mem_range.mp hx
    obtain ⟨h1, h2⟩ := L.shape (odsCol k ods x) (odsCol_length k ods x) (hcolU x hx')
    exact h2 _ (getD_mem (by omega))
  have hq1U : ∀ s ∈ q1Col enc k ods c, s.length = len := by
    intro s hs
    obtain ⟨i, hi, rfl⟩ := List.mem_map.mp hs
    have hi' := List.mem_range.mp hi
    obtain ⟨h1, h2⟩ := L.shape (odsRow k ods i) (odsRow_length hl hi') (hrowU i hi')
    exact h2 _ (getD_mem (by omega))
  obtain ⟨hA1, hA2⟩ := L.shape _ (q2Row_length enc k ods r) hq2U
  obtain ⟨hB1, hB2⟩ := L.shape _ (q1Col_length enc k ods c) hq1U
  apply ext_getD 0 (hA2 _ (getD_mem (by omega))) (hB2 _ (getD_mem (by omega)))
  intro b hb
  apply L.toF_inj
  -- the original square at byte position `b`, as a matrix
  let A : Matrix (Fin k) (Fin k) L.F := fun i x => L.toF ((ods.getD (i.val * k + x.val) []).getD b 0)
  have hL := L.spec _ (q2Row_length enc k ods r) hq2U ⟨c, hc⟩ b hb
  have hR := L.spec _ (q1Col_length enc k ods c) hq1U ⟨r, hr⟩ b hb
  simp only at hL hR
  rw [hL, hR]
  -- inner sums
  have inL : ∀ x : Fin k, L.toF (((q2Row enc k ods r).getD x []).getD b 0) = (L.M * A) ⟨r, hr⟩ x := by
    intro x
    have : (q2Row enc k ods r).getD x [] = (enc (odsCol k ods x)).getD r [] := by
      simp only [q2Row, getD_map_range _ x.isLt]
    rw [this, L.spec _ (odsCol_length k ods x) (hcolU x x.isLt) ⟨r, hr⟩ b hb, Matrix.mul_apply]
    apply Finset.sum_congr rfl
    intro i _
    simp only [A]
    congr 3
    simp only [odsCol, getD_map_range _ i.isLt]
  have inR : ∀ i : Fin k, L.toF (((q1Col enc k ods c).getD i []).getD b 0) = (A * (L.M)ᵀ) i ⟨c, hc⟩ := by
    intro i
    have : (q1Col enc k ods c).getD i [] = (enc (odsRow k ods i)).getD c [] := by
      simp only [q1Col, getD_map_range _ i.isLt]
    rw [this, L.spec _ (odsRow_length hl i.isLt) (hrowU i i.isLt) ⟨c, hc⟩ b hb, Matrix.mul_apply]
    apply Finset.sum_congr rfl
    intro x _
    simp only [A, Matrix.transpose_apply]
    rw [mul_comm]
    congr 3
    rw [List.getD_eq_getElem?_getD, odsRow_getElem? x.isLt, ← List.getD_eq_getElem?_getD]
  simp only [inL, inR]
  -- (M·A)·Mᵀ = M·(A·Mᵀ)
  have hassoc := congrFun (congrFun (Matrix.mul_assoc L.M A (L.M)ᵀ) ⟨r, hr⟩) ⟨c, hc⟩
  rw [Matrix.mul_apply, Matrix.mul_apply] at hassoc
  simp only [Matrix.transpose_apply] at hassoc
  calc ∑ x : Fin k, L.M ⟨c, hc⟩ x * (L.M * A) ⟨r, hr⟩ x
      = ∑ x : Fin k, (L.M * A) ⟨r, hr⟩ x * L.M ⟨c, hc⟩ x := by
        apply Finset.sum_congr rfl; intro x _; rw [mul_comm]
    _ = ∑ j : Fin k, L.M ⟨r, hr⟩ j * (A * (L.M)ᵀ) j ⟨c, hc⟩ := hassoc

/-- **Columns through the parity half are codewords** (needs linearity) -/
theorem extCol_right_eq {enc : List Bytes → List Bytes} {k len : Nat} (L : EncLinear enc k len) (hs : EncShape enc k)
    {ods : List Bytes} (hl : ods.length = k * k) (hlen : ∀ s ∈ ods, s.length = len) {c : Nat} (hc1 : k ≤ c)
    (hc2 : c < 2 * k) : extCol enc k ods c = q1Col enc k ods (c - k) ++ enc (q1Col enc k ods (c - k)) := by
  unfold extCol
  symm
  have hnc : ¬ c < k := by omega
  apply row_cells _ _ (q1Col_length enc k ods _) (hs _ (q1Col_length enc k ods _))
  · intro r hr
    simp only [extCell, hr, hnc, ↓reduceIte]
    simp only [q1Col, getD_map_range _ hr]
  · intro r hr hr2
    have hnr : ¬ r < k := by omega
    simp only [extCell, hnr, hnc, ↓reduceIte]
    exact q3_commutes L hl hlen (by omega) (by omega)

end Lumina.Proofs.EdsLinear

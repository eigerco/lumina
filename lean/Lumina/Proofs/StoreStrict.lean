/-
  The redb store WITHOUT the precondition "only validated headers are stored", along histories.

  `stepS` (Proofs/StoreRedb.lean) is the abstract store as the redb store realises it, and the
  RedbStore model conforms to it in every state (`redb_stepS_sim`).  The state reached by `stepS`
  is always the state `AbsStore.step` reaches or the unchanged state, so the invariants of the
  abstract store (`AbsInv`, `AbsVer`) hold along every strict run as well: `redb_runS_sim` gives
  C19's conformance and C21 for the redb store unconditionally.  Along a run that only stores
  validated headers `stepS` is the specification: `redb_run_sim`.
-/
import Lumina.Proofs.StoreHist

open Lumina.Model.Store Lumina.Spec.C19
open Lumina.Model

namespace Lumina.Proofs.Store

theorem stepS_inv (v : Hdr → Hdr → Bool) (a : AbsStore) (op : Op) (hi : AbsInv a) (hwf : op.wf = true) :
    AbsInv (stepS v a op).1 := by
  rcases stepS_state v a op with e | e <;> rw [e]
  · exact abs_step_inv v a op hi hwf
  · exact hi

theorem stepS_ver {L w : Hdr → Hdr → Bool} (h : SoundFor L w) (a : AbsStore) (op : Op) (hi : AbsInv a)
    (hv : AbsVer L a) : AbsVer L (stepS w a op).1 := by
  rcases stepS_state w a op with e | e <;> rw [e]
  · exact abs_step_ver h a op hi hv
  · exact hv

theorem redb_runS_sim (v : Hdr → Hdr → Bool) (ops : List Op) (hw : AllWf ops) (t : Tables) (a : AbsStore)
    (r : Rr t a) (hi : AbsInv a) (hv : AbsVer v a) :
    (runOps (RedbStore.step v) t ops).2 = (runOps (stepS v) a ops).2 ∧
    Rr (runOps (RedbStore.step v) t ops).1 (runOps (stepS v) a ops).1 ∧
    AbsInv (runOps (stepS v) a ops).1 ∧ AbsVer v (runOps (stepS v) a ops).1 :=
  runOps_sim (R := fun t a => Rr t a ∧ AbsInv a ∧ AbsVer v a)
    (fun _ a op r hop => ⟨(redb_stepS_sim r.1 r.2.1 v op hop).1, (redb_stepS_sim r.1 r.2.1 v op hop).2,
      stepS_inv v a op r.2.1 hop, stepS_ver (SoundFor.refl v) a op r.2.1 r.2.2⟩) ops hw t a ⟨r, hi, hv⟩

theorem runS_eq_run (v : Hdr → Hdr → Bool) : ∀ (ops : List Op) (a : AbsStore), ValidRun v a ops →
    runOps (stepS v) a ops = runOps (AbsStore.step v) a ops
  | [], _, _ => rfl
  | op :: rest, a, h => by
    rw [runOps_cons, runOps_cons, stepS_eq_step v h.1 op, runS_eq_run v rest _ h.2]

theorem redb_run_sim (v : Hdr → Hdr → Bool) (ops : List Op) (hw : AllWf ops) (t : Tables) (a : AbsStore)
    (r : Rr t a) (hi : AbsInv a) (hvr : ValidRun v a ops) :
    (runOps (RedbStore.step v) t ops).2 = (runOps (AbsStore.step v) a ops).2 ∧
    Rr (runOps (RedbStore.step v) t ops).1 (runOps (AbsStore.step v) a ops).1 := by
  rw [← runS_eq_run v ops a hvr]
  exact (runOps_sim (R := fun t a => Rr t a ∧ AbsInv a)
    (fun _ a op r hop => ⟨(redb_stepS_sim r.1 r.2 v op hop).1, (redb_stepS_sim r.1 r.2 v op hop).2,
      stepS_inv v a op r.2 hop⟩) ops hw t a ⟨r, hi⟩).imp_right And.left

end Lumina.Proofs.Store

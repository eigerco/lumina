/-
  For C14: `cmp` / `le` / `ge` on byte strings decide core's lexicographic order on `List UInt8`;
  the base64 round trip, by recursion on 3-byte groups: a 64-entry table the kernel checks once and one arithmetic fact
  per group size (`sextets_one`, `_two`, `_three`);
  `from_raw` accepts exactly the byte strings the spec calls `validRaw` (`fromRaw_ok_iff`, `validRaw_length`), which
  is what the modules about blobs, shwap ids, squares, fraud proofs and round trips use of namespaces.
-/
import Lumina.Model.Namespace
import Lumina.Spec.C14

namespace Lumina.Proofs.Namespace
open Lumina.Util Lumina.Model.Namespace Lumina.Gen.C14
open Lumina.Spec.C14 (validRaw validV0 validV255)

theorem all_beq_eq_replicate (c : UInt8) (l : List UInt8) (h : l.all (fun x => x == c) = true) :
    l = List.replicate l.length c :=
  List.eq_replicate_iff.mpr ⟨rfl, by simpa using h⟩

theorem all_beq_replicate (c : UInt8) (n : Nat) : (List.replicate n c).all (fun x => x == c) = true := by
  induction n with
  | zero => simp
  | succ n ih => simp [List.replicate_succ]

theorem cmp_cases (a b : Bytes) :
    (cmp a b = .lt ∧ a < b) ∨ (cmp a b = .eq ∧ a = b) ∨ (cmp a b = .gt ∧ b < a) := by
  induction a generalizing b with
  | nil => cases b <;> simp [cmp]
  | cons x xs ih =>
    cases b with
    | nil => simp [cmp]
    | cons y ys =>
      simp only [cmp, List.cons_lt_cons_iff, List.cons.injEq]
      by_cases h1 : x < y
      · simp [h1]
      · by_cases h2 : y < x
        · simp [h1, h2]
        · obtain rfl : x = y := UInt8.le_antisymm (UInt8.not_lt.mp h2) (UInt8.not_lt.mp h1)
          simpa [h1] using ih ys

theorem le_eq (a b : Bytes) : le a b = decide (a ≤ b) := by
  rcases cmp_cases a b with ⟨h, h'⟩ | ⟨h, rfl⟩ | ⟨h, h'⟩
  · simp [le, h, List.le_of_lt h']
  · simp [le, h]
  · simp [le, h, List.not_le.mpr h']

theorem ge_eq (a b : Bytes) : ge a b = decide (b ≤ a) := by
  rcases cmp_cases a b with ⟨h, h'⟩ | ⟨h, rfl⟩ | ⟨h, h'⟩
  · simp [ge, h, List.not_le.mpr h']
  · simp [ge, h]
  · simp [ge, h, List.le_of_lt h']

theorem b64Val_b64Char : ∀ k < 64, b64Val (b64Char k) = some k ∧ b64Char k ≠ '=' := by decide +kernel

theorem b64Val_char (k : Nat) (h : k < 64) : b64Val (b64Char k) = some k := (b64Val_b64Char k h).1
theorem b64Char_ne (k : Nat) (h : k < 64) : b64Char k ≠ '=' := (b64Val_b64Char k h).2

/-! What the decoder needs of the sextets the encoder writes for a group of one, two or three bytes: they are below 64,
  the padding bits are zero, and the bytes reassembled from them are the bytes of the group. -/

theorem sextets_one (a : Nat) (ha : a < 256) :
    a / 4 < 64 ∧ a % 4 * 16 < 64 ∧ a % 4 * 16 % 16 = 0 ∧ a / 4 * 4 + a % 4 * 16 / 16 = a := by
  omega

theorem sextets_two (a b n : Nat) (ha : a < 256) (hb : b < 256) (hn : n = a * 256 + b) :
    n / 1024 < 64 ∧ n % 16 * 4 < 64 ∧ n % 16 * 4 % 4 = 0 ∧
      n / 1024 * 4 + n / 16 % 64 / 16 = a ∧ n / 16 % 64 % 16 * 16 + n % 16 * 4 / 4 = b := by
  omega

theorem sextets_three (a b c n : Nat) (ha : a < 256) (hb : b < 256) (hc : c < 256) (hn : n = a * 65536 + b * 256 + c) :
    n / 262144 < 64 ∧ n / 262144 * 4 + n / 4096 % 64 / 16 = a ∧
      n / 4096 % 64 % 16 * 16 + n / 64 % 64 / 4 = b ∧ n / 64 % 64 % 4 * 64 + n % 64 = c := by
  omega

theorem b64_roundtrip : ∀ bs : Bytes, b64Decode (b64Encode bs) = some bs
  | [] => rfl
  | [a] => by
    obtain ⟨h0, h1, hz, e0⟩ := sextets_one _ a.toNat_lt
    simp only [b64Encode, b64Decode, b64Val_char, h0, h1, hz, e0, and_self, ↓reduceIte, UInt8.ofNat_toNat]
  | [a, b] => by
    obtain ⟨h0, h2, hz, e0, e1⟩ := sextets_two _ _ _ a.toNat_lt b.toNat_lt rfl
    have m := fun k => Nat.mod_lt k (show 0 < 64 by decide)
    simp only [b64Encode, b64Decode, b64Val_char, b64Char_ne, h0, m, h2, hz, e0, e1, and_self, ↓reduceIte,
      UInt8.ofNat_toNat]
  | a :: b :: c :: rest => by
    obtain ⟨h0, e0, e1, e2⟩ := sextets_three _ _ _ _ a.toNat_lt b.toNat_lt c.toNat_lt rfl
    have m := fun k => Nat.mod_lt k (show 0 < 64 by decide)
    simp only [b64Encode, b64Decode, b64Val_char, b64Char_ne, h0, m, e0, e1, e2, and_false, ↓reduceIte,
      UInt8.ofNat_toNat, b64_roundtrip rest]

theorem newV0_of_length (id : Bytes) (h : id.length = 28) :
    newV0 id = if (id.take 18).all (fun x => x == 0) then .ok (0 :: id) else .error .invalidV0 := by
  unfold newV0
  simp only [NS_ID_SIZE, NS_ID_V0_SIZE, NS_SIZE, h, ↓reduceIte, bne, ← List.not_all_eq_any_not]
  by_cases hz : (id.take 18).all (fun x => x == 0) = true
  · simp only [hz, Bool.not_true, Bool.false_eq_true, ↓reduceIte]
    have h1 := all_beq_eq_replicate 0 _ hz
    have hl : (id.take 18).length = 18 := by simp [h]
    rw [hl] at h1
    have : id = id.take 18 ++ id.drop 18 := (List.take_append_drop 18 id).symm
    congr 1
    conv => rhs; rw [this, h1]
    simp [h, List.replicate_succ]
  · simp [hz]

theorem newV255_of_length (id : Bytes) (h : id.length = 28) :
    newV255 id = if (id.take 27).all (fun x => x == 255) then .ok (255 :: id) else .error .invalidV255 := by
  unfold newV255
  have hne : id ≠ [] := by intro e; simp [e] at h
  have hlast : id.getLast? = some (id.getLast hne) := List.getLast?_eq_some_getLast hne
  have hdl : id.dropLast = id.take 27 := by rw [List.dropLast_eq_take, h]
  simp only [NS_ID_SIZE, h, ne_eq, not_true_eq_false, ↓reduceIte, hlast, hdl]
  by_cases hz : (id.take 27).all (fun x => x == 255) = true
  · simp only [hz, ↓reduceIte]
    have h1 := all_beq_eq_replicate 255 _ hz
    have hl : (id.take 27).length = 27 := by simp [h]
    rw [hl] at h1
    congr 1
    have hid : id = id.take 27 ++ [id.getLast hne] := by
      rw [← hdl]; exact (List.dropLast_concat_getLast hne).symm
    conv => rhs; rw [hid, h1]
    simp [constV255, NS_SIZE, NS_ID_SIZE, List.replicate_succ]
  · simp [hz]

theorem fromRaw_ok_iff {bs n : Bytes} : fromRaw bs = .ok n ↔ validRaw bs = true ∧ n = bs := by
  unfold fromRaw
  by_cases hl : bs.length = 29
  · cases bs with
    | nil => simp at hl
    | cons v id =>
      have hid : id.length = 28 := by simpa using hl
      simp only [NS_SIZE, hl, ne_eq, not_true_eq_false, ↓reduceIte, new]
      by_cases hv0 : v = 0
      · subst hv0
        rw [if_pos rfl, newV0_of_length id hid]
        by_cases hz : (id.take 18).all (fun x => x == 0) = true
        · simp [hz, validRaw, validV0, hid, eq_comm]
        · simp [hz, validRaw, validV0, validV255, hid]
      · by_cases hv255 : v = 255
        · subst hv255
          rw [if_neg (by decide), if_pos rfl, newV255_of_length id hid]
          by_cases hz : (id.take 27).all (fun x => x == 255) = true
          · simp [hz, validRaw, validV255, hid, eq_comm]
          · simp [hz, validRaw, validV0, validV255, hid]
        · simp [hv0, hv255, validRaw, validV0, validV255]
  · simp [NS_SIZE, hl, validRaw, validV0, validV255]

theorem fromRaw_error {bs : Bytes} (h : validRaw bs = false) : ∃ e, fromRaw bs = .error e := by
  cases hr : fromRaw bs with
  | ok n => rw [(fromRaw_ok_iff.mp hr).1] at h; cases h
  | error e => exact ⟨e, rfl⟩

theorem validRaw_length {bs : Bytes} (h : validRaw bs = true) : bs.length = 29 := by
  simp only [validRaw, validV0, validV255, Bool.or_eq_true, Bool.and_eq_true, beq_iff_eq] at h
  rcases h with h | h <;> exact h.1.1

theorem length_of_fromRaw {ns : Ns} (h : fromRaw ns = .ok ns) : ns.length = NS_SIZE :=
  validRaw_length (fromRaw_ok_iff.mp h).1

theorem serde_roundtrip (ns : Ns) (h : fromRaw ns = .ok ns) : deserialize (serialize ns) = some ns := by
  have hl := length_of_fromRaw h
  simp only [deserialize, serialize, b64_roundtrip, h, hl]
  rfl

end Lumina.Proofs.Namespace

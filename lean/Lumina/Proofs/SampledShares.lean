/-
  Glue for the C33 × C10 composition ("a block marked sampled really had its shares checked"):

  * `sampleCid h p`          : the CID `P2p::get_sample(row, col, height)` asks bitswap for (`sample_cid`);
  * `sampleId_of_mh`         : the sample identifier a multihash denotes is unique — if the multihash of the identifier
                               parsed from a block's own CID equals the multihash of the requested CID, the block's
                               identifier is the requested (height, row, column) (`u64` height, `u16` coordinates);
  * `accepted_block_is_committed_share` : C10 `mh_sample_sound` re-targeted from "the block's own CID" to "the requested
                               CID" through `sampleId_of_mh`; the hash is assumed collision-free only RELATIVE TO a set `S`
                               containing the inputs hashed for the stored squares and for the accepted block
                               (`StoreCommits`, `sampleBlockInputs`): collision-freeness over ALL byte strings cannot
                               hold of a 32-byte hash.
-/
import Lumina.Props.C10
import Lumina.Proofs.BigEndian
import Lumina.Proofs.ShwapSoundRows

namespace Lumina.Proofs.SampledShares
open Lumina.Util Lumina.Model.Nmt Lumina.Model.Eds Lumina.Model.ShwapId Lumina.Model.Decoders Lumina.Model.ShwapHasher
open Lumina.Proofs.BigEndian Lumina.Gen.C15 Lumina.Proofs.Nmt

/-- `sample_cid(row, col, height)` of `node/src/p2p/shwap.rs`: the CID of `SampleId::new(row, col, height)` -/
def sampleCid (h : Nat) (p : Nat × Nat) : Cid := (SampleId.mk ⟨⟨h⟩, p.1⟩ p.2).toCid

theorem sampleId_encode_length (id : SampleId) : id.encode.length = 12 := by
  simp [SampleId.encode, RowId.encode, EdsId.encode, be_length]

theorem rowId_decode_bounds {buf : Bytes} {r : RowId} (h : RowId.decode buf = .ok r) :
    r.eds.height < 256 ^ 8 ∧ r.index < 256 ^ 2 := by
  unfold RowId.decode at h
  split at h; · cases h
  split at h; · cases h
  rename_i eds he
  cases h
  refine ⟨?_, ofBe_take_lt _ 2⟩
  unfold EdsId.decode at he
  split at he; · cases he
  unfold EdsId.new at he
  split at he; · cases he
  cases he
  exact ofBe_take_lt buf 8

theorem sampleId_decode_bounds {buf : Bytes} {id : SampleId} (h : SampleId.decode buf = .ok id) :
    id.row.eds.height < 256 ^ 8 ∧ id.row.index < 256 ^ 2 ∧ id.column < 256 ^ 2 := by
  unfold SampleId.decode at h
  split at h; · cases h
  split at h; · cases h
  rename_i r hr
  cases h
  exact ⟨(rowId_decode_bounds hr).1, (rowId_decode_bounds hr).2, ofBe_take_lt _ 2⟩

/-- **the identifier a sample multihash denotes is unique** -/
theorem sampleId_of_mh {cid : Cid} {id : SampleId} (hid : SampleId.ofCid cid = .ok id) {h : Nat} {p : Nat × Nat}
    (hh : h < 2 ^ 64) (hr : p.1 < 2 ^ 16) (hc : p.2 < 2 ^ 16)
    (e : mhBytes id.toCid = mhBytes (sampleCid h p)) : id = ⟨⟨⟨h⟩, p.1⟩, p.2⟩ := by
  have hb := sampleId_decode_bounds (Lumina.Proofs.ShwapSound.ofCid_ok hid)
  -- equal multihash bytes: equal digests
  have hl1 := sampleId_encode_length id
  have hl2 := sampleId_encode_length ⟨⟨⟨h⟩, p.1⟩, p.2⟩
  simp only [mhBytes, sampleCid, SampleId.toCid, hl1, hl2] at e
  have e' : id.encode = (SampleId.mk ⟨⟨h⟩, p.1⟩ p.2).encode := List.append_cancel_left e
  simp only [SampleId.encode, RowId.encode, EdsId.encode] at e'
  obtain ⟨e1, e2⟩ := List.append_inj e' (by simp [be_length])
  obtain ⟨e3, e4⟩ := List.append_inj e1 (by simp [be_length])
  have k1 := be_inj hb.1 (by simpa using hh) e3
  have k2 := be_inj hb.2.1 (by simpa using hr) e4
  have k3 := be_inj hb.2.2 (by simpa using hc) e2
  obtain ⟨⟨⟨hh'⟩, ri⟩, ci⟩ := id
  simp only at k1 k2 k3
  subst k1; subst k2; subst k3
  rfl

/-- the byte strings hashed when the multihasher verifies this block as a SAMPLE block: the leaf preimage and the
    `hash_nodes` calls of the range-proof check of the decoded sample (`[]` when it does not decode: nothing is hashed) -/
def sampleBlockInputs (H : HashFn) (P : Params) (blk : Bytes) : List Bytes :=
  match Lumina.Proofs.ShwapSound.decodedSample P blk with
  | some (_, s) => Lumina.Proofs.Sample.sampleInputs H s
  | none => []

/-- every header a store holds commits (through its DAH) to the square `sq` of its height, and the byte strings hashed
    for that square's row and column trees belong to `S` (the set the hash is assumed collision-free on) -/
def StoreCommits (H : HashFn) (S : Bytes → Prop) (sq : Nat → Eds) (kk : Nat → Nat) (store : Nat → Option Dah) : Prop :=
  ∀ h d, store h = some d → Dah.ofEds H (sq h) = .ok d ∧ (sq h).width = 2 ^ kk h ∧
    (∀ sh ∈ (sq h).shares, NS_SIZE ≤ sh.data.length) ∧ ∀ y ∈ Lumina.Proofs.Eds.edsInputs H (sq h), S y

/-- the data of a block is the committed share at `(p.1, p.2)` of the square of height `h` -/
def CarriesCommittedShare (P : Params) (sq : Nat → Eds) (h : Nat) (p : Nat × Nat) (blk : Bytes) : Prop :=
  ∃ cidB cont raw smp sh, P.decodeBlock blk = some (cidB, cont) ∧ P.decodeSample cont = some raw ∧
    sampleFromRaw p.1 p.2 raw = .ok smp ∧ (sq h).share? p.1 p.2 = some sh ∧ sh.data = smp.share.data

theorem decodedSample_eq {P : Params} {blk cidB cont : Bytes} {cid : Cid} {id : SampleId} {raw : RawSample}
    {s : Lumina.Model.Sample.Sample} (h1 : P.decodeBlock blk = some (cidB, cont)) (h2 : Cid.read cidB = some cid)
    (h3 : SampleId.ofCid cid = .ok id) (h4 : P.decodeSample cont = some raw)
    (h5 : sampleFromRaw id.row.index id.column raw = .ok s) :
    Lumina.Proofs.ShwapSound.decodedSample P blk = some (id, s) := by
  simp only [Lumina.Proofs.ShwapSound.decodedSample, h1, h2, h3, h4, h5]

/-- C10 `mh_sample_sound`, for the REQUESTED CID: a block for which the multihasher yields the multihash of
    `sample_cid(p.1, p.2, h)` carries the committed share at `(p.1, p.2)` of the square of height `h`.  Hash hypothesis:
    32-byte output and no collision among `S` ⊇ the inputs hashed for the stored squares
    (`StoreCommits`) and by the verification of this block (`sampleBlockInputs`). -/
theorem accepted_block_is_committed_share {H : HashFn} {S : Bytes → Prop} (hk : HashOKOn H S) (P : Params)
    {store : Nat → Option Dah} {sq : Nat → Eds} {kk : Nat → Nat} (hstore : StoreCommits H S sq kk store) {h : Nat}
    {p : Nat × Nat} (hh : h < 2 ^ 64) (hr : p.1 < 2 ^ 16) (hc : p.2 < 2 ^ 16) {blk : Bytes}
    (hok : multihash H P store SAMPLE_ID_MULTIHASH_CODE blk = .ok (mhBytes (sampleCid h p)))
    (hV : ∀ y ∈ sampleBlockInputs H P blk, S y) :
    CarriesCommittedShare P sq h p blk := by
  obtain ⟨cidB, cont, cid, id, raw, smp, h1, h2, h3, h4, h5, h6, sh, h7, h8⟩ :=
    Lumina.Props.C10.mh_sample_sound hk P store sq kk hstore blk _
      (fun id s hd y hy => hV y (by simp only [sampleBlockInputs, hd]; exact hy)) hok
  have hid := sampleId_of_mh h3 hh hr hc h6.symm
  subst hid
  exact ⟨cidB, cont, raw, smp, sh, h1, h4, h5, h7, h8⟩

end Lumina.Proofs.SampledShares

/-
  `BlockRanges::check_insertion_constraints` (C18): complete case analysis on `Inv` values.
-/
import Lumina.Proofs.Ranges

namespace Lumina.Proofs.Ranges
open Lumina.Model.Ranges hiding Inv

open Lumina.Model.Ranges renaming Inv → RInv

attribute [local simp] ok_bind err_bind map_ok map_err pure_eq throw_eq

/-- the candidate range shares a height with the stored set -/
def Overlap (rs : Ranges) (r : Range) : Prop := ∃ h, mem rs h ∧ r.1 ≤ h ∧ h ≤ r.2

/-- nothing stored, or the candidate lies entirely above the highest stored height -/
def AboveHead (rs : Ranges) (r : Range) : Prop := ∀ h, mem rs h → h < r.1

theorem checkInsertionConstraints_invalid {rs : Ranges} {r : Range} (h : Range.valid r = false) :
    checkInsertionConstraints rs r = .error (.invalid r) := by
  simp only [checkInsertionConstraints, validate_err h, err_bind]

theorem mem_mid {L M R : Ranges} {r : Range}
    (hL : ∀ x ∈ L, x.2 + 1 < r.1) (hR : ∀ x ∈ R, r.2 + 1 < x.1) {h : Nat}
    (hh : r.1 ≤ h + 1 ∧ h ≤ r.2 + 1) : mem (L ++ M ++ R) h ↔ mem M h := by
  simp only [mem_append]
  constructor
  · rintro ((⟨x, hx, h1, h2⟩ | hm) | ⟨x, hx, h1, h2⟩)
    · have := hL x hx; omega
    · exact hm
    · have := hR x hx; omega
  · intro hm; exact Or.inl (Or.inr hm)

theorem subU64_idx (l m : Nat) (hm : 1 ≤ m) : subU64 (l + m - 1) l = .ok (m - 1) := by
  unfold subU64
  rw [if_pos (by omega)]
  congr 1
  omega

theorem overlap_of_meets {M : Ranges} {a r : Range} (ha : a ∈ M) (hva : a.1 ≤ a.2) (hvr : r.1 ≤ r.2)
    (h : a.1 ≤ r.2 ∧ r.1 ≤ a.2) : Overlap M r :=
  ⟨max a.1 r.1, ⟨a, ha, by omega, by omega⟩, by omega, by omega⟩

/-- a single touching range that does not meet `r` ends just below it or starts just above it -/
theorem touch_one {a r : Range} (hva : ValidR a) (hvr : ValidR r)
    (ht : r.1 ≤ a.2 + 1 ∧ a.1 ≤ r.2 + 1) (hno : ¬ (a.1 ≤ r.2 ∧ r.1 ≤ a.2)) :
    ¬ Overlap [a] r ∧ (a.2 < r.1 → mem [a] (r.1 - 1) ∧ ¬ mem [a] (r.2 + 1)) ∧
      (¬ a.2 < r.1 → ¬ mem [a] (r.1 - 1) ∧ mem [a] (r.2 + 1)) := by
  have ⟨_, _, _⟩ := hva
  have ⟨_, _, _⟩ := hvr
  simp only [Overlap, mem_singleton]
  refine ⟨?_, ?_, ?_⟩ <;> omega

/-- two touching ranges with a gap between them: `r` fills the gap exactly, or meets one of them -/
theorem touch_two {a m r : Range} (hva : ValidR a) (hvm : ValidR m) (hvr : ValidR r)
    (hgap : a.2 + 1 < m.1) (hta : r.1 ≤ a.2 + 1 ∧ a.1 ≤ r.2 + 1) (htm : r.1 ≤ m.2 + 1 ∧ m.1 ≤ r.2 + 1) :
    ((a.2 + 1 = r.1 ∨ r.2 + 1 = a.1) ∧ (m.2 + 1 = r.1 ∨ r.2 + 1 = m.1) →
      ¬ Overlap [a, m] r ∧ mem [a, m] (r.1 - 1) ∧ mem [a, m] (r.2 + 1)) ∧
    (¬ ((a.2 + 1 = r.1 ∨ r.2 + 1 = a.1) ∧ (m.2 + 1 = r.1 ∨ r.2 + 1 = m.1)) → Overlap [a, m] r) := by
  have ⟨_, _, _⟩ := hva
  have ⟨_, _, _⟩ := hvm
  have ⟨_, _, _⟩ := hvr
  refine ⟨fun h => ?_, fun h => ?_⟩
  · simp only [Overlap, mem_cons, mem_nil, or_false]
    refine ⟨?_, ?_, ?_⟩ <;> omega
  · by_cases c : a.1 ≤ r.2 ∧ r.1 ≤ a.2
    · exact overlap_of_meets (a := a) (by simp) ‹_› ‹_› c
    · exact overlap_of_meets (a := m) (by simp) ‹_› ‹_› (by omega)

/-- complete case analysis of `check_insertion_constraints` on an `Inv` value and a valid range:
    exactly one of *admitted* (with the two flags), *overlap*, *no adjacent neighbour*. -/
theorem checkInsertionConstraints_cases {rs : Ranges} {r : Range} (hi : RInv rs) (hv : ValidR r) :
    (checkInsertionConstraints rs r = .ok (memB rs (r.1 - 1), memB rs (r.2 + 1)) ∧
        ¬ Overlap rs r ∧ (AboveHead rs r ∨ mem rs (r.1 - 1) ∨ mem rs (r.2 + 1))) ∨
    ((∃ o, checkInsertionConstraints rs r = .error (.overlap r o)) ∧ Overlap rs r) ∨
    (checkInsertionConstraints rs r = .error (.noAdjacent r) ∧
        ¬ Overlap rs r ∧ ¬ AboveHead rs r ∧ ¬ mem rs (r.1 - 1) ∧ ¬ mem rs (r.2 + 1)) := by
  have hvr := hv
  unfold ValidR at hvr
  have hvalid := hv.valid
  rcases List.eq_nil_or_concat rs with rfl | ⟨ys, hd, rfl⟩
  · -- empty store
    left
    refine ⟨by simp [checkInsertionConstraints, validate_ok hvalid, memB], ?_, Or.inl ?_⟩
    · rintro ⟨h, hm, _⟩; exact mem_nil h hm
    · intro h hm; exact absurd hm (mem_nil h)
  · simp only [List.concat_eq_append] at hi ⊢
    have hlast : (ys ++ [hd]).getLast? = some hd := List.getLast?_concat
    have hvhd := inv_validR hi (r := hd) (by simp)
    obtain ⟨hhdmem, hmax⟩ := head_spec hi (x := hd.2) (by simp [head])
    by_cases habove : hd.2 < r.1
    · -- a new head range
      left
      have hN : memB (ys ++ [hd]) (r.2 + 1) = false := by
        rw [memB_eq_false_iff]; intro hm; have := hmax _ hm; omega
      have hP : memB (ys ++ [hd]) (r.1 - 1) = Range.adjacent hd r := by
        rw [Bool.eq_iff_iff, memB_iff_mem, adjacent_iff hvhd.valid hvalid]
        unfold ValidR at hvhd
        constructor
        · intro hm
          have := hmax _ hm
          left
          -- `r.1 - 1 ≤ hd.2 < r.1`, so `r.1 - 1 = hd.2`
          omega
        · intro hadj
          have : r.1 - 1 = hd.2 := by omega
          rw [this]; exact hhdmem
      refine ⟨?_, ?_, Or.inl ?_⟩
      · simp [checkInsertionConstraints, validate_ok hvalid, hlast, isLeftOf_ok hvhd.valid hvalid,
          habove, isAdjacent_ok hvhd.valid hvalid, hN, hP]
      · rintro ⟨h, hm, h1, _⟩; have := hmax _ hm; omega
      · intro h hm; have := hmax _ hm; omega
    · -- not above the head: the affected block decides
      have hnotabove : ¬ AboveHead (ys ++ [hd]) r := fun ha => by
        have := ha _ hhdmem; omega
      obtain ⟨L, M, R, hrs, hL, hM, hR, hfind⟩ := find_decomp hi hv
      -- name the outcome: the case analysis below then evaluates the code once, not once per
      -- disjunct of the goal
      generalize hres : checkInsertionConstraints (ys ++ [hd]) r = res
      simp only [checkInsertionConstraints, validate_ok hvalid, ok_bind, hlast,
        isLeftOf_ok hvhd.valid hvalid, habove, decide_false, Bool.false_eq_true, ↓reduceIte,
        hfind] at hres
      rw [hrs] at hres
      rw [hrs] at hi hnotabove ⊢
      clear hfind hlast hmax hhdmem hrs
      have hmidP : mem (L ++ M ++ R) (r.1 - 1) ↔ mem M (r.1 - 1) := mem_mid hL hR (by omega)
      have hmidN : mem (L ++ M ++ R) (r.2 + 1) ↔ mem M (r.2 + 1) := mem_mid hL hR (by omega)
      have hmidO : Overlap (L ++ M ++ R) r ↔ ∃ h, mem M h ∧ r.1 ≤ h ∧ h ≤ r.2 := by
        constructor
        · rintro ⟨h, hm, h1, h2⟩; exact ⟨h, (mem_mid hL hR (by omega)).1 hm, h1, h2⟩
        · rintro ⟨h, hm, h1, h2⟩; exact ⟨h, (mem_mid hL hR (by omega)).2 hm, h1, h2⟩
      by_cases hMnil : M = []
      · -- nothing touches
        subst hMnil
        simp only [↓reduceIte] at hres
        subst hres
        right; right
        refine ⟨rfl, ?_, hnotabove, ?_, ?_⟩
        · rw [hmidO]; rintro ⟨h, hm, _⟩; exact mem_nil h hm
        · rw [hmidP]; exact mem_nil _
        · rw [hmidN]; exact mem_nil _
      · obtain ⟨a, b, M', M'', ha, hb, ga, gb, gt, gd⟩ := decomp_surgery L M R hMnil
        obtain ⟨haM, hbM, hMb, hLi, hMi, hRi, cLM, cLR, cMR⟩ := block_facts hi ha hb
        have hva := inv_validR hMi haM
        have hvb := inv_validR hMi hbM
        have hta := touches_iff.1 (hM a haM)
        have htb := touches_iff.1 (hM b hbM)
        have hlen : 1 ≤ M.length := by rw [ha]; simp
        simp only [hMnil, ↓reduceIte, ga, gb, subU64_idx _ _ hlen, ok_bind,
          isOverlapping_ok hva.valid hvalid, isLeftOf_ok hva.valid hvalid,
          isAdjacent_ok hva.valid hvalid, isAdjacent_ok hvb.valid hvalid] at hres
        have hbl : M.getLast? = some b := by rw [hb]; simp
        have hPb : memB (L ++ M ++ R) (r.1 - 1) = memB M (r.1 - 1) := by
          rw [Bool.eq_iff_iff, memB_iff_mem, memB_iff_mem]; exact hmidP
        have hNb : memB (L ++ M ++ R) (r.2 + 1) = memB M (r.2 + 1) := by
          rw [Bool.eq_iff_iff, memB_iff_mem, memB_iff_mem]; exact hmidN
        rw [hPb, hNb, hmidO, hmidP, hmidN]
        clear hPb hNb hmidO hmidP hmidN hnotabove gt gd ga gb
        have hova := overlapping_iff hva.valid hvalid
        have hadja := adjacent_iff hva.valid hvalid
        have hadjb := adjacent_iff hvb.valid hvalid
        subst ha
        cases M' with
        | nil =>
          -- one affected range
          simp only [List.getLast?_singleton, Option.some.injEq] at hbl
          subst hbl
          simp only [List.length_cons, List.length_nil, Nat.zero_add, Nat.sub_self, beq_self_eq_true,
            ↓reduceIte] at hres
          by_cases ho : Range.overlapping a r = true
          · simp only [ho, ↓reduceIte, throw_eq] at hres
            exact Or.inr (Or.inl ⟨⟨_, hres.symm⟩, overlap_of_meets haM hva.2.1 hv.2.1 (hova.1 ho)⟩)
          · obtain ⟨hno, hbelow, habove'⟩ := touch_one hva hv hta fun h => ho (hova.2 h)
            left
            by_cases hl : a.2 < r.1
            · obtain ⟨hp, hn⟩ := hbelow hl
              simp only [ho, hl, Bool.false_eq_true, ↓reduceIte, decide_true, pure_eq] at hres
              exact ⟨by rw [← hres, (memB_iff_mem _ _).2 hp, (memB_eq_false_iff _ _).2 hn], hno,
                Or.inr (Or.inl hp)⟩
            · obtain ⟨hp, hn⟩ := habove' hl
              simp only [ho, hl, Bool.false_eq_true, ↓reduceIte, decide_false, pure_eq] at hres
              exact ⟨by rw [← hres, (memB_eq_false_iff _ _).2 hp, (memB_iff_mem _ _).2 hn], hno,
                Or.inr (Or.inr hn)⟩
        | cons m M2 =>
          have hgap : a.2 + 1 < m.1 := (inv_cons.1 hMi).1 m (by simp)
          have hvm := inv_validR hMi (r := m) (by simp)
          cases M2 with
          | nil =>
            -- two affected ranges
            simp only [List.getLast?_cons_cons, List.getLast?_singleton, Option.some.injEq] at hbl
            subst hbl
            simp only [List.length_cons, List.length_nil, Nat.zero_add, Nat.add_one_sub_one,
              Nat.reduceAdd, Nat.reduceBEq, Bool.false_eq_true, ↓reduceIte, beq_self_eq_true] at hres
            obtain ⟨hfill, hmeet⟩ := touch_two hva hvm hv hgap hta htb
            rw [← hadja, ← hadjb] at hfill hmeet
            by_cases hboth : Range.adjacent a r = true ∧ Range.adjacent m r = true
            · obtain ⟨hno, hp, hn⟩ := hfill hboth
              simp only [hboth.1, hboth.2, ↓reduceIte, pure_eq] at hres
              exact Or.inl ⟨by rw [← hres, (memB_iff_mem _ _).2 hp, (memB_iff_mem _ _).2 hn], hno,
                Or.inr (Or.inl hp)⟩
            · refine Or.inr (Or.inl ⟨⟨calcOverlap r a m, ?_⟩, hmeet hboth⟩)
              rw [← hres]
              rw [not_and, Bool.not_eq_true] at hboth
              by_cases c1 : Range.adjacent a r = true
              · simp [c1, hboth c1]
              · simp [c1]
          | cons x M3 =>
            -- three or more affected ranges: the second one lies inside `r`
            have hbin : b ∈ x :: M3 := by
              have : (x :: M3).getLast? = some b := by simpa using hbl
              obtain ⟨zs, hz⟩ := List.getLast?_eq_some_iff.1 this
              rw [hz]; simp
            have hmb : m.2 + 1 < b.1 := (inv_cons.1 (inv_tail hMi)).1 b hbin
            have hm12 := hvm.2.1
            exact Or.inr (Or.inl ⟨⟨calcOverlap r a b, by rw [← hres]; simp⟩,
              overlap_of_meets (by simp) hm12 hv.2.1 (by omega)⟩)

end Lumina.Proofs.Ranges

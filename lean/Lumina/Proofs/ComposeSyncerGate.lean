/-
  C25 × C38: the IDLE outcomes of the sampling-window gate in the presence of pruned heights
  (`window_gate_blocks_only_outside_window`; `boundPruned` is the branch that makes C25 hold).
  Hypothesis on pruned heights: each is outside the sampling window or has a synced height directly
  below it (what the pruner's safety condition C35 leaves behind, `ComposeSyncerPrune.PrunedHist`).

  The argument is `SyncerGate.windowGate_idle_old`, about the gate alone; the matching statement about
  the REQUEST outcome — progress with pruned heights and an armed slow-sync height —,
  `SyncerGate.gate_progress`, rests on the same lemma read the other way round.

  Core Lean only.
-/
import Lumina.Proofs.SyncerGate

namespace Lumina.Proofs.ComposeSyncerGate
open Lumina.Model.Ranges
open Lumina.Model.SyncerGate Lumina.Proofs.Ranges Lumina.Proofs.SyncerGate

/-- **The sampling-window gate, `boundPruned` branch included, costs no liveness** (either `pc`).
    In any state the worker can read — well-formed stored / pruned sets, header age monotone in the
    height, every pruned height outside the sampling window or with a synced height directly below
    it — if `fetch_next_batch` returns without a request because of the window gate
    (`boundOutsideWindow`: `get_by_height(end + 1)` is stored and outside the window;
    `boundPruned`: it is `NotFound` and `end + 1` is synced), then every height `m ≤ head`
    that is NOT synced lies outside the sampling window: nothing the window needs is withheld. -/
theorem window_gate_blocks_only_outside_window {pc : Bool} {slowMin : Nat} {i : GateIn}
    {old : Nat → Bool} {w : Idle} {H m : Nat}
    (hst : Inv i.stored) (hpr : Inv i.pruned)
    (hwin : ∀ h, i.inWindow h = !old h)
    (hmono : ∀ h1 h2, h1 ≤ h2 → old h2 = true → old h1 = true)
    (hprh : ∀ p, mem i.pruned p → old p = true ∨ mem i.stored (p - 1) ∨ mem i.pruned (p - 1))
    (h : fetchDecisionWith pc slowMin i = .ok (.idle w))
    (hw : w = .boundOutsideWindow ∨ w = .boundPruned)
    (hhead : i.head = some H) (hm2 : m ≤ H)
    (hm3 : ¬ (mem i.stored m ∨ mem i.pruned m)) : old m = true := by
  rcases decision_cases h with ⟨w', hw', h1, h2⟩ | ⟨head, synced, r, _, hh, hadd, hcalc, hne, _, hg⟩
  · cases hw'
    exact absurd hw (fun hw => hw.elim h1 h2)
  rw [hhead] at hh
  cases hh
  obtain ⟨c, hc, hci, hcm⟩ := add_spec hpr hst
  rw [hadd] at hc
  cases hc
  exact windowGate_idle_old hci hcm hcalc hne hwin hmono hprh hg.symm hm2 fun hs => hm3 ((hcm m).1 hs).symm

end Lumina.Proofs.ComposeSyncerGate

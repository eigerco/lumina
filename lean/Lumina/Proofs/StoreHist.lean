/-
  From single operations to histories: the induction over the operation list, stated once
  (`runOps_inv`, `runOps_sim`); with it the invariants of the abstract store along every run and
  the simulation of the in-memory store (`mem_run_sim`; the runs of the redb store are in
  `StoreStrict.lean`).  The history predicates `AllWf`, `ValidRun`, `AllValidated`, and what C21
  reads off a pair of related states (`redb_adjacent`, `mem_adjacent`, `*_hashIndex`).
-/
import Lumina.Proofs.StoreRedb

open Lumina.Model.Store Lumina.Spec.C19
open Lumina.Model
open Lumina.Proofs.Ranges

namespace Lumina.Proofs.Store

open Lumina.Model.Ranges renaming Inv → RInv

/-- every operation of the history is well typed (heights are `u64`) -/
def AllWf (ops : List Op) : Prop := ∀ op ∈ ops, op.wf = true

theorem rm_init : Rm MemStore.new Lumina.Spec.C19.init := by
  refine ⟨⟨?_, ?_, ?_, ?_, ?_, ?_⟩, ?_, ?_, ?_⟩ <;>
    simp [MemStore.new, Lumina.Spec.C19.init, inv_nil, Ranges.mem, AbsStore.stored,
      AbsStore.atHeight, AbsStore.byHash, AbsStore.metaOf, AMap.get]

theorem rr_init : Rr RedbStore.new Lumina.Spec.C19.init := by
  constructor <;> simp [RedbStore.new, rawRanges, Lumina.Spec.C19.init, inv_nil, Ranges.mem, AbsStore.stored,
    AbsStore.atHeight, AbsStore.byHash, AbsStore.metaOf, AMap.get]

theorem storedValid_init : StoredValid Lumina.Spec.C19.init := by
  intro x hx; simp [Lumina.Spec.C19.init] at hx

theorem absVer_init (v : Hdr → Hdr → Bool) : AbsVer v Lumina.Spec.C19.init := by
  intro x hx; simp [Lumina.Spec.C19.init] at hx

theorem abs_step_inv (v : Hdr → Hdr → Bool) (a : AbsStore) (op : Op) (hi : AbsInv a) (hwf : op.wf = true) :
    AbsInv (AbsStore.step v a op).1 := by
  cases op with
  | insert batch =>
    exact insert_inv v a batch hi (by simpa [Op.wf] using hwf)
  | remove h => exact remove_inv a h hi
  | mark h => exact mark_inv a h hi
  | updMeta h c => exact updateMeta_inv a h c hi
  | _ => exact hi

theorem abs_step_ver {L w : Hdr → Hdr → Bool} (h : SoundFor L w) (a : AbsStore) (op : Op)
    (hi : AbsInv a) (hv : AbsVer L a) : AbsVer L (AbsStore.step w a op).1 := by
  have sub := step_hdrs_subset w a op
  cases op with
  | insert batch => exact insert_ver h a batch hi hv
  | _ =>
    have sub := sub (by intro b hb; cases hb)
    exact fun x hx y hy e => hv x (sub x hx) y (sub y hy) e

theorem runOps_cons {σ : Type} (step : σ → Op → σ × Res) (s : σ) (op : Op) (rest : List Op) :
    runOps step s (op :: rest) =
      ((runOps step (step s op).1 rest).1, (step s op).2 :: (runOps step (step s op).1 rest).2) := rfl

theorem runOps_inv {σ : Type} {f : σ → Op → σ × Res} {I : σ → Prop} {P : Op → Prop}
    (hstep : ∀ s op, I s → P op → I (f s op).1) :
    ∀ (ops : List Op), (∀ op ∈ ops, P op) → ∀ s, I s → I (runOps f s ops).1
  | [], _, _, hs => hs
  | op :: rest, hp, s, hs => by
    rw [runOps_cons]
    exact runOps_inv hstep rest (fun o ho => hp o (List.mem_cons_of_mem _ ho)) _ (hstep s op hs (hp op (by simp)))

theorem runOps_sim {σ τ : Type} {f : σ → Op → σ × Res} {g : τ → Op → τ × Res} {R : σ → τ → Prop}
    {P : Op → Prop} (hstep : ∀ s t op, R s t → P op → (f s op).2 = (g t op).2 ∧ R (f s op).1 (g t op).1) :
    ∀ (ops : List Op), (∀ op ∈ ops, P op) → ∀ s t, R s t →
      (runOps f s ops).2 = (runOps g t ops).2 ∧ R (runOps f s ops).1 (runOps g t ops).1
  | [], _, _, _, r => ⟨rfl, r⟩
  | op :: rest, hp, s, t, r => by
    rw [runOps_cons, runOps_cons]
    obtain ⟨e, r'⟩ := hstep s t op r (hp op (by simp))
    obtain ⟨e2, r2⟩ := runOps_sim hstep rest (fun o ho => hp o (List.mem_cons_of_mem _ ho)) _ _ r'
    exact ⟨by rw [e, e2], r2⟩

theorem abs_run_inv (v : Hdr → Hdr → Bool) (ops : List Op) (hw : AllWf ops) (a : AbsStore)
    (hi : AbsInv a) (hv : AbsVer v a) :
    AbsInv (runOps (AbsStore.step v) a ops).1 ∧ AbsVer v (runOps (AbsStore.step v) a ops).1 :=
  runOps_inv (I := fun a => AbsInv a ∧ AbsVer v a)
    (fun a op i hop => ⟨abs_step_inv v a op i.1 hop, abs_step_ver (SoundFor.refl v) a op i.1 i.2⟩) ops hw a ⟨hi, hv⟩

theorem mem_run_sim (v : Hdr → Hdr → Bool) (ops : List Op) (hw : AllWf ops) (m : MemStore) (a : AbsStore)
    (r : Rm m a) (hi : AbsInv a) :
    (runOps (MemStore.step v) m ops).2 = (runOps (AbsStore.step v) a ops).2 ∧
    Rm (runOps (MemStore.step v) m ops).1 (runOps (AbsStore.step v) a ops).1 ∧
    AbsInv (runOps (AbsStore.step v) a ops).1 :=
  runOps_sim (R := fun m a => Rm m a ∧ AbsInv a)
    (fun _ a op r hop => ⟨(mem_step_sim r.1 r.2 v op hop).1, (mem_step_sim r.1 r.2 v op hop).2.1,
      abs_step_inv v a op r.2 hop⟩) ops hw m a ⟨r, hi⟩

/-- precondition of the redb store along a run: no unvalidated header is ever stored -/
def ValidRun (v : Hdr → Hdr → Bool) : AbsStore → List Op → Prop
  | a, [] => StoredValid a
  | a, op :: rest => StoredValid a ∧ ValidRun v (AbsStore.step v a op).1 rest

theorem ValidRun.head {v : Hdr → Hdr → Bool} {a : AbsStore} {ops : List Op} (h : ValidRun v a ops) :
    StoredValid a := by
  cases ops with
  | nil => exact h
  | cons _ _ => exact h.1

/-- all headers handed to `insert` are validated -/
def AllValidated (ops : List Op) : Prop := ∀ op ∈ ops, op.validated = true

theorem abs_step_storedValid (v : Hdr → Hdr → Bool) (a : AbsStore) (op : Op) (hs : StoredValid a)
    (hb : op.validated = true) :
    StoredValid (AbsStore.step v a op).1 := by
  intro x hx
  rcases step_hdrs_cases v a op x hx with h | ⟨b, rfl, h⟩
  · exact hs x h
  · simp only [Op.validated, List.all_eq_true] at hb; exact hb x h

theorem validRun_of_validated (v : Hdr → Hdr → Bool) (ops : List Op) (hv : AllValidated ops) (a : AbsStore)
    (hs : StoredValid a) : ValidRun v a ops := by
  induction ops generalizing a with
  | nil => exact hs
  | cons op rest ih =>
    refine ⟨hs, ih (fun o ho => hv o (List.mem_cons_of_mem _ ho)) _ ?_⟩
    exact abs_step_storedValid v a op hs (hv op (by simp))

theorem nodupB_of_nodup {α : Type} [DecidableEq α] (l : List α) (h : l.Nodup) : nodupB l = true := by
  induction l with
  | nil => rfl
  | cons a rest ih =>
    simp only [List.nodup_cons] at h
    simp [nodupB, h.1, ih h.2]

theorem invOK_of_absInv (a : AbsStore) (hi : AbsInv a) : invOK a = true := by
  unfold invOK
  simp only [Bool.and_eq_true, List.all_eq_true, decide_eq_true_eq, Bool.not_eq_true']
  refine ⟨⟨⟨⟨⟨nodupB_of_nodup _ hi.nodupH, nodupB_of_nodup _ hi.nodupQ⟩, fun x hx => (hi.bounds x hx).1⟩,
    hi.sampled⟩, hi.pruned⟩, hi.metas⟩

theorem placement_not_panic (a : AbsStore) (lo hi : Nat) (e : Err)
    (h : AbsStore.placement a lo hi = .error e) : e ≠ .panic := by
  unfold AbsStore.placement at h
  split at h
  · cases h; simp
  · dsimp only at h
    split at h
    · cases h; simp
    · split at h <;> cases h; simp

theorem insertCheck_not_panic (v : Hdr → Hdr → Bool) (a : AbsStore) (batch : List Hdr) (e : Err)
    (h : AbsStore.insertCheck v a batch = .error e) : e ≠ .panic := by
  unfold AbsStore.insertCheck at h
  split at h
  · split at h
    · cases h; simp
    · split at h
      · rename_i hp; cases h; exact placement_not_panic a _ _ _ hp
      · split at h
        · cases h; simp
        · split at h <;> cases h; simp
  · cases h

theorem abs_never_panics (v : Hdr → Hdr → Bool) (a : AbsStore) (op : Op) :
    (AbsStore.step v a op).2 ≠ .err .panic := by
  cases op with
  | insert batch =>
    simp only [AbsStore.step, AbsStore.insert]
    cases hc : AbsStore.insertCheck v a batch with
    | ok o => cases o <;> simp
    | error e =>
      simp only
      intro he
      injection he with he
      exact insertCheck_not_panic v a batch e hc he
  | remove h => simp only [AbsStore.step, AbsStore.remove]; split <;> simp
  | mark h => simp only [AbsStore.step, AbsStore.mark]; split <;> simp
  | updMeta h c => simp only [AbsStore.step, AbsStore.updateMeta]; split <;> simp
  | getByHeight h => simp only [AbsStore.step]; cases a.atHeight h <;> simp [AbsStore.optHdr]
  | hasAt h => simp [AbsStore.step]
  | getByHash q => simp only [AbsStore.step]; cases a.byHash q <;> simp [AbsStore.optHdr]
  | has q => simp [AbsStore.step]
  | getMeta h => simp only [AbsStore.step]; split <;> simp
  | head =>
    simp only [AbsStore.step]
    cases a.headHeight with
    | none => simp
    | some h => simp only; cases a.atHeight h <;> simp [AbsStore.optHdr]
  | headHeight => simp only [AbsStore.step]; cases a.headHeight <;> simp
  | getRange lo hi =>
    simp only [AbsStore.step, AbsStore.getRange]
    repeat' split
    all_goals simp
  | storedRanges => simp [AbsStore.step]
  | sampledRanges => simp [AbsStore.step]
  | prunedRanges => simp [AbsStore.step]


theorem redb_getByHeight_ok {t : Tables} {a : AbsStore} (r : Rr t a) (hi : AbsInv a) {h : Nat} {x : Hdr}
    (hx : RedbStore.getByHeight t h = .ok x) : (x ∈ a.hdrs ∧ x.height = h) ∧ x.valid = true := by
  unfold RedbStore.getByHeight at hx
  rw [redb_getHeaderS r] at hx
  cases ha : a.atHeight h with
  | none => rw [ha] at hx; cases hx
  | some x' =>
    rw [ha] at hx
    simp only [readBack] at hx
    split at hx
    · rename_i hval; cases hx; exact ⟨(atHeight_some hi h _).1 ha, hval⟩
    · cases hx

theorem mem_getByHeight_ok {m : MemStore} {a : AbsStore} (r : Rm m a) (hi : AbsInv a) {h : Nat} {x : Hdr}
    (hx : m.getByHeight h = .ok x) : x ∈ a.hdrs ∧ x.height = h := by
  rw [mem_getByHeight r hi] at hx
  cases ha : a.atHeight h with
  | none => rw [ha] at hx; cases hx
  | some x' => rw [ha] at hx; cases hx; exact (atHeight_some hi h _).1 ha

theorem AbsVer.pair {L : Hdr → Hdr → Bool} {a : AbsStore} (hv : AbsVer L a) {h : Nat} {x y : Hdr}
    (hx : x ∈ a.hdrs ∧ x.height = h) (hy : y ∈ a.hdrs ∧ y.height = h + 1) :
    L x y = true ∧ verifyAdjacent L x y = true := by
  have := hv x hx.1 y hy.1 (by omega)
  exact ⟨this, by simp [verifyAdjacent, this, hx.2, hy.2]⟩

/-- C21 on a pair (redb tables, abstract state) in the relation -/
theorem redb_adjacent {t : Tables} {a : AbsStore} (r : Rr t a) (hi : AbsInv a) {L : Hdr → Hdr → Bool}
    (hv : AbsVer L a) {h : Nat} {x y : Hdr}
    (hx : RedbStore.getByHeight t h = .ok x) (hy : RedbStore.getByHeight t (h + 1) = .ok y) :
    L x y = true ∧ verifyAdjacent L x y = true :=
  hv.pair (redb_getByHeight_ok r hi hx).1 (redb_getByHeight_ok r hi hy).1

theorem redb_hashIndex {t : Tables} {a : AbsStore} (r : Rr t a) (hi : AbsInv a) (h : Nat) (x : Hdr)
    (hx : RedbStore.getByHeight t h = .ok x) :
    x.height = h ∧ RedbStore.getByHash t x.hash = .ok x ∧ RedbStore.containsHash t x.hash = true := by
  obtain ⟨⟨hm, rfl⟩, hval⟩ := redb_getByHeight_ok r hi hx
  have hg := r.heights_get hi hm
  have hh : AMap.get t.headers x.height = some x := by rw [r.hdrT, (atHeight_some hi _ x).2 ⟨hm, rfl⟩]
  refine ⟨rfl, ?_, ?_⟩
  · simp [RedbStore.getByHash, RedbStore.getHeight, hg, ok_bind, RedbStore.getHeader, hh,
      RedbStore.decodeHeader, hval]
  · simp [RedbStore.containsHash, RedbStore.getHeight, hg, contains_eq, hh]

/-- C21 on a pair (in-memory state, abstract state) in the relation -/
theorem mem_adjacent {m : MemStore} {a : AbsStore} (r : Rm m a) (hi : AbsInv a) {L : Hdr → Hdr → Bool}
    (hv : AbsVer L a) {h : Nat} {x y : Hdr}
    (hx : m.getByHeight h = .ok x) (hy : m.getByHeight (h + 1) = .ok y) :
    L x y = true ∧ verifyAdjacent L x y = true :=
  hv.pair (mem_getByHeight_ok r hi hx) (mem_getByHeight_ok r hi hy)

theorem mem_hashIndex {m : MemStore} {a : AbsStore} (r : Rm m a) (hi : AbsInv a) (h : Nat) (x : Hdr)
    (hx : m.getByHeight h = .ok x) :
    x.height = h ∧ m.getByHash x.hash = .ok x ∧ m.containsHash x.hash = true := by
  obtain ⟨hm, rfl⟩ := mem_getByHeight_ok r hi hx
  have hb := (byHash_some hi x.hash x).2 ⟨hm, rfl⟩
  refine ⟨rfl, ?_, ?_⟩
  · simp only [MemStore.getByHash]; rw [r.hdr, hb]
  · simp only [MemStore.containsHash, contains_eq]; rw [r.hdr, hb]; rfl

theorem mem_appendDedup (acc l : List Cid) (c : Cid) : c ∈ appendDedup acc l ↔ c ∈ acc ∨ c ∈ l := by
  induction l generalizing acc with
  | nil => simp [appendDedup]
  | cons a rest ih =>
    simp only [appendDedup]
    split
    · rename_i h
      rw [ih]
      simp only [List.contains_eq_mem, decide_eq_true_eq] at h
      constructor
      · rintro (h1 | h1); exact Or.inl h1; exact Or.inr (List.mem_cons_of_mem _ h1)
      · rintro (h1 | h1)
        · exact Or.inl h1
        · rcases List.mem_cons.1 h1 with e | e
          · subst e; exact Or.inl h
          · exact Or.inr e
    · rw [ih]
      simp only [List.mem_append, List.mem_cons, List.not_mem_nil, or_false]
      exact or_assoc

end Lumina.Proofs.Store

/-
  Best-head selection (C31): `sortDesc` is an insertion sort by descending (height, votes) key, so what
  `bestHead` returns satisfies `Rule` (`bestHead_rule`); `Rule` gives the decidable spec (`spec_of_rule`), does not
  depend on the order of the answers (`rule_perm`) and determines height and "seen twice" (`rule_unique`).
-/
import Lumina.Model.HeadSelect
import Lumina.Spec.C31
import Lumina.Proofs.InsertSort

namespace Lumina.Proofs.HeadSelect
open Lumina.Util Lumina.Model.HeadSelect Lumina.Proofs.InsertSort

def toSpec (h : Hdr) : Lumina.Spec.C31.Hdr := { height := h.height, hash := h.hash }

theorem keyLt_iff (rs : List Hdr) (a b : Hdr) :
    keyLt rs a b = true ↔ a.height < b.height ∨ (a.height = b.height ∧ votes rs a < votes rs b) := by
  simp [keyLt]

theorem keyLt_false_iff (rs : List Hdr) (a b : Hdr) :
    keyLt rs a b = false ↔ b.height < a.height ∨ (a.height = b.height ∧ votes rs b ≤ votes rs a) := by
  rw [← Bool.not_eq_true, keyLt_iff]
  omega

/-- sorted by descending key: nothing later has a strictly greater key -/
def Sorted (rs : List Hdr) (l : List Hdr) : Prop := l.Pairwise (fun a b => keyLt rs a b = false)

/-- `x` goes in front of the first element with a strictly smaller key -/
theorem insertDesc_isInsert (rs : List Hdr) :
    IsInsert (fun x y => keyLt rs y x = true) Never (insertDesc rs) :=
  ⟨fun _ => rfl, fun _ _ _ => rfl⟩

theorem sortDesc_perm (rs : List Hdr) : (sortDesc rs).Perm rs := by
  simpa [sortDesc] using (insertDesc_isInsert rs).foldl_perm rs []

theorem sortDesc_sorted (rs : List Hdr) : Sorted rs (sortDesc rs) :=
  (insertDesc_isInsert rs).foldl_sorted (S := fun a b => keyLt rs a b = false)
    (fun x y h => by rw [keyLt_iff] at h; rw [keyLt_false_iff]; omega)
    (fun x y h _ => by simpa using h)
    (fun a b c h1 h2 => by rw [keyLt_false_iff] at *; omega) rs [] .nil

theorem sorted_head (rs : List Hdr) (h : Hdr) (t : List Hdr) (hs : Sorted rs (h :: t)) :
    ∀ x ∈ h :: t, x.height ≤ h.height := by
  intro x hx
  rcases List.mem_cons.mp hx with rfl | hx
  · exact Nat.le_refl _
  · have := (List.pairwise_cons.mp hs).1 x hx
    rw [keyLt_false_iff] at this
    omega

open Lumina.Spec.C31 (specBestHead)

/-- the rule, on the model's own types: nothing only when nothing was reported; otherwise a reported header that is
    the highest among those seen twice if there is one, the highest of all if not -/
def Rule (rs : List Hdr) : Option Hdr → Prop
  | none => rs = []
  | some h =>
    h ∈ rs ∧
    ((∃ x ∈ rs, votes rs x ≥ 2) → votes rs h ≥ 2 ∧ ∀ x ∈ rs, votes rs x ≥ 2 → x.height ≤ h.height) ∧
    ((¬ ∃ x ∈ rs, votes rs x ≥ 2) → ∀ x ∈ rs, x.height ≤ h.height)

theorem bestHead_none {as : List Ans} (h : valid as = []) : bestHead as = none := by
  simp [bestHead, h]

theorem bestHead_rule (as : List Ans) : Rule (valid as) (bestHead as) := by
  unfold bestHead
  generalize valid as = rs
  cases rs with
  | nil => rfl
  | cons a t =>
    simp only [List.isEmpty_cons, Bool.false_eq_true, ↓reduceIte]
    have hp := sortDesc_perm (a :: t)
    have hsd := sortDesc_sorted (a :: t)
    generalize sortDesc (a :: t) = sorted at hp hsd
    cases hf : sorted.find? (fun r => decide (votes (a :: t) r ≥ MIN_HEAD_RESPONSES)) with
    | some w =>
      obtain ⟨hpw, pre, post, hsplit, hpre⟩ := List.find?_eq_some_iff_append.mp hf
      have hw2 : votes (a :: t) w ≥ 2 := by simpa [MIN_HEAD_RESPONSES] using hpw
      have hwmem : w ∈ a :: t := hp.mem_iff.mp (by rw [hsplit]; simp)
      refine ⟨hwmem, fun _ => ⟨hw2, ?_⟩, fun hno => absurd ⟨w, hwmem, hw2⟩ hno⟩
      intro x hx hx2
      have hxs : x ∈ sorted := hp.mem_iff.mpr hx
      rw [hsplit] at hxs hsd
      rcases List.mem_append.mp hxs with hxpre | hxpost
      · exact absurd hx2 (Nat.not_le.mpr (by simpa [MIN_HEAD_RESPONSES] using hpre x hxpre))
      · have hs2 : Sorted (a :: t) (w :: post) := (List.pairwise_append.mp hsd).2.1
        exact sorted_head (a :: t) w post hs2 x hxpost
    | none =>
      cases sorted with
      | nil => cases hp.symm.eq_nil
      | cons s ss =>
        have hnone := List.find?_eq_none.mp hf
        have hsmem : s ∈ a :: t := hp.mem_iff.mp (by simp)
        refine ⟨hsmem, fun ⟨x, hx, hx2⟩ => ?_, fun _ x hx => ?_⟩
        · exact absurd (decide_eq_true hx2) (hnone x (hp.mem_iff.mpr hx))
        · exact sorted_head (a :: t) s ss hsd x (hp.mem_iff.mpr hx)

theorem votes_map (rs : List Hdr) (h : Hdr) :
    Lumina.Spec.C31.votes (rs.map toSpec) (toSpec h) = votes rs h := by
  unfold Lumina.Spec.C31.votes votes
  rw [List.countP_map]
  rfl

theorem toSpec_injective : Function.Injective toSpec := by
  intro a b h
  cases a; cases b
  simp [toSpec] at h
  simp [h]

theorem spec_of_rule (rs : List Hdr) (o : Option Hdr) (hr : Rule rs o) :
    specBestHead (rs.map toSpec) (o.map toSpec) = true := by
  rcases o with _ | h
  · cases hr; rfl
  obtain ⟨hmem, h2, hno⟩ := hr
  rw [Option.map_some]
  unfold specBestHead
  simp only [Bool.and_eq_true, List.contains_eq_mem, decide_eq_true_eq]
  refine ⟨List.mem_map_of_mem hmem, ?_⟩
  by_cases hex : ∃ x ∈ rs, votes rs x ≥ 2
  · have hany : (rs.map toSpec).any (fun x => decide (Lumina.Spec.C31.votes (rs.map toSpec) x ≥ 2)) = true := by
      obtain ⟨x, hx, hx2⟩ := hex
      rw [List.any_eq_true]
      exact ⟨toSpec x, List.mem_map_of_mem hx, by rw [votes_map]; exact decide_eq_true hx2⟩
    rw [if_pos hany]
    obtain ⟨hv, hall⟩ := h2 hex
    simp only [Bool.and_eq_true, decide_eq_true_eq, List.all_eq_true, List.mem_map]
    refine ⟨by rw [votes_map]; exact hv, ?_⟩
    rintro x' ⟨x, hx, rfl⟩
    rw [votes_map]
    intro hx2
    exact hall x hx hx2
  · have hany : ¬ (rs.map toSpec).any (fun x => decide (Lumina.Spec.C31.votes (rs.map toSpec) x ≥ 2)) = true := by
      rw [List.any_eq_true]
      rintro ⟨x', hx', hv⟩
      obtain ⟨x, hx, rfl⟩ := List.mem_map.mp hx'
      rw [votes_map] at hv
      exact hex ⟨x, hx, of_decide_eq_true hv⟩
    rw [if_neg hany]
    simp only [List.all_eq_true, List.mem_map, decide_eq_true_eq]
    rintro x' ⟨x, hx, rfl⟩
    exact hno hex x hx

theorem rule_perm (rs rs' : List Hdr) (hp : rs.Perm rs') (o : Option Hdr) (hr : Rule rs o) : Rule rs' o := by
  rcases o with _ | h
  · cases hr; exact hp.symm.eq_nil
  have hv : ∀ x, votes rs x = votes rs' x := fun x => hp.countP_eq _
  obtain ⟨hmem, h2, hno⟩ := hr
  refine ⟨hp.mem_iff.mp hmem, ?_, ?_⟩
  · rintro ⟨x, hx, hx2⟩
    obtain ⟨a, b⟩ := h2 ⟨x, hp.mem_iff.mpr hx, by rw [hv]; exact hx2⟩
    exact ⟨by rw [← hv]; exact a, fun y hy hy2 => b y (hp.mem_iff.mpr hy) (by rw [hv]; exact hy2)⟩
  · intro hne y hy
    exact hno (fun ⟨x, hx, hx2⟩ => hne ⟨x, hp.mem_iff.mp hx, by rw [← hv]; exact hx2⟩) y (hp.mem_iff.mpr hy)

theorem rule_unique (rs : List Hdr) : ∀ a b : Option Hdr, Rule rs a → Rule rs b →
    match a, b with
    | some a, some b => a.height = b.height ∧ (votes rs a ≥ 2 ↔ votes rs b ≥ 2)
    | none, none => True
    | _, _ => False
  | none, none, _, _ => trivial
  | none, some b, ha, hb => by cases ha; cases hb.1
  | some a, none, ha, hb => by cases hb; cases ha.1
  | some a, some b, ⟨am, a2, an⟩, ⟨bm, b2, bn⟩ => by
    by_cases hex : ∃ x ∈ rs, votes rs x ≥ 2
    · obtain ⟨av, aall⟩ := a2 hex
      obtain ⟨bv, ball⟩ := b2 hex
      exact ⟨Nat.le_antisymm (ball a am av) (aall b bm bv), iff_of_true av bv⟩
    · exact ⟨Nat.le_antisymm (bn hex a am) (an hex b bm),
        fun h => absurd ⟨a, am, h⟩ hex, fun h => absurd ⟨b, bm, h⟩ hex⟩

theorem valid_perm (as as' : List Ans) (hp : as.Perm as') : (valid as).Perm (valid as') :=
  hp.filterMap _

end Lumina.Proofs.HeadSelect

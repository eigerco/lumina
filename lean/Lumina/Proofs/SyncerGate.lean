/-
  Lemmas about the syncer's fetch decision (`Lumina/Model/SyncerGate.lean`) for C25 / C38:
  shape of `calculate_range_to_fetch` on an `Inv` value (`calc_cases`, `calc_total`), the one
  inversion of the decision (`decision_cases`) and what it says of a scheduled request
  (`request_cases`), when the window gate says "nothing" (`windowGate_idle_old`), the C25 checker,
  preservation of the range invariants by the transition
  system of that model (`Good`, `step_good`: the `State` / `Op` / `step` C25's histories run on,
  not the worker of `Model/SyncerLoop.lean`), totality, and progress (`gate_progress`).

  Core Lean only.
-/
import Lumina.Model.SyncerGate
import Lumina.Proofs.Ranges
import Lumina.Proofs.RangesConstraints
import Lumina.Spec.C25
import Lumina.Proofs.RangesTrunc
import Lumina.Proofs.FetchRange

namespace Lumina.Proofs.SyncerGate
open Lumina.Model.Ranges
open Lumina.Model.SyncerGate Lumina.Model.FetchRange Lumina.Proofs.Ranges
open Lumina.Proofs.FetchRange (calc_eq)

theorem range_tailn_facts (r : Range) (l : Nat) (hne : Range.isEmpty (Range.tailn r l) = false) :
    (Range.tailn r l).1 = r.1 ∧ (Range.tailn r l).2 ≤ r.2 := by
  unfold Range.tailn at hne ⊢
  by_cases hc : Range.isEmpty r = true
  · rw [if_pos hc] at hne; simp [Range.isEmpty] at hne
  · rw [if_neg hc] at hne ⊢
    cases hm : checkedSub l 1 with
    | none => rw [hm] at hne; simp [Range.isEmpty] at hne
    | some v => exact ⟨rfl, Nat.min_le_left _ _⟩

theorem range_headn_facts (r : Range) (l : Nat) (hne : Range.isEmpty (Range.headn r l) = false) :
    (Range.headn r l).2 = r.2 ∧ r.1 ≤ (Range.headn r l).1 := by
  unfold Range.headn at hne ⊢
  by_cases hc : Range.isEmpty r = true
  · rw [if_pos hc] at hne; simp [Range.isEmpty] at hne
  · rw [if_neg hc] at hne ⊢
    cases hm : checkedAdd (satSub r.2 l) 1 with
    | none => rw [hm] at hne; simp [Range.isEmpty] at hne
    | some v => exact ⟨rfl, Nat.le_max_left _ _⟩

/-- a non-empty result of `calculate_range_to_fetch` on a well-formed `synced` value either lies
    above every synced height (and not above the head), or ends just below a synced height -/
theorem calc_cases {head limit : Nat} {synced : Ranges} {r : Range} (hi : Inv synced)
    (h : calculateRangeToFetch head synced limit = .ok r) (hne : Range.isEmpty r = false) :
    1 ≤ r.1 ∧ r.1 ≤ r.2 ∧
      (((∀ x, mem synced x → x < r.1) ∧ r.2 ≤ head ∧ (synced = [] ∨ mem synced (r.1 - 1))) ∨
        (mem synced (r.2 + 1) ∧ (∀ x, r.2 < x → x ≤ head → mem synced x) ∧
          ∀ x, r.1 ≤ x → x ≤ r.2 → ¬ mem synced x)) := by
  have hle : r.1 ≤ r.2 := by simpa [Range.isEmpty] using hne
  rcases calc_eq hi head limit with ⟨_, _, e⟩ | ⟨t, e, hmax, ht⟩ | ⟨lo, pen, e, _, hlo, hfill, hgap, _⟩
  · rw [e] at h
    cases h
  · -- behind the head: the batch starts right above everything synced
    rw [e] at h
    cases h
    obtain ⟨h1, h2⟩ := range_tailn_facts _ _ hne
    simp only [] at h1 h2
    refine ⟨by omega, hle, Or.inl ⟨fun x hx => by have := hmax x hx; omega, h2, ?_⟩⟩
    rw [h1]
    exact ht.imp And.left And.left
  · -- caught up: the batch ends right below the highest synced range, inside the gap under it
    rw [e] at h
    cases h
    obtain ⟨h1, h2⟩ := range_headn_facts _ _ hne
    simp only [] at h1 h2
    have h3 : (Range.headn (pen + 1, lo - 1) limit).2 + 1 = lo := by omega
    rw [h3]
    exact ⟨by omega, hle, Or.inr ⟨hlo, fun x hx1 hx2 => hfill x (by omega) hx2,
      fun x hx1 hx2 hm => by have := hgap x hm; omega⟩⟩

theorem calc_end_lt {head limit : Nat} {synced : Ranges} {r : Range} (hi : Inv synced)
    (h : calculateRangeToFetch head synced limit = .ok r) (hne : Range.isEmpty r = false)
    (hh : head < U64_MAX) : r.2 + 1 ≤ U64_MAX := by
  obtain ⟨_, _, hshape⟩ := calc_cases hi h hne
  rcases hshape with ⟨_, h2, _⟩ | ⟨hm, _⟩
  · omega
  · exact (mem_bounds hi hm).2

/-- every outcome of the decision other than the five early exits is the verdict of the
    sampling-window gate on `end + 1` -/
theorem decision_cases {pc : Bool} {slowMin : Nat} {i : GateIn} {d : Decision}
    (h : fetchDecisionWith pc slowMin i = .ok d) :
    (∃ w, d = .idle w ∧ w ≠ .boundOutsideWindow ∧ w ≠ .boundPruned) ∨
    ∃ head synced r, i.ongoing = false ∧ i.head = some head ∧ add i.pruned i.stored = .ok synced ∧
      calculateRangeToFetch head synced i.batchSize = .ok r ∧ Range.isEmpty r = false ∧
      r.2 + 1 ≤ U64_MAX ∧ d = windowGate pc i synced r (r.2 + 1) := by
  unfold fetchDecisionWith at h
  split at h
  · cases h; exact Or.inl ⟨_, rfl, nofun, nofun⟩
  rename_i hong
  split at h
  · cases h; exact Or.inl ⟨_, rfl, nofun, nofun⟩
  split at h
  · cases h; exact Or.inl ⟨_, rfl, nofun, nofun⟩
  rename_i head hhead
  split at h
  · cases h
  rename_i synced hadd
  split at h
  · cases h
  rename_i nb hcalc
  split at h
  · cases h; exact Or.inl ⟨_, rfl, nofun, nofun⟩
  rename_i hne
  split at h
  · cases h
  · cases h; exact Or.inl ⟨_, rfl, nofun, nofun⟩
  split at h
  · cases h
  rename_i bound hb
  unfold addU64 at hb
  split at hb
  · rename_i hle
    cases hb; cases h
    exact Or.inr ⟨head, synced, nb, by simpa using hong, hhead, hadd, hcalc, by simpa using hne, hle, rfl⟩
  · cases hb

theorem windowGate_request {pc : Bool} {i : GateIn} {synced : Ranges} {nb r : Range} {b : Nat}
    (h : windowGate pc i synced nb b = .request r) :
    r = nb ∧ ((contains i.stored b = true ∧ i.inWindow b = true) ∨
      (contains i.stored b = false ∧ (pc && contains synced b) = false)) := by
  unfold windowGate at h
  split at h
  · rename_i hst
    split at h
    · rename_i hw; cases h; exact ⟨rfl, Or.inl ⟨hst, hw⟩⟩
    · cases h
  · rename_i hst
    split at h
    · cases h
    · rename_i hp; cases h; exact ⟨rfl, Or.inr ⟨by simpa using hst, by simpa using hp⟩⟩

theorem windowGate_idle {pc : Bool} {i : GateIn} {synced : Ranges} {nb : Range} {b : Nat} {w : Idle}
    (h : windowGate pc i synced nb b = .idle w) :
    (w = .boundOutsideWindow ∧ contains i.stored b = true ∧ i.inWindow b = false) ∨
    (w = .boundPruned ∧ contains i.stored b = false ∧ pc = true ∧ contains synced b = true) := by
  unfold windowGate at h
  split at h
  · rename_i hst
    split at h
    · cases h
    · rename_i hw; cases h; exact Or.inl ⟨rfl, hst, by simpa using hw⟩
  · rename_i hst
    split at h
    · rename_i hp
      cases h
      simp only [Bool.and_eq_true] at hp
      exact Or.inr ⟨rfl, by simpa using hst, hp.1, hp.2⟩
    · cases h

/-- the two shapes of `calc_cases` once the window gate has looked at `end + 1` (either value of
    `pc`), in terms of the synced set `pruned + stored` -/
theorem request_cases {pc : Bool} {slowMin : Nat} {i : GateIn} {r : Range}
    (hst : Inv i.stored) (hpr : Inv i.pruned)
    (h : fetchDecisionWith pc slowMin i = .ok (.request r)) :
    ∃ head synced, i.ongoing = false ∧ i.head = some head ∧
      (∀ x, mem synced x ↔ mem i.pruned x ∨ mem i.stored x) ∧
      1 ≤ r.1 ∧ r.1 ≤ r.2 ∧ r.2 + 1 ≤ U64_MAX ∧ (∀ x, r.1 ≤ x → x ≤ r.2 → ¬ mem synced x) ∧
      (((∀ x, mem synced x → x < r.1) ∧ r.2 ≤ head ∧ ((∀ x, ¬ mem synced x) ∨ mem synced (r.1 - 1))) ∨
       (mem synced (r.2 + 1) ∧ (∀ x, r.2 < x → x ≤ head → mem synced x) ∧
         ((mem i.stored (r.2 + 1) ∧ i.inWindow (r.2 + 1) = true) ∨
          (¬ mem i.stored (r.2 + 1) ∧ pc = false)))) := by
  rcases decision_cases h with ⟨w, hw, _⟩ | ⟨head, synced, nb, hong, hhead, hadd, hcalc, hne, hle, hg⟩
  · cases hw
  obtain ⟨rfl, hgate⟩ := windowGate_request hg.symm
  obtain ⟨c, hc, hci, hcm⟩ := add_spec hpr hst
  rw [hadd] at hc
  cases hc
  obtain ⟨h1, h2, hshape⟩ := calc_cases hci hcalc hne
  refine ⟨head, synced, hong, hhead, hcm, h1, h2, hle, ?_, ?_⟩
  · rcases hshape with ⟨habove, _, _⟩ | ⟨_, _, hgap⟩
    · intro x hx1 _ hm
      have := habove x hm
      omega
    · exact hgap
  · rcases hshape with ⟨habove, hr2, htop⟩ | ⟨hbound, hfill, _⟩
    · exact Or.inl ⟨habove, hr2, htop.imp (fun e x => by rw [e]; exact mem_nil x) id⟩
    · refine Or.inr ⟨hbound, hfill, ?_⟩
      rcases hgate with ⟨hcs, hw⟩ | ⟨hns, hnp⟩
      · exact Or.inl ⟨(contains_iff_mem _ _).1 hcs, hw⟩
      · refine Or.inr ⟨fun hm => ?_, ?_⟩
        · rw [(contains_iff_mem _ _).2 hm] at hns; cases hns
        · rw [(contains_iff_mem _ _).2 hbound, Bool.and_true] at hnp; exact hnp

/-- the window gate says "nothing" only when no unsynced height up to the head is inside the sampling
    window: the bound `end + 1` is then synced, so the batch ends right below it and every unsynced
    height up to the head lies under the bound, which is old — stored and outside the window, or
    pruned with the unsynced `end` directly below it -/
theorem windowGate_idle_old {pc : Bool} {i : GateIn} {old : Nat → Bool} {synced : Ranges} {r : Range}
    {w : Idle} {head limit m : Nat}
    (hci : Inv synced) (hcm : ∀ x, mem synced x ↔ mem i.pruned x ∨ mem i.stored x)
    (hcalc : calculateRangeToFetch head synced limit = .ok r) (hne : Range.isEmpty r = false)
    (hwin : ∀ h, i.inWindow h = !old h)
    (hmono : ∀ h1 h2, h1 ≤ h2 → old h2 = true → old h1 = true)
    (hprh : ∀ p, mem i.pruned p → old p = true ∨ mem i.stored (p - 1) ∨ mem i.pruned (p - 1))
    (hg : windowGate pc i synced r (r.2 + 1) = .idle w) (hm2 : m ≤ head) (hm3 : ¬ mem synced m) :
    old m = true := by
  obtain ⟨_, _, hshape⟩ := calc_cases hci hcalc hne
  have hcase := windowGate_idle hg
  have hboundSynced : mem synced (r.2 + 1) := by
    rcases hcase with ⟨_, hcs, _⟩ | ⟨_, _, _, hcs⟩
    · exact (hcm _).2 (Or.inr ((contains_iff_mem _ _).1 hcs))
    · exact (contains_iff_mem _ _).1 hcs
  rcases hshape with ⟨habove, _, _⟩ | ⟨_, hfill, hgap⟩
  · -- forward batch: the bound is above everything synced, so the gate cannot have fired
    have := habove _ hboundSynced
    omega
  · have hmb : m ≤ r.2 := Nat.le_of_not_lt fun hlt => hm3 (hfill m hlt hm2)
    have hbold : old (r.2 + 1) = true := by
      rcases hcase with ⟨_, _, hiw⟩ | ⟨_, hns, _, _⟩
      · rw [hwin] at hiw; simpa using hiw
      · -- the bound is synced and not stored: it was pruned; the height below it is not synced
        have hp : mem i.pruned (r.2 + 1) := by
          rcases (hcm _).1 hboundSynced with hp | hs
          · exact hp
          · rw [(contains_iff_mem _ _).2 hs] at hns; cases hns
        have hr2 : ¬ mem synced r.2 := hgap r.2 (by omega) (Nat.le_refl _)
        rcases hprh _ hp with ho | hs | hp'
        · exact ho
        · exact absurd ((hcm _).2 (Or.inr hs)) hr2
        · exact absurd ((hcm _).2 (Or.inl hp')) hr2
    exact hmono m (r.2 + 1) (by omega) hbold

open Lumina.Spec.C25 in
theorem noOld_iff {v : Lumina.Spec.C25.View} {b : Nat} :
    noOldSyncedAbove v b = true ↔
      ∀ x, (mem v.stored x ∨ mem v.pruned x) → b < x → v.old x = false := by
  simp only [noOldSyncedAbove, List.all_eq_true, List.mem_append, Bool.not_eq_true', above,
    List.mem_range'_1]
  constructor
  · rintro h x (⟨r, hr, h1, h2⟩ | ⟨r, hr, h1, h2⟩) hb
    · exact h r (Or.inl hr) x (by omega)
    · exact h r (Or.inr hr) x (by omega)
  · intro h r hr x hx
    exact h x (hr.imp (fun hr => ⟨r, hr, by omega, by omega⟩) (fun hr => ⟨r, hr, by omega, by omega⟩))
      (by omega)

open Lumina.Spec.C25 in
/-- core of C25, for either value of `pc`: a scheduled request never lies below a synced
    header that is older than the sampling window — at `pc = false` (the Rust code without the
    pruned-bound check) only when the height just above the batch is stored or was never synced -/
theorem fetch_request_spec_gen {pc : Bool} {slowMin : Nat} {i : GateIn} {old : Nat → Bool} {r : Range}
    (hst : Inv i.stored) (hpr : Inv i.pruned)
    (hwin : ∀ h, mem i.stored h → i.inWindow h = true → old h = false)
    (hmono : ∀ h1 h2, h1 ≤ h2 → (mem i.stored h1 ∨ mem i.pruned h1) →
      (mem i.stored h2 ∨ mem i.pruned h2) → old h2 = true → old h1 = true)
    (h : fetchDecisionWith pc slowMin i = .ok (.request r))
    (hpc : pc = true ∨ mem i.stored (r.2 + 1) ∨ ¬ (mem i.stored (r.2 + 1) ∨ mem i.pruned (r.2 + 1))) :
    specFetch ⟨i.stored, i.pruned, old⟩ (.request r.1 r.2) = true := by
  obtain ⟨head, synced, _, _, hcm, h1, h2, _, _, hshape⟩ := request_cases hst hpr h
  simp only [specFetch, Bool.and_eq_true, decide_eq_true_eq]
  refine ⟨⟨h1, h2⟩, noOld_iff.2 fun x hx hbx => ?_⟩
  show old x = false
  rcases hshape with ⟨habove, _, _⟩ | ⟨hbound, _, hgate⟩
  · -- the batch lies above everything synced
    have := habove x ((hcm x).2 hx.symm)
    omega
  · -- the batch ends right below the synced height `r.2 + 1`, which is not old
    have hbs : mem i.stored (r.2 + 1) ∨ mem i.pruned (r.2 + 1) := ((hcm _).1 hbound).symm
    have hbold : old (r.2 + 1) = false := by
      rcases hgate with ⟨hm, hw⟩ | ⟨hns, rfl⟩
      · exact hwin _ hm hw
      · rcases hpc with hpc | hm | hn
        · cases hpc
        · exact absurd hm hns
        · exact absurd hbs hn
    cases hox : old x with
    | false => rfl
    | true => rw [hmono (r.2 + 1) x (by omega) hbs hx hox] at hbold; cases hbold

open Lumina.Spec.C25 in
/-- `fetch_request_spec_gen` at `pc = true`, the Rust code with the pruned-bound check: no side condition -/
theorem fetch_request_spec {slowMin : Nat} {i : GateIn} {old : Nat → Bool} {r : Range}
    (hst : Inv i.stored) (hpr : Inv i.pruned)
    (hwin : ∀ h, mem i.stored h → i.inWindow h = true → old h = false)
    (hmono : ∀ h1 h2, h1 ≤ h2 → (mem i.stored h1 ∨ mem i.pruned h1) →
      (mem i.stored h2 ∨ mem i.pruned h2) → old h2 = true → old h1 = true)
    (h : fetchDecision slowMin i = .ok (.request r)) :
    specFetch ⟨i.stored, i.pruned, old⟩ (.request r.1 r.2) = true :=
  fetch_request_spec_gen hst hpr hwin hmono h (Or.inl rfl)

structure Good (s : State) : Prop where
  stored : Inv s.stored
  pruned : Inv s.pruned
  sampled : Inv s.sampled
  ongoing : ∀ r, s.ongoing = some r → r.2 ≤ U64_MAX
  head : ∀ h, s.head = some h → h < U64_MAX

/-- the `u64` typing of the operation's argument -/
def OpWf : Op → Prop
  | .insert r => r.2 ≤ U64_MAX
  | .setHead h => h < U64_MAX
  | _ => True

theorem storeInsert_good {s s' : State} {r : Range} (hg : Good s) (hr : r.2 ≤ U64_MAX)
    (h : storeInsert s r = some s') : Good s' := by
  unfold storeInsert at h
  split at h
  · cases h
  rename_i x hck
  by_cases hv : Range.valid r = true
  · have hvr : ValidR r := ⟨((valid_iff r).1 hv).1, ((valid_iff r).1 hv).2, hr⟩
    obtain ⟨st, e1, i1, _⟩ := insertRelaxed_spec hg.stored hvr
    obtain ⟨sa, e2, i2, _⟩ := removeRelaxed_spec hg.sampled hvr
    obtain ⟨pr, e3, i3, _⟩ := removeRelaxed_spec hg.pruned hvr
    rw [e1, e2, e3] at h
    cases h
    exact ⟨i1, i3, i2, hg.ongoing, hg.head⟩
  · rw [checkInsertionConstraints_invalid (by simpa using hv)] at hck
    cases hck

theorem point_valid {rs : Ranges} {h : Nat} (hi : Inv rs) (hc : contains rs h = true) : ValidR (h, h) :=
  have := mem_bounds hi ((contains_iff_mem _ _).1 hc)
  validR_single this.1 this.2

theorem storeRemove_good {s s' : State} {h : Nat} (hg : Good s)
    (he : storeRemove s h = some s') : Good s' := by
  unfold storeRemove at he
  split at he
  · cases he
  rename_i hc
  have hvr := point_valid hg.stored (by simpa using hc)
  obtain ⟨st, e1, i1, _⟩ := removeRelaxed_spec hg.stored hvr
  obtain ⟨sa, e2, i2, _⟩ := removeRelaxed_spec hg.sampled hvr
  obtain ⟨pr, e3, i3, _⟩ := insertRelaxed_spec hg.pruned hvr
  rw [e1, e2, e3] at he
  cases he
  exact ⟨i1, i3, i2, hg.ongoing, hg.head⟩

theorem storeMark_good {s s' : State} {h : Nat} (hg : Good s)
    (he : storeMark s h = some s') : Good s' := by
  unfold storeMark at he
  split at he
  · cases he
  rename_i hc
  obtain ⟨sa, e2, i2, _⟩ := insertRelaxed_spec hg.sampled (point_valid hg.stored (by simpa using hc))
  rw [e2] at he
  cases he
  exact ⟨hg.stored, hg.pruned, i2, hg.ongoing, hg.head⟩

theorem step_good {slowMin : Nat} {c : Chain} {s : State} {op : Op} (hg : Good s) (hw : OpWf op) :
    Good (step slowMin c s op).1 := by
  have hidle : ∀ {sl : Option Nat}, Good { s with ongoing := none, slowSync := sl } :=
    ⟨hg.stored, hg.pruned, hg.sampled, nofun, hg.head⟩
  cases op with
  | insert r =>
    simp only [step]
    split
    · rename_i s' h; exact storeInsert_good hg hw h
    · exact hg
  | prune h =>
    simp only [step]
    split
    · rename_i s' he; exact storeRemove_good hg he
    · exact hg
  | sample h =>
    simp only [step]
    split
    · rename_i s' he; exact storeMark_good hg he
    · exact hg
  | setHead h =>
    have hnew : Good { s with head := some h } :=
      ⟨hg.stored, hg.pruned, hg.sampled, hg.ongoing, fun x hx => by cases hx; exact hw⟩
    simp only [step, setHead]
    split
    · split
      · exact hg
      · exact hnew
    · exact hnew
  | setSlow h => exact ⟨hg.stored, hg.pruned, hg.sampled, hg.ongoing, hg.head⟩
  | setPeers n => exact ⟨hg.stored, hg.pruned, hg.sampled, hg.ongoing, hg.head⟩
  | setBatch n => exact ⟨hg.stored, hg.pruned, hg.sampled, hg.ongoing, hg.head⟩
  | fetch keep =>
    simp only [step]
    split
    · exact hg
    · rename_i r hd
      split
      · obtain ⟨_, _, _, _, _, _, _, hle, _⟩ := request_cases hg.stored hg.pruned hd
        exact ⟨hg.stored, hg.pruned, hg.sampled, fun r' hr' => by cases hr'; omega, hg.head⟩
      · exact hg
    · exact hg
  | cancel => exact hidle (sl := s.slowSync)
  | deliver ok =>
    simp only [step]
    split
    · exact hg
    · rename_i r hon
      split
      · exact hidle (sl := s.slowSync)
      · split
        · rename_i s' h; exact storeInsert_good hidle (hg.ongoing r hon) h
        · exact hidle

theorem calc_total {head limit : Nat} {synced : Ranges} (hi : Inv synced) (hh : head ≤ U64_MAX) :
    ∃ r, calculateRangeToFetch head synced limit = .ok r ∧
      ∀ m, 1 ≤ limit → 1 ≤ m → m ≤ head → ¬ mem synced m → Range.isEmpty r = false := by
  rcases calc_eq hi head limit with ⟨_, _⟩ | ⟨t, e, _, ht⟩ | ⟨lo, pen, e, hlo, _, hfill, _, hpen⟩
  · omega
  · refine ⟨_, e, fun m hl _ _ _ => ?_⟩
    obtain ⟨k, rfl⟩ : ∃ k, limit = k + 1 := ⟨limit - 1, by omega⟩
    obtain ⟨_, rfl, hv, _⟩ := rangeTailn_cut (x := (t + 1, head)) ⟨by simp, by simp only []; omega, hh⟩ k
    simpa [Range.isEmpty] using hv.2.1
  · refine ⟨_, e, fun m hl hm1 hm2 hm3 => ?_⟩
    have : m < lo := Nat.lt_of_not_le fun hc => hm3 (hfill m hc hm2)
    obtain ⟨k, rfl⟩ : ∃ k, limit = k + 1 := ⟨limit - 1, by omega⟩
    obtain ⟨_, rfl, hv, _⟩ := rangeHeadn_cut (x := (pen + 1, lo - 1)) ⟨by simp, by simp only []; omega, by simp only []; omega⟩ k
    simpa [Range.isEmpty] using hv.2.1

theorem fetch_total {pc : Bool} {slowMin : Nat} {i : GateIn}
    (hst : Inv i.stored) (hpr : Inv i.pruned) (hsa : Inv i.sampled)
    (hhead : ∀ h, i.head = some h → h < U64_MAX) :
    ∃ d, fetchDecisionWith pc slowMin i = .ok d := by
  unfold fetchDecisionWith
  split
  · exact ⟨_, rfl⟩
  split
  · exact ⟨_, rfl⟩
  split
  · exact ⟨_, rfl⟩
  rename_i head hhd
  have hh := hhead head hhd
  obtain ⟨synced, hadd, hci, hcm⟩ := add_spec hpr hst
  rw [hadd]
  obtain ⟨nb, hcalc, _⟩ := calc_total (limit := i.batchSize) hci (Nat.le_of_lt hh)
  simp only []
  rw [hcalc]
  simp only []
  split
  · exact ⟨_, rfl⟩
  rename_i hne
  have hslow : ∃ b, slowSyncStop slowMin i nb = .ok b := by
    unfold slowSyncStop
    obtain ⟨u, hu, hui, _⟩ := sub_spec hst hsa
    simp only [hu, len_spec hui]
    split <;> (try split) <;> exact ⟨_, rfl⟩
  obtain ⟨b, hb⟩ := hslow
  rw [hb]
  cases b with
  | true => exact ⟨_, rfl⟩
  | false =>
    simp only []
    have hle := calc_end_lt hci hcalc (by simpa using hne) hh
    simp only [addU64, hle, ↓reduceIte]
    exact ⟨_, rfl⟩

theorem not_old_of_le {old : Nat → Bool} (hmono : ∀ h1 h2, h1 ≤ h2 → old h2 = true → old h1 = true)
    {x y : Nat} (hxy : x ≤ y) (hx : old x = false) : old y = false := by
  cases ho : old y with
  | false => rfl
  | true => rw [hmono x y hxy ho] at hx; cases hx

/-- **Progress of the fetch decision** (either value of `pc`).  Pruned heights and an armed
    slow-sync height are outside the sampling window, and with slow-sync armed some stored height is
    inside: if a height `1 ≤ m ≤ head` inside the window is not stored, a request is scheduled. -/
theorem gate_progress {pc : Bool} {slowMin : Nat} {i : GateIn} {old : Nat → Bool} {H m : Nat}
    (hst : Inv i.stored) (hpr : Inv i.pruned) (hong : i.ongoing = false)
    (hpeers : i.connectedPeers ≠ 0) (hhead : i.head = some H) (hH : H < U64_MAX)
    (hbs : 1 ≤ i.batchSize)
    (hwin : ∀ h, i.inWindow h = !old h)
    (hmono : ∀ h1 h2, h1 ≤ h2 → old h2 = true → old h1 = true)
    (hprOld : ∀ p, mem i.pruned p → old p = true)
    (hslow : ∀ h0, i.slowSync = some h0 → old h0 = true ∧ ∃ y, mem i.stored y ∧ old y = false)
    (hm1 : 1 ≤ m) (hm2 : m ≤ H) (hm3 : ¬ mem i.stored m) (hm4 : old m = false) :
    ∃ r, fetchDecisionWith pc slowMin i = .ok (.request r) := by
  obtain ⟨synced, hadd, hci, hcm⟩ := add_spec hpr hst
  have hmns : ¬ mem synced m := fun hc => by
    rcases (hcm m).1 hc with hp | hs
    · rw [hprOld m hp] at hm4; cases hm4
    · exact hm3 hs
  obtain ⟨r, hcalc, hne⟩ := calc_total (limit := i.batchSize) hci (Nat.le_of_lt hH)
  have hne := hne m hbs hm1 hm2 hmns
  obtain ⟨_, _, hshape⟩ := calc_cases hci hcalc hne
  have hle := calc_end_lt hci hcalc hne hH
  -- the batch ends above the armed slow-sync height, so the throttle is open: some height up to its end
  -- is inside the window (a stored one under a forward batch, `m` in a backward one)
  have hss : slowSyncStop slowMin i r = .ok false := by
    unfold slowSyncStop
    cases hs : i.slowSync with
    | none => simp
    | some h0 =>
      obtain ⟨ho, y, hy, hyo⟩ := hslow h0 hs
      obtain ⟨z, hz, hzo⟩ : ∃ z, z ≤ r.2 ∧ old z = false := by
        rcases hshape with ⟨habove, _, _⟩ | ⟨_, hfill, _⟩
        · have := habove y ((hcm y).2 (Or.inr hy))
          exact ⟨y, by omega, hyo⟩
        · exact ⟨m, Nat.le_of_not_lt fun hc => hmns (hfill m hc hm2), hm4⟩
      have hd : decide (r.2 ≤ h0) = false := decide_eq_false fun hc => by
        rw [not_old_of_le hmono (Nat.le_trans hz hc) hzo] at ho; cases ho
      simp [hd]
  have hd : fetchDecisionWith pc slowMin i = .ok (windowGate pc i synced r (r.2 + 1)) := by
    unfold fetchDecisionWith
    rw [if_neg (by simp [hong]), if_neg (by simpa using hpeers)]
    simp only [hhead, hadd, hcalc, hne, Bool.false_eq_true, ↓reduceIte]
    simp only [hss, addU64, hle, ↓reduceIte]
  rw [hd]
  -- the window gate cannot say "nothing": `m` would be outside the window
  cases hg : windowGate pc i synced r (r.2 + 1) with
  | request r' => exact ⟨r', rfl⟩
  | idle w =>
    rw [windowGate_idle_old hci hcm hcalc hne hwin hmono (fun p hp => Or.inl (hprOld p hp)) hg hm2 hmns] at hm4
    cases hm4

end Lumina.Proofs.SyncerGate

/-
  C08 / C07 joint non-vacuity for k = 2: a concrete LINEAR MDS code on 512-byte shares — the [4,2] code with generator
  [[1,0,1,1],[0,1,1,α]] over GF(2^8) (α ∉ {0,1}), acting bytewise through a bijection bytes ≃ GF(2^8) — satisfies
  `EncShape`, `EncLinear` and `MDS` (`Props/C08.lean`; `mds2` is its body) together.  (Existence only: the field is
  Mathlib's abstract `GaloisField 2 8`.)
-/
import Mathlib.FieldTheory.Finite.GaloisField
import Lumina.Proofs.EdsLinear
import Lumina.Spec.C08

namespace Lumina.Proofs.EdsWitness
open Lumina.Util Lumina.Proofs.EdsExtend Lumina.Proofs.EdsLinear
open Lumina.Spec.C08 (erase)

noncomputable section

instance : Fact (Nat.Prime 2) := ⟨Nat.prime_two⟩
abbrev F8 := GaloisField 2 8

theorem card_F8 : Nat.card F8 = 256 := by
  have := GaloisField.card 2 8 (by norm_num)
  simpa using this

def φ : UInt8 ≃ F8 :=
  (⟨UInt8.toFin, UInt8.ofFin, fun _ => rfl, fun _ => rfl⟩ : UInt8 ≃ Fin 256).trans (Finite.equivFinOfCardEq card_F8).symm

theorem exists_alpha : ∃ a : F8, a ≠ 0 ∧ a ≠ 1 := by
  classical
  by_contra h
  push_neg at h
  -- every element is 0 or 1: at most 2 elements
  have : Nat.card F8 ≤ 2 := by
    haveI : Fintype F8 := Fintype.ofFinite F8
    rw [Nat.card_eq_fintype_card]
    calc Fintype.card F8 ≤ Fintype.card (Fin 2) := by
          apply Fintype.card_le_of_injective (fun x : F8 => if x = 0 then (0 : Fin 2) else 1)
          intro x y hxy
          by_cases hx : x = 0 <;> by_cases hy : y = 0
          · rw [hx, hy]
          · simp only [hx, hy, ↓reduceIte] at hxy; exact absurd hxy (by decide)
          · simp only [hx, hy, ↓reduceIte] at hxy; exact absurd hxy (by decide)
          · rw [h x hx, h y hy]
      _ = 2 := by simp
  rw [card_F8] at this
  omega

def α : F8 := Classical.choose exists_alpha
theorem α_ne_zero : α ≠ 0 := (Classical.choose_spec exists_alpha).1
theorem α_ne_one : α ≠ 1 := (Classical.choose_spec exists_alpha).2

def bmix (c : F8) (x y : UInt8) : UInt8 := φ.symm (φ x + c * φ y)
def smix (c : F8) (a b : Bytes) : Bytes := List.zipWith (bmix c) a b

theorem φ_bmix (c : F8) (x y : UInt8) : φ (bmix c x y) = φ x + c * φ y := by simp [bmix]

/-- the encoder: two data shards ↦ `a + b`, `a + α·b`; other shard counts are returned unchanged -/
def enc2 (row : List Bytes) : List Bytes :=
  match row with
  | [a, b] => [smix 1 a b, smix α a b]
  | _ => row

theorem smix_length (c : F8) {a b : Bytes} {n : Nat} (ha : a.length = n) (hb : b.length = n) : (smix c a b).length = n := by
  simp [smix, ha, hb]

theorem smix_getD (c : F8) {a b : Bytes} {n t : Nat} (ha : a.length = n) (hb : b.length = n) (ht : t < n) :
    (smix c a b).getD t 0 = bmix c (a.getD t 0) (b.getD t 0) := by
  unfold smix
  rw [List.getD_eq_getElem?_getD, List.getElem?_zipWith]
  simp [List.getD_eq_getElem?_getD, List.getElem?_eq_getElem (show t < a.length by omega),
    List.getElem?_eq_getElem (show t < b.length by omega)]

theorem encShape2 : EncShape enc2 2 := by
  intro row h
  match row, h with
  | [a, b], _ => rfl

def M2 : Matrix (Fin 2) (Fin 2) F8 := !![1, 1; 1, α]

def encLinear2 : EncLinear enc2 2 512 where
  F := F8
  toF := φ
  toF_inj := φ.injective
  M := M2
  shape := by
    intro row h hall
    match row, h with
    | [a, b], _ =>
      have ha := hall a (by simp)
      have hb := hall b (by simp)
      refine ⟨rfl, ?_⟩
      intro s hs
      simp only [enc2, List.mem_cons, List.not_mem_nil, or_false] at hs
      rcases hs with rfl | rfl
      · exact smix_length 1 ha hb
      · exact smix_length α ha hb
  spec := by
    intro row h hall j t ht
    match row, h with
    | [a, b], _ =>
      have ha := hall a (by simp)
      have hb := hall b (by simp)
      rw [Fin.sum_univ_two]
      fin_cases j
      · show φ ((smix 1 a b).getD t 0) = M2 0 0 * φ (a.getD t 0) + M2 0 1 * φ (b.getD t 0)
        rw [smix_getD 1 ha hb ht, φ_bmix]
        simp [M2]
      · show φ ((smix α a b).getD t 0) = M2 1 0 * φ (a.getD t 0) + M2 1 1 * φ (b.getD t 0)
        rw [smix_getD α ha hb ht, φ_bmix]
        simp [M2]

/-! ### MDS: any two of the four symbols determine the codeword -/

/-- the four symbol values at one byte position, from the two data values -/
def pv (x y : F8) : Fin 4 → F8 := ![x, y, x + 1 * y, x + α * y]

theorem pos_unique_lt (x y x' y' : F8) : ∀ (i j : Fin 4), i < j → pv x y i = pv x' y' i → pv x y j = pv x' y' j →
    x = x' ∧ y = y' := by
  have ha0 := α_ne_zero
  have ha1 := α_ne_one
  intro i j hij hi hj
  fin_cases i <;> fin_cases j <;> simp only [Fin.zero_eta, Fin.isValue, Fin.mk_one, Fin.reduceFinMk, Fin.reduceLT, Fin.reduceEq,
    Fin.lt_one_iff, Nat.reduceAdd, lt_self_iff_false, not_lt_zero, zero_lt_one, pv, one_mul, Matrix.cons_val_zero,
    Matrix.cons_val_one, Matrix.cons_val] at hij hi hj ⊢
  · exact ⟨hi, hj⟩
  · -- x, x + y
    refine ⟨hi, ?_⟩
    rw [hi] at hj; exact add_left_cancel hj
  · -- x, x + α y
    refine ⟨hi, ?_⟩
    rw [hi] at hj
    exact mul_left_cancel₀ ha0 (add_left_cancel hj)
  · -- y, x + y
    refine ⟨?_, hi⟩
    rw [hi] at hj; exact add_right_cancel hj
  · -- y, x + α y
    refine ⟨?_, hi⟩
    rw [hi] at hj; exact add_right_cancel hj
  · -- x + y, x + α y
    have hy : (α - 1) * (y - y') = 0 := by linear_combination hj - hi
    have hyy : y = y' := by
      rcases mul_eq_zero.mp hy with h | h
      · exact absurd (sub_eq_zero.mp h) ha1
      · exact sub_eq_zero.mp h
    refine ⟨?_, hyy⟩
    rw [hyy] at hi; exact add_right_cancel hi

theorem pos_unique (x y x' y' : F8) (i j : Fin 4) (hij : i ≠ j) (hi : pv x y i = pv x' y' i)
    (hj : pv x y j = pv x' y' j) : x = x' ∧ y = y' := by
  rcases lt_or_gt_of_ne hij with h | h
  · exact pos_unique_lt x y x' y' i j h hi hj
  · exact pos_unique_lt x y x' y' j i h hj hi

/-- the four symbols of the codeword with data `a, b` -/
def cwv (a b : Bytes) : Fin 4 → Bytes := ![a, b, smix 1 a b, smix α a b]

theorem cwv_byte {a b : Bytes} (ha : a.length = 512) (hb : b.length = 512) (p : Fin 4) {t : Nat} (ht : t < 512) :
    φ ((cwv a b p).getD t 0) = pv (φ (a.getD t 0)) (φ (b.getD t 0)) p := by
  fin_cases p
  · simp [cwv, pv]
  · simp [cwv, pv]
  · show φ ((smix 1 a b).getD t 0) = _
    rw [smix_getD 1 ha hb ht, φ_bmix]; simp [pv]
  · show φ ((smix α a b).getD t 0) = _
    rw [smix_getD α ha hb ht, φ_bmix]; simp [pv]

theorem shares_unique {a b a' b' : Bytes} (ha : a.length = 512) (hb : b.length = 512) (ha' : a'.length = 512)
    (hb' : b'.length = 512) (p q : Fin 4) (hpq : p ≠ q) (hp : cwv a b p = cwv a' b' p) (hq : cwv a b q = cwv a' b' q) :
    a = a' ∧ b = b' := by
  have key : ∀ t, t < 512 → φ (a.getD t 0) = φ (a'.getD t 0) ∧ φ (b.getD t 0) = φ (b'.getD t 0) := by
    intro t ht
    apply pos_unique _ _ _ _ p q hpq
    · rw [← cwv_byte ha hb p ht, ← cwv_byte ha' hb' p ht, hp]
    · rw [← cwv_byte ha hb q ht, ← cwv_byte ha' hb' q ht, hq]
  exact ⟨EdsCode.ext_getD 0 ha ha' (fun t ht => φ.injective (key t ht).1), EdsCode.ext_getD 0 hb hb' (fun t ht => φ.injective (key t ht).2)⟩

theorem two_present : ∀ m0 m1 m2 m3 : Bool, 2 ≤ ([m0, m1, m2, m3].filter id).length →
    ∃ p q : Fin 4, p ≠ q ∧ [m0, m1, m2, m3].getD p false = true ∧ [m0, m1, m2, m3].getD q false = true := by decide

theorem cwv_length {a b : Bytes} (ha : a.length = 512) (hb : b.length = 512) (p : Fin 4) : (cwv a b p).length = 512 := by
  fin_cases p
  · exact ha
  · exact hb
  · exact smix_length 1 ha hb
  · exact smix_length α ha hb

theorem cwv_getD (a b : Bytes) (p : Fin 4) : [cwv a b 0, cwv a b 1, cwv a b 2, cwv a b 3].getD p [] = cwv a b p := by
  fin_cases p <;> rfl

theorem codeword_shape {cw : List Bytes} (h : IsCodeword enc2 2 cw) (hsz : ∀ s ∈ cw, s.length = 512) :
    ∃ a b, a.length = 512 ∧ b.length = 512 ∧ cw = [cwv a b 0, cwv a b 1, cwv a b 2, cwv a b 3] := by
  obtain ⟨hlen, hdrop⟩ := h
  match cw, hlen with
  | [a, b, c, d], _ =>
    simp only [List.drop_succ_cons, List.drop_zero, List.take_succ_cons, List.take_zero, enc2, List.cons.injEq, and_true] at hdrop
    refine ⟨a, b, hsz a (by simp), hsz b (by simp), ?_⟩
    rw [hdrop.1, hdrop.2]
    rfl

/-- present symbols of `l` agree with `cw` -/
def Agrees (l cw : List Bytes) : Prop :=
  l.length = cw.length ∧ ∀ i, l.getD i [] ≠ [] → l.getD i [] = cw.getD i []

theorem erase_getD : ∀ (mask : List Bool) (cw : List Bytes) (i : Nat),
    (erase mask cw).getD i [] = if mask.getD i false then cw.getD i [] else []
  | [], _, _ => by simp [erase]
  | b :: _, [], _ => by cases b <;> simp [erase]
  | b :: _, _ :: _, 0 => by cases b <;> rfl
  | _ :: m, _ :: t, i + 1 => erase_getD m t i

theorem agrees_erase {mask : List Bool} {cw : List Bytes} (h : mask.length = cw.length) : Agrees (erase mask cw) cw := by
  refine ⟨by simp [erase, h], fun i hi => ?_⟩
  rw [erase_getD] at hi ⊢
  by_cases hm : mask.getD i false = true
  · rw [if_pos hm]
  · rw [if_neg hm] at hi
    exact absurd rfl hi

open Classical in
/-- the decoder: the codeword consistent with the symbols that are present (unique when at least two are) -/
def rec2 (l : List Bytes) : List Bytes :=
  if h : ∃ cw, (IsCodeword enc2 2 cw ∧ ∀ s ∈ cw, s.length = 512) ∧ Agrees l cw then Classical.choose h else l

theorem mds2 : ∀ cw, IsCodeword enc2 2 cw → (∀ s ∈ cw, s.length = 512) →
    ∀ mask : List Bool, mask.length = 2 * 2 → 2 ≤ (mask.filter id).length → rec2 (erase mask cw) = cw := by
  intro cw hcw hsz mask hml hpres
  obtain ⟨a, b, ha, hb, rfl⟩ := codeword_shape hcw hsz
  have hex : ∃ cw', (IsCodeword enc2 2 cw' ∧ ∀ s ∈ cw', s.length = 512) ∧
      Agrees (erase mask [cwv a b 0, cwv a b 1, cwv a b 2, cwv a b 3]) cw' := ⟨_, ⟨hcw, hsz⟩, agrees_erase hml⟩
  unfold rec2
  rw [dif_pos hex]
  obtain ⟨⟨hcw', hsz'⟩, hag'⟩ := Classical.choose_spec hex
  generalize Classical.choose hex = cw' at hcw' hsz' hag'
  obtain ⟨a', b', ha', hb', rfl⟩ := codeword_shape hcw' hsz'
  -- a present symbol is the same in both codewords
  have hpos : ∀ r : Fin 4, mask.getD r false = true → cwv a b r = cwv a' b' r := by
    intro r hr
    have h2 := hag'.2 r
    rw [erase_getD, hr, if_pos rfl, cwv_getD, cwv_getD] at h2
    exact h2 (fun h0 => by have := cwv_length ha hb r; rw [h0] at this; cases this)
  -- two present positions determine the data
  obtain ⟨p, q, hpq, hp, hq⟩ : ∃ p q : Fin 4, p ≠ q ∧ mask.getD p false = true ∧ mask.getD q false = true := by
    match mask, hml with
    | [m0, m1, m2, m3], _ => exact two_present m0 m1 m2 m3 hpres
  obtain ⟨e1, e2⟩ := shares_unique ha hb ha' hb' p q hpq (hpos p hp) (hpos q hq)
  rw [e1, e2]

end

end Lumina.Proofs.EdsWitness

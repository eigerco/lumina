/-
  C22 × C19/C20/C21: lemmas for the instantiation of the crash model with the redb store model
  (`Model/CrashRedb.lean`).

  * one transaction of the crash model (`txOf v op`) = one step of `RedbStore.step` (state and
    result); histories; calls that do not reach `write_tx` are no-ops;
  * the bridge from the refinement relation `Rr` + the abstract invariants `AbsInv` / `AbsVer`
    (C19, C21) to the decidable dump predicate `Spec.C22.consistent` (`consistent_dump`).
-/
import Lumina.Proofs.Crash
import Lumina.Spec.C22
import Lumina.Proofs.StoreStrict
import Lumina.Proofs.RangesOps
import Lumina.Proofs.InsertSort
import Lumina.Model.CrashRedb

namespace Lumina.Proofs.CrashRedb
open Lumina.Model Lumina.Model.Store Lumina.Model.Crash Lumina.Model.CrashRedb
open Lumina.Spec.C19 Lumina.Proofs.Store Lumina.Proofs.Crash
open Lumina.Model.CrashStore (setInsert heightsInsert hLt)
open Lumina.Proofs.InsertSort
open Lumina.Proofs.Ranges (mem_heights heights_sorted)

theorem txOf_step (v : Hdr → Hdr → Bool) (op : Op) (db : Db) :
    applyOp db (txOf v op) = { db with tables := (RedbStore.step v db.tables op).1 } ∧
    (op.mutating = true →
      toRes (resultOf db (txOf v op)) (fun _ => Out.unit) = (RedbStore.step v db.tables op).2) := by
  unfold applyOp resultOf txOf
  cases op with
  | insert batch =>
    simp only [closure, RedbStore.step, RedbStore.insert]
    cases tryIntoVerified v batch with
    | error e => exact ⟨rfl, fun _ => rfl⟩
    | ok hs =>
      simp only [RedbStore.writeTx]
      cases RedbStore.insertTx v hs db.tables <;> exact ⟨rfl, fun _ => rfl⟩
  | remove h =>
    simp only [closure, RedbStore.step, RedbStore.writeTx]
    cases RedbStore.removeHeightTx h db.tables <;> exact ⟨rfl, fun _ => rfl⟩
  | mark h =>
    simp only [closure, RedbStore.step, RedbStore.writeTx]
    cases RedbStore.markAsSampledTx h db.tables <;> exact ⟨rfl, fun _ => rfl⟩
  | updMeta h c =>
    simp only [closure, RedbStore.step, RedbStore.writeTx]
    cases RedbStore.updateSamplingMetadataTx h c db.tables <;> exact ⟨rfl, fun _ => rfl⟩
  | _ => exact ⟨rfl, fun hm => by simp [Op.mutating] at hm⟩

theorem run_txs (v : Hdr → Hdr → Bool) (ops : List Op) (db : Db) :
    runAbs db (ops.map (txOf v)) = { db with tables := (runOps (RedbStore.step v) db.tables ops).1 } ∧
    ((∀ op ∈ ops, op.mutating = true) →
      (resultsAbs db (ops.map (txOf v))).map (fun r => toRes r (fun _ => Out.unit)) =
        (runOps (RedbStore.step v) db.tables ops).2) := by
  induction ops generalizing db with
  | nil => exact ⟨rfl, fun _ => rfl⟩
  | cons op rest ih =>
    obtain ⟨e, er⟩ := txOf_step v op db
    rw [List.map_cons, runAbs_cons, resultsAbs, List.map_cons, runOps_cons, e]
    exact ⟨(ih _).1, fun hm => by
      rw [er (hm op (by simp)), (ih _).2 fun o ho => hm o (List.mem_cons_of_mem _ ho)]⟩

theorem noTx_unchanged (v : Hdr → Hdr → Bool) (op : Op) (t : Tables) (h : issuesTx v op = false) :
    (RedbStore.step v t op).1 = t := by
  cases op with
  | insert batch =>
    simp only [issuesTx] at h
    simp only [RedbStore.step, RedbStore.insert]
    cases hx : tryIntoVerified v batch with
    | error e => rfl
    | ok hs => rw [hx] at h; cases h
  | remove _ => cases h
  | mark _ => cases h
  | updMeta _ _ => cases h
  | _ => rfl

theorem run_filter (v : Hdr → Hdr → Bool) (ops : List Op) (t : Tables) :
    (runOps (RedbStore.step v) t (ops.filter (issuesTx v))).1 = (runOps (RedbStore.step v) t ops).1 := by
  induction ops generalizing t with
  | nil => rfl
  | cons op rest ih =>
    by_cases h : issuesTx v op = true
    · rw [List.filter_cons_of_pos h, runOps_cons, runOps_cons]; exact ih _
    · have h' : issuesTx v op = false := by simpa using h
      rw [List.filter_cons_of_neg h, runOps_cons, noTx_unchanged v op t h']; exact ih _

/-- every prefix of the transactions of a history is the transactions of a prefix of it -/
theorem take_filter_exists {α : Type} (p : α → Bool) (l : List α) (k : Nat) (hk : k ≤ (l.filter p).length) :
    ∃ j, j ≤ l.length ∧ (l.take j).filter p = (l.filter p).take k := by
  induction l generalizing k with
  | nil => exact ⟨0, Nat.le_refl _, by simp⟩
  | cons a rest ih =>
    cases k with
    | zero => exact ⟨0, Nat.zero_le _, by simp⟩
    | succ k =>
      by_cases h : p a = true
      · rw [List.filter_cons_of_pos h] at hk ⊢
        obtain ⟨j, hj, e⟩ := ih k (by simpa using hk)
        exact ⟨j + 1, by simpa using hj, by simp [List.take_succ_cons, List.filter_cons_of_pos h, e]⟩
      · rw [List.filter_cons_of_neg h] at hk ⊢
        obtain ⟨j, hj, e⟩ := ih (k + 1) hk
        exact ⟨j + 1, by simpa using hj, by simp [List.take_succ_cons, List.filter_cons_of_neg h, e]⟩

theorem allWf_take {ops : List Op} (hw : AllWf ops) (k : Nat) : AllWf (ops.take k) :=
  fun o ho => hw o (List.mem_of_mem_take ho)

theorem validRun_take (v : Hdr → Hdr → Bool) (ops : List Op) (a : AbsStore) (h : ValidRun v a ops) (k : Nat) :
    ValidRun v a (ops.take k) := by
  induction ops generalizing a k with
  | nil => simpa using h
  | cons op rest ih =>
    cases k with
    | zero => exact h.1
    | succ k => exact ⟨h.1, ih _ h.2 k⟩

/-- insertion into an ascending duplicate-free key list: a key already there is given up -/
theorem setInsert_isInsert : IsInsert (· < ·) (· = ·) setInsert := ⟨fun _ => rfl, fun _ _ _ => rfl⟩

theorem sortedKeys_sorted {ν : Type} (m : AMap Nat ν) : (sortedKeys m).Pairwise (· < ·) :=
  setInsert_isInsert.foldr_sorted (fun _ _ h => h) (fun _ _ h1 h2 => by omega) (fun _ _ _ => Nat.lt_trans) _

theorem mem_sortedKeys {ν : Type} (m : AMap Nat ν) (k : Nat) : k ∈ sortedKeys m ↔ k ∈ m.map (fun e => e.1) := by
  unfold sortedKeys
  induction m with
  | nil => simp
  | cons e r ih =>
    simp only [List.map_cons, List.foldr_cons, setInsert_isInsert.mem_iff (fun _ _ e => e), ih, List.mem_cons]

theorem get_isSome_iff {κ ν : Type} [DecidableEq κ] (m : AMap κ ν) (k : κ) :
    (AMap.get m k).isSome = true ↔ k ∈ m.map (fun e => e.1) := by
  induction m with
  | nil => simp [AMap.get]
  | cons e r ih =>
    obtain ⟨k', x⟩ := e
    simp only [AMap.get, List.map_cons, List.mem_cons]
    by_cases h : k' = k
    · simp [h]
    · simp only [h, ↓reduceIte, ih]
      constructor
      · exact Or.inr
      · rintro (e | e)
        · exact absurd e.symm h
        · exact e

theorem mem_sortedKeys_iff {ν : Type} (m : AMap Nat ν) (k : Nat) :
    k ∈ sortedKeys m ↔ (AMap.get m k).isSome = true := by
  rw [mem_sortedKeys, get_isSome_iff]

theorem sortedKeys_length_eq {ν α : Type} (m : AMap Nat ν) (l : List α) (f : α → Nat) (hn : (l.map f).Nodup)
    (hm : ∀ k, (AMap.get m k).isSome = true ↔ k ∈ l.map f) : (sortedKeys m).length = l.length := by
  have p : (sortedKeys m).Perm (l.map f) := by
    rw [List.perm_ext_iff_of_nodup ((sortedKeys_sorted _).imp (fun h => Nat.ne_of_lt h)) hn]
    intro k; rw [mem_sortedKeys_iff, hm]
  rw [p.length_eq, List.length_map]

theorem sorted_ext (l1 l2 : List Nat) (h1 : l1.Pairwise (· < ·)) (h2 : l2.Pairwise (· < ·))
    (h : ∀ x, x ∈ l1 ↔ x ∈ l2) : l1 = l2 :=
  List.Perm.eq_of_pairwise (fun _ _ _ _ hab hba => absurd hab (Nat.lt_asymm hba)) h1 h2
    ((List.perm_ext_iff_of_nodup (h1.imp Nat.ne_of_lt) (h2.imp Nat.ne_of_lt)).2 h)

theorem mem_dumpTable {ν : Type} (m : AMap Nat ν) (k : Nat) (x : ν) :
    (k, x) ∈ dumpTable m ↔ AMap.get m k = some x := by
  unfold dumpTable
  simp only [List.mem_filterMap, Option.map_eq_some_iff, Prod.mk.injEq]
  constructor
  · rintro ⟨k', _, y, hy, e1, e2⟩
    subst e1 e2; exact hy
  · intro h
    exact ⟨k, (mem_sortedKeys_iff m k).2 (by simp [h]), x, h, rfl, rfl⟩

theorem dumpTable_keys {ν : Type} (m : AMap Nat ν) : (dumpTable m).map (fun e => e.1) = sortedKeys m := by
  unfold dumpTable
  have : ∀ l : List Nat, (∀ k ∈ l, (AMap.get m k).isSome = true) →
      (l.filterMap (fun k => (AMap.get m k).map (fun x => (k, x)))).map (fun e => e.1) = l := by
    intro l
    induction l with
    | nil => intro _; rfl
    | cons k r ih =>
      intro hk
      have h1 := hk k (by simp)
      obtain ⟨x, hx⟩ := Option.isSome_iff_exists.1 h1
      rw [List.filterMap_cons, hx]
      simp only [Option.map_some, List.map_cons]
      rw [ih (fun k' hk' => hk k' (List.mem_cons_of_mem _ hk'))]
  exact this _ (fun k hk => (mem_sortedKeys_iff m k).1 hk)

theorem dumpTable_length {ν : Type} (m : AMap Nat ν) : (dumpTable m).length = (sortedKeys m).length := by
  rw [← dumpTable_keys, List.length_map]

theorem heightsInsert_isInsert : IsInsert (fun e f => hLt e f = true) Never heightsInsert :=
  ⟨fun _ => rfl, fun _ _ _ => rfl⟩

theorem lookupH_mem (k : Nat) (l : List (Nat × CrashStore.Hdr)) (x : CrashStore.Hdr)
    (h : Lumina.Spec.C22.lookupH k l = some x) : (k, x) ∈ l := by
  induction l with
  | nil => simp [Lumina.Spec.C22.lookupH] at h
  | cons e r ih =>
    simp only [Lumina.Spec.C22.lookupH] at h
    split at h
    · rename_i he
      injection h with h
      subst h; subst he
      simp
    · exact List.mem_cons_of_mem _ (ih h)


theorem rawRanges_eq (t : Tables) (k : RKey) :
    Lumina.Model.CrashRedb.rawRanges t k = Lumina.Proofs.Store.rawRanges t k := rfl

/-- **the bridge**: a redb store state related to an abstract state satisfying the C19 / C21
    invariants dumps to a table image that `Spec.C22.consistent` accepts -/
theorem consistent_dump {t : Tables} {a : AbsStore} (r : Rr t a) (hi : AbsInv a)
    (v : Hdr → Hdr → Bool) (hv : AbsVer v a) (name : Hash → String) (parent : Hdr → Hash)
    (hlink : ∀ x y, x.height + 1 = y.height → v x y = true → parent y = x.hash)
    (ident : Nat) (hid : ident ≠ 0) :
    Lumina.Spec.C22.consistent (dumpOf name parent ⟨ident, t⟩) = true := by
  obtain ⟨hS, hP⟩ := r.ranges.sampled_sub_pruned_disjoint hi
  -- the headers table
  have hget : ∀ {k x}, (k, x) ∈ dumpTable t.headers → x ∈ a.hdrs ∧ x.height = k := fun h =>
    mem_of_atHeight ((r.hdrT _).symm.trans ((mem_dumpTable _ _ _).1 h))
  have hkeys : sortedKeys t.headers = Ranges.heights (Lumina.Proofs.Store.rawRanges t .header) := by
    apply sorted_ext _ _ (sortedKeys_sorted _) (heights_sorted r.invH)
    intro k
    rw [mem_sortedKeys_iff, mem_heights, r.memH, r.hdrT k]; rfl
  have hlenH : (sortedKeys t.headers).length = a.hdrs.length :=
    sortedKeys_length_eq t.headers a.hdrs (·.height) hi.nodupH fun k => by
      rw [r.hdrT k]; exact (stored_iff a k).trans (by simp [List.mem_map])
  have hlenQ : (sortedKeys t.heights).length = a.hdrs.length :=
    sortedKeys_length_eq t.heights a.hdrs (·.hash) hi.nodupQ fun q => by
      have := r.known q; rw [contains_eq] at this; rw [this]; simp
  unfold Lumina.Spec.C22.consistent
  simp only [Bool.and_eq_true]
  refine ⟨⟨⟨⟨⟨⟨⟨⟨?c1, ?c2⟩, ?c3⟩, ?c4⟩, ?c5⟩, ?c6⟩, ?c7⟩, ?c8⟩, ?c9⟩
  case c1 =>
    simp only [dumpOf, List.map_map, rawRanges_eq]
    have : ((fun e : Nat × CrashStore.Hdr => e.1) ∘ fun e : Nat × Hdr => (e.1, convHdr name parent e.2))
        = fun e => e.1 := rfl
    rw [this, dumpTable_keys, hkeys]
    simp
  case c2 =>
    simp only [dumpOf, List.all_eq_true, List.mem_map, beq_iff_eq]
    rintro e ⟨⟨k, x⟩, hm, rfl⟩
    exact (hget hm).2
  case c3 =>
    simp only [dumpOf, beq_iff_eq, List.length_map, (heightsInsert_isInsert.foldr_perm _).length_eq,
      dumpTable_length, hlenH, hlenQ]
  case c4 =>
    simp only [dumpOf, List.all_eq_true, List.mem_map, List.contains_eq_mem, decide_eq_true_eq]
    rintro e ⟨⟨k, x⟩, hm, rfl⟩
    obtain ⟨hx, ek⟩ := hget hm
    rw [(heightsInsert_isInsert.foldr_perm _).mem_iff, List.mem_map]
    refine ⟨(x.hash, x.height), (mem_dumpTable _ _ _).2 (r.heights_get hi hx), ?_⟩
    simp [convHdr, ek]
  case c5 =>
    simp only [dumpOf, List.all_eq_true, List.mem_map]
    rintro e ⟨⟨k, x⟩, hm, rfl⟩
    obtain ⟨hx, ek⟩ := hget hm
    split
    · rename_i n hn
      have := lookupH_mem _ _ _ hn
      simp only [List.mem_map] at this
      obtain ⟨⟨k', y⟩, hm', e'⟩ := this
      simp only [Prod.mk.injEq] at e'
      obtain ⟨e1, e2⟩ := e'
      obtain ⟨hy, eky⟩ := hget hm'
      have hv' := hv x hx y hy (by omega)
      have := hlink x y (by omega) hv'
      rw [← e2]
      simp [convHdr, this]
    · rfl
  case c6 =>
    simpa only [dumpOf, List.all_eq_true, List.contains_eq_mem, decide_eq_true_eq, rawRanges_eq, mem_heights]
      using hS
  case c7 =>
    simpa only [dumpOf, List.all_eq_true, List.contains_eq_mem, rawRanges_eq,
      Bool.not_eq_true', decide_eq_false_iff_not, mem_heights] using hP
  case c8 =>
    simp only [dumpOf, List.all_eq_true, List.contains_eq_mem, decide_eq_true_eq, rawRanges_eq, mem_heights]
    rintro ⟨k, c⟩ hm
    have hg := (mem_dumpTable _ k c).1 hm
    rw [r.md k] at hg
    rw [r.memH]
    unfold AbsStore.metaOf at hg
    simp only [Option.map_eq_some_iff] at hg
    obtain ⟨p, hp, _⟩ := hg
    obtain ⟨hpm, rfl⟩ := Util.find?_key_some _ hp
    exact hi.metas p hpm
  case c9 =>
    simp [dumpOf, hid]

theorem txOf_identity (v : Hdr → Hdr → Bool) (op : Op) (s s' : Db) (h : txOf v op s = .ok s') :
    s'.identity = s.identity := by
  unfold txOf at h
  cases hc : closure v op s.tables with
  | error e => rw [hc] at h; cases h
  | ok t' => rw [hc] at h; injection h with h; rw [← h]

/-- `RedbStore::new` on a store that has an identity changes nothing -/
theorem openTx_id (newId : Nat) (s : Db) (h : s.identity ≠ 0) : openTx newId s = .ok s := by
  unfold openTx
  rw [if_neg h]

end Lumina.Proofs.CrashRedb

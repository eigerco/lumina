/-
  Multi-leaf range proofs: the namespace proofs an honest tree hands out verify.

  * `nsSplit`: a namespace-sorted list splits into (smaller) ++ (equal) ++ (greater); `lowerBound` / `namespaceRange` of the
    nmt-rs model in those terms.
  * `validateShape_ok_iff`: what lumina's `validate_shape` checks; `validateShape_honest_multi`: proofs built by
    `build_range_proof` pass it.
  * `getNamespaceProof_verifies`: for a non-empty namespace-sorted tree (≤ 2^31 leaves) whose root range covers `ns`,
    `get_namespace_proof(ns)` succeeds (presence proof for the whole run of `ns`-leaves, or absence proof with the first
    greater leaf) and lumina's `verify_complete_namespace` accepts it together with exactly the `ns`-leaves.
  * `rowRange_verifies`: `build_range_proof(s..en)` over a run of shares that all carry `ns` is accepted by lumina's
    `verify_range` with those shares.
-/
import Lumina.Proofs.NmtMultiComplete
import Lumina.Model.Eds

namespace Lumina.Proofs.NmtMulti
open Lumina.Util Lumina.Model.Nmt Lumina.Proofs.Nmt Lumina.Proofs.NmtRange Lumina.Model.Eds

abbrev SortedBy {α} (k : α → Bytes) (l : List α) : Prop := (l.map k).Pairwise (fun a b => leB a b = true)

/-- along a sorted list, a test that passes from an element to every smaller one holds on a prefix and fails after it -/
theorem split_takeWhile {α} (k : α → Bytes) (p : Bytes → Bool) : ∀ (l : List α), SortedBy k l →
    (∀ a ∈ l, ∀ b ∈ l, leB (k a) (k b) = true → p (k b) = true → p (k a) = true) →
    ∃ A R, l = A ++ R ∧ (∀ x ∈ A, p (k x) = true) ∧ (∀ x ∈ R, p (k x) = false) ∧
      ((l.map k).takeWhile p).length = A.length := by
  intro l
  induction l with
  | nil => intro _ _; exact ⟨[], [], rfl, by simp, by simp, rfl⟩
  | cons x t ih =>
    intro hs hp
    unfold SortedBy at hs
    simp only [List.map_cons, List.pairwise_cons] at hs
    obtain ⟨hx, ht⟩ := hs
    cases hpx : p (k x) with
    | true =>
      obtain ⟨A, R, hl, hA, hR, hc⟩ := ih ht (fun a ha b hb => hp a (List.mem_cons_of_mem _ ha) b (List.mem_cons_of_mem _ hb))
      refine ⟨x :: A, R, by rw [hl]; rfl, ?_, hR, ?_⟩
      · intro y hy
        rcases List.mem_cons.mp hy with rfl | hy
        · exact hpx
        · exact hA y hy
      · simp only [List.map_cons, List.takeWhile_cons, hpx, ↓reduceIte, List.length_cons, hc]
    | false =>
      refine ⟨[], x :: t, rfl, by simp, ?_, by simp [hpx]⟩
      intro y hy
      rcases List.mem_cons.mp hy with rfl | hy
      · exact hpx
      · cases hpy : p (k y) with
        | false => rfl
        | true =>
          have := hp x (List.mem_cons_self ..) y (List.mem_cons_of_mem _ hy) (hx (k y) (List.mem_map.mpr ⟨y, hy, rfl⟩)) hpy
          rw [hpx] at this; cases this

theorem nsSplit {α} (k : α → Bytes) (ns : Bytes) (l : List α) (hs : SortedBy k l) :
    ∃ A B R, l = A ++ B ++ R ∧ (∀ x ∈ A, ltB (k x) ns = true) ∧ (∀ x ∈ B, k x = ns) ∧
      (∀ x ∈ R, ltB ns (k x) = true) ∧ lowerBound (l.map k) ns = A.length ∧
      namespaceRange (l.map k) ns = (if B.length = 0 then none else some (A.length, A.length + B.length)) := by
  obtain ⟨A, R1, hl, hA, hR1, hlb⟩ := split_takeWhile k (fun b => ltB b ns) l hs
    (fun a _ b _ hab hb => ltB_of_leB_of_ltB hab hb)
  have hlb : lowerBound (l.map k) ns = A.length := hlb
  have hsR1 : SortedBy k R1 := by
    unfold SortedBy at hs ⊢
    rw [hl, List.map_append, List.pairwise_append] at hs
    exact hs.2.1
  have hge : ∀ x ∈ R1, leB ns (k x) = true := fun x hx => leB_of_not_ltB (hR1 x hx)
  obtain ⟨B, R, hl2, hB, hR, hc⟩ := split_takeWhile k (fun b => b == ns) R1 hsR1
    (fun a ha b _ hab hb => by
      have hb' : k b = ns := by simpa using hb
      rw [hb'] at hab
      simpa using leB_antisymm hab (hge a ha))
  have hB : ∀ x ∈ B, k x = ns := fun x hx => by simpa using hB x hx
  have hR : ∀ x ∈ R, ltB ns (k x) = true := by
    intro x hx
    rcases ltB_trichotomy ns (k x) with h | h | h
    · exact h
    · have := hR x hx; simp [h] at this
    · rw [not_ltB_of_leB (hge x (by rw [hl2]; exact List.mem_append_right _ hx))] at h; cases h
  refine ⟨A, B, R, by rw [hl, hl2, List.append_assoc], hA, hB, hR, hlb, ?_⟩
  unfold namespaceRange
  simp only [hlb]
  have hd : (l.map k).drop A.length = R1.map k := by
    rw [hl, List.map_append]
    rw [List.drop_left' (by simp)]
  rw [hd, hc]

theorem validateShape_ok_iff {p : NsProof} {first last : Bytes} :
    validateShape p first last = .ok () ↔
      computeNumLeftSiblings p.start ≤ p.siblings.length ∧
      p.siblings.any (fun n => ltB n.maxNs n.minNs) = false ∧ adjacentBad p.siblings = false ∧
      (computeNumLeftSiblings p.start ≠ 0 →
        ∀ l, p.siblings[computeNumLeftSiblings p.start - 1]? = some l → ltB first l.maxNs = false) ∧
      (∀ r, p.siblings[computeNumLeftSiblings p.start]? = some r → ltB r.minNs last = false) := by
  have two : ∀ b c : Bool, (if b = true then (Except.error Err.malformedProof : Except Err Unit)
      else if c = true then .error .malformedProof else .ok ()) = .ok () ↔ b = false ∧ c = false := by
    intro b c; cases b <;> cases c <;> simp
  unfold validateShape
  simp only
  by_cases h1 : computeNumLeftSiblings p.start > p.siblings.length
  · simp only [h1, ↓reduceIte, reduceCtorEq, false_iff]; omega
  · rw [if_neg h1]
    cases h2 : p.siblings.any (fun n => ltB n.maxNs n.minNs)
    · cases h3 : adjacentBad p.siblings
      · rw [if_neg Bool.false_ne_true, if_neg Bool.false_ne_true, two]
        by_cases h0 : computeNumLeftSiblings p.start = 0
        · cases h5 : p.siblings[computeNumLeftSiblings p.start]? <;> simp [h0]
        · cases h4 : p.siblings[computeNumLeftSiblings p.start - 1]? <;>
            cases h5 : p.siblings[computeNumLeftSiblings p.start]? <;> simp [h0, Nat.not_lt.mp h1]
      · simp
    · simp

theorem _root_.Lumina.Proofs.NmtRange.Segs.spanned {H : HashFn} {M roots : List NsHash} (h : Segs H true M roots)
    (hleaf : ∀ y ∈ M, LeafNs y) (hs : SortedNs M) :
    ∀ r ∈ roots, (∃ y ∈ M, r.minNs = y.minNs) ∧ ∃ y ∈ M, leB r.maxNs y.minNs = true := by
  intro r hr
  obtain ⟨seg, hne, hsub, hroot⟩ := h.mem r hr
  have R := computeRoot_range hne (fun y hy => hleaf y (hsub.subset hy)) (hs.sublist hsub) hroot
  obtain ⟨y, hy, hye⟩ := R.minMem
  obtain ⟨z, hz, hzle⟩ := R.maxMem
  exact ⟨⟨y, hsub.subset hy, hye⟩, z, hsub.subset hz, hzle⟩

/-- **honest proofs pass `validate_shape`**: the siblings are the roots of consecutive segments of the (sorted) leaves
    left of the range (`ML`, all `≤ first`) and right of it (`MR`, all `≥ last`) -/
theorem validateShape_honest_multi {H : HashFn} {ML MR pl pr : List NsHash} {p : NsProof} {first last : Bytes}
    (hleaf : ∀ y ∈ ML ++ MR, LeafNs y) (hs : SortedNs (ML ++ MR))
    (hpl : Segs H true ML pl) (hpr : Segs H true MR pr) (hsib : p.siblings = pl ++ pr)
    (hlen : pl.length = computeNumLeftSiblings p.start)
    (hfirst : ∀ y ∈ ML, leB y.minNs first = true) (hlast : ∀ y ∈ MR, leB last y.minNs = true) :
    validateShape p first last = .ok () := by
  obtain ⟨hsl, hsr, _⟩ := SortedNs.append_iff.mp hs
  obtain ⟨hadj, hmm⟩ := (hpl.append hpr).ordered hleaf hs
  rw [validateShape_ok_iff, hsib]
  refine ⟨by rw [List.length_append, hlen]; omega, ?_, hadj, ?_, ?_⟩
  · rw [List.any_eq_false]; intro r hr; simpa using hmm r hr
  · intro h0 l hl
    have hlt : computeNumLeftSiblings p.start - 1 < pl.length := by omega
    rw [List.getElem?_append_left hlt] at hl
    obtain ⟨_, y, hy, hyle⟩ := hpl.spanned (fun y hy => hleaf y (List.mem_append_left _ hy)) hsl l (List.mem_of_getElem? hl)
    exact not_ltB_of_leB (leB_trans hyle (hfirst y hy))
  · intro r hr0
    rw [← hlen, List.getElem?_append_right (Nat.le_refl _), Nat.sub_self] at hr0
    obtain ⟨⟨y, hy, hye⟩, _⟩ := hpr.spanned (fun y hy => hleaf y (List.mem_append_right _ hy)) hsr r (List.mem_of_getElem? hr0)
    exact not_ltB_of_leB (by rw [hye]; exact hlast y hy)

theorem left_max_lt {H : HashFn} {ML pl : List NsHash} {ns : Bytes} (hpl : Segs H true ML pl)
    (hleaf : ∀ y ∈ ML, LeafNs y) (hs : SortedNs ML) (hlt : ∀ y ∈ ML, ltB y.minNs ns = true) :
    ∀ sib ∈ pl, ltB sib.maxNs ns = true := by
  intro sib hsib
  obtain ⟨_, y, hy, hyle⟩ := hpl.spanned hleaf hs sib hsib
  exact ltB_of_leB_of_ltB hyle (hlt y hy)

theorem right_min_gt {H : HashFn} {MR pr : List NsHash} {ns : Bytes} (hpr : Segs H true MR pr)
    (hleaf : ∀ y ∈ MR, LeafNs y) (hs : SortedNs MR) (hgt : ∀ y ∈ MR, ltB ns y.minNs = true) :
    ∀ sib ∈ pr, ltB ns sib.minNs = true := by
  intro sib hsib
  obtain ⟨⟨y, hy, hye⟩, _⟩ := hpr.spanned hleaf hs sib hsib
  rw [hye]; exact hgt y hy

/-- a presence proof with honest siblings for the complete run of `ns`-leaves is accepted by nmt-rs
    `verify_complete_namespace` -/
theorem vcn_presence_ok {H : HashFn} {root : NsHash} {ML MR pl pr : List NsHash} {s : Nat} {ns : Bytes} {datas : List Bytes}
    (hcont : root.contains H ns = true)
    (hleaf : ∀ y ∈ ML ++ MR, LeafNs y) (hs : SortedNs (ML ++ MR))
    (hpl : Segs H true ML pl) (hpr : Segs H true MR pr) (hlen : pl.length = computeNumLeftSiblings s)
    (hlt : ∀ y ∈ ML, ltB y.minNs ns = true) (hgt : ∀ y ∈ MR, ltB ns y.minNs = true)
    (hchk : checkRangeProof H true root (datas.map (hashLeaf H ns)) (pl ++ pr) s = .ok ()) :
    verifyCompleteNamespace H ⟨s, s + datas.length, pl ++ pr, true, false, none⟩ root datas ns = .ok () := by
  obtain ⟨hsl, hsr, _⟩ := SortedNs.append_iff.mp hs
  obtain ⟨_, hmm⟩ := (hpl.append hpr).ordered hleaf hs
  have hLmax := left_max_lt hpl (fun y hy => hleaf y (List.mem_append_left _ hy)) hsl hlt
  have hRmin := right_min_gt hpr (fun y hy => hleaf y (List.mem_append_right _ hy)) hsr hgt
  have hXns : ∀ x ∈ datas.map (hashLeaf H ns), x.minNs = ns ∧ x.maxNs = ns := by
    intro x hx; obtain ⟨d, _, rfl⟩ := List.mem_map.mp hx; exact ⟨rfl, rfl⟩
  unfold verifyCompleteNamespace
  have hrl : (NsProof.mk s (s + datas.length) (pl ++ pr) true false none).rangeLen = datas.length := by
    unfold NsProof.rangeLen; simp
  simp only [hrl, ne_eq, not_true_eq_false, decide_false, Bool.and_false, Bool.false_eq_true, ↓reduceIte]
  unfold verifyNamespace
  simp only [contains_not_empty hcont, Bool.false_and, Bool.false_eq_true, ↓reduceIte, hcont, Bool.not_true]
  -- the NMT-level check
  have hnmt : nmtCheckRangeProof H true root (datas.map (hashLeaf H ns)) (pl ++ pr) s = .ok true := by
    refine nmtCheckRangeProof_complete_iff.mpr ⟨hchk, ?_, fun sib first hnz h1 h2 => ?_, fun sib last h1 h2 => ?_⟩
    · rw [List.any_eq_false]; intro r hr; simpa using hmm r hr
    · have hlt' : computeNumLeftSiblings s - 1 < pl.length := by omega
      rw [List.getElem?_append_left hlt'] at h1
      rw [(hXns first (List.mem_of_mem_head? h2)).1]
      exact hLmax sib (List.mem_of_getElem? h1)
    · rw [← hlen, List.getElem?_append_right (Nat.le_refl _), Nat.sub_self] at h1
      rw [(hXns last (List.mem_of_getLast? h2)).2]
      exact hRmin sib (List.mem_of_getElem? h1)
  rw [hnmt]
  rfl

/-- an absence proof with honest siblings around the first leaf above `ns` is accepted by nmt-rs
    `verify_complete_namespace` -/
theorem vcn_absence_ok {H : HashFn} {root lf : NsHash} {ML pl pr : List NsHash} {s e : Nat} {ns : Bytes}
    (hcont : root.contains H ns = true) (hlf : ltB ns lf.minNs = true)
    (hleaf : ∀ y ∈ ML, LeafNs y) (hs : SortedNs ML)
    (hpl : Segs H true ML pl) (hlen : pl.length = computeNumLeftSiblings s)
    (hlt : ∀ y ∈ ML, ltB y.minNs ns = true)
    (hchk : checkRangeProof H true root [lf] (pl ++ pr) s = .ok ()) :
    verifyCompleteNamespace H ⟨s, e, pl ++ pr, true, true, some lf⟩ root [] ns = .ok () := by
  have hLmax := left_max_lt hpl hleaf hs hlt
  unfold verifyCompleteNamespace
  simp only [Bool.not_true, Bool.false_and, Bool.false_eq_true, ↓reduceIte]
  unfold verifyNamespace
  simp only [contains_not_empty hcont, Bool.false_and, Bool.false_eq_true, ↓reduceIte, hcont, Bool.not_true,
    List.isEmpty_nil]
  have hle : leB lf.minNs ns = false := by unfold leB; simp [hlf]
  simp only [hle, Bool.false_eq_true, ↓reduceIte]
  have hnp : ¬ (computeNumLeftSiblings s > 0 ∧ (pl ++ pr).length < computeNumLeftSiblings s) := by
    rw [List.length_append, hlen]; omega
  rw [if_neg hnp]
  have key : ∀ (b : Bool), b = false →
      (if b = true then Except.error Err.malformedProof else checkRangeProof H true root [lf] (pl ++ pr) s) = .ok () := by
    intro b hb; subst hb; simpa using hchk
  apply key
  split
  · split
    · rename_i sib h1
      have hlt' : computeNumLeftSiblings s - 1 < pl.length := by omega
      rw [List.getElem?_append_left hlt'] at h1
      have := hLmax sib (List.mem_of_getElem? h1)
      unfold leB; simp [this]
    · rfl
  · rfl

theorem leafHashes_leafNs {H : HashFn} {shares : List Share} (hnsl : ∀ sh ∈ shares, sh.ns.length = NS_SIZE) :
    ∀ y ∈ shares.map (Share.leafHash H), LeafNs y := by
  intro y hy; obtain ⟨sh, hsh, rfl⟩ := List.mem_map.mp hy; exact ⟨rfl, hnsl sh hsh⟩

theorem leafHashes_sorted {H : HashFn} {shares : List Share} (hsort : SortedBy Share.ns shares) :
    SortedNs (shares.map (Share.leafHash H)) := by
  unfold SortedNs; rw [List.pairwise_map]
  unfold SortedBy at hsort; rw [List.pairwise_map] at hsort
  exact hsort

/-- **`get_namespace_proof` is complete**: on a non-empty namespace-sorted tree of at most 2^31 leaves whose root range
    covers `ns`, it returns a proof (presence for the whole run of `ns`-leaves, absence with the first greater leaf when
    there is none) that lumina's `verify_complete_namespace` (shape validation + nmt-rs) accepts together with exactly
    the `ns`-leaves' data.  No hypothesis on the hash. -/
theorem getNamespaceProof_verifies {H : HashFn} {shares : List Share} {root : NsHash} {ns : Bytes}
    (hlen : shares.length ≤ 2 ^ 31) (hsort : SortedBy Share.ns shares)
    (hnsl : ∀ sh ∈ shares, sh.ns.length = NS_SIZE)
    (hroot : computeRoot H true (shares.map (Share.leafHash H)) = .ok root)
    (hcont : root.contains H ns = true) (hns : ns.length = NS_SIZE) :
    ∃ proof, getNamespaceProof H true (shares.map Share.leaf) ns = .ok proof ∧
      (shares.filter (fun sh => sh.ns == ns)).isEmpty = proof.isAbsence ∧
      luminaVerifyCompleteNamespace H proof root ((shares.filter (fun sh => sh.ns == ns)).map Share.data) ns = .ok () := by
  have hmapL : (shares.map Share.leaf).map (fun x => match x with | (n, d) => hashLeaf H n d) = shares.map (Share.leafHash H) := by
    simp [List.map_map, Share.leaf, Share.leafHash, Function.comp_def]
  have hmapN : (shares.map Share.leaf).map Prod.fst = shares.map Share.ns := by
    simp [List.map_map, Share.leaf, Function.comp_def]
  obtain ⟨A, B, R, hl, hA, hB, hR, hlb, hnr⟩ := nsSplit Share.ns ns shares hsort
  have hfil : shares.filter (fun sh => sh.ns == ns) = B := by
    rw [hl]
    exact filter_key_block Share.ns (fun x hx => ne_of_ltB (hA x hx)) (fun x hx => by simpa using hB x hx)
      (fun x hx => (ne_of_ltB (hR x hx)).symm)
  have hhs : shares.map (Share.leafHash H) = A.map (Share.leafHash H) ++ B.map (Share.leafHash H) ++ R.map (Share.leafHash H) := by
    rw [hl]; simp
  have hleafAll := leafHashes_leafNs (H := H) hnsl
  have hsortAll := leafHashes_sorted (H := H) hsort
  have RG : ∀ (hne : shares ≠ []), RangeOK (shares.map (Share.leafHash H)) root :=
    fun hne => computeRoot_range (by simpa using hne) hleafAll hsortAll hroot
  have hminA : ∀ y ∈ A.map (Share.leafHash H), ltB y.minNs ns = true := by
    intro y hy; obtain ⟨sh, hsh, rfl⟩ := List.mem_map.mp hy; exact hA sh hsh
  have hminR : ∀ y ∈ R.map (Share.leafHash H), ltB ns y.minNs = true := by
    intro y hy; obtain ⟨sh, hsh, rfl⟩ := List.mem_map.mp hy; exact hR sh hsh
  have hcontLe : leB ns root.maxNs = true := by
    unfold NsHash.contains at hcont
    simp only [Bool.and_eq_true] at hcont
    exact hcont.1.2
  unfold getNamespaceProof
  simp only [hmapL, hmapN, hroot, hcont, Bool.not_true, Bool.false_eq_true, ↓reduceIte, hnr, hlb]
  by_cases hBe : B = []
  · -- no leaf of the namespace: absence proof with the first greater leaf
    subst hBe
    simp only [List.length_nil, ↓reduceIte, List.append_nil, List.map_nil] at hl hhs hfil ⊢
    -- there is a greater leaf
    have hRne : R ≠ [] := by
      intro hRe
      subst hRe
      simp only [List.append_nil] at hl
      have hne : shares ≠ [] := by
        intro h
        rw [h] at hroot
        have : root = emptyRoot H := by simpa [computeRoot, computeRootAux] using hroot.symm
        have := contains_not_empty hcont
        unfold NsHash.isEmptyRoot at this
        simp_all
      obtain ⟨y, hy, hyl⟩ := (RG hne).maxMem
      have := ltB_of_leB_of_ltB (leB_trans hcontLe hyl) (hminA y (hl ▸ hy))
      rw [ltB_irrefl] at this; cases this
    obtain ⟨r0, R', rfl⟩ : ∃ r0 R', R = r0 :: R' := by
      cases R with
      | nil => exact absurd rfl hRne
      | cons a t => exact ⟨a, t, rfl⟩
    have hidx : (shares.map (Share.leafHash H))[A.length]? = some (r0.leafHash H) := by
      rw [hhs, List.getElem?_append_right (by simp)]; simp
    have hhs' : shares.map (Share.leafHash H) =
        A.map (Share.leafHash H) ++ [r0.leafHash H] ++ R'.map (Share.leafHash H) := by rw [hhs]; simp
    obtain ⟨pl, pr, hb, hsl, hsr, hpl, hchk⟩ := range_complete_split (M := [r0.leafHash H]) (hhs' ▸ hroot)
      (List.cons_ne_nil _ _) (by rw [← hhs', List.length_map]; exact hlen)
    rw [← hhs'] at hb
    simp only [List.length_map, List.length_singleton] at hb hpl hchk
    rw [hb, hidx]
    simp only
    refine ⟨_, rfl, by simp [hfil], ?_⟩
    rw [hfil]
    have hr0gt : ltB ns (r0.leafHash H).minNs = true := hR r0 (by simp)
    have hleafA : ∀ y ∈ A.map (Share.leafHash H), LeafNs y := by
      intro y hy; exact hleafAll y (by rw [hhs]; exact List.mem_append_left _ hy)
    have hsortA : SortedNs (A.map (Share.leafHash H)) := by
      rw [hhs] at hsortAll
      exact (SortedNs.append_iff.mp hsortAll).1
    unfold luminaVerifyCompleteNamespace completeNamespaceShape
    simp only [↓reduceIte]
    have hirr : ltB (r0.leafHash H).maxNs (r0.leafHash H).minNs = false := by
      show ltB r0.ns r0.ns = false
      exact ltB_irrefl _
    rw [hirr]
    simp only [Bool.false_eq_true, ↓reduceIte]
    have hvs : validateShape ⟨A.length, A.length + 1, pl ++ pr, true, true, some (r0.leafHash H)⟩
        (r0.leafHash H).minNs (r0.leafHash H).maxNs = .ok () := by
      have hsub : (A.map (Share.leafHash H) ++ R'.map (Share.leafHash H)).Sublist (shares.map (Share.leafHash H)) := by
        rw [hhs]
        exact List.Sublist.append (List.Sublist.refl _) (List.sublist_cons_self _ _)
      refine validateShape_honest_multi (ML := A.map (Share.leafHash H)) (MR := R'.map (Share.leafHash H))
        (fun y hy => hleafAll y (hsub.subset hy)) (hsortAll.sublist hsub) hsl hsr rfl hpl ?_ ?_
      · intro y hy
        exact leB_of_ltB (ltB_trans (hminA y hy) hr0gt)
      · intro y hy
        have h2 := (SortedNs.append_iff.mp (hhs ▸ hsortAll)).2.1
        simp only [List.map_cons, List.pairwise_cons] at h2
        exact h2.1 y hy
    rw [hvs]
    simp only
    exact vcn_absence_ok hcont hr0gt hleafA hsortA hsl hpl hminA hchk
  · -- presence proof for the whole run
    have hBl : B.length ≠ 0 := by
      intro h; exact hBe (List.eq_nil_of_length_eq_zero h)
    simp only [hBl, ↓reduceIte]
    have hBmap : B.map (Share.leafHash H) = (B.map Share.data).map (hashLeaf H ns) := by
      rw [List.map_map]
      apply List.map_congr_left
      intro sh hsh
      show hashLeaf H sh.ns sh.data = hashLeaf H ns sh.data
      rw [hB sh hsh]
    obtain ⟨pl, pr, hb, hsl, hsr, hpl, hchk⟩ := range_complete_split (hhs ▸ hroot) (by simpa using hBe)
      (by rw [← hhs, List.length_map]; exact hlen)
    rw [← hhs] at hb
    rw [hBmap] at hchk
    simp only [List.length_map] at hb hpl hchk
    rw [hb]
    simp only
    refine ⟨_, rfl, ?_, ?_⟩
    · rw [hfil]
      cases B with
      | nil => exact absurd rfl hBe
      | cons a t => rfl
    rw [hfil]
    have hsub : (A.map (Share.leafHash H) ++ R.map (Share.leafHash H)).Sublist (shares.map (Share.leafHash H)) := by
      rw [hhs, List.append_assoc]
      exact List.Sublist.append (List.Sublist.refl _) (List.sublist_append_right _ _)
    have hleafM : ∀ y ∈ A.map (Share.leafHash H) ++ R.map (Share.leafHash H), LeafNs y :=
      fun y hy => hleafAll y (hsub.subset hy)
    have hsortM := hsortAll.sublist hsub
    unfold luminaVerifyCompleteNamespace completeNamespaceShape
    simp only [Bool.false_eq_true, ↓reduceIte]
    have hvs : validateShape ⟨A.length, A.length + B.length, pl ++ pr, true, false, none⟩ ns ns = .ok () :=
      validateShape_honest_multi hleafM hsortM hsl hsr rfl hpl
        (fun y hy => leB_of_ltB (hminA y hy)) (fun y hy => leB_of_ltB (hminR y hy))
    rw [hvs]
    simp only
    have := vcn_presence_ok (s := A.length) hcont hleafM hsortM hsl hsr hpl hminA hminR hchk
    simpa using this

theorem verifyRange_ok_iff {H : HashFn} {p : NsProof} {root : NsHash} {raws : List Bytes} {ns : Bytes} :
    verifyRange H p root raws ns = .ok () ↔ p.isAbsence = false ∧ raws.length = p.rangeLen ∧
      checkRangeProof H p.ignoreMaxNs root (raws.map (hashLeaf H ns)) p.siblings p.start = .ok () := by
  unfold verifyRange
  cases p.isAbsence <;> by_cases h : raws.length = p.rangeLen <;> simp [h]

/-- an honest range proof over a run of `ns`-shares is accepted by lumina's `verify_range` -/
theorem rowRange_verifies {H : HashFn} {shares : List Share} {root : NsHash} {ns : Bytes} {s en : Nat}
    (hlen : shares.length ≤ 2 ^ 31) (hsort : SortedBy Share.ns shares) (hnsl : ∀ sh ∈ shares, sh.ns.length = NS_SIZE)
    (hroot : computeRoot H true (shares.map (Share.leafHash H)) = .ok root)
    (hse : s < en) (hen : en ≤ shares.length) (hall : ∀ sh ∈ (shares.drop s).take (en - s), sh.ns = ns) :
    ∃ sibs, buildRangeProof H true (shares.map (Share.leafHash H)) s en = .ok sibs ∧
      luminaVerifyRange H ⟨s, en, sibs, true, false, none⟩ root (((shares.drop s).take (en - s)).map Share.data) ns
        = .ok () := by
  obtain ⟨pl, pr, hb, hsl, hsr, hpl, hchk⟩ := range_complete (s := s) (e := en) hroot hse
    (by rw [List.length_map]; exact hen) (by rw [List.length_map]; exact hlen)
  refine ⟨pl ++ pr, hb, ?_⟩
  -- a share of the run, to compare the neighbours with
  have hBlen : ((shares.drop s).take (en - s)).length = en - s := by
    rw [List.length_take, List.length_drop]; omega
  obtain ⟨b0, hb0⟩ : ∃ b0, b0 ∈ (shares.drop s).take (en - s) := by
    cases hB : (shares.drop s).take (en - s) with
    | nil => rw [hB] at hBlen; simp at hBlen; omega
    | cons a t => exact ⟨a, by simp⟩
  have hb0ns := hall b0 hb0
  -- decomposition of the sorted list
  have hsplit : shares = shares.take s ++ ((shares.drop s).take (en - s) ++ shares.drop en) := by
    have h1 : shares.drop s = (shares.drop s).take (en - s) ++ (shares.drop s).drop (en - s) :=
      (List.take_append_drop _ _).symm
    rw [List.drop_drop] at h1
    have e1 : s + (en - s) = en := by omega
    rw [e1] at h1
    conv => lhs; rw [← List.take_append_drop s shares, h1]
  have hsort' := hsort
  unfold SortedBy at hsort'
  rw [hsplit, List.map_append, List.map_append, List.pairwise_append] at hsort'
  obtain ⟨_, hBR, hAcross⟩ := hsort'
  rw [List.pairwise_append] at hBR
  obtain ⟨_, _, hBcross⟩ := hBR
  have hmemB : b0.ns ∈ ((shares.drop s).take (en - s)).map Share.ns := List.mem_map.mpr ⟨b0, hb0, rfl⟩
  have hA : ∀ y ∈ (shares.take s).map (Share.leafHash H), leB y.minNs ns = true := by
    intro y hy
    obtain ⟨sh, hsh, rfl⟩ := List.mem_map.mp hy
    have := hAcross sh.ns (List.mem_map.mpr ⟨sh, hsh, rfl⟩) b0.ns (List.mem_append_left _ hmemB)
    rw [hb0ns] at this; exact this
  have hR : ∀ y ∈ (shares.drop en).map (Share.leafHash H), leB ns y.minNs = true := by
    intro y hy
    obtain ⟨sh, hsh, rfl⟩ := List.mem_map.mp hy
    have := hBcross b0.ns hmemB sh.ns (List.mem_map.mpr ⟨sh, hsh, rfl⟩)
    rw [hb0ns] at this; exact this
  rw [List.map_take] at hA; rw [List.map_drop] at hR
  have hleafAll := leafHashes_leafNs (H := H) hnsl
  have hsortAll := leafHashes_sorted (H := H) hsort
  have hsub : ((shares.map (Share.leafHash H)).take s ++ (shares.map (Share.leafHash H)).drop en).Sublist
      (shares.map (Share.leafHash H)) := by
    have h2 : (shares.map (Share.leafHash H)).drop en = ((shares.map (Share.leafHash H)).drop s).drop (en - s) := by
      rw [List.drop_drop]; congr 1; omega
    have : (shares.map (Share.leafHash H)) = (shares.map (Share.leafHash H)).take s ++ (shares.map (Share.leafHash H)).drop s :=
      (List.take_append_drop _ _).symm
    conv => rhs; rw [this]
    rw [h2]
    exact List.Sublist.append (List.Sublist.refl _) (List.drop_sublist _ _)
  have hvs : validateShape ⟨s, en, pl ++ pr, true, false, none⟩ ns ns = .ok () :=
    validateShape_honest_multi (fun y hy => hleafAll y (hsub.subset hy)) (hsortAll.sublist hsub) hsl hsr rfl hpl hA hR
  unfold luminaVerifyRange
  simp only [hvs]
  have hX : (((shares.drop s).take (en - s)).map Share.data).map (hashLeaf H ns) =
      ((shares.map (Share.leafHash H)).drop s).take (en - s) := by
    rw [List.map_map, ← List.map_drop, ← List.map_take]
    apply List.map_congr_left
    intro sh hsh
    show hashLeaf H ns sh.data = hashLeaf H sh.ns sh.data
    rw [hall sh hsh]
  exact verifyRange_ok_iff.mpr ⟨rfl, by rw [List.length_map, hBlen]; rfl, by rw [hX]; exact hchk⟩

end Lumina.Proofs.NmtMulti

/-
  The crash model of `Model/Crash.lean` (C22): under `AtomicDurableCommit` one write transaction is
  one abstract step (`writeTx_view`), so what a history leaves on disk shows the abstract history
  (`runDisk_view`, `runResults_eq`); the states after the prefixes of a history (`prefixStates_get`).
-/
import Lumina.Model.Crash

namespace Lumina.Proofs.Crash
open Lumina.Model.Crash

variable {D σ ε : Type}

theorem writeTx_view (B : Backend D σ) (h : AtomicDurableCommit B) (d : D) (op : Op σ ε) :
    B.view (writeTx B d op).1 = applyOp (B.view d) op := by
  unfold writeTx applyOp
  cases hop : op (B.view d) with
  | ok w => simp [h.commit_visible]
  | error e => simp [h.abort_invisible]

theorem writeTx_result (B : Backend D σ) (d : D) (op : Op σ ε) :
    (writeTx B d op).2 = resultOf (B.view d) op := by
  unfold writeTx resultOf
  cases hop : op (B.view d) <;> simp

theorem runDisk_cons (B : Backend D σ) (d : D) (op : Op σ ε) (ops : List (Op σ ε)) :
    runDisk B d (op :: ops) = runDisk B (writeTx B d op).1 ops := rfl

theorem runAbs_cons (s : σ) (op : Op σ ε) (ops : List (Op σ ε)) :
    runAbs s (op :: ops) = runAbs (applyOp s op) ops := rfl

theorem runAbs_append (s : σ) (a b : List (Op σ ε)) : runAbs s (a ++ b) = runAbs (runAbs s a) b := by
  simp [runAbs, List.foldl_append]

theorem runDisk_view (B : Backend D σ) (h : AtomicDurableCommit B) (d : D) (ops : List (Op σ ε)) :
    B.view (runDisk B d ops) = runAbs (B.view d) ops := by
  induction ops generalizing d with
  | nil => rfl
  | cons op rest ih => rw [runDisk_cons, runAbs_cons, ih, writeTx_view B h]

theorem runResults_eq (B : Backend D σ) (h : AtomicDurableCommit B) (d : D) (ops : List (Op σ ε)) :
    runResults B d ops = resultsAbs (B.view d) ops := by
  induction ops generalizing d with
  | nil => rfl
  | cons op rest ih =>
    simp only [runResults, resultsAbs]
    rw [ih, writeTx_view B h, writeTx_result]

theorem take_succ_append (pre post : List (Op σ ε)) (op : Op σ ε) :
    (pre ++ op :: post).take (pre.length + 1) = pre ++ [op] :=
  List.take_length_add_append 1

theorem runAbs_snoc (s : σ) (pre : List (Op σ ε)) (op : Op σ ε) :
    runAbs s (pre ++ [op]) = applyOp (runAbs s pre) op := by
  rw [runAbs_append]; rfl

theorem prefixStates_length (s : σ) (ops : List (Op σ ε)) : (prefixStates s ops).length = ops.length + 1 := by
  induction ops generalizing s with
  | nil => rfl
  | cons op rest ih => simp [prefixStates, ih]

theorem prefixStates_get (s : σ) (ops : List (Op σ ε)) (k : Nat) (hk : k ≤ ops.length) :
    (prefixStates s ops)[k]? = some (runAbs s (ops.take k)) := by
  induction ops generalizing s k with
  | nil =>
    have : k = 0 := by simpa using hk
    subst this; rfl
  | cons op rest ih =>
    cases k with
    | zero => rfl
    | succ k =>
      simp only [prefixStates, List.getElem?_cons_succ, List.take_succ_cons, runAbs_cons]
      exact ih _ k (by simpa using hk)

theorem runAbs_inv (Inv : σ → Prop) (ops : List (Op σ ε))
    (hpres : ∀ op ∈ ops, ∀ s s', Inv s → op s = .ok s' → Inv s') (s : σ) (hs : Inv s) :
    Inv (runAbs s ops) :=
  ops.foldlRecOn _ hs fun s hs op hop => by
    unfold applyOp
    cases h : op s with
    | ok s' => exact hpres op hop s s' hs h
    | error e => exact hs

end Lumina.Proofs.Crash

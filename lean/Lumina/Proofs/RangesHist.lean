/-
  `from_vec` (complete case analysis) and the lifting of the per-operation results to arbitrary operation sequences over a register machine
  (`Op`, `step`, `run`, which `Props/C17.lean` states its history theorems over).
-/
import Lumina.Proofs.RangesTrunc

namespace Lumina.Proofs.Ranges
open Lumina.Model.Ranges hiding Inv

open Lumina.Model.Ranges renaming Inv → RInv

attribute [local simp] ok_bind err_bind map_ok map_err pure_eq throw_eq

/-- the ranges are valid and strictly increasing and disjoint, starting above height `e` -/
def chainFrom : Nat → List Range → Prop
  | _, [] => True
  | e, r :: rest => (1 ≤ r.1 ∧ r.1 ≤ r.2) ∧ e < r.1 ∧ chainFrom r.2 rest

/-- end of the last merged range (`0` when nothing has been merged yet) -/
def lastEnd : List Range → Nat
  | [] => 0
  | p :: _ => p.2

/-- what the `from_vec` loop does with the ranges `rest` still to visit, `acc` being merged so far:
    accepted exactly when `rest` continues the chain, with the union as result; otherwise
    `Unsorted`, or `Invalid` of the first invalid range -/
def MergeOutcome (acc rest : List Range) : Prop :=
  (chainFrom (lastEnd acc) rest ∧
      Denotes (fromVecMerge acc rest) fun h => mem acc h ∨ mem rest h) ∨
  (¬ chainFrom (lastEnd acc) rest ∧ (fromVecMerge acc rest = .error .unsorted ∨
      ∃ r, fromVecMerge acc rest = .error (.invalid r) ∧
        rest.find? (fun x => !Range.valid x) = some r))

theorem fromVecMerge_cases : ∀ {rest acc : List Range}, RInv acc.reverse → (∀ r ∈ rest, r.2 ≤ U64_MAX) →
    MergeOutcome acc rest
  | [], acc, hacc, _ => by
    left
    refine ⟨trivial, acc.reverse, by simp [fromVecMerge], hacc, ?_⟩
    intro h; rw [mem_reverse]; simp [mem_nil]
  | r :: rest, acc, hacc, hb => by
    have hbr := hb r (by simp)
    have hbrest : ∀ x ∈ rest, x.2 ≤ U64_MAX := fun x hx => hb x (List.mem_cons_of_mem _ hx)
    by_cases hval : Range.valid r = true
    · have hv : ValidR r := .of_valid hval hbr
      have hvv := hv
      unfold ValidR at hvv
      -- what the recursive call yields for the new accumulator `acc'`
      have key : ∀ acc' : List Range, RInv acc'.reverse → lastEnd acc' = r.2 →
          (∀ h, mem acc' h ↔ mem acc h ∨ (r.1 ≤ h ∧ h ≤ r.2)) → lastEnd acc < r.1 →
          fromVecMerge acc (r :: rest) = fromVecMerge acc' rest → MergeOutcome acc (r :: rest) := by
        intro acc' hi' hle hm hlt heq
        rw [MergeOutcome, heq, List.find?_cons_of_neg (by simpa using hval)]
        rcases fromVecMerge_cases (rest := rest) (acc := acc') hi' hbrest with ⟨hc, hd⟩ | ⟨hc, herr⟩
        · left
          rw [hle] at hc
          exact ⟨⟨⟨hvv.1, hvv.2.1⟩, hlt, hc⟩, hd.congr fun h => by rw [hm, mem_cons, or_assoc]⟩
        · right
          rw [hle] at hc
          exact ⟨fun hcc => hc hcc.2.2, herr⟩
      cases acc with
      | nil =>
        apply key [r]
        · simpa using inv_singleton.2 hv
        · rfl
        · intro h; rw [mem_singleton]; simp [mem_nil]
        · show 0 < r.1; omega
        · simp [fromVecMerge, validate_ok hval]
      | cons prev t =>
        rw [List.reverse_cons] at hacc
        obtain ⟨ht, hp, hc⟩ := inv_append.1 hacc
        have hvp : ValidR prev := inv_singleton.1 hp
        have hvpv := hvp
        unfold ValidR at hvpv
        by_cases hun : r.1 ≤ prev.2
        · right
          refine ⟨fun hcc => ?_, Or.inl ?_⟩
          · have : prev.2 < r.1 := hcc.2.1
            omega
          · simp [fromVecMerge, validate_ok hval, hun]
        · have hadd : addU64 prev.2 1 = .ok (prev.2 + 1) := by
            have : prev.2 + 1 ≤ U64_MAX := by omega
            simp [addU64, this]
          by_cases hadj : prev.2 + 1 = r.1
          · -- adjacent: merge
            apply key ((prev.1, r.2) :: t)
            · rw [List.reverse_cons]
              refine inv_append.2 ⟨ht, inv_singleton.2 ⟨hvpv.1, by show prev.1 ≤ r.2; omega, hvv.2.2⟩, ?_⟩
              intro a ha b hb'
              simp only [List.mem_singleton] at hb'; subst hb'
              exact hc a ha prev (by simp)
            · rfl
            · intro h
              rw [mem_cons, mem_cons]
              constructor
              · rintro (⟨h1, h2⟩ | h1)
                · simp only at h1 h2
                  by_cases c : h ≤ prev.2
                  · exact Or.inl (Or.inl ⟨h1, c⟩)
                  · exact Or.inr ⟨by omega, h2⟩
                · exact Or.inl (Or.inr h1)
              · rintro ((⟨h1, h2⟩ | h1) | ⟨h1, h2⟩)
                · exact Or.inl ⟨h1, by show h ≤ r.2; omega⟩
                · exact Or.inr h1
                · exact Or.inl ⟨by show prev.1 ≤ h; omega, h2⟩
            · show prev.2 < r.1; omega
            · simp [fromVecMerge, validate_ok hval, hun, hadd, hadj]
          · -- a gap: push
            apply key (r :: prev :: t)
            · rw [List.reverse_cons, List.reverse_cons]
              refine inv_append.2 ⟨hacc, inv_singleton.2 hv, ?_⟩
              intro a ha b hb'
              simp only [List.mem_singleton] at hb'; subst hb'
              have := inv_le_last hacc a ha
              omega
            · rfl
            · intro h
              rw [mem_cons]
              exact Or.comm
            · show prev.2 < r.1; omega
            · simp [fromVecMerge, validate_ok hval, hun, hadd, hadj]
    · have hval' : Range.valid r = false := by simpa using hval
      right
      refine ⟨fun hcc => ?_, Or.inr ⟨r, ?_, ?_⟩⟩
      · exact hval ((valid_iff r).2 hcc.1)
      · cases acc <;> simp [fromVecMerge, validate_err hval']
      · simp [List.find?, hval']

/-- `from_vec` (with its `fix:` commit applied; `fromVecPreFix` is the code before it): accepted
    exactly for valid, strictly increasing, disjoint vectors; the result is canonical (`Inv`) and
    denotes the union; never panics -/
theorem fromVec_cases {v : List Range} (hb : ∀ r ∈ v, r.2 ≤ U64_MAX) :
    (chainFrom 0 v ∧ Denotes (fromVec v) (mem v)) ∨
    (¬ chainFrom 0 v ∧ (fromVec v = .error .unsorted ∨
        ∃ r, fromVec v = .error (.invalid r) ∧ v.find? (fun x => !Range.valid x) = some r)) := by
  rcases fromVecMerge_cases (rest := v) (acc := []) (by simpa using inv_nil) hb with ⟨hc, hd⟩ | h
  · exact Or.inl ⟨hc, hd.congr fun h => by simp [mem_nil]⟩
  · exact Or.inr h

/-- registers holding `BlockRanges` values -/
abbrev St := Nat → Ranges

def upd (s : St) (d : Nat) (v : Ranges) : St := fun i => if i = d then v else s i

/-- the operations of `BlockRanges` that change a value or can fail (not the total queries
    `contains`, `is_empty`, `head`, `tail`, nor `check_insertion_constraints`, which is C18's);
    `x`, `y` source registers, `d` destination register -/
inductive Op where
  | new (d : Nat)
  | fromVec (v : List Range) (d : Nat)
  | insert (x : Nat) (r : Range)
  | remove (x : Nat) (r : Range)
  | popHead (x : Nat)
  | popTail (x : Nat)
  | headn (x n d : Nat)
  | tailn (x n d : Nat)
  | edges (x d : Nat)
  | add (x y d : Nat)
  | sub (x y d : Nat)
  | bitAnd (x y d : Nat)
  | bitOr (x y d : Nat)
  | bitNot (x d : Nat)
  | len (x : Nat)
  | partitions (x : Nat)
  | leftOf (x h : Nat)
  | rightOf (x h : Nat)

/-- the arguments are `u64` values (and heights passed to `left_of` / `right_of` are heights) -/
def Op.Bounded : Op → Prop
  | .fromVec v _ => ∀ r ∈ v, r.2 ≤ U64_MAX
  | .insert _ r => r.2 ≤ U64_MAX
  | .remove _ r => r.2 ≤ U64_MAX
  | .leftOf _ h => 1 ≤ h
  | .rightOf _ h => 1 ≤ h
  | _ => True

def step (s : St) : Op → Res St
  | .new d => pure (upd s d new)
  | .fromVec v d => do let r ← fromVec v; pure (upd s d r)
  | .insert x r => do let v ← insertRelaxed (s x) r; pure (upd s x v)
  | .remove x r => do let v ← removeRelaxed (s x) r; pure (upd s x v)
  | .popHead x => do let (_, v) ← popHead (s x); pure (upd s x v)
  | .popTail x => do let (_, v) ← popTail (s x); pure (upd s x v)
  | .headn x n d => do let v ← headn (s x) n; pure (upd s d v)
  | .tailn x n d => do let v ← tailn (s x) n; pure (upd s d v)
  | .edges x d => do let v ← edges (s x); pure (upd s d v)
  | .add x y d => do let v ← add (s x) (s y); pure (upd s d v)
  | .sub x y d => do let v ← sub (s x) (s y); pure (upd s d v)
  | .bitAnd x y d => do let v ← bitAnd (s x) (s y); pure (upd s d v)
  | .bitOr x y d => do let v ← bitOr (s x) (s y); pure (upd s d v)
  | .bitNot x d => do let v ← bitNot (s x); pure (upd s d v)
  | .len x => do let _ ← len (s x); pure s
  | .partitions x => do let _ ← partitions (s x); pure s
  | .leftOf x h => do let _ ← leftOf (s x) h; pure s
  | .rightOf x h => do let _ ← rightOf (s x) h; pure s

/-- a history: an operation that returns a `BlockRangesError` leaves the registers unchanged
    (`&mut self` untouched); a panic aborts the history -/
def run : List Op → St → Res St
  | [], s => .ok s
  | op :: ops, s =>
    match step s op with
    | .ok s' => run ops s'
    | .error .panic => .error .panic
    | .error _ => run ops s

def InvSt (s : St) : Prop := ∀ i, RInv (s i)

theorem invSt_upd {s : St} (hs : InvSt s) {d : Nat} {v : Ranges} (hv : RInv v) : InvSt (upd s d v) := by
  intro i
  unfold upd
  by_cases c : i = d
  · simp [c, hv]
  · simp [c, hs i]

theorem store_inv {s : St} (hs : InvSt s) (d : Nat) {x : Res Ranges} {v : Ranges} (e : x = .ok v)
    (hv : RInv v) {op : Op} (hop : step s op = (do let v ← x; pure (upd s d v))) :
    ∃ s', step s op = .ok s' ∧ InvSt s' :=
  ⟨upd s d v, by rw [hop, e]; rfl, invSt_upd hs hv⟩

theorem Denotes.store {x : Res Ranges} {P : Nat → Prop} (hx : Denotes x P) {s : St} (hs : InvSt s)
    (d : Nat) {op : Op} (hop : step s op = (do let v ← x; pure (upd s d v))) :
    ∃ s', step s op = .ok s' ∧ InvSt s' :=
  let ⟨_, e, hv, _⟩ := hx
  store_inv hs d e hv hop

theorem query_inv {s : St} (hs : InvSt s) {α} {x : Res α} {a : α} (e : x = .ok a) {op : Op}
    (hop : step s op = (do let _ ← x; pure s)) :
    ∃ s', step s op = .ok s' ∧ InvSt s' :=
  ⟨s, by rw [hop, e]; rfl, hs⟩

theorem step_inv {s : St} (hs : InvSt s) {op : Op} (hb : op.Bounded) :
    (∃ s', step s op = .ok s' ∧ InvSt s') ∨ (∃ e, step s op = .error e ∧ e ≠ .panic) := by
  cases op with
  | new d => exact Or.inl ⟨upd s d new, rfl, invSt_upd hs inv_nil⟩
  | fromVec v d =>
    rcases fromVec_cases hb with ⟨_, hd⟩ | ⟨_, e | ⟨r, e, _⟩⟩
    · exact Or.inl (hd.store hs d rfl)
    · exact Or.inr ⟨.unsorted, by simp [step, e], by simp⟩
    · exact Or.inr ⟨.invalid r, by simp [step, e], by simp⟩
  | insert x r =>
    by_cases hval : Range.valid r = true
    · exact Or.inl ((insertRelaxed_spec (hs x) (.of_valid hval hb)).store hs x rfl)
    · have hval' : Range.valid r = false := by simpa using hval
      exact Or.inr ⟨.invalid r, by simp [step, insertRelaxed_invalid hval'], by simp⟩
  | remove x r =>
    by_cases hval : Range.valid r = true
    · exact Or.inl ((removeRelaxed_spec (hs x) (.of_valid hval hb)).store hs x rfl)
    · have hval' : Range.valid r = false := by simpa using hval
      exact Or.inr ⟨.invalid r, by simp [step, removeRelaxed_invalid hval'], by simp⟩
  | popHead x =>
    rcases popHead_spec (hs x) with ⟨_, e⟩ | ⟨_, v, _, e, iv, _⟩
    · exact Or.inl ⟨upd s x [], by simp [step, e], invSt_upd hs inv_nil⟩
    · exact Or.inl ⟨upd s x v, by simp [step, e], invSt_upd hs iv⟩
  | popTail x =>
    rcases popTail_spec (hs x) with ⟨_, e⟩ | ⟨_, v, _, e, iv, _⟩
    · exact Or.inl ⟨upd s x [], by simp [step, e], invSt_upd hs inv_nil⟩
    · exact Or.inl ⟨upd s x v, by simp [step, e], invSt_upd hs iv⟩
  | headn x n d => obtain ⟨v, e, iv, _⟩ := headn_spec (hs x) n; exact Or.inl (store_inv hs d e iv rfl)
  | tailn x n d => obtain ⟨v, e, iv, _⟩ := tailn_spec (hs x) n; exact Or.inl (store_inv hs d e iv rfl)
  | edges x d => exact Or.inl ((edges_spec (hs x)).store hs d rfl)
  | add x y d => exact Or.inl ((add_spec (hs x) (hs y)).store hs d rfl)
  | sub x y d => exact Or.inl ((sub_spec (hs x) (hs y)).store hs d rfl)
  | bitAnd x y d => exact Or.inl ((bitAnd_spec (hs x) (hs y)).store hs d rfl)
  | bitOr x y d => exact Or.inl ((bitOr_spec (hs x) (hs y)).store hs d rfl)
  | bitNot x d => exact Or.inl ((bitNot_spec (hs x)).store hs d rfl)
  | len x => exact Or.inl (query_inv hs (len_spec (hs x)) rfl)
  | partitions x =>
    rcases partitions_spec (hs x) with ⟨_, e⟩ | ⟨_, l, m, r, e, _⟩
    · exact Or.inl (query_inv hs e rfl)
    · exact Or.inl (query_inv hs e rfl)
  | leftOf x h => obtain ⟨o, e, _⟩ := leftOf_spec (hs x) hb; exact Or.inl (query_inv hs e rfl)
  | rightOf x h => obtain ⟨o, e, _⟩ := rightOf_spec (hs x) hb; exact Or.inl (query_inv hs e rfl)

/-- **every history** from an all-`Inv` state runs to completion without a panic (no `u64`
    overflow, no failed assertion / `expect`) and ends in an all-`Inv` state -/
theorem run_inv : ∀ (ops : List Op) {s : St}, InvSt s → (∀ op ∈ ops, op.Bounded) →
    ∃ s', run ops s = .ok s' ∧ InvSt s'
  | [], s, hs, _ => ⟨s, rfl, hs⟩
  | op :: ops, s, hs, hb => by
    have hbo := hb op (by simp)
    have hbs : ∀ o ∈ ops, o.Bounded := fun o ho => hb o (List.mem_cons_of_mem _ ho)
    rcases step_inv hs hbo with ⟨s', e, hs'⟩ | ⟨e, he, hne⟩
    · obtain ⟨s'', e2, hs''⟩ := run_inv ops hs' hbs
      exact ⟨s'', by simp [run, e, e2], hs''⟩
    · obtain ⟨s'', e2, hs''⟩ := run_inv ops hs hbs
      refine ⟨s'', ?_, hs''⟩
      rw [run, he]
      cases e <;> first | exact absurd rfl hne | exact e2

end Lumina.Proofs.Ranges

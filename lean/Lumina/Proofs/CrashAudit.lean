/-
  C22, the raw medium under `redbBackend` (`Proofs/RedbCommit.lean`), and an instance of its
  hypotheses.

  The images of `redbBackend` live in the subtype `RD = {x // Good x}`; `raw_*_good` show that
  EVERY raw medium a crash can leave (any `CrashImg` of the commit's write epochs, any set of
  early-evicted free-page writes) is `Good`, i.e. recovery succeeds on it — so the subtype excludes
  no crash image and "reopening succeeds" is a theorem about the raw medium, not an artefact of
  the typing.

  `Gen`: the one-page copy-on-write example `RedbCommit.Example` for an arbitrary payload type,
  so that the hypothesis set of `Props.C22.redb_store_on_protocol_partial`
  (`dec : List α → Db`, `plan`, `hplan`, `hd₀`) can be exhibited with `α := Db`.
-/
import Lumina.Proofs.RedbCommit

namespace Lumina.Proofs.CrashAudit
open Lumina.Model.Crash Lumina.Model.RedbCommit Lumina.Proofs.RedbCommit

variable {α C : Type} [DecidableEq C]

theorem raw_commit_crash_good {σ : Type} (H : Sums α C) (hinj : Function.Injective H.page)
    (fuel : Nat) (dec : List α → σ) (d : Disk α C) (w : σ) (pl : Plan α C)
    (hc : Clean H fuel d) (hp : PlanOK H fuel dec d w pl) (y : Disk α C)
    (himg : CrashImg d (commitEpochs H d pl false) y) : Good H fuel (y, true) := by
  obtain ⟨c, h, _⟩ := (commit_atomic H hinj fuel dec d w pl false hc hp).1 y himg
  simp only [Good, ↓reduceIte]
  exact ⟨c, h⟩

/-- every raw medium a crash inside a running (or aborting) transaction can leave is recoverable -/
theorem raw_tx_crash_good (H : Sums α C) (hinj : Function.Injective H.page) (fuel : Nat)
    (d : Disk α C) (hc : Clean H fuel d) (ws : List (Write α C))
    (hws : ∀ w ∈ ws, FreePageWrite fuel d w) : Good H fuel (applyAll d ws, true) := by
  obtain ⟨c0, hc0⟩ := hc.verified
  simp only [Good, ↓reduceIte]
  exact ⟨c0, (recover_free_writes H hinj fuel d hc ws hws).trans hc0⟩

namespace Gen

/-- a perfect (collision-free) Merkle checksum over payloads of type `β` -/
inductive T (β : Type) where
  | node (payload : β) (kids : List (Nat × T β))
  | slot (txid : Nat) (roots : List (Nat × T β))

def sums (β : Type) : Sums β (T β) where
  page pg := .node pg.payload (pg.kids.map fun k => (k.page, k.sum))
  slot t rs := .slot t (rs.map fun k => (k.page, k.sum))

theorem sums_injective (β : Type) : Function.Injective (sums β).page := by
  intro a b h
  obtain ⟨pa, ka⟩ := a
  obtain ⟨pb, kb⟩ := b
  simp only [sums, T.node.injEq] at h
  rw [h.1, ptrs_injective h.2]

noncomputable instance (β : Type) : DecidableEq (T β) := fun _ _ => Classical.propDecidable _

/-- the simplest copy-on-write transaction: the whole new state goes into ONE fresh page,
    which becomes the only root -/
def plan {β : Type} (fuel : Nat) (d : Disk β (T β)) (w : β) : Plan β (T β) :=
  let n := Example.fresh (liveRoots d.pages fuel (d.slots d.primary).roots)
  { pages := [(n, ⟨w, []⟩)], roots := [⟨n, (sums β).page ⟨w, []⟩⟩], txid := (d.slots d.primary).txid + 1 }

/-- `dec` reads the logical state out of the (single) root page; an empty tree is `s₀` -/
def dec {β : Type} (s₀ : β) (c : List β) : β := c.headD s₀

theorem plan_ok {β : Type} (s₀ : β) (f : Nat) (d : Disk β (T β)) (w : β) :
    PlanOK (sums β) (f + 1) (dec s₀) d w (plan (f + 1) d w) := by
  refine ⟨Nat.lt_succ_self _, ?_, [w], ?_, by simp [dec]⟩
  · intro wr hwr
    simp only [plan, List.mem_cons, List.not_mem_nil, or_false] at hwr
    subst hwr
    exact Example.fresh_not_mem _
  · simp [plan, Plan.pageWrites, applyAll, Write.apply, readRoots, readKids, readTree]

/-- a freshly created database: two equal empty slots, two-phase flag set -/
def emptyDisk {β : Type} (s₀ : β) : Disk β (T β) where
  primary := false
  twoPhase := true
  slots := fun _ => mkSlot (sums β) 0 []
  pages := fun _ => ⟨s₀, []⟩

theorem emptyDisk_clean {β : Type} (s₀ : β) (fuel : Nat) : Clean (sums β) fuel (emptyDisk s₀) :=
  ⟨mkSlot_valid .., ⟨[], rfl⟩, Or.inr (Or.inr rfl)⟩

/-- the freshly created database as an element of `RD` (open, idle, not crashed) -/
def emptyRD {β : Type} (s₀ : β) (fuel : Nat) : RD (sums β) fuel :=
  ⟨(emptyDisk s₀, false), by simpa [Good] using emptyDisk_clean s₀ fuel⟩

theorem emptyRD_view {β : Type} (s₀ : β) (f : Nat) :
    (redbBackend (sums β) (f + 1) (dec s₀) (plan (f + 1)) (fun d _ w => plan_ok s₀ f d w)).view (emptyRD s₀ (f + 1)) = s₀ := by
  simp [redbBackend, viewRaw, emptyRD, emptyDisk, verify, mkSlot, readRoots, readKids, dec]

end Gen

end Lumina.Proofs.CrashAudit

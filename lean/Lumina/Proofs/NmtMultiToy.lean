/-
  A toy 32-byte hash for NON-VACUITY examples of the theorems that assume relative collision-freeness
  (`HashOKOn H S` with `S` an explicit finite list of hashed inputs): collision-freeness on a concrete list is decidable
  and is checked by kernel evaluation (`decide +kernel`).

  `toyH x` = the little-endian 32-byte encoding of the Horner polynomial `Σ (x[i] + 1) · 257^i mod 2^256`.
  It is of course NOT collision-free on all byte strings (no 32-byte function is); it is on the few dozen inputs that
  the examples hash.
-/
import Lumina.Proofs.Nmt

namespace Lumina.Proofs.NmtMulti
open Lumina.Util Lumina.Model.Nmt Lumina.Proofs.Nmt

def toyPoly (x : Bytes) : Nat := x.foldr (fun b acc => (b.toNat + 1 + 257 * acc) % 2 ^ 256) 0

def toyH : HashFn := fun x => (List.range 32).map (fun i => UInt8.ofNat (toyPoly x / 256 ^ i % 256))

theorem toyH_len : HashLen toyH := by intro x; simp [toyH, HASH_LEN]

/-- decidable form of `NoCollOn H (· ∈ l)` -/
def NoCollOnList (H : HashFn) (l : List Bytes) : Prop := ∀ a ∈ l, ∀ b ∈ l, H a = H b → a = b

instance (H : HashFn) (l : List Bytes) : Decidable (NoCollOnList H l) := by unfold NoCollOnList; exact inferInstance

theorem NoCollOnList.noCollOn {H : HashFn} {l : List Bytes} (h : NoCollOnList H l) : NoCollOn H (fun y => y ∈ l) :=
  fun a b ha hb hab => h a ha b hb hab

/-- a collision check that hashes every input once: distinct inputs have distinct hashes -/
theorem noCollOnList_of_nodup {H : HashFn} {l : List Bytes} (h : (l.eraseDups.map H).Nodup) : NoCollOnList H l := by
  have key : ∀ L : List Bytes, L.Pairwise (fun a b => H a ≠ H b) → ∀ a ∈ L, ∀ b ∈ L, H a = H b → a = b := by
    intro L
    induction L with
    | nil => intro _ a ha; cases ha
    | cons x t ih =>
      intro hp a ha b hb hab
      obtain ⟨hx, ht⟩ := List.pairwise_cons.mp hp
      rcases List.mem_cons.mp ha with rfl | ha' <;> rcases List.mem_cons.mp hb with rfl | hb'
      · rfl
      · exact absurd hab (hx b hb')
      · exact absurd hab.symm (hx a ha')
      · exact ih ht a ha' b hb' hab
  exact fun a ha b hb => key _ (List.pairwise_map.mp h) a (List.mem_eraseDups.mpr ha) b (List.mem_eraseDups.mpr hb)

theorem hashOKOn_of_list {H : HashFn} {l : List Bytes} (hl : HashLen H) (h : NoCollOnList H l) :
    HashOKOn H (fun y => y ∈ l) := ⟨h.noCollOn, hl⟩

end Lumina.Proofs.NmtMulti

/-
  Proofs about the daser worker model (`Lumina.Model.Daser`) for C33 and C34:

  * `Inv'` / `Inv`: representation invariants of every `BlockRanges` field, the characterisation
    of the queue (`queue = cand − timedOut − ongoing − willBePruned`), `ongoing` = heights of the
    sampling futures (one future per height), the bound on the number of futures;
  * `Good m P`: the worker-monad computation `m` succeeds with a result satisfying `P`, or
    `random_indexes` diverges on the given draws — in particular no failed `expect` and no loop
    bound is hit;
  * one `…_good` lemma per model function, stating the invariant afterwards and that the C34
    monitor (`Lumina.Spec.C34.walk`) and the C33 monitor (`Lumina.Spec.C33.walk`, via `W33`) accept the
    emitted actions, moving from the view of the state before to the view of the state after;
  * `step_ok`, `run_ok`: every stimulus / every history; `onBadAnswer_ok`, `runX_ok`: the same with answers that
    are neither a sample nor a timeout.

  `Proofs/DaserSampled.lean` carries a ghost invariant along the same steps.  A new stimulus of `Ev` therefore needs a
  case in five places: here in `stepM_good` (with a `…_good` lemma of its own), `stepDead_ok` and `EvWF`; there in
  `stepM_trk` and `stepDead_futs`.
-/
import Lumina.Proofs.RangesConstraints
import Lumina.Proofs.RangesOps
import Lumina.Proofs.DaserIndexes
import Mathlib.Tactic.Tauto
import Lumina.Model.DaserView

namespace Lumina.Proofs.Daser
open Lumina.Model.Ranges hiding Inv
open Lumina.Model.Daser
open Lumina.Proofs.Ranges Lumina.Proofs.DaserIndexes
open Lumina.Spec

open Lumina.Model.Ranges renaming Inv → RInv

/-- the computation succeeds with a result satisfying `P`, or `random_indexes` diverges -/
def Good {α} (m : M α) (P : α → Prop) : Prop :=
  match m with
  | .ok a => P a
  | .error e => e = Fail.diverge

theorem Good.bind {α β} {m : M α} {k : α → M β} {P : α → Prop} {Q : β → Prop}
    (hm : Good m P) (hk : ∀ a, P a → Good (k a) Q) : Good (m >>= k) Q := by
  cases m with
  | ok a => exact hk a hm
  | error e => exact hm

theorem Good.ok {α} {a : α} {P : α → Prop} (h : P a) : Good (.ok a : M α) P := h

/-- a `BlockRanges` operation that succeeds, followed by the rest of the function -/
theorem Good.liftR_bind {α β} {r : Res α} {a : α} {k : α → M β} {Q : β → Prop} (hr : r = .ok a)
    (hk : Good (k a) Q) : Good (liftR r >>= k) Q := by
  subst hr; exact hk

theorem Good.mono {α} {m : M α} {P Q : α → Prop} (hm : Good m P) (h : ∀ a, P a → Q a) : Good m Q := by
  cases m with
  | ok a => exact h a hm
  | error e => exact hm

theorem Good.of_ok {α} {m : M α} {P : α → Prop} {a : α} (hm : Good m P) (h : m = .ok a) : P a := by
  subst h; exact hm

/-- `hand = some h`: `h` has been popped from the queue and not yet been put anywhere.
    `waitHead`, `highestPrunable` and `numPrunable` are not read: for a state that differs from `s` only there,
    `{ hi with }` rebuilds the invariant field by field. -/
structure Inv' (s : State) (hand : Option Nat) : Prop where
  stored : RInv s.store.stored
  sampled : RInv s.store.sampled
  queue : RInv s.w.queue
  timedOut : RInv s.w.timedOut
  ongoing : RInv s.w.ongoing
  wbp : RInv s.w.willBePruned
  cand : RInv s.w.cand
  queue_eq : ∀ x, mem s.w.queue x ↔
    (some x ≠ hand ∧ mem s.w.cand x ∧ ¬ mem s.w.timedOut x ∧ ¬ mem s.w.ongoing x ∧ ¬ mem s.w.willBePruned x)
  ongoing_eq : ∀ x, mem s.w.ongoing x ↔ ∃ f ∈ s.w.futs, f.height = x
  nodup : (s.w.futs.map (·.height)).Nodup
  cand_le : ∀ x, mem s.w.cand x → x ≤ s.w.headHeight.getD 0
  futs_le : s.w.futs.length ≤ s.cfg.limit + s.cfg.extra
  /-- nothing is sampled while the worker waits for peers -/
  disc : s.w.connected = false → s.w.futs = []

abbrev Inv (s : State) : Prop := Inv' s none

theorem inv_init (cfg : Cfg) (hdr : Nat → Hdr) : Inv (init cfg hdr) := by
  refine ⟨inv_nil, inv_nil, inv_nil, inv_nil, inv_nil, inv_nil, inv_nil, ?_, ?_, ?_, ?_, ?_, ?_⟩ <;>
    simp [init, Worker.init, mem_nil]

structure Frame (s s' : State) : Prop where
  cfg : s'.cfg = s.cfg
  hdr : s'.hdr = s.hdr
  connected : s'.w.connected = s.w.connected
  dead : s'.w.dead = s.w.dead

theorem Frame.refl (s : State) : Frame s s := ⟨rfl, rfl, rfl, rfl⟩
theorem Frame.trans {a b c : State} (h1 : Frame a b) (h2 : Frame b c) : Frame a c :=
  ⟨h2.cfg.trans h1.cfg, h2.hdr.trans h1.hdr, h2.connected.trans h1.connected, h2.dead.trans h1.dead⟩

theorem walk34_append (v : C34.View) (a b : List Tok) :
    C34.walk v (a ++ b) = (C34.walk v a).bind (fun v' => C34.walk v' b) := by
  induction a generalizing v with
  | nil => rfl
  | cons t ts ih =>
    simp only [List.cons_append, C34.walk]
    cases C34.onTok v t with
    | none => rfl
    | some v' => exact ih v'

theorem walk34_fixed {v : C34.View} : ∀ {toks : List Tok}, (∀ t ∈ toks, C34.onTok v t = some v) → C34.walk v toks = some v
  | [], _ => rfl
  | t :: ts, h => by
    simp only [C34.walk, h t (by simp)]
    exact walk34_fixed (fun t' ht' => h t' (by simp [ht']))

theorem walk34_pollNew (v : C34.View) (fs : List Fut) (hin : ∀ f ∈ fs, v.inProgress f.height = true) :
    C34.walk v (pollNew fs) = some v := by
  apply walk34_fixed
  intro t ht
  simp only [pollNew, List.mem_append, List.mem_map] at ht
  rcases ht with ⟨f, hf, rfl⟩ | ⟨f, hf, rfl⟩ <;> simp only [C34.onTok, C34.partOf, hin f hf, if_true]

/-- the C34 monitor accepts `toks` from the view of `s` and ends in a view that agrees with the view of `s'` on
    what is in progress (after a window cut-off the two differ in `timedOut` only) -/
def WalkTo (s : State) (toks : List Tok) (s' : State) : Prop :=
  ∃ v', C34.walk (view34 s) toks = some v' ∧ v'.inProgress = (view34 s').inProgress

/-- the constants the properties quote -/
def CfgOK (c : Cfg) : Prop := c.prunerThreshold = 512 ∧ c.maxSamples = 16

/-! ### the C33 monitor along the model -/

/-- the C33 view of a state, with the "just finished successfully" marker set to `j` -/
def view33j (s : State) (j : Option Nat) : C33.View := { view33 s with justOk := j }

/-- the C33 monitor accepts `toks` and moves from the view of `s` to the view of `s'` -/
def W33 (s : State) (toks : List Tok) (s' : State) : Prop :=
  ∀ j, C33.walk (view33j s j) toks = some (view33j s' j)

theorem walk33_append (v : C33.View) (a b : List Tok) :
    C33.walk v (a ++ b) = (C33.walk v a).bind (fun v' => C33.walk v' b) := by
  induction a generalizing v with
  | nil => rfl
  | cons t ts ih =>
    simp only [List.cons_append, C33.walk]
    cases C33.onTok v t with
    | none => rfl
    | some v' => exact ih v'

theorem W33.trans {a b c : State} {t1 t2 : List Tok} (h1 : W33 a t1 b) (h2 : W33 b t2 c) : W33 a (t1 ++ t2) c := by
  intro j; rw [walk33_append, h1 j]; exact h2 j

theorem W33.nil (s : State) : W33 s [] s := fun _ => rfl

structure Grow (s s' : State) : Prop where
  futs : ∀ g ∈ s.w.futs, g ∈ s'.w.futs
  smeta : ∀ h p, p ∈ metaGet s.store.smeta h → p ∈ metaGet s'.store.smeta h

theorem Grow.refl (s : State) : Grow s s := ⟨fun _ h => h, fun _ _ h => h⟩
theorem Grow.trans {a b c : State} (h1 : Grow a b) (h2 : Grow b c) : Grow a c :=
  ⟨fun g hg => h2.futs g (h1.futs g hg), fun h p hp => h2.smeta h p (h1.smeta h p hp)⟩

/-- a block that has just been started -/
structure NewFut (s : State) (f : Fut) : Prop where
  mem : f ∈ s.w.futs
  pending : f.pending = f.shares
  fresh : f.timedOut = false
  ok : C33.sharesOK f.width f.shares = true
  width : f.width = (s.hdr f.height).width
  recorded : ∀ p ∈ f.shares, p ∈ metaGet s.store.smeta f.height

theorem NewFut.grow {s s' : State} {f : Fut} (h : NewFut s f) (g : Grow s s') (hh : s'.hdr = s.hdr) : NewFut s' f :=
  ⟨g.futs f h.mem, h.pending, h.fresh, h.ok, by rw [hh]; exact h.width, fun p hp => g.smeta _ p (h.recorded p hp)⟩

/-- one block per height: where the block of `f` is found, also after an update `g` of the blocks that keeps heights -/
theorem find_map_upd (g : C33.Blk → C33.Blk) (hg : ∀ b, (g b).height = b.height) {futs : List Fut} {f : Fut}
    (hf : f ∈ futs) (hnd : (futs.map (·.height)).Nodup) :
    ((futs.map blkOf).map g).find? (fun b => b.height == f.height) = some (g (blkOf f)) := by
  rw [List.map_map, Util.find?_map_key Fut.height C33.Blk.height (g ∘ blkOf) (fun k => hg (blkOf k)),
    (Util.find?_key Fut.height futs hnd f.height f).2 ⟨hf, rfl⟩]
  rfl

theorem find_blk {futs : List Fut} {f : Fut} (hf : f ∈ futs) (hnd : (futs.map (·.height)).Nodup) :
    (futs.map blkOf).find? (fun b => b.height == f.height) = some (blkOf f) := by
  simpa using find_map_upd id (fun _ => rfl) hf hnd

theorem sameSet_refl (l : List Share) : C33.sameSet l l = true := by
  simp [C33.sameSet]

theorem walk33_fixed {v : C33.View} : ∀ {toks : List Tok}, (∀ t ∈ toks, C33.onTok v t = some v) → C33.walk v toks = some v
  | [], _ => rfl
  | t :: ts, h => by
    simp only [C33.walk, h t (by simp)]
    exact walk33_fixed (fun t' ht' => h t' (by simp [ht']))

/-- the first poll of freshly started futures is accepted: `SamplingStarted` lists the chosen shares and
    every request is for a share already recorded -/
theorem W33_pollNew {s : State} (hnd : (s.w.futs.map (·.height)).Nodup) (fs : List Fut)
    (hfs : ∀ f ∈ fs, NewFut s f) : W33 s (pollNew fs) s := by
  intro j
  apply walk33_fixed
  intro t ht
  simp only [pollNew, List.mem_append, List.mem_map] at ht
  rcases ht with ⟨f, hf, rfl⟩ | ⟨f, hf, rfl⟩
  · have hn := hfs f hf
    have hok : C33.sharesOK (s.hdr f.height).width f.shares = true := hn.width ▸ hn.ok
    simp only [C33.onTok, C33.findBlk, view33j, view33, find_blk hn.mem hnd, blkOf, hn.width, beq_self_eq_true,
      sameSet_refl, hok, Bool.and_self, if_true]
  · have hn := hfs f hf
    have hsn : decide f.shares.Nodup = true := decide_eq_true ((sharesOK_iff _ _).1 hn.ok).1
    have hrec : f.shares.all (fun p => (metaGet s.store.smeta f.height).contains p) = true := by
      simpa only [List.all_eq_true, List.contains_iff_mem] using hn.recorded
    simp only [C33.onTok, C33.findBlk, view33j, view33, find_blk hn.mem hnd, blkOf, sameSet_refl, hsn, hrec,
      Bool.and_self, if_true]

/-- `s'` differs from `s` in the worker's sets of heights only: invisible to the C33 monitor -/
structure Same (s s' : State) : Prop where
  frame : Frame s s'
  store : s'.store = s.store
  futs : s'.w.futs = s.w.futs

theorem Same.refl (s : State) : Same s s := ⟨Frame.refl s, rfl, rfl⟩
theorem Same.trans {a b c : State} (h1 : Same a b) (h2 : Same b c) : Same a c :=
  ⟨h1.frame.trans h2.frame, h2.store.trans h1.store, h2.futs.trans h1.futs⟩

theorem Same.view33j {s s' : State} (h : Same s s') (j : Option Nat) : view33j s' j = view33j s j := by
  simp only [Daser.view33j, view33, h.store, h.futs, h.frame.hdr, h.frame.connected]

theorem W33.to_same {a b c : State} {t : List Tok} (h : W33 a t b) (hs : Same b c) : W33 a t c := by
  intro j; rw [hs.view33j j]; exact h j

theorem Same.grow {s s' : State} (h : Same s s') : Grow s s' :=
  ⟨fun g hg => by rw [h.futs]; exact hg, fun _ p hp => by rw [h.store]; exact hp⟩

/-! ### the monitor's sets of heights -/

theorem contains_add {a b : Ranges} {h : Nat} (hm : ∀ x, mem b x ↔ mem a x ∨ x = h) :
    (fun x => contains b x) = C34.add (fun x => contains a x) h := by
  apply contains_eq_of_iff; intro x
  rw [hm]; simp only [C34.add, Bool.or_eq_true, beq_iff_eq, contains_iff_mem]; exact or_comm

theorem contains_del {a b : Ranges} {h : Nat} (hm : ∀ x, mem b x ↔ mem a x ∧ x ≠ h) :
    (fun x => contains b x) = C34.del (fun x => contains a x) h := by
  apply contains_eq_of_iff; intro x
  rw [hm]; simp only [C34.del, Bool.and_eq_true, bne_iff_ne, ne_eq, contains_iff_mem]; exact and_comm

/-! ### `update_queue` -/

theorem updateQueue_good {s : State} {hand : Option Nat} (hi : Inv' s hand) :
    Good (updateQueue s) (fun r => Inv r.1 ∧ Same s r.1 ∧ r.2 = [Tok.scan] ∧ W33 s r.2 r.1 ∧
      C34.walk (view34 s) r.2 = some (view34 r.1) ∧ (∀ x, mem r.1.w.queue x → mem r.1.store.stored x)) := by
  unfold updateQueue
  obtain ⟨c, hc, hci, hcm⟩ := sub_spec hi.stored hi.sampled
  obtain ⟨q1, hq1, hq1i, hq1m⟩ := sub_spec hci hi.timedOut
  obtain ⟨q2, hq2, hq2i, hq2m⟩ := sub_spec hq1i hi.ongoing
  obtain ⟨q3, hq3, hq3i, hq3m⟩ := sub_spec hq2i hi.wbp
  refine Good.liftR_bind hc (Good.liftR_bind hq1 (Good.liftR_bind hq2 (Good.liftR_bind hq3 ?_)))
  refine Good.ok ⟨{ hi with queue := hq3i, cand := hci, queue_eq := ?_, cand_le := ?_ },
    ⟨⟨rfl, rfl, rfl, rfl⟩, rfl, rfl⟩, rfl, fun _ => rfl, ?_, ?_⟩
  · intro x
    simp only [hq3m, hq2m, hq1m, ne_eq, reduceCtorEq, not_false_eq_true, true_and, and_assoc]
  · intro x hx
    obtain ⟨y, hh, hle⟩ := head_of_mem hi.stored ((hcm x).1 hx).1
    rw [hh]; exact hle
  · simp only [C34.walk, C34.onTok, view34]
    congr 2
    symm
    apply contains_eq_of_iff
    intro x
    rw [hcm, ← contains_iff_mem, ← contains_false_iff]
    cases contains s.store.stored x <;> cases contains s.store.sampled x <;> simp
  · intro x hx
    exact ((hcm x).1 ((hq1m x).1 ((hq2m x).1 ((hq3m x).1 hx).1).1).1).1

/-! ### the `loop` of `schedule_next_sample_block` -/

/-- a height has been popped and passed the concurrency and store checks -/
structure Picked (s : State) (h : Nat) : Prop where
  inv : Inv' s (some h)
  stored : contains s.store.stored h = true
  cand : mem s.w.cand h
  nto : ¬ mem s.w.timedOut h
  nong : ¬ mem s.w.ongoing h
  nwbp : ¬ mem s.w.willBePruned h
  maxi : ∀ x, mem s.w.cand x → ¬ mem s.w.timedOut x → ¬ mem s.w.ongoing x → ¬ mem s.w.willBePruned x → x ≤ h
  lim : s.w.futs.length < concurrencyLimit s.cfg s.w h

def PickPost (s : State) (r : Option Nat × State × List Tok) : Prop :=
  Same s r.2.1 ∧ C34.walk (view34 s) r.2.2 = some (view34 r.2.1) ∧ W33 s r.2.2 r.2.1 ∧
  match r.1 with
  | none => Inv r.2.1
  | some h => Picked r.2.1 h

/-- one round of the loop; `hqs`: the queue holds stored heights only (just repopulated), or another round is allowed -/
theorem pickHeader_step {s : State} (hi : Inv s) (fuel : Nat)
    (hqs : (∀ x, mem s.w.queue x → mem s.store.stored x) ∨
      (∀ s2, Inv s2 → (∀ x, mem s2.w.queue x → mem s2.store.stored x) → Good (pickHeader fuel s2) (PickPost s2))) :
    Good (pickHeader (fuel + 1) s) (PickPost s) := by
  unfold pickHeader
  rcases popHead_spec hi.queue with ⟨hnil, hpop⟩ | ⟨h, rs', hh, hpop, hrs', hrm, _⟩
  · rw [← hnil] at hpop
    exact Good.liftR_bind hpop (Good.ok ⟨Same.refl s, rfl, W33.nil s, hi⟩)
  · obtain ⟨hmem, hmax⟩ := head_spec hi.queue hh
    refine Good.liftR_bind hpop ?_
    dsimp only
    have hq := (hi.queue_eq h).1 hmem
    have hb := mem_bounds hi.queue hmem
    have hsame : Same s { s with w := { s.w with queue := rs' } } := ⟨⟨rfl, rfl, rfl, rfl⟩, rfl, rfl⟩
    split
    · -- concurrency limit reached: put it back
      obtain ⟨q2, hq2, hq2i, hq2m⟩ := insertPoint_spec hrs' hb.1 hb.2
      refine Good.liftR_bind hq2 (Good.ok ⟨⟨⟨rfl, rfl, rfl, rfl⟩, rfl, rfl⟩, rfl, fun _ => rfl,
        { hi with queue := hq2i, queue_eq := fun x => ?_ }⟩)
      rw [← hi.queue_eq]
      show mem q2 x ↔ _
      rw [hq2m, hrm]
      by_cases hxh : x = h
      · subst hxh; simp [hmem]
      · simp [hxh]
    · have hi1 : Inv' { s with w := { s.w with queue := rs' } } (some h) := by
        refine { hi with queue := hrs', queue_eq := fun x => ?_ }
        show mem rs' x ↔ _
        rw [hrm, hi.queue_eq]
        simp only [ne_eq, reduceCtorEq, not_false_eq_true, true_and, Option.some.injEq]
        exact and_comm
      split
      · -- header found
        rename_i hlim hst
        exact Good.ok ⟨hsame, rfl, fun _ => rfl, hi1, hst, hq.2.1, hq.2.2.1, hq.2.2.2.1, hq.2.2.2.2,
          fun x h1 h2 h3 h4 => hmax x ((hi.queue_eq x).2 ⟨by simp, h1, h2, h3, h4⟩), by simpa using hlim⟩
      · -- not in the store: the queue is stale; repopulate and try again
        rename_i hlim hst
        rcases hqs with hqs | hrec
        · exact absurd ((contains_iff_mem _ _).2 (hqs h hmem)) hst
        · refine Good.bind (updateQueue_good hi1) ?_
          rintro ⟨s2, t2⟩ ⟨hi2, hs2, rfl, hq33, hw2, hqs2⟩
          refine Good.bind (hrec s2 hi2 hqs2) ?_
          rintro ⟨r, s3, t3⟩ ⟨hs3, hw3, hw33, hr⟩
          refine Good.ok ⟨(hsame.trans hs2).trans hs3, ?_, W33.trans hq33 hw33, hr⟩
          rw [walk34_append, show C34.walk (view34 s) [Tok.scan] = some (view34 s2) from hw2]
          exact hw3

/-- two rounds suffice: after `update_queue` the popped height is in the store -/
theorem pickHeader_good {s : State} (hi : Inv s) (fuel : Nat) :
    Good (pickHeader (fuel + 2) s) (PickPost s) :=
  pickHeader_step hi (fuel + 1) (Or.inr (fun _ h2 q2 => pickHeader_step h2 fuel (Or.inl q2)))

theorem concurrencyLimit_le (cfg : Cfg) (w : Worker) (h : Nat) : concurrencyLimit cfg w h ≤ cfg.limit + cfg.extra := by
  unfold concurrencyLimit
  split
  · omega
  · split <;> omega

theorem startOK_of_picked {s : State} {h : Nat} (hp : Picked s h) (hfresh : (s.hdr h).fresh = true)
    (hconn : s.w.connected = true) (hdead : s.w.dead = false) (hthr : s.cfg.prunerThreshold = 512) :
    C34.startOK (view34 s) h = true := by
  have hb := mem_bounds hp.inv.cand hp.cand
  have helig : ∀ x, C34.eligible (view34 s) x = true ↔
      (mem s.w.cand x ∧ ¬ mem s.w.ongoing x ∧ ¬ mem s.w.willBePruned x ∧ ¬ mem s.w.timedOut x) := by
    intro x
    simp only [C34.eligible, view34, Bool.and_eq_true, Bool.not_eq_true', contains_iff_mem, contains_false_iff, and_assoc]
  have hlim := hp.lim
  unfold concurrencyLimit at hlim
  simp only [C34.startOK, Bool.and_eq_true, Bool.or_eq_true, Bool.not_eq_true', List.all_eq_true, decide_eq_true_eq]
  refine ⟨⟨⟨⟨⟨⟨⟨?_, ?_⟩, ?_⟩, ?_⟩, ?_⟩, ?_⟩, ?_⟩, ?_⟩
  · simp [view34, hdead]
  · simp [view34, hconn]
  · exact hp.stored
  · exact (helig h).2 ⟨hp.cand, hp.nong, hp.nwbp, hp.nto⟩
  · intro x hx
    simp only [C34.above, List.mem_range'_1] at hx
    cases he : C34.eligible (view34 s) x
    · rfl
    · obtain ⟨h1, h2, h3, h4⟩ := (helig x).1 he
      have := hp.maxi x h1 h4 h2 h3
      omega
  · exact hfresh
  · split at hlim
    · omega
    · rename_i hc
      simp only [view34, hthr] at hc ⊢
      cases hd : (decide (h ≤ s.w.highestPrunable.getD 0) && decide (s.w.numPrunable ≥ 512))
      · exact hd
      · exact absurd hd hc
  · split at hlim
    · omega
    · split at hlim
      · rename_i hh
        right
        simp only [view34]
        refine ⟨?_, hlim⟩
        have : h = s.w.headHeight.getD 0 := by simpa using hh
        cases hhh : s.w.headHeight with
        | none => rw [hhh] at this; simp at this; omega
        | some y => rw [hhh] at this; simp at this; subst this; simp
      · left; exact hlim

/-! ### `schedule_next_sample_block` -/

/-- hypotheses under which the worker schedules: connected, alive, thresholds as stated -/
structure Sched (s : State) : Prop where
  conn : s.w.connected = true
  alive : s.w.dead = false
  thr : CfgOK s.cfg

theorem Sched.frame {s s' : State} (h : Sched s) (f : Frame s s') : Sched s' :=
  ⟨f.connected.trans h.conn, f.dead.trans h.alive, by rw [f.cfg]; exact h.thr⟩

def NextPost (s : State) (r : Option Fut × State × List Tok) : Prop :=
  Frame s r.2.1 ∧ Inv r.2.1 ∧ Grow s r.2.1 ∧ W33 s r.2.2 r.2.1 ∧
  match r.1 with
  | some f => C34.walk (view34 s) r.2.2 = some (view34 r.2.1) ∧ r.2.1.w.futs = s.w.futs ++ [f] ∧ NewFut r.2.1 f
  | none => WalkTo s r.2.2 r.2.1 ∧ r.2.1.w.futs = s.w.futs

theorem scheduleNext_good {s : State} (hi : Inv s) (hs : Sched s) (draws : List (Nat × Nat)) :
    Good (scheduleNext s draws) (NextPost s) := by
  unfold scheduleNext
  refine Good.bind (pickHeader_good hi 1) ?_
  rintro ⟨top, s1, t1⟩ ⟨hs1, hw1, hw33, hr⟩
  cases top with
  | none => exact Good.ok ⟨hs1.frame, hr, hs1.grow, hw33, ⟨_, hw1, rfl⟩, hs1.futs⟩
  | some h =>
    dsimp only at hr hw1 ⊢
    have hp : Picked s1 h := hr
    have hb := mem_bounds hp.inv.cand hp.cand
    have hsch := hs.frame hs1.frame
    split
    · -- outside the sampling window: everything up to `h` is dropped
      have hv : ValidR (1, h) := ⟨Nat.le_refl _, hb.1, hb.2⟩
      obtain ⟨q, hq, hqi, hqm⟩ := removeRelaxed_spec hp.inv.queue hv
      obtain ⟨t, ht, hti, htm⟩ := insertRelaxed_spec hp.inv.timedOut hv
      refine Good.liftR_bind hq (Good.liftR_bind ht ?_)
      have hs2 : Same s1 { s1 with w := { s1.w with queue := q, timedOut := t } } := ⟨⟨rfl, rfl, rfl, rfl⟩, rfl, rfl⟩
      refine Good.ok ⟨(hs1.trans hs2).frame, ?_, (hs1.trans hs2).grow, hw33.to_same hs2, ⟨_, hw1, rfl⟩, hs1.futs⟩
      refine { hp.inv with queue := hqi, timedOut := hti, queue_eq := fun x => ?_ }
      show mem q x ↔ _ ∧ _ ∧ ¬ mem t x ∧ _
      rw [hqm, htm, hp.inv.queue_eq]
      have hxb : mem s1.w.cand x → 1 ≤ x := fun hx => (mem_bounds hp.inv.cand hx).1
      simp only [ne_eq, Option.some.injEq, reduceCtorEq, not_false_eq_true, true_and]
      constructor
      · rintro ⟨⟨_, h2, h3, h4, h5⟩, h6⟩
        exact ⟨h2, fun hc => hc.elim h3 h6, h4, h5⟩
      · rintro ⟨h2, h3, h4, h5⟩
        refine ⟨⟨?_, h2, fun hc => h3 (Or.inl hc), h4, h5⟩, fun hc => h3 (Or.inr hc)⟩
        rintro rfl
        exact h3 (Or.inr ⟨hxb h2, Nat.le_refl _⟩)
    · rename_i hfr
      have hfresh : (s1.hdr h).fresh = true := by simpa using hfr
      split
      · exact rfl
      · rename_i shares hri
        obtain ⟨o, ho, hoi, hom⟩ := insertPoint_spec hp.inv.ongoing hb.1 hb.2
        refine Good.liftR_bind ho ?_
        have hok : C33.sharesOK (s1.hdr h).width shares = true :=
          sharesOK_of_randomIndexes _ _ _ (hsch.thr.2 ▸ hri)
        have hnd : shares.Nodup := ((sharesOK_iff _ _).1 hok).1
        have hmeta := metaGet_metaUpdate h shares hnd s1.store.smeta
        have hnoblk : ∀ g ∈ s1.w.futs, g.height ≠ h := fun g hg hgh => hp.nong ((hp.inv.ongoing_eq h).2 ⟨g, hg, hgh⟩)
        have hrec := mem_metaGet_metaUpdate h hnd s1.store.smeta
        refine Good.ok ⟨hs1.frame.trans ⟨rfl, rfl, rfl, rfl⟩, ?inv,
          hs1.grow.trans ⟨fun g hg => List.mem_append_left _ hg, fun x p hp' => (hrec x p).2 (Or.inl hp')⟩,
          ?w33, ?w34, by dsimp only; rw [hs1.futs],
          ⟨by dsimp only; simp, rfl, rfl, hok, rfl, fun p hp' => (hrec h p).2 (Or.inr ⟨rfl, hp'⟩)⟩⟩
        case w33 =>
          -- the C33 monitor: the chosen shares are recorded, a block record is opened
          refine W33.trans hw33 fun j => ?_
          have hnone : (C33.findBlk (view33j s1 j) h).isNone = true := by
            simp only [C33.findBlk, view33j, view33, Option.isNone_iff_eq_none, List.find?_eq_none, List.mem_map,
              beq_iff_eq]
            rintro b ⟨g, hg, rfl⟩
            exact hnoblk g hg
          have hok' : C33.sharesOK ((view33j s1 j).width h) shares = true := hok
          simp only [C33.walk, C33.onTok, hok', hnone, Bool.and_self, if_true]
          simp only [view33j, view33, hmeta, List.map_append, List.map_cons, List.map_nil, blkOf]
        case inv =>
          refine { hp.inv with ongoing := hoi, queue_eq := fun x => ?_, ongoing_eq := fun x => ?_, nodup := ?_,
                               futs_le := ?_, disc := fun hc => by rw [hsch.conn] at hc; cases hc }
          · show _ ↔ _ ∧ _ ∧ _ ∧ ¬ mem o x ∧ _
            rw [hom, hp.inv.queue_eq]
            simp only [ne_eq, Option.some.injEq, reduceCtorEq, not_false_eq_true, true_and, not_or]
            exact ⟨fun ⟨a, b, c, d, e⟩ => ⟨b, c, ⟨d, a⟩, e⟩, fun ⟨b, c, ⟨d, a⟩, e⟩ => ⟨a, b, c, d, e⟩⟩
          · show mem o x ↔ ∃ f ∈ s1.w.futs ++ [_], f.height = x
            rw [hom, hp.inv.ongoing_eq]
            simp [or_and_right, exists_or, eq_comm]
          · dsimp only
            rw [List.map_append, List.nodup_append]
            refine ⟨hp.inv.nodup, by simp, ?_⟩
            intro a ha b hb'
            simp only [List.map_cons, List.map_nil, List.mem_singleton] at hb'
            subst hb'
            obtain ⟨f, hf, rfl⟩ := List.mem_map.1 ha
            exact hnoblk f hf
          · dsimp only
            have := hp.lim
            have := concurrencyLimit_le s1.cfg s1.w h
            simp only [List.length_append, List.length_singleton]
            omega
        case w34 =>
          rw [walk34_append, hw1]
          simp only [Option.bind, C34.walk, C34.onTok, C34.start,
            startOK_of_picked hp hfresh hsch.conn hsch.alive hsch.thr.1, if_true]
          simp only [view34, List.length_append, List.length_singleton, contains_add hom]

/-! ### the `while` loop and the following `select!` -/

def LoopPost (s : State) (r : List Fut × State × List Tok) : Prop :=
  Frame s r.2.1 ∧ Inv r.2.1 ∧ WalkTo s r.2.2 r.2.1 ∧ r.2.1.w.futs = s.w.futs ++ r.1 ∧
  Grow s r.2.1 ∧ W33 s r.2.2 r.2.1 ∧ ∀ f ∈ r.1, NewFut r.2.1 f

theorem scheduleLoop_good : ∀ (fuel : Nat) (s : State) (rnd : List (List (Nat × Nat))), Inv s → Sched s →
    s.cfg.limit + s.cfg.extra < fuel + s.w.futs.length → Good (scheduleLoop fuel s rnd) (LoopPost s)
  | 0, s, _, hi, _, hlt => by
    have := hi.futs_le; omega
  | fuel + 1, s, rnd, hi, hs, hlt => by
    unfold scheduleLoop
    refine Good.bind (scheduleNext_good hi hs _) ?_
    rintro ⟨r, s1, t1⟩ ⟨hf1, hi1, hg1, hw33, hr⟩
    cases r with
    | none =>
      exact Good.ok ⟨hf1, hi1, hr.1, by rw [hr.2]; simp, hg1, hw33, by simp⟩
    | some f =>
      dsimp only at hr hg1 hw33 ⊢
      have hlt1 : s1.cfg.limit + s1.cfg.extra < fuel + s1.w.futs.length := by
        rw [hf1.cfg, hr.2.1]; simp only [List.length_append, List.length_singleton]; omega
      refine Good.bind (scheduleLoop_good fuel s1 rnd.tail hi1 (hs.frame hf1) hlt1) ?_
      rintro ⟨fs, s2, t2⟩ ⟨hf2, hi2, hw2, hfu2, hg2, hw33', hnf⟩
      refine Good.ok ⟨Frame.trans hf1 hf2, hi2, ?_, ?_, Grow.trans hg1 hg2, W33.trans hw33 hw33', ?_⟩
      · obtain ⟨v', hv', hip⟩ := hw2
        exact ⟨v', by dsimp only at hv' ⊢; rw [walk34_append, hr.1]; exact hv', hip⟩
      · dsimp only at hfu2 ⊢
        rw [hfu2, hr.2.1]; simp
      · intro g hg
        rcases List.mem_cons.1 hg with rfl | hg
        · exact hr.2.2.grow hg2 hf2.hdr
        · exact hnf g hg

def AllPost (s : State) (r : State × List Tok) : Prop :=
  Frame s r.1 ∧ Inv r.1 ∧ (C34.walk (view34 s) r.2).isSome = true ∧ W33 s r.2 r.1

theorem scheduleAll_good {s : State} (hi : Inv s) (hs : Sched s) (rnd : List (List (Nat × Nat))) :
    Good (scheduleAll s rnd) (AllPost s) := by
  unfold scheduleAll
  refine Good.bind (scheduleLoop_good _ s rnd hi hs (by omega)) ?_
  rintro ⟨fs, s1, t1⟩ ⟨hf1, hi1, ⟨v', hw1, hip⟩, hfu, _, hw33, hnf⟩
  refine Good.ok ⟨hf1, hi1, ?_, W33.trans hw33 (W33_pollNew hi1.nodup fs hnf)⟩
  dsimp only at hw1 hip hfu ⊢
  rw [walk34_append, hw1]
  have hin : ∀ f ∈ fs, v'.inProgress f.height = true := by
    intro f hf
    rw [hip]
    simp only [view34, contains_iff_mem]
    exact (hi1.ongoing_eq _).2 ⟨f, by rw [hfu]; exact List.mem_append_right _ hf, rfl⟩
  simp [Option.bind, walk34_pollNew v' fs hin]

/-! ### the store (environment) -/

def EvWF : Ev → Prop
  | .insert _ hi => hi ≤ U64_MAX
  | .prune h => h ≤ U64_MAX
  | _ => True

instance (ev : Ev) : Decidable (EvWF ev) := by
  cases ev <;> unfold EvWF <;> infer_instance

theorem storeInsert_spec {st st' : StoreSt} {lo hi : Nat} (h1 : RInv st.stored) (h2 : RInv st.sampled)
    (hhi : hi ≤ U64_MAX) (h : storeInsert st lo hi = some st') :
    RInv st'.stored ∧ RInv st'.sampled ∧ st'.smeta = st.smeta ∧
    (∀ x, mem st'.stored x ↔ mem st.stored x ∨ (lo ≤ x ∧ x ≤ hi)) ∧
    (∀ x, mem st'.sampled x ↔ mem st.sampled x ∧ ¬ (lo ≤ x ∧ x ≤ hi)) ∧
    head st'.stored = some (max hi ((head st.stored).getD 0)) := by
  unfold storeInsert at h
  cases hc : checkInsertionConstraints st.stored (lo, hi) with
  | error e => rw [hc] at h; simp at h
  | ok b =>
    rw [hc] at h
    have hvalid : Range.valid (lo, hi) = true := by
      cases hv : Range.valid (lo, hi)
      · rw [checkInsertionConstraints_invalid hv] at hc; simp at hc
      · rfl
    have hv : ValidR (lo, hi) := by
      have := (valid_iff (lo, hi)).1 hvalid
      exact ⟨this.1, this.2, hhi⟩
    obtain ⟨a, ha, hai, ham⟩ := insertRelaxed_spec h1 hv
    obtain ⟨b', hb, hbi, hbm⟩ := removeRelaxed_spec h2 hv
    rw [ha, hb] at h
    simp only [Option.some.injEq] at h
    subst h
    exact ⟨hai, hbi, rfl, ham, hbm, head_insert hai h1 hv ham⟩

theorem storeRemove_spec {st st' : StoreSt} {h : Nat} (h1 : RInv st.stored) (h2 : RInv st.sampled)
    (hr : storeRemove st h = some st') :
    RInv st'.stored ∧ RInv st'.sampled ∧
    (∀ x, mem st'.stored x ↔ mem st.stored x ∧ x ≠ h) ∧
    (∀ x, mem st'.sampled x ↔ mem st.sampled x ∧ x ≠ h) := by
  unfold storeRemove at hr
  cases hc : contains st.stored h with
  | false => rw [hc] at hr; simp at hr
  | true =>
    rw [hc] at hr
    have hb := mem_bounds h1 ((contains_iff_mem _ _).1 hc)
    obtain ⟨a, ha, hai, ham⟩ := removePoint_spec h1 hb.1 hb.2
    obtain ⟨b', hb', hbi, hbm⟩ := removePoint_spec h2 hb.1 hb.2
    rw [ha, hb'] at hr
    simp only [Bool.not_true, Bool.false_eq_true, if_false, Option.some.injEq] at hr
    subst hr
    exact ⟨hai, hbi, ham, hbm⟩

/-! ### one stimulus -/

def EvPost (s : State) (ev : Ev) (r : State × List Tok) : Prop :=
  Inv r.1 ∧ r.1.cfg = s.cfg ∧ r.1.hdr = s.hdr ∧ C34.specOK (view34 s) ev r.2 = true ∧
  C33.specOK (view33 s) ev r.2 = true

/-- no reaction, or only the store's refusal: both monitors accept whatever the stimulus was -/
theorem EvPost.quiet {s s' : State} {ev : Ev} (hi : Inv s') (hc : s'.cfg = s.cfg) (hh : s'.hdr = s.hdr) :
    EvPost s ev (s', []) :=
  ⟨hi, hc, hh, rfl, rfl⟩

theorem EvPost.storeErr {s : State} {ev : Ev} (hi : Inv s) : EvPost s ev (s, [Tok.storeErr]) :=
  ⟨hi, rfl, rfl, rfl, rfl⟩

theorem isSome_of_W33 {v0 : C33.View} {s1 s2 : State} {toks : List Tok} (hv : v0 = view33j s1 none)
    (hw : W33 s1 toks s2) : (C33.walk v0 toks).isSome = true := by
  rw [hv, hw none]; rfl

theorem scan_ne_storeErr (t : List Tok) : ((Tok.scan :: t) == [Tok.storeErr]) = false := by
  cases t <;> simp

/-- scheduling from `s1`, the state in which the stimulus `ev` has left the worker; `h34` / `h33`: the monitors' pictures
    after `ev` are the views of `s1` -/
theorem scheduleAll_ev {s s1 : State} {ev : Ev} (hi1 : Inv s1) (hs : Sched s1) (hc : s1.cfg = s.cfg) (hh : s1.hdr = s.hdr)
    (h34 : ∀ t, C34.specOK (view34 s) ev t = (C34.walk (view34 s1) t).isSome)
    (h33 : ∀ t, C33.specOK (view33 s) ev t = (C33.walk (view33j s1 none) t).isSome) (rnd : List (List (Nat × Nat))) :
    Good (scheduleAll s1 rnd) (EvPost s ev) := by
  refine Good.mono (scheduleAll_good hi1 hs rnd) ?_
  rintro ⟨s2, t2⟩ ⟨hf2, hi2, hw2, hw33⟩
  exact ⟨hi2, hf2.cfg.trans hc, hf2.hdr.trans hh, by rw [h34]; exact hw2, by rw [h33, hw33 none]; rfl⟩

/-- the same for `update_queue` followed by scheduling -/
theorem rescan_ev {s s1 : State} {ev : Ev} (hi1 : Inv s1) (hs : Sched s1) (hc : s1.cfg = s.cfg) (hh : s1.hdr = s.hdr)
    (h34 : ∀ t, C34.specOK (view34 s) ev (Tok.scan :: t) = (C34.walk (view34 s1) (Tok.scan :: t)).isSome)
    (h33 : ∀ t, C33.specOK (view33 s) ev t = (C33.walk (view33j s1 none) t).isSome) (rnd : List (List (Nat × Nat))) :
    Good (do let (s3, t3) ← updateQueue s1; let (s4, t4) ← scheduleAll s3 rnd; pure (s4, t3 ++ t4)) (EvPost s ev) := by
  refine Good.bind (updateQueue_good hi1) ?_
  rintro ⟨s3, t3⟩ ⟨hi3, hs3, rfl, hq33, hw3, _⟩
  refine Good.bind (scheduleAll_good hi3 (hs.frame hs3.frame) rnd) ?_
  rintro ⟨s4, t4⟩ ⟨hf4, hi4, hw4, hw33⟩
  have hf := hs3.frame.trans hf4
  refine Good.ok ⟨hi4, hf.cfg.trans hc, hf.hdr.trans hh, ?_, ?_⟩
  · dsimp only at hw3 hw4 ⊢
    rw [List.singleton_append, h34, ← List.singleton_append, walk34_append, hw3]
    exact hw4
  · rw [h33, W33.trans hq33 hw33 none]; rfl

theorem insert_good {s : State} (hi : Inv s) (hal : s.w.dead = false) (hthr : CfgOK s.cfg)
    (lo hi' : Nat) (hhi : hi' ≤ U64_MAX) (rnd : List (List (Nat × Nat))) :
    Good (stepM s (.insert lo hi') rnd) (EvPost s (.insert lo hi')) := by
  simp only [stepM]
  cases hsi : storeInsert s.store lo hi' with
  | none => exact Good.ok (EvPost.storeErr hi)
  | some st =>
    obtain ⟨h1, h2, hsm, hm1, hm2, hhd⟩ := storeInsert_spec hi.stored hi.sampled hhi hsi
    dsimp only
    have hi1 : Inv { s with store := st } := { hi with stored := h1, sampled := h2 }
    have hv1 : C34.applyEv (view34 s) (.insert lo hi') false = view34 { s with store := st } := by
      simp only [C34.applyEv, view34, Bool.false_eq_true, if_false, C34.View.mk.injEq, true_and, and_true]
      refine ⟨?_, ?_, hhd.symm⟩
      · symm; apply contains_eq_of_iff; intro x
        rw [hm1]; simp only [Bool.or_eq_true, Bool.and_eq_true, decide_eq_true_eq, contains_iff_mem]; exact or_comm
      · symm; apply contains_eq_of_iff; intro x
        rw [hm2]; simp only [Bool.and_eq_true, Bool.not_eq_true', decide_eq_true_eq, contains_iff_mem,
          Bool.and_eq_false_imp, decide_eq_false_iff_not]
        constructor
        · rintro ⟨h3, h4⟩; exact ⟨fun h5 => by omega, h3⟩
        · rintro ⟨h3, h4⟩; exact ⟨h4, fun h5 => by have := h3 h5.1; omega⟩
    split
    · rename_i hc
      have hconn : s.w.connected = true := by simp only [Bool.and_eq_true] at hc; exact hc.1
      exact rescan_ev (s := s) (ev := .insert lo hi') (s1 := { s with store := st, w := { s.w with waitHead := (head st.stored).getD 0 } })
        { hi1 with } ⟨hconn, hal, hthr⟩ rfl rfl (fun t => by simp only [C34.specOK, scan_ne_storeErr, hv1]; rfl)
        (fun t => by simp only [C33.specOK, C33.applyEv, view33j, view33, hsm]) rnd
    · refine Good.ok ⟨hi1, rfl, rfl, ?_, rfl⟩
      have : (([] : List Tok) == [Tok.storeErr]) = false := rfl
      simp only [C34.specOK, this, hv1, C34.walk, Option.isSome_some]

theorem remove_good {s : State} (hi : Inv s) (h : Nat) (rnd : List (List (Nat × Nat))) :
    Good (stepM s (.remove h) rnd) (EvPost s (.remove h)) := by
  simp only [stepM]
  cases hsr : storeRemove s.store h with
  | none => exact Good.ok (EvPost.storeErr hi)
  | some st =>
    obtain ⟨h1, h2, _⟩ := storeRemove_spec hi.stored hi.sampled hsr
    exact Good.ok (EvPost.quiet { hi with stored := h1, sampled := h2 } rfl rfl)

theorem view34_disconnect {s : State} (hal : s.w.dead = false) (hc : s.w.connected = true) :
    C34.applyEv (view34 s) (.peers 0) false = view34 (disconnect s) := by
  simp only [C34.applyEv, view34, hal, hc, disconnect, Bool.not_false, Bool.not_true, Bool.false_eq_true, if_false,
    Bool.true_and, beq_self_eq_true, if_true, C34.View.mk.injEq, true_and, List.length_nil, and_true]
  refine ⟨?_, ?_, ?_⟩ <;> (funext x; simp [C34.none', contains])

theorem inv_disconnect {s : State} (hi : Inv s) : Inv (disconnect s) := by
  refine ⟨hi.stored, hi.sampled, inv_nil, inv_nil, inv_nil, hi.wbp, inv_nil, ?_, ?_, ?_, ?_, ?_, ?_⟩ <;>
    simp [disconnect, mem_nil]

theorem peers_good {s : State} (hi : Inv s) (hal : s.w.dead = false) (hthr : CfgOK s.cfg)
    (n : Nat) (rnd : List (List (Nat × Nat))) :
    Good (stepM s (.peers n) rnd) (EvPost s (.peers n)) := by
  simp only [stepM]
  by_cases hn : n = 0
  · subst hn
    simp only [beq_self_eq_true, if_true]
    split
    · exact Good.ok (EvPost.quiet (inv_disconnect hi) rfl rfl)
    · exact Good.ok (EvPost.quiet hi rfl rfl)
  · have hn' : (n == 0) = false := by simpa using hn
    simp only [hn', Bool.false_eq_true, if_false]
    cases hc : s.w.connected with
    | true =>
      exact scheduleAll_ev (s := s) (ev := .peers n) hi ⟨hc, hal, hthr⟩ rfl rfl
        (fun t => by simp [C34.specOK, C34.applyEv, view34, hal, hc, hn'])
        (fun t => by simp [C33.specOK, C33.applyEv, view33j, view33, hc, hn']) rnd
    | false =>
      simp only [Bool.false_eq_true, if_false]
      exact rescan_ev (s := s) (ev := .peers n) (s1 := { s with w := { s.w with connected := true, waitHead := (head s.store.stored).getD 0 } })
        { hi with disc := fun hc => by cases hc } ⟨rfl, hal, hthr⟩ rfl rfl
        (fun t => by simp [C34.specOK, C34.applyEv, view34, hal, hc, hn])
        (fun t => by simp [C33.specOK, C33.applyEv, view33j, view33, hc, hn]) rnd

theorem onWantToPrune_good {s : State} (hi : Inv s) (h : Nat) (h1 : 1 ≤ h) (h2 : h ≤ U64_MAX) :
    Good (onWantToPrune s h) (fun r => Same s r.2 ∧ Inv r.2 ∧
      C34.onTok (view34 s) (Tok.grant h r.1) = some (view34 r.2)) := by
  unfold onWantToPrune
  split
  · exact Good.ok ⟨Same.refl s, hi, rfl⟩
  · obtain ⟨q, hq, hqi, hqm⟩ := removePoint_spec hi.queue h1 h2
    obtain ⟨p, hp, hpi, hpm⟩ := insertPoint_spec hi.wbp h1 h2
    refine Good.liftR_bind hq (Good.liftR_bind hp (Good.ok ⟨⟨⟨rfl, rfl, rfl, rfl⟩, rfl, rfl⟩,
      { hi with queue := hqi, wbp := hpi, queue_eq := fun x => ?_ }, ?_⟩))
    · show mem q x ↔ _ ∧ _ ∧ _ ∧ _ ∧ ¬ mem p x
      rw [hqm, hpm, hi.queue_eq, not_or]
      exact ⟨fun ⟨⟨a, b, c, d, e⟩, f⟩ => ⟨a, b, c, d, e, f⟩, fun ⟨a, b, c, d, e, f⟩ => ⟨⟨a, b, c, d, e⟩, f⟩⟩
    · simp only [C34.onTok, if_true, view34, contains_add hpm]

theorem grant_ne_storeErr (h : Nat) (ok : Bool) (t : List Tok) : ((Tok.grant h ok :: t) == [Tok.storeErr]) = false := by
  cases t <;> simp

theorem prune_good {s : State} (hi : Inv s) (hal : s.w.dead = false) (hthr : CfgOK s.cfg)
    (h : Nat) (h1 : 1 ≤ h) (h2 : h ≤ U64_MAX) (rnd : List (List (Nat × Nat))) :
    Good (stepM s (.prune h) rnd) (EvPost s (.prune h)) := by
  simp only [stepM]
  refine Good.bind (onWantToPrune_good hi h h1 h2) ?_
  rintro ⟨ok, s1⟩ ⟨hs1, hi1, hw1⟩
  dsimp only at hs1 hi1 hw1 ⊢
  have hf1 := hs1.frame
  split
  · rename_i hc
    refine Good.bind (scheduleAll_good hi1 ⟨hc, hf1.dead.trans hal, by rw [hf1.cfg]; exact hthr⟩ rnd) ?_
    rintro ⟨s2, t2⟩ ⟨hf2, hi2, hw2, hw33⟩
    refine Good.ok ⟨hi2, hf2.cfg.trans hf1.cfg, hf2.hdr.trans hf1.hdr, ?_, ?_⟩
    · simp only [C34.specOK, C34.applyEv, C34.walk, hw1]
      exact hw2
    · simp only [C33.specOK, C33.applyEv, C33.walk, C33.onTok]
      exact isSome_of_W33 (hs1.view33j none).symm hw33
  · exact Good.ok ⟨hi1, hf1.cfg, hf1.hdr, by simp only [C34.specOK, C34.applyEv, C34.walk, hw1, Option.isSome_some], rfl⟩

theorem setHighestPrunable_good {s : State} (hi : Inv s) (hal : s.w.dead = false) (hthr : CfgOK s.cfg)
    (v : Nat) (rnd : List (List (Nat × Nat))) :
    Good (stepM s (.setHighestPrunable v) rnd) (EvPost s (.setHighestPrunable v)) := by
  simp only [stepM]
  split
  · rename_i hc
    exact scheduleAll_ev (s := s) (ev := .setHighestPrunable v) (s1 := { s with w := { s.w with highestPrunable := some v } }) { hi with } ⟨hc, hal, hthr⟩
      rfl rfl (fun t => by simp [C34.specOK, C34.applyEv, view34, hal]) (fun t => rfl) rnd
  · exact Good.ok (EvPost.quiet { hi with } rfl rfl)

theorem setNumPrunable_good {s : State} (hi : Inv s) (hal : s.w.dead = false) (hthr : CfgOK s.cfg)
    (v : Nat) (rnd : List (List (Nat × Nat))) :
    Good (stepM s (.setNumPrunable v) rnd) (EvPost s (.setNumPrunable v)) := by
  simp only [stepM]
  split
  · rename_i hc
    exact scheduleAll_ev (s := s) (ev := .setNumPrunable v) (s1 := { s with w := { s.w with numPrunable := v } }) { hi with } ⟨hc, hal, hthr⟩
      rfl rfl (fun t => by simp [C34.specOK, C34.applyEv, view34, hal]) (fun t => rfl) rnd
  · exact Good.ok (EvPost.quiet { hi with } rfl rfl)

/-! ### a block finishes -/

theorem filter_ne_length {futs : List Fut} {h : Nat} (hnd : (futs.map (·.height)).Nodup)
    (hex : ∃ f ∈ futs, f.height = h) : (futs.filter (fun f => f.height != h)).length = futs.length - 1 := by
  obtain ⟨f, hf, rfl⟩ := hex
  exact Util.filter_ne_key_length (·.height) futs hnd f hf

theorem nodup_filter {futs : List Fut} (p : Fut → Bool) (hnd : (futs.map (·.height)).Nodup) :
    ((futs.filter p).map (·.height)).Nodup :=
  List.Nodup.sublist (List.Sublist.map _ List.filter_sublist) hnd

theorem inv_die {s : State} (hi : Inv s) : Inv (die s) := by
  refine ⟨hi.stored, hi.sampled, inv_nil, inv_nil, inv_nil, inv_nil, inv_nil, ?_, ?_, ?_, ?_, ?_, ?_⟩ <;>
    simp [die, Worker.deadState, Worker.init, mem_nil]

/-- a C33 view in which block `h` has just received its last answer -/
structure V1OK (s : State) (h : Nat) (to : Bool) (v1 : C33.View) : Prop where
  width : v1.width = (view33 s).width
  recorded : v1.recorded = (view33 s).recorded
  connected : v1.connected = s.w.connected
  justOk : v1.justOk = none
  blk : ∃ b, C33.findBlk v1 h = some b ∧ b.pending.isEmpty = true ∧ b.anyTimeout = to
  rest : v1.blocks.filter (fun b => b.height != h) = (s.w.futs.filter (fun f => f.height != h)).map blkOf

/-- the `SamplingResult` of that block is accepted; its record is dropped from the view -/
theorem V1OK.onTok_result {v1 : C33.View} {s : State} {h : Nat} {to : Bool} (hv : V1OK s h to v1) :
    C33.onTok v1 (Tok.result h to) = some { view33 s with
      blocks := (s.w.futs.filter (fun f => f.height != h)).map blkOf, justOk := if to then none else some h } := by
  obtain ⟨b, hb, hp, ha⟩ := hv.blk
  simp only [C33.onTok, hb, hp, ha, beq_self_eq_true, Bool.and_self, if_true]
  rw [hv.width, hv.recorded, hv.rest, hv.connected]
  rfl

theorem onSamplingDone_good {s : State} (hi : Inv s) (hs : Sched s) (h : Nat) (hex : ∃ f ∈ s.w.futs, f.height = h)
    (to : Bool) (rnd : List (List (Nat × Nat))) :
    Good (onSamplingDone s h to rnd) (fun r => Inv r.1 ∧ r.1.cfg = s.cfg ∧ r.1.hdr = s.hdr ∧
      (C34.walk (view34 s) (Tok.result h to :: r.2)).isSome = true ∧
      ∀ v1, V1OK s h to v1 → (C33.walk v1 (Tok.result h to :: r.2)).isSome = true) := by
  have hong : mem s.w.ongoing h := (hi.ongoing_eq h).2 hex
  have hb := mem_bounds hi.ongoing hong
  obtain ⟨o, ho, hoi, hom⟩ := removePoint_spec hi.ongoing hb.1 hb.2
  have hong_eq : ∀ x, mem o x ↔ ∃ f ∈ s.w.futs.filter (fun f => f.height != h), f.height = x := by
    intro x
    rw [hom, hi.ongoing_eq]
    simp only [List.mem_filter, bne_iff_ne, ne_eq]
    constructor
    · rintro ⟨⟨f, hf, rfl⟩, hne⟩; exact ⟨f, ⟨hf, hne⟩, rfl⟩
    · rintro ⟨f, ⟨hf, hne⟩, rfl⟩; exact ⟨⟨f, hf, rfl⟩, hne⟩
  have hlen := filter_ne_length hi.nodup hex
  have hfle : (s.w.futs.filter (fun f => f.height != h)).length ≤ s.cfg.limit + s.cfg.extra := by
    have := hi.futs_le; omega
  have hdisc : s.w.connected = false → s.w.futs.filter (fun f => f.height != h) = [] := fun hc => by simp [hi.disc hc]
  unfold onSamplingDone
  cases to with
  | true =>
    simp only [if_true]
    obtain ⟨t, ht, hti, htm⟩ := insertPoint_spec hi.timedOut hb.1 hb.2
    refine Good.liftR_bind ht (Good.liftR_bind ho ?_)
    have himid : Inv { s with w := { s.w with futs := s.w.futs.filter (fun f => f.height != h), timedOut := t, ongoing := o } } := by
      refine { hi with timedOut := hti, ongoing := hoi, queue_eq := fun x => ?_, ongoing_eq := hong_eq,
                       nodup := nodup_filter _ hi.nodup, futs_le := hfle, disc := hdisc }
      show _ ↔ _ ∧ _ ∧ ¬ mem t x ∧ ¬ mem o x ∧ _
      rw [htm, hom, hi.queue_eq]
      by_cases hxh : x = h
      · subst hxh; simp [hong]
      · simp [hxh]
    refine Good.mono (scheduleAll_good himid ⟨hs.conn, hs.alive, hs.thr⟩ rnd) ?_
    rintro ⟨s2, t2⟩ ⟨hf2, hi2, hw2, hw33⟩
    refine ⟨hi2, hf2.cfg, hf2.hdr, ?_, fun v1 hv1 => ?_⟩
    · simp only [view34, contains_add htm, contains_del hom, hlen] at hw2
      simpa only [C34.walk, C34.onTok, if_true, view34] using hw2
    · rw [C33.walk, hv1.onTok_result]
      exact isSome_of_W33 rfl hw33
  | false =>
    simp only [Bool.false_eq_true, if_false]
    split
    · -- the header is gone: `mark_as_sampled` fails, the worker stops
      refine Good.ok ⟨inv_die hi, rfl, rfl, by simp [C34.walk, C34.onTok], fun v1 hv1 => ?_⟩
      rw [C33.walk, hv1.onTok_result]
      simp [C33.walk, C33.onTok]
    · rename_i hst
      have hstored : contains s.store.stored h = true := by simpa using hst
      obtain ⟨sm, hsm, hsmi, hsmm⟩ := insertPoint_spec hi.sampled hb.1 hb.2
      obtain ⟨c, hc, hci, hcm⟩ := removePoint_spec hi.cand hb.1 hb.2
      refine Good.liftR_bind hsm (Good.liftR_bind hc (Good.liftR_bind ho ?_))
      have himid : Inv { s with store := { s.store with sampled := sm }, w := { s.w with futs := s.w.futs.filter (fun f => f.height != h), ongoing := o, cand := c } } := by
        refine { hi with sampled := hsmi, ongoing := hoi, cand := hci, queue_eq := fun x => ?_, ongoing_eq := hong_eq,
                         nodup := nodup_filter _ hi.nodup, cand_le := fun x hx => hi.cand_le x ((hcm x).1 hx).1,
                         futs_le := hfle, disc := hdisc }
        show _ ↔ _ ∧ mem c x ∧ _ ∧ ¬ mem o x ∧ _
        rw [hcm, hom, hi.queue_eq]
        by_cases hxh : x = h
        · subst hxh; simp [hong]
        · simp [hxh]
      refine Good.bind (scheduleAll_good himid ⟨hs.conn, hs.alive, hs.thr⟩ rnd) ?_
      rintro ⟨s2, t2⟩ ⟨hf2, hi2, hw2, hw33⟩
      refine Good.ok ⟨hi2, hf2.cfg, hf2.hdr, ?_, fun v1 hv1 => ?_⟩
      · simp only [view34, contains_add hsmm, contains_del hcm, contains_del hom, hlen] at hw2
        simpa only [C34.walk, C34.onTok, Bool.false_eq_true, if_false, view34, hstored, if_true] using hw2
      · rw [C33.walk, hv1.onTok_result]
        simp only [C33.walk, C33.onTok, Bool.false_eq_true, if_false, beq_self_eq_true, if_true]
        exact isSome_of_W33 rfl hw33

theorem map_height_congr {futs : List Fut} {h : Nat} {f' : Fut} (hf' : f'.height = h) :
    (futs.map (fun g => if g.height == h then f' else g)).map (·.height) = futs.map (·.height) := by
  rw [List.map_map]
  apply List.map_congr_left
  intro g _
  simp only [Function.comp]
  split
  · rename_i hg; rw [hf']; exact (by simpa using hg : g.height = h).symm
  · rfl

/-- companion of `find_map_upd`: an update `g` that is the identity off height `h` leaves the other blocks untouched -/
theorem filter_map_upd (h : Nat) (g : C33.Blk → C33.Blk) (hg : ∀ b, (g b).height = b.height)
    (hid : ∀ b, b.height ≠ h → g b = b) (futs : List Fut) :
    ((futs.map blkOf).map g).filter (fun b => b.height != h) = (futs.filter (fun f => f.height != h)).map blkOf := by
  rw [List.filter_map, List.filter_map, List.map_map]
  have hp : ∀ k : Fut, (((fun b : C33.Blk => b.height != h) ∘ g) ∘ blkOf) k = (k.height != h) := fun k => by
    simp [hg, blkOf]
  rw [List.filter_congr (fun k _ => hp k)]
  apply List.map_congr_left
  intro k hk
  exact hid _ (by simpa [blkOf] using (List.mem_filter.1 hk).2)

theorem answer_good {s : State} (hi : Inv s) (hal : s.w.dead = false) (hthr : CfgOK s.cfg)
    (h : Nat) (p : Share) (to : Bool) (rnd : List (List (Nat × Nat))) :
    Good (stepM s (.answer h p to) rnd) (EvPost s (.answer h p to)) := by
  simp only [stepM]
  unfold onAnswer
  have hspec : ∀ t, C34.specOK (view34 s) (.answer h p to) t = (C34.walk (view34 s) t).isSome := by
    intro t; simp [C34.specOK, C34.applyEv]
  cases hfind : s.w.futs.find? (fun f => f.height == h) with
  | none => exact Good.ok (EvPost.quiet hi rfl rfl)
  | some f =>
    obtain ⟨hfm, hfh⟩ := Util.find?_key_some _ hfind
    dsimp only
    split
    · exact Good.ok (EvPost.quiet hi rfl rfl)
    · rename_i hcont
      have hcont' : f.pending.contains p = true := by simpa using hcont
      split
      · -- last pending share of the block
        have hconn : s.w.connected = true := by
          cases hc : s.w.connected with
          | true => rfl
          | false => rw [hi.disc hc] at hfm; simp at hfm
        refine Good.bind (onSamplingDone_good hi ⟨hconn, hal, hthr⟩ h ⟨f, hfm, hfh⟩ _ rnd) ?_
        rintro ⟨s1, t1⟩ ⟨hi1, hc1, hh1, hw1, hw33⟩
        rename_i hemp
        refine Good.ok ⟨hi1, hc1, hh1, ?_, ?_⟩
        · rw [hspec]
          simp only [C34.walk, C34.onTok] at hw1 ⊢
          exact hw1
        · -- C33: the block record after this answer has nothing pending
          let g : C33.Blk → C33.Blk := fun b =>
            if b.height == h && b.pending.contains p then
              { b with pending := b.pending.erase p, anyTimeout := b.anyTimeout || to } else b
          have hg : ∀ b, (g b).height = b.height := by
            intro b; simp only [g]; split <;> rfl
          have hid : ∀ b, b.height ≠ h → g b = b := by
            intro b hb
            have : (b.height == h) = false := by simpa using hb
            simp only [g, this, Bool.false_and, Bool.false_eq_true, if_false]
          have hv1 : V1OK s h (f.timedOut || to) (C33.applyEv (view33 s) (.answer h p to) false) := by
            refine ⟨rfl, rfl, rfl, rfl, ?_, ?_⟩
            · refine ⟨g (blkOf f), ?_, ?_, ?_⟩
              · have := find_map_upd g hg hfm hi.nodup
                rw [hfh] at this
                exact this
              · simp only [g, blkOf, hfh, beq_self_eq_true, hcont', Bool.and_self, if_true]
                exact hemp
              · simp only [g, blkOf, hfh, beq_self_eq_true, hcont', Bool.and_self, if_true]
            · exact filter_map_upd h g hg hid s.w.futs
          have := hw33 _ hv1
          simp only [C33.specOK, C33.walk, C33.onTok] at this ⊢
          exact this
      · -- more shares pending
        have hmap := map_height_congr (futs := s.w.futs) (h := h)
          (f' := { f with pending := f.pending.erase p, timedOut := f.timedOut || to }) hfh
        refine Good.ok ⟨{ hi with ongoing_eq := fun x => ?_, nodup := ?_, futs_le := ?_,
                                    disc := fun hc => by simp [hi.disc hc] }, rfl, rfl, ?_, ?_⟩
        · rw [hi.ongoing_eq, ← List.mem_map, ← List.mem_map, hmap]
        · rw [hmap]; exact hi.nodup
        · rw [List.length_map]; exact hi.futs_le
        · rw [hspec]; rfl
        · simp [C33.specOK, C33.walk, C33.onTok]

/-! ### the step function -/

theorem stepM_good {s : State} (hi : Inv s) (hal : s.w.dead = false) (hthr : CfgOK s.cfg)
    (ev : Ev) (hwf : EvWF ev) (hp0 : ev ≠ .prune 0) (rnd : List (List (Nat × Nat))) :
    Good (stepM s ev rnd) (EvPost s ev) := by
  cases ev with
  | insert lo hi' => exact insert_good hi hal hthr lo hi' hwf rnd
  | remove h => exact remove_good hi h rnd
  | peers n => exact peers_good hi hal hthr n rnd
  | prune h =>
    have h1 : 1 ≤ h := by
      cases h with
      | zero => exact absurd rfl hp0
      | succ k => omega
    exact prune_good hi hal hthr h h1 hwf rnd
  | setHighestPrunable v => exact setHighestPrunable_good hi hal hthr v rnd
  | setNumPrunable v => exact setNumPrunable_good hi hal hthr v rnd
  | answer h p to => exact answer_good hi hal hthr h p to rnd

/-- asking about height 0 kills the worker task (`expect("invalid height")`) -/
theorem prune_zero_panics {s : State} (hi : Inv s) (rnd : List (List (Nat × Nat))) :
    stepM s (.prune 0) rnd = .error .panic := by
  have hc : contains s.w.ongoing 0 = false := (contains_false_iff _ _).2 (not_mem_zero hi.ongoing)
  have hr : removeRelaxed s.w.queue (0, 0) = .error (.invalid (0, 0)) := removeRelaxed_invalid (by decide)
  simp [stepM, onWantToPrune, hc, hr, liftR]
  rfl

/-- what every reachable state satisfies -/
structure StateOK (s : State) : Prop where
  inv : Inv s
  thr : CfgOK s.cfg

theorem stepDead_ok {s : State} (hs : StateOK s) (ev : Ev) (hwf : EvWF ev) :
    StateOK (stepDead s ev).1 ∧ C34.specOK (view34 s) ev (stepDead s ev).2 = true ∧
    C33.specOK (view33 s) ev (stepDead s ev).2 = true := by
  cases ev with
  | insert lo hi' =>
    simp only [stepDead]
    cases hsi : storeInsert s.store lo hi' with
    | none => exact ⟨hs, rfl, rfl⟩
    | some st =>
      obtain ⟨h1, h2, _⟩ := storeInsert_spec hs.inv.stored hs.inv.sampled hwf hsi
      exact ⟨⟨{ hs.inv with stored := h1, sampled := h2 }, hs.thr⟩, rfl, rfl⟩
  | remove h =>
    simp only [stepDead]
    cases hsr : storeRemove s.store h with
    | none => exact ⟨hs, rfl, rfl⟩
    | some st =>
      obtain ⟨h1, h2, _⟩ := storeRemove_spec hs.inv.stored hs.inv.sampled hsr
      exact ⟨⟨{ hs.inv with stored := h1, sampled := h2 }, hs.thr⟩, rfl, rfl⟩
  | _ => exact ⟨hs, rfl, rfl⟩

/-- **one stimulus**: the invariant is kept and both monitors accept everything the worker does -/
theorem step_ok {s : State} (hs : StateOK s) (ev : Ev) (hwf : EvWF ev) (rnd : List (List (Nat × Nat))) :
    StateOK (step s ev rnd).1 ∧ C34.specOK (view34 s) ev (step s ev rnd).2 = true ∧
    C33.specOK (view33 s) ev (step s ev rnd).2 = true := by
  unfold step
  cases hd : s.w.dead with
  | true => simp only [if_true]; exact stepDead_ok hs ev hwf
  | false =>
    simp only [Bool.false_eq_true, if_false]
    cases hm : stepM s ev rnd with
    | ok r =>
      have hp0 : ev ≠ .prune 0 := by
        intro h0; subst h0; rw [prune_zero_panics hs.inv] at hm; cases hm
      have := (stepM_good hs.inv hd hs.thr ev hwf hp0 rnd).of_ok hm
      exact ⟨⟨this.1, by rw [this.2.1]; exact hs.thr⟩, this.2.2.2.1, this.2.2.2.2⟩
    | error e =>
      refine ⟨⟨inv_die hs.inv, hs.thr⟩, ?_, ?_⟩
      · cases ev <;> rfl
      · cases ev <;> rfl

/-- the C34 monitor's verdicts along a whole history -/
def accepts34 (s : State) : List (Ev × List (List (Nat × Nat))) → Bool
  | [] => true
  | (ev, rnd) :: rest => C34.specOK (view34 s) ev (step s ev rnd).2 && accepts34 (step s ev rnd).1 rest

/-- the C33 monitor's verdicts along a whole history -/
def accepts33 (s : State) : List (Ev × List (List (Nat × Nat))) → Bool
  | [] => true
  | (ev, rnd) :: rest => C33.specOK (view33 s) ev (step s ev rnd).2 && accepts33 (step s ev rnd).1 rest

theorem run_ok : ∀ (evs : List (Ev × List (List (Nat × Nat)))) (s : State), StateOK s → (∀ e ∈ evs, EvWF e.1) →
    accepts34 s evs = true ∧ accepts33 s evs = true ∧ StateOK (run s evs).1
  | [], s, hs, _ => ⟨rfl, rfl, hs⟩
  | (ev, rnd) :: rest, s, hs, hwf => by
    have h1 := step_ok hs ev (hwf (ev, rnd) (by simp)) rnd
    have h2 := run_ok rest (step s ev rnd).1 h1.1 (fun e he => hwf e (by simp [he]))
    refine ⟨by simp [accepts34, h1.2.1, h2.1], by simp [accepts33, h1.2.2, h2.2.1], ?_⟩
    simp only [run]
    exact h2.2.2

/-! ### answers that are neither a sample nor a timeout -/

/-- such an answer to a pending request stops the worker (`FatalDaserError`), marks nothing, and leaves the store
    alone; to anything else it is a no-op.  Both monitors accept. -/
theorem onBadAnswer_ok {s : State} (hs : StateOK s) (h : Nat) (p : Share) :
    StateOK (onBadAnswer s h p).1 ∧
    C34.specBadAnswer (view34 s) (onBadAnswer s h p).2 = true ∧
    C33.specBadAnswer (view33 s) (onBadAnswer s h p).2 = true ∧
    (onBadAnswer s h p = (s, []) ∨ onBadAnswer s h p = (die s, [Tok.fatal])) := by
  unfold onBadAnswer
  have hnil : StateOK s ∧ C34.specBadAnswer (view34 s) [] = true ∧ C33.specBadAnswer (view33 s) [] = true ∧
      ((s, ([] : List Tok)) = (s, []) ∨ (s, ([] : List Tok)) = (die s, [Tok.fatal])) :=
    ⟨hs, rfl, rfl, Or.inl rfl⟩
  split
  · exact hnil
  · split
    · exact hnil
    · split
      · exact ⟨⟨inv_die hs.inv, hs.thr⟩, rfl, rfl, Or.inr rfl⟩
      · exact hnil

/-- the monitors' verdicts along a history of stimuli of both kinds -/
def acceptsX34 (s : State) : List Stim → Bool
  | [] => true
  | st :: rest =>
    (match st with
     | .ev e rnd => C34.specOK (view34 s) e (step s e rnd).2
     | .badAnswer h p => C34.specBadAnswer (view34 s) (onBadAnswer s h p).2) && acceptsX34 (stepX s st).1 rest

def acceptsX33 (s : State) : List Stim → Bool
  | [] => true
  | st :: rest =>
    (match st with
     | .ev e rnd => C33.specOK (view33 s) e (step s e rnd).2
     | .badAnswer h p => C33.specBadAnswer (view33 s) (onBadAnswer s h p).2) && acceptsX33 (stepX s st).1 rest

def StimWF : Stim → Prop
  | .ev e _ => EvWF e
  | .badAnswer _ _ => True

theorem runX_ok : ∀ (sts : List Stim) (s : State), StateOK s → (∀ st ∈ sts, StimWF st) →
    acceptsX34 s sts = true ∧ acceptsX33 s sts = true ∧ StateOK (runX s sts).1
  | [], s, hs, _ => ⟨rfl, rfl, hs⟩
  | .ev e rnd :: rest, s, hs, hwf => by
    have h1 := step_ok hs e (hwf (.ev e rnd) (by simp)) rnd
    have h2 := runX_ok rest (step s e rnd).1 h1.1 (fun st hst => hwf st (by simp [hst]))
    refine ⟨by simp [acceptsX34, stepX, h1.2.1, h2.1], by simp [acceptsX33, stepX, h1.2.2, h2.2.1], ?_⟩
    simp only [runX, stepX]
    exact h2.2.2
  | .badAnswer h p :: rest, s, hs, hwf => by
    have h1 := onBadAnswer_ok hs h p
    have h2 := runX_ok rest (onBadAnswer s h p).1 h1.1 (fun st hst => hwf st (by simp [hst]))
    refine ⟨by simp [acceptsX34, stepX, h1.2.1, h2.1], by simp [acceptsX33, stepX, h1.2.2.1, h2.2.1], ?_⟩
    simp only [runX, stepX]
    exact h2.2.2

theorem ongoing_len {s : State} (hi : Inv s) : len s.w.ongoing = .ok s.w.futs.length := by
  rw [len_spec hi.ongoing, ← length_heights]
  congr 1
  have hperm : (heights s.w.ongoing).Perm (s.w.futs.map (·.height)) := by
    rw [List.perm_ext_iff_of_nodup ((heights_sorted hi.ongoing).imp Nat.ne_of_lt) hi.nodup]
    intro x
    rw [mem_heights, hi.ongoing_eq, List.mem_map]
  rw [hperm.length_eq, List.length_map]

end Lumina.Proofs.Daser

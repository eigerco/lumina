/-
  One axis tree of a square (`AxisTree`): the shares of a row or column, in the order `push_leaf` took them, and the root
  of their tree.  What an nmt-rs range proof accepted against that root says about the axis' shares
  (`AxisTree.range_sound_on`), and that the honest range proof of a run of one namespace is accepted
  (`AxisTree.range_complete`).  The sample (C04), bad-encoding (C07) and share-proof (C13) verifiers are instances of
  the former; the row (C05) and namespace-data (C06) verifiers use only the tree itself.  What is hashed for the tree of a
  list of shares is `Row.rowInputs` (for an axis: `Eds.axisInputs`); `Row.rowInputs_on` says what a set containing it holds.
-/
import Lumina.Proofs.Eds
import Lumina.Proofs.NmtMultiSound
import Lumina.Proofs.NmtMultiNs

namespace Lumina.Proofs.Row
open Lumina.Util Lumina.Model.Nmt Lumina.Proofs.Nmt Lumina.Model.Eds Lumina.Proofs.Eds

/-- inputs hashed for the tree of a list of shares (an axis of a square, or the row the verifier rebuilds from the shares it
    received): the leaf preimages `0x00 ‖ ns ‖ share` and the inner-node preimages -/
def rowInputs (H : HashFn) (l : List Share) : List Bytes :=
  l.map (fun sh => leafInput sh.ns sh.data) ++ rootInputs H true (l.length + 1) (l.map (Share.leafHash H))

theorem axisInputs_eq_rowInputs {H : HashFn} {e : Eds} {ax : Axis} {i : Nat} {shares : List Share}
    (h : e.axis? ax i = some shares) : axisInputs H e ax i = rowInputs H shares := by
  unfold axisInputs rowInputs; rw [h]

theorem rowInputs_on {H : HashFn} {S : Bytes → Prop} {l : List Share} (h : ∀ sh ∈ l, NS_SIZE ≤ sh.data.length)
    (hS : ∀ y ∈ rowInputs H l, S y) :
    AllLeafOn H S (l.map (Share.leafHash H)) ∧
      (∀ y ∈ rootInputs H true ((l.map (Share.leafHash H)).length + 1) (l.map (Share.leafHash H)), S y) ∧
      ∀ sh ∈ l, S (leafInput sh.ns sh.data) := by
  have hL : ∀ sh ∈ l, S (leafInput sh.ns sh.data) := fun sh hm =>
    hS _ (List.mem_append_left _ (List.mem_map.mpr ⟨sh, hm, rfl⟩))
  refine ⟨fun x hx => ?_, fun y hy => hS y (List.mem_append_right _ (by simpa using hy)), hL⟩
  obtain ⟨y, hy, rfl⟩ := List.mem_map.mp hx
  exact ⟨y.ns, y.data, Sample.share_ns_length (h y hy), rfl, hL y hy⟩

end Lumina.Proofs.Row

namespace Lumina.Proofs.Eds
open Lumina.Util Lumina.Model.Nmt Lumina.Proofs.Nmt Lumina.Proofs.NmtRange Lumina.Model.Eds

/-- `push_leaf` takes shares only in namespace order -/
theorem pushLeaves_sorted_ns {H : HashFn} {shares : List Share} {hs : List NsHash}
    (h : pushLeaves H (shares.map Share.leaf) = some hs) : (shares.map Share.ns).Pairwise (fun a b => leB a b = true) := by
  unfold pushLeaves at h
  split at h
  · rename_i hok
    simpa [List.map_map, Share.leaf, Function.comp_def] using ((pushOrderOk_iff _ _).mp hok).1
  · cases h

/-- `shares` is axis `(ax, i)` of `e`, `push_leaf` took them in this order, and their tree has root `root` -/
structure AxisTree (H : HashFn) (e : Eds) (ax : Axis) (i : Nat) (shares : List Share) (root : NsHash) : Prop where
  axis : e.axis? ax i = some shares
  push : pushLeaves H (shares.map Share.leaf) = some (shares.map (Share.leafHash H))
  root : computeRoot H true (shares.map (Share.leafHash H)) = .ok root

theorem axisTree_of_root {H : HashFn} {e : Eds} {ax : Axis} {i : Nat} {root : NsHash}
    (h : e.axisRoot H ax i = .ok root) : ∃ shares, AxisTree H e ax i shares root :=
  let ⟨shares, hax, hcr, hp⟩ := axisRoot_ok h
  ⟨shares, hax, hp, hcr⟩

theorem dah_axisTree {H : HashFn} {e : Eds} {dah : Dah} (hd : Dah.ofEds H e = .ok dah) (ax : Axis) {i : Nat}
    (hi : i < e.width) : ∃ shares root, dah.root? ax i = some root ∧ AxisTree H e ax i shares root := by
  obtain ⟨_, _, hrows, hcols⟩ := dah_ofEds_roots hd
  have : ∃ r, e.axisRoot H ax i = .ok r := by
    cases ax
    · exact (hrows i hi).imp fun _ h => h.1
    · exact (hcols i hi).imp fun _ h => h.1
  obtain ⟨root, hr⟩ := this
  obtain ⟨shares, T⟩ := axisTree_of_root hr
  exact ⟨shares, root, (dah_root?_iff hd).mpr ⟨hi, hr⟩, T⟩

namespace AxisTree
variable {H : HashFn} {e : Eds} {ax : Axis} {i : Nat} {shares : List Share} {root : NsHash}

theorem length (T : AxisTree H e ax i shares root) : shares.length = e.width := (axis?_some T.axis).1

theorem get (T : AxisTree H e ax i shares root) {j : Nat} (hj : j < e.width) :
    ∃ sh, e.share? (axisCoord ax i j).1 (axisCoord ax i j).2 = some sh ∧ shares[j]? = some sh :=
  (axis?_some T.axis).2 j hj

theorem leafHashes (T : AxisTree H e ax i shares root) :
    e.axisLeafHashes H ax i = .ok (shares.map (Share.leafHash H)) := by
  unfold Eds.axisLeafHashes; rw [T.axis]; simp only [T.push]

theorem ne_nil (T : AxisTree H e ax i shares root) (hi : i < e.width) : shares ≠ [] := by
  intro h; have := T.length; rw [h] at this; simp at this; omega

theorem nsLength (T : AxisTree H e ax i shares root) (hsz : ∀ sh ∈ e.shares, NS_SIZE ≤ sh.data.length) :
    ∀ sh ∈ shares, sh.ns.length = NS_SIZE :=
  fun sh hs => Sample.share_ns_length (hsz sh (axis?_mem T.axis sh hs))

theorem sorted (T : AxisTree H e ax i shares root) : (shares.map Share.ns).Pairwise (fun a b => leB a b = true) :=
  pushLeaves_sorted_ns T.push

theorem sortedNs (T : AxisTree H e ax i shares root) : SortedNs (shares.map (Share.leafHash H)) :=
  NmtMulti.leafHashes_sorted T.sorted

theorem leavesWF (T : AxisTree H e ax i shares root) (hl : HashLen H) (hsz : ∀ sh ∈ e.shares, NS_SIZE ≤ sh.data.length) :
    ∀ x ∈ shares.map (Share.leafHash H), x.WF := by
  intro x hx
  obtain ⟨sh, hs, rfl⟩ := List.mem_map.mp hx
  exact hashLeaf_WF hl (T.nsLength hsz sh hs)

theorem rootWF (T : AxisTree H e ax i shares root) (hl : HashLen H) (hsz : ∀ sh ∈ e.shares, NS_SIZE ≤ sh.data.length) :
    root.WF :=
  computeRoot_WF hl (T.leavesWF hl hsz) T.root

theorem inputs_on (T : AxisTree H e ax i shares root) (hsz : ∀ sh ∈ e.shares, NS_SIZE ≤ sh.data.length) {S : Bytes → Prop}
    (hA : ∀ y ∈ axisInputs H e ax i, S y) :
    AllLeafOn H S (shares.map (Share.leafHash H)) ∧
      (∀ y ∈ rootInputs H true ((shares.map (Share.leafHash H)).length + 1) (shares.map (Share.leafHash H)), S y) ∧
      ∀ sh ∈ shares, S (leafInput sh.ns sh.data) :=
  Row.rowInputs_on (fun sh hs => hsz sh (axis?_mem T.axis sh hs)) (by rwa [← Row.axisInputs_eq_rowInputs T.axis])

/-- **An accepted range proof against an axis root of a power-of-two square pins the shares.**  If nmt-rs accepts `raws`
    under namespace `ns` at `[p.start, p.start + |raws|)` inside the axis, then the axis' shares at these positions have
    these bytes and this namespace — provided the hash has no collision among `S` ⊇ the inputs hashed for the axis tree
    (`axisInputs`), the leaf preimages of `raws` and the inputs of this verification (`proofInputs`). -/
theorem range_sound_on (T : AxisTree H e ax i shares root) {S : Bytes → Prop} (hk : HashOKOn H S) {k : Nat}
    (hw : e.width = 2 ^ k) (hsz : ∀ sh ∈ e.shares, NS_SIZE ≤ sh.data.length) (hA : ∀ y ∈ axisInputs H e ax i, S y)
    {p : NsProof} {raws : List Bytes} {ns : Bytes} (wp : ∀ x ∈ p.siblings, x.WF) (hns : ns.length = NS_SIZE)
    (hlS : ∀ d ∈ raws, S (leafInput ns d))
    (hV : ∀ y ∈ proofInputs H p.ignoreMaxNs (raws.map (hashLeaf H ns)) p.siblings p.start, S y)
    (hv : verifyRange H p root raws ns = .ok ()) (hend : p.start + raws.length ≤ e.width) :
    ∀ j d, raws[j]? = some d → ∃ sh, shares[p.start + j]? = some sh ∧ sh.data = d ∧ sh.ns = ns := by
  intro j d hd
  obtain ⟨al, hT, hLI⟩ := T.inputs_on hsz hA
  have hj : j < raws.length := (List.getElem?_eq_some_iff.mp hd).1
  obtain ⟨_, _, hv⟩ := NmtMulti.verifyRange_ok_iff.mp hv
  have hsnd := NmtMulti.checkRangeProof_multi_sound_on hk (j := k) al (by rw [List.length_map, T.length, hw]) T.root
    (fun x hx => by obtain ⟨d, hd', rfl⟩ := List.mem_map.mp hx; exact ⟨ns, d, hns, rfl, hlS d hd'⟩) wp
    (by rw [List.length_map]; omega) (by rw [List.length_map, ← hw]; exact hend) hV hT hv
  -- the `j`-th accepted leaf hash is the leaf hash of the share at `start + j`: same namespace, then same bytes
  have h1 : (raws.map (hashLeaf H ns))[j]? = some (hashLeaf H ns d) := by rw [List.getElem?_map, hd]; rfl
  rw [hsnd, List.length_map, List.getElem?_take, if_pos hj, List.getElem?_drop, List.getElem?_map] at h1
  cases hs : shares[p.start + j]? with
  | none => simp [hs] at h1
  | some sh =>
    simp only [hs, Option.map_some, Option.some.injEq, Share.leafHash] at h1
    obtain ⟨hnse, hde⟩ := hashLeaf_eq_on hk.inj (hLI sh (List.mem_of_getElem? hs)) (hlS d (List.mem_of_getElem? hd)) h1
    exact ⟨sh, rfl, hde, hnse⟩

/-- **The honest range proof of a run of one namespace on an axis is accepted**: for shares `[s, en)` of the axis that
    all carry `ns`, lumina's `verify_range` (shape validation + nmt-rs) accepts what `build_range_proof(s..en)` returns -/
theorem range_complete (T : AxisTree H e ax i shares root) (hsz : ∀ sh ∈ e.shares, NS_SIZE ≤ sh.data.length)
    (hw : e.width ≤ 2 ^ 31) {s en : Nat} (hse : s < en) (hen : en ≤ e.width) {ns : Bytes}
    (hall : ∀ sh ∈ (shares.drop s).take (en - s), sh.ns = ns) :
    ∃ sibs, buildRangeProof H true (shares.map (Share.leafHash H)) s en = .ok sibs ∧
      luminaVerifyRange H ⟨s, en, sibs, true, false, none⟩ root (((shares.drop s).take (en - s)).map Share.data) ns
        = .ok () :=
  NmtMulti.rowRange_verifies (by rw [T.length]; exact hw) T.sorted (T.nsLength hsz) T.root hse
    (by rw [T.length]; exact hen) hall

/-- the single-leaf case, at the cell of the square: an accepted range proof for the leaf `(ns, d)` at index `j` of the
    axis means the square has exactly that leaf in that cell -/
theorem cell_sound_on (T : AxisTree H e ax i shares root) {S : Bytes → Prop} (hk : HashOKOn H S) {k : Nat}
    (hw : e.width = 2 ^ k) (hsz : ∀ sh ∈ e.shares, NS_SIZE ≤ sh.data.length) (hA : ∀ y ∈ axisInputs H e ax i, S y)
    {j : Nat} (hj : j < e.width) {ns d : Bytes} {proof : NsProof} (hns : ns.length = NS_SIZE)
    (hsib : ∀ p ∈ proof.siblings, p.WF) (hLf : S (leafInput ns d))
    (hV : ∀ y ∈ proofInputs H proof.ignoreMaxNs [hashLeaf H ns d] proof.siblings proof.start, S y)
    (hv : verifyRange H proof root [d] ns = .ok ()) (hst : proof.start = j) :
    ∃ sh, e.share? (axisCoord ax i j).1 (axisCoord ax i j).2 = some sh ∧ sh.data = d ∧ sh.ns = ns := by
  obtain ⟨sh, hsh, hshi⟩ := T.get hj
  obtain ⟨sh', h1, h2⟩ := T.range_sound_on (raws := [d]) hk hw hsz hA hsib hns
    (fun x hx => by rw [List.mem_singleton.mp hx]; exact hLf) hV hv (by simp only [List.length_singleton]; omega) 0 _ rfl
  rw [hst, Nat.add_zero, hshi] at h1
  cases h1
  exact ⟨sh, hsh, h2⟩

end AxisTree

end Lumina.Proofs.Eds

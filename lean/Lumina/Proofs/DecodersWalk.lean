/-
  C16: nmt-rs `check_range_proof_inner` never panics on a proof whose siblings,
  together with the proven leaves, are in namespace order (`walk_ok`), hence `check_range_proof`,
  `verify_range`, `verify_namespace` behind lumina's `validate_shape` never panic.

  `walk_ok` is an induction on the fuel, which bounds the subtree of `n` leaves at offset `o` that a call walks.  The call holds the leaves `L` of the range
  not yet placed (they end at index `L.length + s - 1`), the left siblings `P0` and exactly as many right siblings `Pr`
  as the last of these leaves has inside the subtree (`rsib`); `P0 ++ L ++ Pr` is ordered.  The invariant `WalkPost`:
  an error is not the panic; a result `(h, L', P')` has consumed a suffix `Lv ≠ []` of the leaves and a suffix `Pl` of
  the left siblings (left siblings only once no leaf is left), leaves over exactly the leaves below the subtree, and `h`
  carries the range (`Summ`) of the contiguous segment `Pl ++ Lv ++ Pr`.  So every `hash_nodes` the walk makes is on the
  roots of two adjacent segments of the one ordered list, which is `hashNodes_summ` (`walk_finish`).
-/
import Lumina.Model.Decoders
import Lumina.Proofs.DecodersTree
import Lumina.Proofs.NmtOrder

namespace Lumina.Proofs.Decoders
open Lumina.Util
open Lumina.Model.Nmt hiding validateShape
open Lumina.Proofs.Nmt (leB_refl)
open Lumina.Model.Decoders (validateShape siblingsOrdered)

theorem takeLast?_eq_none {α} {l : List α} (h : takeLast? l = none) : l = [] := by
  unfold takeLast? at h
  cases hl : l.getLast? with
  | none => simpa using hl
  | some x => simp [hl] at h

def WalkPost (L P0 Pr : List NsHash) (s o : Nat) : Except Err (NsHash × List NsHash × List NsHash) → Prop
  | .error e => e ≠ .panic
  | .ok (h, L', P') => ∃ Lv Pl, L = L' ++ Lv ∧ Lv ≠ [] ∧ P0 = P' ++ Pl ∧ (Pl ≠ [] → L' = []) ∧
      (s < o → L'.length = o - s) ∧ (o ≤ s → L' = []) ∧ Summ h (Pl ++ Lv ++ Pr)

/-- the last step of every case: hash the two halves, which are adjacent segments of the ordered list -/
theorem walk_finish {H : HashFn} {ign : Bool} {L P0 Pr : List NsHash} {s o : Nat}
    {left right : NsHash} {L2 P2 Lv Pl segL segR : List NsHash} {pre : List NsHash}
    (hl : Summ left segL) (hr : Summ right segR)
    (hG : MonoA (pre ++ (segL ++ segR)))
    (hseg : segL ++ segR = Pl ++ Lv ++ Pr)
    (h1 : L = L2 ++ Lv) (h2 : Lv ≠ []) (h3 : P0 = P2 ++ Pl) (h4 : Pl ≠ [] → L2 = [])
    (h5 : s < o → L2.length = o - s) (h6 : o ≤ s → L2 = []) :
    WalkPost L P0 Pr s o
      (match hashNodes H ign left right with
       | Except.error e => Except.error e
       | Except.ok h => Except.ok (h, L2, P2)) := by
  obtain ⟨h, hh, hs⟩ := hashNodes_summ (H := H) (ign := ign) hl hr (monoA_append.mp hG).2.1
  rw [hh]
  simp only [WalkPost]
  exact ⟨Lv, Pl, h1, h2, h3, h4, h5, h6, hseg ▸ hs⟩

/-- a subtree of one leaf: the walk takes the last of the remaining leaves -/
theorem walk_leaf {L P0 : List NsHash} {s o : Nat} (hL : L ≠ []) (he : L.length + s - 1 = o) :
    WalkPost L P0 [] s o
      (match takeLast? L with
       | none => Except.error Err.missingLeaf
       | some (x, rest) => Except.ok (x, rest, P0 ++ [])) := by
  cases hT : takeLast? L with
  | none => exact absurd (takeLast?_eq_none hT) hL
  | some p =>
    obtain ⟨x, L1⟩ := p
    have hLx := Lumina.Proofs.Nmt.takeLast?_some hT
    have hlen : L.length = L1.length + 1 := by rw [hLx]; simp
    simp only [WalkPost, List.append_nil]
    refine ⟨[x], [], hLx, by simp, by simp, by simp, fun _ => by omega,
      fun _ => List.eq_nil_of_length_eq_zero (by omega), by simpa using summ_singleton x⟩

theorem walk_ok (H : HashFn) (ign : Bool) : ∀ (fuel : Nat) (L P0 Pr : List NsHash) (s n o : Nat),
    2 ≤ n → n ≤ fuel → L ≠ [] → o ≤ L.length + s - 1 → L.length + s - 1 < o + n →
    Pr.length = rsib n (L.length + s - 1 - o) →
    MonoA (P0 ++ L ++ Pr) →
    WalkPost L P0 Pr s o (checkRangeProofInner H ign fuel L (P0 ++ Pr) s n o) := by
  intro fuel
  induction fuel with
  | zero => intro L P0 Pr s n o h2 hf; omega
  | succ fuel ih =>
    -- a subtree the range reaches into is a single leaf or a recursive call: both meet `WalkPost`
    have sub : ∀ (L P0 Pr : List NsHash) (s m o : Nat), 1 ≤ m → (m ≠ 1 → m ≤ fuel) → L ≠ [] →
        o ≤ L.length + s - 1 → L.length + s - 1 < o + m → Pr.length = rsib m (L.length + s - 1 - o) →
        MonoA (P0 ++ L ++ Pr) →
        WalkPost L P0 Pr s o
          (if m = 1 then
            match takeLast? L with
            | none => Except.error Err.missingLeaf
            | some (x, rest) => Except.ok (x, rest, P0 ++ Pr)
          else checkRangeProofInner H ign fuel L (P0 ++ Pr) s m o) := by
      intro L P0 Pr s m o h1 hf hL he1 he2 hPr hG
      by_cases hm : m = 1
      · subst hm
        have hPr0 : Pr = [] := List.eq_nil_of_length_eq_zero (by rw [hPr, rsib_le_one _ _ (Nat.le_refl 1)])
        subst hPr0
        rw [if_pos rfl]
        exact walk_leaf hL (by omega)
      · rw [if_neg hm]
        exact ih L P0 Pr s m o (by omega) (hf hm) hL he1 he2 hPr hG
    intro L P0 Pr s n o h2 hf hL he1 he2 hPr hG
    have hb := nsp2_bounds n h2
    have hrs := rsib_unfold n (L.length + s - 1 - o) h2
    generalize hk : nextSmallerPo2 n = k at hb hrs
    obtain ⟨hk1, hk2, hk3⟩ := hb
    have hLpos : 0 < L.length := List.length_pos_iff.mpr hL
    have hne0 : ¬ (L.length + s = 0) := by omega
    unfold checkRangeProofInner
    simp only [hne0, ↓reduceIte, hk]
    by_cases hA : L.length + s - 1 ≥ k + o
    · -- the range reaches into the right subtree
      simp only [hA, ↓reduceIte]
      have hrs' : Pr.length = rsib (n - k) (L.length + s - 1 - (o + k)) := by
        rw [hPr, hrs]
        have : k ≤ L.length + s - 1 - o := by omega
        simp only [this, ↓reduceIte]
        congr 1; omega
      have hright := sub L P0 Pr s (n - k) (o + k) (by omega) (by omega) hL (by omega) (by omega) hrs' hG
      generalize (if n - k = 1 then
            match takeLast? L with
            | none => Except.error Err.missingLeaf
            | some (x, rest) => Except.ok (x, rest, P0 ++ Pr)
          else checkRangeProofInner H ign fuel L (P0 ++ Pr) s (n - k) (o + k)) = rres at hright
      cases rres with
      | error e => simpa [WalkPost] using hright
      | ok v =>
        obtain ⟨right, L1, P1⟩ := v
        simp only [WalkPost] at hright
        obtain ⟨LvR, PlR, r1, r2, r3, r4, r5, r6, r7⟩ := hright
        simp only
        by_cases hs : s < k + o
        · -- part of the range lies in the left subtree
          simp only [hs, ↓reduceIte]
          have hL1len : L1.length = o + k - s := r5 (by omega)
          have hL1 : L1 ≠ [] := by
            intro e; rw [e] at hL1len; simp at hL1len; omega
          have hPlR : PlR = [] := by
            by_cases c : PlR = []
            · exact c
            · exact absurd (r4 c) hL1
          subst hPlR
          simp only [List.append_nil] at r3
          subst r3
          have hcall := sub L1 P0 [] s k o hk1 (by omega) hL1 (by omega) (by omega)
            (by
              have : L1.length + s - 1 - o = k - 1 := by omega
              rw [this, rsib_last k hk1]; rfl)
            (by
              rw [r1] at hG
              have : P0 ++ (L1 ++ LvR) ++ Pr = (P0 ++ L1 ++ []) ++ (LvR ++ Pr) := by simp [List.append_assoc]
              rw [this] at hG
              exact (monoA_append.mp hG).1)
          simp only [List.append_nil] at hcall
          generalize (if k = 1 then
                match takeLast? L1 with
                | none => Except.error Err.missingLeaf
                | some (x, rest) => Except.ok (x, rest, P0)
              else checkRangeProofInner H ign fuel L1 P0 s k o) = lres at hcall
          cases lres with
          | error e => simpa [WalkPost] using hcall
          | ok v =>
            obtain ⟨left, L2, P2⟩ := v
            simp only [WalkPost] at hcall
            obtain ⟨LvL, PlL, l1, l2, l3, l4, l5, l6, l7⟩ := hcall
            simp only
            apply walk_finish (segL := PlL ++ LvL ++ []) (segR := [] ++ LvR ++ Pr) (pre := P2 ++ L2)
              (Lv := LvL ++ LvR) (Pl := PlL) l7 r7
            · rw [r1, l1, l3] at hG
              by_cases c : PlL = []
              · subst c; simpa [List.append_assoc] using hG
              · have := l4 c; subst this; simpa [List.append_assoc] using hG
            · simp [List.append_assoc]
            · rw [r1, l1]; simp [List.append_assoc]
            · simp [l2]
            · exact l3
            · exact l4
            · exact l5
            · exact l6
        · -- the whole range is in the right subtree: the left subtree root comes from the proof
          simp only [hs, ↓reduceIte]
          have hL1 : L1 = [] := r6 (by omega)
          subst hL1
          simp only [List.nil_append] at r1
          cases hT : takeLast? P1 with
          | none => simp [WalkPost]
          | some p =>
            obtain ⟨z, P2⟩ := p
            have hPz := Lumina.Proofs.Nmt.takeLast?_some hT
            simp only
            apply walk_finish (segL := [z]) (segR := PlR ++ LvR ++ Pr) (pre := P2)
              (Lv := LvR) (Pl := [z] ++ PlR) (summ_singleton z) r7
            · rw [r3, hPz, r1] at hG; simpa [List.append_assoc] using hG
            · simp [List.append_assoc]
            · simpa using r1
            · exact r2
            · rw [r3, hPz]; simp [List.append_assoc]
            · intro _; rfl
            · intro h; omega
            · intro _; rfl
    · -- the range lies entirely in the left subtree: the right subtree root comes from the proof
      simp only [hA, ↓reduceIte]
      have hlt : ¬ k ≤ L.length + s - 1 - o := by omega
      have hrs' : Pr.length = 1 + rsib k (L.length + s - 1 - o) := by
        rw [hPr, hrs]; simp only [hlt, ↓reduceIte]
      -- Pr = Pr' ++ [r]
      have hPrne : Pr ≠ [] := by intro e; rw [e] at hrs'; simp at hrs'; omega
      have hPrd := (List.dropLast_concat_getLast hPrne).symm
      generalize Pr.dropLast = Pr' at hPrd
      generalize Pr.getLast hPrne = r at hPrd
      subst hPrd
      have hT : takeLast? (P0 ++ (Pr' ++ [r])) = some (r, P0 ++ Pr') := by
        rw [← List.append_assoc]; exact Lumina.Proofs.Nmt.takeLast?_append_singleton _ _
      simp only [hT]
      have hs : s < k + o := by omega
      simp only [hs, ↓reduceIte]
      have hcall := sub L P0 Pr' s k o hk1 (by omega) hL he1 (by omega) (by simp at hrs'; omega)
        (by
          have : P0 ++ L ++ (Pr' ++ [r]) = (P0 ++ L ++ Pr') ++ [r] := by simp [List.append_assoc]
          rw [this] at hG
          exact (monoA_append.mp hG).1)
      generalize (if k = 1 then
            match takeLast? L with
            | none => Except.error Err.missingLeaf
            | some (x, rest) => Except.ok (x, rest, P0 ++ Pr')
          else checkRangeProofInner H ign fuel L (P0 ++ Pr') s k o) = lres at hcall
      cases lres with
      | error e => simpa [WalkPost] using hcall
      | ok v =>
        obtain ⟨left, L2, P2⟩ := v
        simp only [WalkPost] at hcall
        obtain ⟨Lv, Pl, l1, l2, l3, l4, l5, l6, l7⟩ := hcall
        simp only
        apply walk_finish (segL := Pl ++ Lv ++ Pr') (segR := [r]) (pre := P2 ++ L2)
          (Lv := Lv) (Pl := Pl) l7 (summ_singleton r)
        · rw [l1, l3] at hG
          by_cases c : Pl = []
          · subst c; simpa [List.append_assoc] using hG
          · have := l4 c; subst this; simpa [List.append_assoc] using hG
        · simp [List.append_assoc]
        · exact l1
        · exact l2
        · exact l3
        · exact l4
        · exact l5
        · exact l6

theorem error_ne_panic {α β} {r : Except Err α} {e : Err} (h : r ≠ .error .panic)
    (he : r = .error e) : (Except.error e : Except Err β) ≠ .error .panic := by
  rintro ⟨⟩; exact h he

theorem guard_ne_panic {α} {c : Prop} [Decidable c] {y x : Except Err α} (hy : y ≠ .error .panic)
    (h : ¬c → x ≠ .error .panic) : (if c then y else x) ≠ .error .panic := by
  split
  · exact hy
  · exact h ‹_›

theorem computeTreeSizeAux_ne_panic : ∀ (fuel rem idx mask : Nat),
    computeTreeSizeAux fuel rem idx mask ≠ .error .panic := by
  intro fuel
  induction fuel with
  | zero => intro rem idx mask; simp [computeTreeSizeAux]
  | succ f ih =>
    intro rem idx mask
    unfold computeTreeSizeAux
    by_cases hr : rem = 0
    · simp [hr]
    · simp only [hr, ↓reduceIte]
      generalize (if mask = 0 then true else idx / mask % 2 == 0) = hit
      by_cases hm : (if hit = true then idx + mask else idx) = U32_MAX
      · simp [hm]
      · simp only [hm, ↓reduceIte]; exact ih _ _ _

/-- `MerkleTree::check_range_proof` does not panic when the left siblings, the leaves and the right
    siblings form one namespace-ordered list -/
theorem checkRangeProof_ne_panic (H : HashFn) (ign : Bool) (root : NsHash) (leaves proof : List NsHash)
    (start : Nat) (he : start + leaves.length ≤ 2 ^ 32)
    (hG : MonoA (proof.take (computeNumLeftSiblings start) ++ leaves ++ proof.drop (computeNumLeftSiblings start))) :
    checkRangeProof H ign root leaves proof start ≠ .error .panic := by
  unfold checkRangeProof
  refine guard_ne_panic (guard_ne_panic nofun fun _ => nofun) fun h0 => ?_
  refine guard_ne_panic (guard_ne_panic nofun fun _ => nofun) fun h1 => ?_
  refine guard_ne_panic nofun fun hnl => ?_
  simp only
  cases hT : computeTreeSize (proof.length - computeNumLeftSiblings start) (start + leaves.length - 1) with
  | error e => exact error_ne_panic (computeTreeSizeAux_ne_panic _ _ _ _) hT
  | ok T =>
    simp only
    have hLne : leaves ≠ [] := by intro e; subst e; simp at h0
    have hLpos : 0 < leaves.length := List.length_pos_iff.mpr hLne
    have hgt := Lumina.Proofs.Nmt.computeTreeSize_ge hT
    have hrs := computeTreeSize_rsib (by omega) hT
    have hT2 : 2 ≤ T := by
      by_cases he0 : start + leaves.length - 1 = 0
      · -- a single leaf at index 0 with a non-empty proof
        have hs0 : start = 0 := by omega
        have hpne : proof.length ≠ 0 := by
          intro hp
          apply h1
          refine ⟨by omega, ?_⟩
          simp [List.eq_nil_of_length_eq_zero hp]
        rw [he0, hs0, Lumina.Proofs.NmtRange.cnls_zero] at hT
        exact Lumina.Proofs.Nmt.computeTreeSize_ge_two (by omega) hT
      · omega
    have hw := walk_ok H ign T leaves (proof.take (computeNumLeftSiblings start))
      (proof.drop (computeNumLeftSiblings start)) start T 0 hT2 (Nat.le_refl _) hLne (by omega)
      (by have : leaves.length + start - 1 = start + leaves.length - 1 := by omega
          rw [this]; omega)
      (by have : leaves.length + start - 1 - 0 = start + leaves.length - 1 := by omega
          rw [this, hrs, List.length_drop])
      hG
    rw [List.take_append_drop] at hw
    generalize checkRangeProofInner H ign T leaves proof start T 0 = res at hw
    cases res with
    | error e => simpa [WalkPost] using hw
    | ok v =>
      obtain ⟨c, _, _⟩ := v
      simp only
      split <;> simp

theorem monoA_of_checks : ∀ (l : List NsHash), l.any (fun s => ltB s.maxNs s.minNs) = false →
    siblingsOrdered l = true → MonoA l
  | [], _, _ => trivial
  | [x], h1, _ => Lumina.Proofs.Nmt.leB_of_not_ltB (by simpa using h1)
  | x :: y :: r, h1, h2 => by
    simp only [List.any_cons, Bool.or_eq_false_iff] at h1
    simp only [siblingsOrdered, Bool.and_eq_true] at h2
    exact ⟨Lumina.Proofs.Nmt.leB_of_not_ltB h1.1, h2.1, monoA_of_checks (y :: r) (by simpa using h1.2) h2.2⟩

theorem validateShape_ok {p : NsProof} {first last : Bytes} (hv : validateShape p first last = true) :
    computeNumLeftSiblings p.start ≤ p.siblings.length ∧ MonoA p.siblings ∧
      (∀ l, computeNumLeftSiblings p.start ≠ 0 → p.siblings[computeNumLeftSiblings p.start - 1]? = some l →
        leB l.maxNs first = true) ∧
      (∀ r, p.siblings[computeNumLeftSiblings p.start]? = some r → leB last r.minNs = true) := by
  unfold validateShape at hv
  generalize computeNumLeftSiblings p.start = nl at hv ⊢
  simp only at hv
  split at hv; · cases hv
  split at hv; · cases hv
  split at hv; · cases hv
  rename_i h1 h2 h3
  simp only [Bool.and_eq_true] at hv
  refine ⟨by omega, monoA_of_checks _ (by simpa using h2) (by simpa using h3), fun l h0 hl => ?_, fun r hr => ?_⟩
  · simpa [h0, hl] using hv.1
  · simpa [hr] using hv.2

/-- left siblings, leaves spanning `[first, last]` and right siblings of a shape-validated proof are one ordered list -/
theorem validateShape_chain {p : NsProof} {first last : Bytes} (hv : validateShape p first last = true)
    {leaves : List NsHash} (hm : MonoA leaves) (hfirst : ∀ x, leaves.head? = some x → x.minNs = first)
    (hlast : ∀ x, leaves.getLast? = some x → x.maxNs = last) :
    MonoA (p.siblings.take (computeNumLeftSiblings p.start) ++ leaves ++
           p.siblings.drop (computeNumLeftSiblings p.start)) := by
  obtain ⟨hnl, hms, hl, hr⟩ := validateShape_ok hv
  generalize computeNumLeftSiblings p.start = nl at *
  by_cases hne : leaves = []
  · subst hne; rwa [List.append_nil, List.take_append_drop]
  rw [← List.take_append_drop nl p.siblings] at hms
  obtain ⟨hmt, hmd, _⟩ := monoA_append.mp hms
  rw [monoA_append, monoA_append]
  refine ⟨⟨hmt, hm, fun a b ha hb => ?_⟩, hmd, fun a b ha hb => ?_⟩
  · rw [List.getLast?_take] at ha
    split at ha; · cases ha
    rename_i hn0
    rw [List.getElem?_eq_getElem (by omega : nl - 1 < p.siblings.length)] at ha
    rw [hfirst b hb]
    exact hl a hn0 (by rw [List.getElem?_eq_getElem (by omega : nl - 1 < p.siblings.length)]; simpa using ha)
  · rw [List.getLast?_append, Option.or_of_isSome (by simpa using hne)] at ha
    rw [hlast a ha]
    exact hr b (by rwa [List.head?_drop] at hb)
end Lumina.Proofs.Decoders

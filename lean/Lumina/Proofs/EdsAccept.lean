/-
  C08: `ExtendedDataSquare::new` against the spec's `validEds`.  Both directions go through `NewOK` (which is acceptance,
  `EdsCode.edsNew_ok_iff`): an accepted square is valid, and a valid square satisfies `NewOK`.
-/
import Lumina.Proofs.EdsMalformed
import Lumina.Proofs.Namespace

namespace Lumina.Proofs.EdsAccept
open Lumina.Util Lumina.Model.Nmt Lumina.Model.Eds Lumina.Model.EdsCode
open Lumina.Proofs.EdsCode Lumina.Proofs.EdsMalformed
open Lumina.Spec.C08

/-- `Share::validate` on a first-quadrant share: share version 1 needs app version ≥ 3 -/
theorem shareValidate_ok_iff {ver : Nat} {d : Bytes} :
    shareValidate ver ⟨d, false⟩ = .ok () ↔ ¬ ((d.getD 29 0).toNat / 2 = 1 ∧ ver < 3) := by
  simp only [shareValidate, Bool.not_false, Bool.true_and, show NS_SIZE = 29 from rfl, SHARE_VERSION_ONE,
    Bool.and_eq_true, decide_eq_true_eq]
  by_cases h : (d.getD 29 0).toNat / 2 = 1 ∧ ver < 3
  · rw [if_pos h]
    exact ⟨fun h' => (by cases h'), fun h' => absurd h h'⟩
  · rw [if_neg h]
    exact ⟨fun _ => h, fun _ => rfl⟩

theorem sharesSupported_iff {ver w : Nat} {X : List Bytes} : sharesSupported ver w X = true ↔
    ∀ r, r < w / 2 → ∀ c, c < w / 2 → Lumina.Spec.C14.validRaw ((X.getD (r * w + c) []).take 29) = true ∧
      ¬ (((X.getD (r * w + c) []).getD 29 0).toNat / 2 = 1 ∧ ver < 3) := by
  simp only [sharesSupported, List.all_eq_true, List.mem_range, Bool.and_eq_true, Bool.not_eq_true', Bool.and_eq_false_iff,
    beq_eq_false_iff_ne, ne_eq, decide_eq_false_iff_not, Classical.not_and_iff_not_or_not]

theorem validEds_iff {ver : Nat} {X : List Bytes} : validEds ver X = true ↔
    malformedEds ver X = false ∧ ∀ w, w * w = X.length → sharesSupported ver w X = true := by
  simp only [validEds, Bool.and_eq_true, Bool.not_eq_true', List.all_eq_true, List.mem_range, Bool.or_eq_true, bne_iff_ne, ne_eq]
  refine and_congr_right fun _ => ⟨fun h w hw => (h w (by have := Nat.le_mul_self w; omega)).resolve_left (fun h' => h' hw),
    fun h w _ => ?_⟩
  by_cases hw : w * w = X.length
  · exact Or.inr (h w hw)
  · exact Or.inl hw

theorem supported_of_newOK {ver : Nat} {shares : List Bytes} {e : Eds} (ok : NewOK ver shares e) :
    sharesSupported ver e.width shares = true := by
  rw [sharesSupported_iff]
  intro r hr c hc
  have hok := ok.cellOK (r := r) (c := c) (by omega) (by omega)
  have hpar : (cell e.width shares r c).isParity = false := by simp [cell, isOdsSquare, hr, hc]
  have hver := hok.version
  simp only [cell, isOdsSquare, hr, hc, decide_true, Bool.and_self, Bool.not_true] at hver
  exact ⟨(hok.ns hpar).elim fun _ h => (Lumina.Proofs.Namespace.fromRaw_ok_iff.mp h).1, shareValidate_ok_iff.mp hver⟩

theorem newOK_of_valid {ver : Nat} {X : List Bytes} (hv : validEds ver X = true) : ∃ e, NewOK ver X e := by
  obtain ⟨hmal, hsupp⟩ := validEds_iff.mp hv
  obtain ⟨w, j, hw, hj, hmin, hmax, hsize, huns⟩ := malformed_shape_iff.mp hmal
  have hsz := (forall_mem_sq hw.symm []).mp (fun s hs => by simpa [SHARE_SIZE] using List.any_eq_false.mp hsize s hs)
  have hsup := sharesSupported_iff.mp (hsupp w hw)
  have hadj := unsortedEds_false_iff.mp huns
  have hwmax : w ≤ 2 * maxOdsWidth ver := Nat.mul_self_le_mul_self_iff.mp (by rw [hw]; exact hmax)
  have hw2 : 2 ≤ w := Nat.mul_self_le_mul_self_iff.mp (by rw [hw]; exact hmin)
  refine ⟨⟨w, ((List.range w).map (lineCells w X .row)).flatten⟩, hw, ⟨j, ?_, ?_, hj⟩, ?_, rfl, fun i hi ax sh hsh => ?_,
    fun i hi ax => ?_⟩
  · cases j with
    | zero => omega
    | succ j => omega
  · have : ¬ 16 ≤ j := fun h16 => by
      have : (2:Nat) ^ 16 ≤ 2 ^ j := Nat.pow_le_pow_right (by omega) h16
      simp only [maxOdsWidth] at hwmax; split at hwmax <;> omega
    omega
  · simp only [maxWidth_eq]; omega
  · -- `cells`: sizes from `wrongShareSize`, namespace and share version of first-quadrant cells from `sharesSupported`
    obtain ⟨jj, hjj, rfl⟩ := List.mem_map.mp hsh
    obtain ⟨hr, hc⟩ := axisCoord_lt ax hi (List.mem_range.mp hjj)
    generalize (axisCoord ax i jj).1 = r at *
    generalize (axisCoord ax i jj).2 = c at *
    refine ⟨hsz r c hr hc, fun hp => ?_, ?_⟩
    · simp only [cell, isOdsSquare, Bool.not_eq_false', Bool.and_eq_true, decide_eq_true_eq] at hp
      exact ⟨_, Lumina.Proofs.Namespace.fromRaw_ok_iff.mpr ⟨(hsup r hp.1 c hp.2).1, rfl⟩⟩
    · by_cases ho : r < w / 2 ∧ c < w / 2
      · have : cell w X r c = ⟨X.getD (r * w + c) [], false⟩ := by simp [cell, isOdsSquare, ho.1, ho.2]
        rw [this, shareValidate_ok_iff]
        exact (hsup r ho.1 c ho.2).2
      · have : (cell w X r c).isParity = true := by
          simp only [cell, isOdsSquare, Bool.not_eq_true', Bool.and_eq_false_iff, decide_eq_false_iff_not]
          by_cases h1 : r < w / 2
          · exact Or.inr (fun h2 => ho ⟨h1, h2⟩)
          · exact Or.inl h1
        simp [shareValidate, this]
  · apply pairwise_of_adjacent
    intro jj hjj
    rw [List.length_map, lineCells_length] at hjj
    have := hadj i hi jj hjj ax
    rwa [lineCells_ns_getD _ _ _ hjj, lineCells_ns_getD _ _ _ (by omega)]

/-- **`new` accepts every valid square** -/
theorem new_accepts {ver : Nat} {X : List Bytes} (hv : validEds ver X = true) : ∃ e, edsNew ver X = .ok e :=
  (newOK_of_valid hv).imp fun _ => edsNew_ok_iff.mpr

theorem valid_of_newOK {ver : Nat} {X : List Bytes} {e : Eds} (ok : NewOK ver X e) : validEds ver X = true :=
  validEds_iff.mpr ⟨not_malformed_of_newOK ok, fun w hw => by
    obtain rfl : w = e.width := Nat.mul_self_inj.mp (by rw [hw, ok.sq])
    exact supported_of_newOK ok⟩

end Lumina.Proofs.EdsAccept

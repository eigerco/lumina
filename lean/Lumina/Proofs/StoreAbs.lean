/-
  Lemmas about the abstract store of `Spec/C19.lean` (no store model involved):
  association lists, `find?` on a key, the canonical interval representation `rangesOf`,
  internally verified batches, the invariant `AbsInv` (the invariants C19 names), kept by each
  operation, and the chain invariant `AbsVer` (C21), kept by an insertion (`insert_ver`; the other
  calls store no further header, `step_hdrs_subset`).  `insert_cases`: an insertion changes nothing
  or is `added` under `InsertOK`.  The per-call forms `abs_step_inv` / `abs_step_ver` are in `StoreHist`.
-/
import Lumina.Model.Store
import Lumina.Spec.C19
import Lumina.Proofs.Util

open Lumina.Model.Store Lumina.Spec.C19
open Lumina.Model

namespace Lumina.Proofs.Store

section amap
variable {κ ν : Type} [DecidableEq κ]


theorem get_erase (m : AMap κ ν) (k k' : κ) :
    AMap.get (AMap.erase m k) k' = if k' = k then none else AMap.get m k' := by
  induction m with
  | nil => simp [AMap.erase, AMap.get]
  | cons p rest ih =>
    obtain ⟨a, b⟩ := p
    simp only [AMap.erase, List.filter] at ih ⊢
    by_cases h : a = k
    · subst h
      simp [AMap.get, ih]
      by_cases h2 : k' = a
      · simp [h2]
      · have : ¬ a = k' := fun e => h2 e.symm
        simp [h2, this]
    · simp [h, AMap.get]
      by_cases h2 : a = k'
      · subst h2; simp [h]
      · simp [h2, ih]

theorem get_insert (m : AMap κ ν) (k k' : κ) (v : ν) :
    AMap.get (AMap.insert m k v) k' = if k' = k then some v else AMap.get m k' := by
  simp only [AMap.insert, AMap.get, get_erase]
  by_cases h : k = k'
  · simp [h]
  · have : ¬ k' = k := fun e => h e.symm
    simp [h, this]

def insertAll {α : Type} (f : α → κ) (g : α → ν) (m : AMap κ ν) (l : List α) : AMap κ ν :=
  l.foldl (fun m x => AMap.insert m (f x) (g x)) m

/-- the keys of the entries `l` are new to `m` and pairwise different -/
def Fresh {α : Type} (f : α → κ) (m : AMap κ ν) (l : List α) : Prop :=
  (∀ x ∈ l, AMap.get m (f x) = none) ∧ (l.map f).Nodup

theorem Fresh.cons {α : Type} {f : α → κ} {m : AMap κ ν} {a : α} {rest : List α}
    (h : Fresh f m (a :: rest)) (v : ν) :
    AMap.get m (f a) = none ∧ Fresh f (AMap.insert m (f a) v) rest := by
  obtain ⟨hfresh, hn⟩ := h
  simp only [List.map_cons, List.nodup_cons] at hn
  refine ⟨hfresh a (by simp), fun x hx => ?_, hn.2⟩
  rw [get_insert, if_neg fun (e : f x = f a) => hn.1 (e ▸ List.mem_map_of_mem hx)]
  exact hfresh x (List.mem_cons_of_mem _ hx)

theorem get_insertAll {α : Type} (f : α → κ) (g : α → ν) (l : List α) (m : AMap κ ν)
    (h : Fresh f m l) (k : κ) :
    AMap.get (insertAll f g m l) k = (AMap.get m k).or ((l.find? (fun x => f x == k)).map g) := by
  induction l generalizing m with
  | nil => simp [insertAll]
  | cons a rest ih =>
    obtain ⟨ha, hr⟩ := h.cons (g a)
    show AMap.get (insertAll f g (AMap.insert m (f a) (g a)) rest) k = _
    rw [ih _ hr, get_insert]
    by_cases hk : k = f a
    · subst hk; simp [ha]
    · rw [if_neg hk, List.find?_cons_of_neg (by simpa using Ne.symm hk)]

end amap


theorem find?_key_none {α : Type} (f : α → Nat) (l : List α) (k : Nat) :
    l.find? (fun y => f y == k) = none ↔ ∀ x ∈ l, f x ≠ k := by
  simp [List.find?_eq_none]


/-- one more height on top of a descending list of runs below `n`: the top run is extended or a
    new run is opened (the step of `runsDesc`) -/
def pushRun (n : Nat) : List (Nat × Nat) → List (Nat × Nat)
  | (a, b) :: rest => if b + 1 = n then (a, n) :: rest else (n, n) :: (a, b) :: rest
  | [] => [(n, n)]

theorem runsDesc_succ (p : Nat → Bool) (n : Nat) :
    runsDesc p (n + 1) = if p n then pushRun n (runsDesc p n) else runsDesc p n := by
  rw [runsDesc]; rfl

theorem pushRun_spec (n : Nat) (l : List (Nat × Nat))
    (h1 : l.Pairwise (fun x y => y.2 + 1 < x.1)) (h2 : ∀ r ∈ l, r.1 ≤ r.2 ∧ r.2 < n) :
    (pushRun n l).Pairwise (fun x y => y.2 + 1 < x.1) ∧ (∀ r ∈ pushRun n l, r.1 ≤ r.2 ∧ r.2 < n + 1) ∧
    ∀ h, (∃ r ∈ pushRun n l, r.1 ≤ h ∧ h ≤ r.2) ↔ ((∃ r ∈ l, r.1 ≤ h ∧ h ≤ r.2) ∨ h = n) := by
  cases l with
  | nil => simp [pushRun]; intro h; omega
  | cons ab rest =>
    obtain ⟨a, b⟩ := ab
    have hab := h2 (a, b) (by simp)
    have hrest : ∀ r ∈ rest, r.1 ≤ r.2 ∧ r.2 < n := fun r hr => h2 r (List.mem_cons_of_mem _ hr)
    simp only [List.pairwise_cons] at h1
    simp only at hab
    by_cases hb : b + 1 = n
    · simp only [pushRun, hb, if_true, List.pairwise_cons, List.mem_cons, forall_eq_or_imp, exists_eq_or_imp]
      refine ⟨h1, ⟨by omega, fun r hr => by have := hrest r hr; omega⟩, fun h => ?_⟩
      have : (a ≤ h ∧ h ≤ n) ↔ ((a ≤ h ∧ h ≤ b) ∨ h = n) := by omega
      simp only [this, or_assoc, or_comm]
    · simp only [pushRun, hb, if_false, List.pairwise_cons, List.mem_cons, forall_eq_or_imp, exists_eq_or_imp]
      refine ⟨⟨⟨by omega, fun r hr => by have := h1.1 r hr; omega⟩, h1⟩,
        ⟨by omega, by omega, fun r hr => by have := hrest r hr; omega⟩, fun h => ?_⟩
      have : (n ≤ h ∧ h ≤ n) ↔ h = n := by omega
      simp only [this, or_comm]

theorem runsDesc_spec (p : Nat → Bool) (n : Nat) :
    (runsDesc p n).Pairwise (fun x y => y.2 + 1 < x.1) ∧
    (∀ r ∈ runsDesc p n, r.1 ≤ r.2 ∧ r.2 < n) ∧
    (∀ h, (∃ r ∈ runsDesc p n, r.1 ≤ h ∧ h ≤ r.2) ↔ (h < n ∧ p h = true)) := by
  induction n with
  | zero => simp [runsDesc]
  | succ n ih =>
    obtain ⟨ih1, ih2, ih3⟩ := ih
    rw [runsDesc_succ]
    by_cases hp : p n = true
    · simp only [hp, if_true]
      obtain ⟨q1, q2, q3⟩ := pushRun_spec n _ ih1 ih2
      refine ⟨q1, q2, fun h => ?_⟩
      rw [q3, ih3]
      constructor
      · rintro (⟨h1, h2⟩ | rfl)
        · exact ⟨by omega, h2⟩
        · exact ⟨by omega, hp⟩
      · rintro ⟨h1, h2⟩
        by_cases e : h = n
        · exact Or.inr e
        · exact Or.inl ⟨by omega, h2⟩
    · have hp' : p n = false := by simpa using hp
      simp only [hp', Bool.false_eq_true, if_false]
      refine ⟨ih1, fun r hr => ?_, fun h => ?_⟩
      · have := ih2 r hr; omega
      · rw [ih3 h]
        constructor
        · rintro ⟨h1, h2⟩; exact ⟨by omega, h2⟩
        · rintro ⟨h1, h2⟩
          have : h ≠ n := by rintro rfl; exact hp h2
          exact ⟨by omega, h2⟩

theorem rangesOf_inv (p : Nat → Bool) (b : Nat) (h0 : p 0 = false) (hb : b ≤ Ranges.U64_MAX) :
    Ranges.Inv (rangesOf p b) ∧ ∀ h, Ranges.mem (rangesOf p b) h ↔ (h ≤ b ∧ p h = true) := by
  obtain ⟨h1, h2, h3⟩ := runsDesc_spec p (b + 1)
  refine ⟨⟨?_, ?_⟩, ?_⟩
  · unfold rangesOf
    rw [List.pairwise_reverse]
    exact h1
  · intro r hr
    unfold rangesOf at hr
    rw [List.mem_reverse] at hr
    have := h2 r hr
    refine ⟨?_, this.1, by omega⟩
    by_cases e : r.1 = 0
    · have := (h3 0).1 ⟨r, hr, by omega, by omega⟩
      rw [h0] at this; exact absurd this.2 (by simp)
    · omega
  · intro h
    unfold Ranges.mem rangesOf
    simp only [List.mem_reverse]
    rw [h3 h]
    constructor
    · rintro ⟨a, c⟩; exact ⟨by omega, c⟩
    · rintro ⟨a, c⟩; exact ⟨by omega, c⟩


theorem chain_idx (v : Hdr → Hdr → Bool) (l : List Hdr) (hc : chainOK v l = true) :
    ∀ i (h : i + 1 < l.length), l[i].height + 1 = l[i+1].height ∧ v l[i] l[i+1] = true := by
  induction l with
  | nil => intro i h; simp at h
  | cons a rest ih =>
    cases rest with
    | nil => intro i h; simp at h
    | cons b rest2 =>
      simp only [chainOK, Bool.and_eq_true, beq_iff_eq] at hc
      intro i h
      cases i with
      | zero => simp; exact ⟨hc.1.1, hc.1.2⟩
      | succ j =>
        have := ih hc.2 j (by simpa using h)
        simpa using this

theorem heights_idx (v : Hdr → Hdr → Bool) (l : List Hdr) (hc : chainOK v l = true) :
    ∀ i (h : i < l.length), l[i].height = (l[0]'(by omega)).height + i := by
  intro i
  induction i with
  | zero => intro h; simp
  | succ j ih =>
    intro h
    have h1 := (chain_idx v l hc j h).1
    have h2 := ih (by omega)
    omega

theorem firstDup_none (known : List Hash) (l : List Hdr) :
    firstDupHash known l = none ↔ (∀ x ∈ l, x.hash ∉ known) ∧ (l.map (·.hash)).Nodup := by
  induction l generalizing known with
  | nil => simp [firstDupHash]
  | cons a rest ih =>
    simp only [firstDupHash]
    by_cases h : known.contains a.hash = true
    · simp only [h, if_true]
      constructor
      · intro e; cases e
      · rintro ⟨h1, _⟩
        have := h1 a (by simp)
        simp at h; exact absurd h this
    · have h' : known.contains a.hash = false := by simpa using h
      simp only [h', Bool.false_eq_true, if_false]
      rw [ih]
      simp only [List.contains_eq_mem, decide_eq_true_eq] at h
      constructor
      · rintro ⟨h1, h2⟩
        refine ⟨?_, ?_⟩
        · intro x hx
          rcases List.mem_cons.1 hx with e | e
          · subst e; exact h
          · have := h1 x e; simp at this; exact this.2
        · simp only [List.map_cons, List.nodup_cons]
          refine ⟨?_, h2⟩
          intro hm
          obtain ⟨x, hx, e⟩ := List.mem_map.1 hm
          have := h1 x hx
          simp at this
          exact this.1 e
      · rintro ⟨h1, h2⟩
        simp only [List.map_cons, List.nodup_cons] at h2
        refine ⟨?_, h2.2⟩
        intro x hx
        simp only [List.mem_cons, not_or]
        refine ⟨?_, h1 x (List.mem_cons_of_mem _ hx)⟩
        intro e
        apply h2.1
        rw [← e]
        exact List.mem_map_of_mem hx

theorem mem_sup (l : List Nat) : ∀ x ∈ l, x ≤ sup l := by
  induction l with
  | nil => simp
  | cons a rest ih =>
    intro x hx
    simp only [sup]
    rcases List.mem_cons.1 hx with e | e
    · subst e; omega
    · have := ih x e; omega

theorem sup_mem (l : List Nat) (h : l ≠ []) : sup l ∈ l := by
  induction l with
  | nil => exact absurd rfl h
  | cons a rest ih =>
    simp only [sup]
    by_cases hr : rest = []
    · subst hr; simp [sup]
    · have := ih hr
      by_cases hm : a ≤ sup rest
      · rw [Nat.max_eq_right hm]; exact List.mem_cons_of_mem _ this
      · rw [Nat.max_eq_left (by omega)]; simp

theorem chain_heights (v : Hdr → Hdr → Bool) (l : List Hdr) (first : Hdr) (hc : chainOK v l = true)
    (hf : l.head? = some first) : l.map (·.height) = List.range' first.height l.length := by
  apply List.ext_getElem
  · simp
  · intro i h1 h2
    simp only [List.getElem_map, List.getElem_range']
    have hlen : i < l.length := by simpa using h1
    rw [heights_idx v l hc i hlen]
    have : l[0]'(by omega) = first := by
      cases l with
      | nil => simp at hlen
      | cons a r => simp at hf; simp [hf]
    rw [this]; omega

theorem last_height (v : Hdr → Hdr → Bool) (l : List Hdr) (first last : Hdr) (hc : chainOK v l = true)
    (hf : l.head? = some first) (hl : l.getLast? = some last) :
    last.height + 1 = first.height + l.length := by
  cases l with
  | nil => simp at hf
  | cons a r =>
    have h1 : (a :: r).getLast? = some ((a :: r)[(a :: r).length - 1]'(by simp)) := by
      rw [List.getLast?_eq_getElem?]; simp
    rw [h1] at hl
    have e := Option.some.inj hl
    rw [← e, heights_idx v (a :: r) hc _ (by simp)]
    simp at hf
    simp [hf]; omega

theorem stored_iff (a : AbsStore) (h : Nat) : a.stored h = true ↔ ∃ x ∈ a.hdrs, x.height = h := by
  simp [AbsStore.stored, AbsStore.atHeight, List.find?_isSome]

theorem stored_of_mem {a : AbsStore} {x : Hdr} (hx : x ∈ a.hdrs) : a.stored x.height = true :=
  (stored_iff _ _).2 ⟨x, hx, rfl⟩

theorem stored_mono {a b : AbsStore} {h : Nat} (hsub : ∀ x ∈ a.hdrs, x ∈ b.hdrs)
    (hs : a.stored h = true) : b.stored h = true := by
  obtain ⟨x, hx, rfl⟩ := (stored_iff a h).1 hs
  exact stored_of_mem (hsub x hx)

theorem stored_false_iff (a : AbsStore) (h : Nat) : a.stored h = false ↔ ∀ x ∈ a.hdrs, x.height ≠ h := by
  rw [← Bool.not_eq_true, stored_iff]; simp

theorem batch_heights (v : Hdr → Hdr → Bool) (l : List Hdr) (first last : Hdr) (hc : chainOK v l = true)
    (hf : l.head? = some first) (hl : l.getLast? = some last) :
    (l.map (·.height)).Nodup ∧ (∀ x ∈ l, first.height ≤ x.height ∧ x.height ≤ last.height) ∧
    (∀ h, first.height ≤ h → h ≤ last.height → ∃ x ∈ l, x.height = h) := by
  have e := chain_heights v l first hc hf
  have e2 := last_height v l first last hc hf hl
  refine ⟨?_, ?_, ?_⟩
  · rw [e]; exact List.nodup_range'
  · intro x hx
    have : x.height ∈ l.map (·.height) := List.mem_map_of_mem hx
    rw [e, List.mem_range'_1] at this
    omega
  · intro h h1 h2
    have : h ∈ l.map (·.height) := by rw [e, List.mem_range'_1]; omega
    exact List.mem_map.1 this


/-- what a successful insertion of a non-empty batch established -/
structure InsertOK (v : Hdr → Hdr → Bool) (a : AbsStore) (batch : List Hdr) (first last : Hdr) : Prop where
  hd : batch.head? = some first
  lst : batch.getLast? = some last
  chain : chainOK v batch = true
  lo_pos : 1 ≤ first.height
  lo_le : first.height ≤ last.height
  disjoint : ∀ x ∈ a.hdrs, ¬ (first.height ≤ x.height ∧ x.height ≤ last.height)
  prev : ∀ p, a.atHeight (first.height - 1) = some p → v p first = true
  next : ∀ n, a.atHeight (last.height + 1) = some n → v last n = true
  nodup : firstDupHash (a.hdrs.map (·.hash)) batch = none

theorem insertCheck_none (v : Hdr → Hdr → Bool) (a : AbsStore) (batch : List Hdr)
    (h : AbsStore.insertCheck v a batch = .ok none) : batch = [] := by
  cases batch with
  | nil => rfl
  | cons b rest =>
    exfalso
    have : ((b :: rest).getLast?).isSome := by simp
    obtain ⟨l, hl⟩ := Option.isSome_iff_exists.1 this
    revert h
    unfold AbsStore.insertCheck
    simp only [List.head?_cons, hl]
    repeat' split
    all_goals simp

theorem placement_ok (a : AbsStore) (lo hi : Nat) (h : AbsStore.placement a lo hi = .ok ()) :
    1 ≤ lo ∧ lo ≤ hi ∧ ∀ x ∈ a.hdrs, ¬ (lo ≤ x.height ∧ x.height ≤ hi) := by
  unfold AbsStore.placement at h
  split at h
  · cases h
  rename_i h2
  dsimp only at h
  split at h
  · cases h
  rename_i h3
  refine ⟨by simp at h2; omega, by simp at h2; omega, fun x hx hb => ?_⟩
  -- everything stored is below `lo`, or nothing stored lies in the span
  by_cases hall : (a.hdrs.all fun x => decide (x.height < lo)) = true
  · have := List.all_eq_true.1 hall x hx
    simp at this; omega
  · have hany : (a.hdrs.any fun x => between lo hi x.height) = false := by
      simpa [hall] using h3
    have h7 := List.any_eq_false.1 hany x hx
    simp [between] at h7
    omega

theorem placement_of_touching (a : AbsStore) (lo hi : Nat) (h1 : 1 ≤ lo) (h2 : lo ≤ hi)
    (hdis : ∀ x ∈ a.hdrs, ¬ (lo ≤ x.height ∧ x.height ≤ hi))
    (hnb : a.stored (lo - 1) = true ∨ a.stored (hi + 1) = true) :
    AbsStore.placement a lo hi = .ok () := by
  have c1 : (lo == 0 || decide (lo > hi)) = false := by simp; omega
  have c2 : (a.hdrs.any fun x => between lo hi x.height) = false := by
    rw [List.any_eq_false]; intro x hx; have := hdis x hx; simp [between]; omega
  have c3 : (!a.stored (lo - 1) && !a.stored (hi + 1)) = false := by
    rcases hnb with h | h <;> simp [h]
  simp [AbsStore.placement, c1, c2, Bool.and_assoc, c3]

theorem InsertOK.of_checks {v : Hdr → Hdr → Bool} {a : AbsStore} {batch : List Hdr} {first last : Hdr}
    (hf : batch.head? = some first) (hl : batch.getLast? = some last) (hc : chainOK v batch = true)
    (hp : AbsStore.placement a first.height last.height = .ok ())
    (hn : (!AbsStore.prevOK v a first || !AbsStore.nextOK v a last) = false)
    (hd : firstDupHash (a.hdrs.map (·.hash)) batch = none) : InsertOK v a batch first last := by
  obtain ⟨p1, p2, p3⟩ := placement_ok a _ _ hp
  refine ⟨hf, hl, hc, p1, p2, p3, fun p hp' => ?_, fun n hn' => ?_, hd⟩
  · simp only [AbsStore.prevOK, hp', Bool.or_eq_false_iff, Bool.not_eq_false'] at hn; exact hn.1
  · simp only [AbsStore.nextOK, hn', Bool.or_eq_false_iff, Bool.not_eq_false'] at hn; exact hn.2

theorem insertCheck_some (v : Hdr → Hdr → Bool) (a : AbsStore) (batch : List Hdr) (lo hi : Nat)
    (h : AbsStore.insertCheck v a batch = .ok (some (lo, hi))) :
    ∃ first last, InsertOK v a batch first last ∧ lo = first.height ∧ hi = last.height := by
  unfold AbsStore.insertCheck at h
  split at h
  next first last hf hl =>
    split at h
    · cases h
    rename_i h1
    split at h
    · cases h
    rename_i hp
    split at h
    · cases h
    rename_i h5
    split at h <;> cases h
    rename_i h6
    exact ⟨first, last, InsertOK.of_checks hf hl (by simpa using h1) hp (by simpa using h5) h6, rfl, rfl⟩
  · cases h

theorem insertCheck_of_checks (v : Hdr → Hdr → Bool) (a : AbsStore) (batch : List Hdr) (first last : Hdr)
    (hd : batch.head? = some first) (lst : batch.getLast? = some last)
    (hchain : chainOK v batch = true)
    (hpl : AbsStore.placement a first.height last.height = .ok ())
    (hprev : AbsStore.prevOK v a first = true) (hnext : AbsStore.nextOK v a last = true)
    (hdup : firstDupHash (a.hdrs.map (·.hash)) batch = none) :
    AbsStore.insertCheck v a batch = .ok (some (first.height, last.height)) := by
  simp [AbsStore.insertCheck, hd, lst, hchain, hpl, hprev, hnext, hdup]

/-- the invariants C19 names, on an abstract state (Prop form of `invOK`, plus `u64` typing) -/
structure AbsInv (a : AbsStore) : Prop where
  nodupH : (a.hdrs.map (·.height)).Nodup
  nodupQ : (a.hdrs.map (·.hash)).Nodup
  bounds : ∀ x ∈ a.hdrs, 1 ≤ x.height ∧ x.height ≤ U64_MAX
  sampled : ∀ h ∈ a.sampled, a.stored h = true
  pruned : ∀ h ∈ a.pruned, a.stored h = false
  prunedB : ∀ h ∈ a.pruned, 1 ≤ h ∧ h ≤ U64_MAX
  metas : ∀ p ∈ a.metas, a.stored p.1 = true

/-- C21: any two stored headers at consecutive heights verify -/
def AbsVer (v : Hdr → Hdr → Bool) (a : AbsStore) : Prop :=
  ∀ x ∈ a.hdrs, ∀ y ∈ a.hdrs, x.height + 1 = y.height → v x y = true

theorem absInv_init : AbsInv Lumina.Spec.C19.init := by
  constructor <;> simp [Lumina.Spec.C19.init]

/-- the converse needs the heights to be distinct (`atHeight_some`) -/
theorem mem_of_atHeight {a : AbsStore} {h : Nat} {p : Hdr} (hp : a.atHeight h = some p) :
    p ∈ a.hdrs ∧ p.height = h :=
  Util.find?_key_some _ hp

theorem atHeight_some {a : AbsStore} (hi : AbsInv a) (h : Nat) (x : Hdr) :
    a.atHeight h = some x ↔ x ∈ a.hdrs ∧ x.height = h := by
  unfold AbsStore.atHeight
  exact Util.find?_key (fun y : Hdr => y.height) a.hdrs hi.nodupH h x

theorem byHash_some {a : AbsStore} (hi : AbsInv a) (q : Hash) (x : Hdr) :
    a.byHash q = some x ↔ x ∈ a.hdrs ∧ x.hash = q := by
  unfold AbsStore.byHash
  exact Util.find?_key (fun y : Hdr => y.hash) a.hdrs hi.nodupQ q x

theorem atHeight_of_byHash {a : AbsStore} (hi : AbsInv a) {q : Hash} {x : Hdr} (hb : a.byHash q = some x) :
    a.atHeight x.height = some x :=
  (atHeight_some hi _ x).2 ⟨((byHash_some hi q x).1 hb).1, rfl⟩

theorem atHeight_none_of_disjoint (a : AbsStore) (lo hi : Nat)
    (hd : ∀ x ∈ a.hdrs, ¬ (lo ≤ x.height ∧ x.height ≤ hi)) (h : Nat) (hh : lo ≤ h ∧ h ≤ hi) :
    a.atHeight h = none :=
  (find?_key_none (fun y : Hdr => y.height) a.hdrs h).2 fun y hy (e : y.height = h) => hd y hy (by omega)

theorem InsertOK.byHash_none {v : Hdr → Hdr → Bool} {a : AbsStore} {batch : List Hdr} {first last : Hdr}
    (ok : InsertOK v a batch first last) : ∀ x ∈ batch, a.byHash x.hash = none := fun x hx =>
  (find?_key_none (fun y : Hdr => y.hash) a.hdrs x.hash).2 fun y hy (e : y.hash = x.hash) =>
    ((firstDup_none _ _).1 ok.nodup).1 x hx (e ▸ List.mem_map_of_mem hy)

/-- the state after an accepted insertion of the span `[lo, hi]` -/
def added (a : AbsStore) (batch : List Hdr) (lo hi : Nat) : AbsStore :=
  { a with hdrs := a.hdrs ++ batch,
           sampled := a.sampled.filter (fun h => !between lo hi h),
           pruned := a.pruned.filter (fun h => !between lo hi h) }

theorem insert_eq_added (v : Hdr → Hdr → Bool) (a : AbsStore) (batch : List Hdr) (lo hi : Nat)
    (hc : AbsStore.insertCheck v a batch = .ok (some (lo, hi))) :
    a.insert v batch = (added a batch lo hi, .ok .unit) := by
  simp [AbsStore.insert, hc, added]

theorem added_stored (v : Hdr → Hdr → Bool) (a : AbsStore) (batch : List Hdr) (first last : Hdr)
    (ok : InsertOK v a batch first last) (h : Nat) :
    (added a batch first.height last.height).stored h = true ↔
      (a.stored h = true ∨ (first.height ≤ h ∧ h ≤ last.height)) := by
  obtain ⟨_, b2, b3⟩ := batch_heights v batch first last ok.chain ok.hd ok.lst
  rw [stored_iff, stored_iff]
  simp only [added, List.mem_append]
  constructor
  · rintro ⟨x, hx | hx, e⟩
    · exact Or.inl ⟨x, hx, e⟩
    · have := b2 x hx; right; omega
  · rintro (⟨x, hx, e⟩ | ⟨h1, h2⟩)
    · exact ⟨x, Or.inl hx, e⟩
    · obtain ⟨x, hx, e⟩ := b3 h h1 h2
      exact ⟨x, Or.inr hx, e⟩

theorem added_atHeight (a : AbsStore) (batch : List Hdr) (lo hi h : Nat) :
    (added a batch lo hi).atHeight h = (a.atHeight h).or (batch.find? (fun x => x.height == h)) :=
  List.find?_append

theorem added_byHash (a : AbsStore) (batch : List Hdr) (lo hi : Nat) (q : Hash) :
    (added a batch lo hi).byHash q = (a.byHash q).or (batch.find? (fun x => x.hash == q)) :=
  List.find?_append

theorem added_inv (v : Hdr → Hdr → Bool) (a : AbsStore) (batch : List Hdr) (first last : Hdr)
    (ok : InsertOK v a batch first last)
    (hi : AbsInv a) (hwf : ∀ x ∈ batch, x.height ≤ U64_MAX) :
    AbsInv (added a batch first.height last.height) := by
  obtain ⟨b1, b2, _⟩ := batch_heights v batch first last ok.chain ok.hd ok.lst
  have hst := added_stored v a batch first last ok
  have nd := (firstDup_none _ _).1 ok.nodup
  constructor
  · simp only [added, List.map_append]
    rw [List.nodup_append]
    refine ⟨hi.nodupH, b1, ?_⟩
    intro h1 hh1 h2 hh2 e
    obtain ⟨x, hx, ex⟩ := List.mem_map.1 hh1
    obtain ⟨y, hy, ey⟩ := List.mem_map.1 hh2
    have := b2 y hy
    apply ok.disjoint x hx
    omega
  · simp only [added, List.map_append]
    rw [List.nodup_append]
    refine ⟨hi.nodupQ, nd.2, ?_⟩
    intro h1 hh1 h2 hh2 e
    obtain ⟨y, hy, ey⟩ := List.mem_map.1 hh2
    apply nd.1 y hy
    rw [ey, ← e]; exact hh1
  · intro x hx
    simp only [added, List.mem_append] at hx
    rcases hx with hx | hx
    · exact hi.bounds x hx
    · have := b2 x hx
      exact ⟨by have := ok.lo_pos; omega, hwf x hx⟩
  · intro h hh
    simp only [added, List.mem_filter] at hh
    exact (hst h).2 (Or.inl (hi.sampled h hh.1))
  · intro h hh
    simp only [added, List.mem_filter] at hh
    rw [← Bool.not_eq_true, hst h]
    rintro (hs | hb)
    · rw [hi.pruned h hh.1] at hs; cases hs
    · have := hh.2; simp [between] at this; omega
  · intro h hh
    simp only [added, List.mem_filter] at hh
    exact hi.prunedB h hh.1
  · intro p hp
    exact (hst p.1).2 (Or.inl (hi.metas p hp))


theorem insert_cases (v : Hdr → Hdr → Bool) (a : AbsStore) (batch : List Hdr) :
    (a.insert v batch).1 = a ∨ ∃ first last, InsertOK v a batch first last ∧
      a.insert v batch = (added a batch first.height last.height, .ok .unit) := by
  cases hc : AbsStore.insertCheck v a batch with
  | error e => left; simp only [AbsStore.insert, hc]
  | ok o =>
    cases o with
    | none => left; simp only [AbsStore.insert, hc]
    | some p =>
      obtain ⟨lo, hi⟩ := p
      obtain ⟨first, last, ok, rfl, rfl⟩ := insertCheck_some v a batch lo hi hc
      exact Or.inr ⟨first, last, ok, insert_eq_added v a batch _ _ hc⟩

theorem insert_inv (v : Hdr → Hdr → Bool) (a : AbsStore) (batch : List Hdr)
    (hi : AbsInv a) (hwf : ∀ x ∈ batch, x.height ≤ U64_MAX) : AbsInv (a.insert v batch).1 := by
  rcases insert_cases v a batch with e | ⟨first, last, ok, e⟩ <;> rw [e]
  · exact hi
  · exact added_inv v a batch first last ok hi hwf

theorem added_ver (v : Hdr → Hdr → Bool) (a : AbsStore) (batch : List Hdr) (first last : Hdr)
    (ok : InsertOK v a batch first last)
    (hi : AbsInv a) (hv : AbsVer v a) : AbsVer v (added a batch first.height last.height) := by
  obtain ⟨b1, b2, b3⟩ := batch_heights v batch first last ok.chain ok.hd ok.lst
  intro x hx y hy e
  simp only [added, List.mem_append] at hx hy
  have hfirst := List.mem_of_mem_head? (Option.mem_def.2 ok.hd)
  have hlast := List.mem_of_getLast? ok.lst
  -- a header of the batch is determined by its height
  have uniq := Util.nodup_map_inj (fun y : Hdr => y.height) batch b1
  rcases hx with hx | hx <;> rcases hy with hy | hy
  · exact hv x hx y hy e
  · -- x stored before, y in the batch: y is the first header and x its lower neighbour
    have hy2 := b2 y hy
    have hxn := ok.disjoint x hx
    have : y.height = first.height := by omega
    have ey : y = first := uniq y hy first hfirst this
    subst ey
    apply ok.prev x
    rw [atHeight_some hi]; exact ⟨hx, by omega⟩
  · have hx2 := b2 x hx
    have hyn := ok.disjoint y hy
    have : x.height = last.height := by omega
    have ex : x = last := uniq x hx last hlast this
    subst ex
    apply ok.next y
    rw [atHeight_some hi]; exact ⟨hy, by omega⟩
  · -- both in the batch: consecutive positions
    obtain ⟨i, hi1, ei⟩ := List.mem_iff_getElem.1 hx
    obtain ⟨j, hj1, ej⟩ := List.mem_iff_getElem.1 hy
    have h1 := heights_idx v batch ok.chain i hi1
    have h2 := heights_idx v batch ok.chain j hj1
    have : j = i + 1 := by rw [ei] at h1; rw [ej] at h2; omega
    subst this
    have := (chain_idx v batch ok.chain i hj1).2
    rw [ei, ej] at this; exact this

/-- on adjacent headers the oracle `w` of an operation implies the relation `L` -/
def SoundFor (L w : Hdr → Hdr → Bool) : Prop :=
  ∀ a b, a.height + 1 = b.height → w a b = true → L a b = true

theorem SoundFor.refl (v : Hdr → Hdr → Bool) : SoundFor v v := fun _ _ _ h => h

theorem chainOK_mono {L w : Hdr → Hdr → Bool} (h : SoundFor L w) :
    ∀ l : List Hdr, chainOK w l = true → chainOK L l = true
  | [], _ => rfl
  | [_], _ => rfl
  | a :: b :: rest, hc => by
    simp only [chainOK, Bool.and_eq_true, beq_iff_eq] at hc ⊢
    exact ⟨⟨hc.1.1, h a b hc.1.1 hc.1.2⟩, chainOK_mono h (b :: rest) hc.2⟩

theorem insertOK_mono {L w : Hdr → Hdr → Bool} (h : SoundFor L w) {a : AbsStore} {batch : List Hdr}
    {first last : Hdr} (ok : InsertOK w a batch first last) : InsertOK L a batch first last where
  hd := ok.hd
  lst := ok.lst
  chain := chainOK_mono h batch ok.chain
  lo_pos := ok.lo_pos
  lo_le := ok.lo_le
  disjoint := ok.disjoint
  prev := fun p hp => h p first (by have := (mem_of_atHeight hp).2; have := ok.lo_pos; omega) (ok.prev p hp)
  next := fun n hn => h last n (by have := (mem_of_atHeight hn).2; omega) (ok.next n hn)
  nodup := ok.nodup

/-- an insertion decided with oracle `w` keeps "consecutive stored headers are `L`-related" -/
theorem insert_ver {L w : Hdr → Hdr → Bool} (h : SoundFor L w) (a : AbsStore) (batch : List Hdr)
    (hi : AbsInv a) (hv : AbsVer L a) : AbsVer L (a.insert w batch).1 := by
  rcases insert_cases w a batch with e | ⟨first, last, ok, e⟩ <;> rw [e]
  · exact hv
  · exact added_ver L a batch first last (insertOK_mono h ok) hi hv

theorem remove_err (a : AbsStore) (h : Nat) (hs : a.stored h = false) : a.remove h = (a, .err .notFound) := by
  simp [AbsStore.remove, hs]

/-- the state after removing a stored height -/
def removed (a : AbsStore) (h : Nat) : AbsStore :=
  { hdrs := a.hdrs.filter (fun x => x.height != h),
    sampled := a.sampled.filter (fun x => x != h),
    pruned := h :: a.pruned,
    metas := a.metas.filter (fun p => p.1 != h) }

theorem remove_ok (a : AbsStore) (h : Nat) (hs : a.stored h = true) : a.remove h = (removed a h, .ok .unit) := by
  simp [AbsStore.remove, hs, removed]

theorem removed_stored (a : AbsStore) (h k : Nat) :
    (removed a h).stored k = true ↔ (a.stored k = true ∧ k ≠ h) := by
  rw [stored_iff, stored_iff]
  simp only [removed, List.mem_filter]
  constructor
  · rintro ⟨x, ⟨hx, hne⟩, e⟩
    refine ⟨⟨x, hx, e⟩, ?_⟩
    simp at hne; omega
  · rintro ⟨⟨x, hx, e⟩, hne⟩
    exact ⟨x, ⟨hx, by simp; omega⟩, e⟩

theorem removed_atHeight (a : AbsStore) (h k : Nat) :
    (removed a h).atHeight k = if k = h then none else a.atHeight k := by
  unfold AbsStore.atHeight removed
  exact Util.find?_filter_key (fun x : Hdr => x.height) a.hdrs h k

theorem removed_metaOf (a : AbsStore) (h k : Nat) :
    (removed a h).metaOf k = if k = h then none else a.metaOf k := by
  unfold AbsStore.metaOf removed
  simp only
  rw [Util.find?_filter_key (fun p : Nat × List Cid => p.1) a.metas h k]
  by_cases e : k = h <;> simp [e]

theorem removed_byHash {a : AbsStore} (hi : AbsInv a) {x : Hdr} (hx : x ∈ a.hdrs) (q : Hash) :
    (removed a x.height).byHash q = if q = x.hash then none else a.byHash q := by
  unfold AbsStore.byHash removed
  rw [Util.filter_key_congr (·.height) (·.hash) a.hdrs hi.nodupH hi.nodupQ x hx]
  exact Util.find?_filter_key (fun y : Hdr => y.hash) a.hdrs x.hash q

theorem remove_inv (a : AbsStore) (h : Nat) (hi : AbsInv a) : AbsInv (a.remove h).1 := by
  cases hs : a.stored h with
  | false => rw [remove_err a h hs]; exact hi
  | true =>
    rw [remove_ok a h hs]
    have hst := removed_stored a h
    constructor
    · exact List.Nodup.sublist (List.Sublist.map _ List.filter_sublist) hi.nodupH
    · exact List.Nodup.sublist (List.Sublist.map _ List.filter_sublist) hi.nodupQ
    · intro x hx; simp only [removed, List.mem_filter] at hx; exact hi.bounds x hx.1
    · intro k hk
      simp only [removed, List.mem_filter] at hk
      refine (hst k).2 ⟨hi.sampled k hk.1, ?_⟩
      have := hk.2; simp at this; exact this
    · intro k hk
      rw [← Bool.not_eq_true, hst k]
      simp only [removed, List.mem_cons] at hk
      rcases hk with e | hk
      · subst e; simp
      · rw [hi.pruned k hk]; simp
    · intro k hk
      simp only [removed, List.mem_cons] at hk
      rcases hk with e | hk
      · subst e
        obtain ⟨x, hx, e⟩ := (stored_iff a k).1 hs
        rw [← e]; exact hi.bounds x hx
      · exact hi.prunedB k hk
    · intro p hp
      simp only [removed, List.mem_filter] at hp
      refine (hst p.1).2 ⟨hi.metas p hp.1, ?_⟩
      have := hp.2; simp at this; exact this

theorem mark_err (a : AbsStore) (h : Nat) (hs : a.stored h = false) : a.mark h = (a, .err .notFound) := by
  simp [AbsStore.mark, hs]

theorem mark_ok (a : AbsStore) (h : Nat) (hs : a.stored h = true) :
    a.mark h = ({ a with sampled := h :: a.sampled }, .ok .unit) := by
  simp [AbsStore.mark, hs]

theorem mark_inv (a : AbsStore) (h : Nat) (hi : AbsInv a) : AbsInv (a.mark h).1 := by
  cases hs : a.stored h with
  | false => rw [mark_err a h hs]; exact hi
  | true =>
    rw [mark_ok a h hs]
    refine ⟨hi.nodupH, hi.nodupQ, hi.bounds, ?_, hi.pruned, hi.prunedB, hi.metas⟩
    intro k hk
    simp only [List.mem_cons] at hk
    rcases hk with e | hk
    · subst e; exact hs
    · exact hi.sampled k hk

theorem mark_hdrs (a : AbsStore) (h : Nat) : (a.mark h).1.hdrs = a.hdrs := by
  unfold AbsStore.mark; split <;> rfl

theorem updateMeta_hdrs (a : AbsStore) (h : Nat) (c : List Cid) : (a.updateMeta h c).1.hdrs = a.hdrs := by
  unfold AbsStore.updateMeta; split <;> rfl

theorem updateMeta_err (a : AbsStore) (h : Nat) (c : List Cid) (hs : a.stored h = false) :
    a.updateMeta h c = (a, .err .notFound) := by
  simp [AbsStore.updateMeta, hs]

/-- the metadata a successful update leaves at the height: the CIDs as given, or appended to the
    previous ones -/
def metaEntry (a : AbsStore) (h : Nat) (c : List Cid) : List Cid :=
  match a.metaOf h with
  | some prev => appendDedup prev c
  | none => c

theorem updateMeta_ok (a : AbsStore) (h : Nat) (c : List Cid) (hs : a.stored h = true) :
    a.updateMeta h c =
      ({ a with metas := (h, metaEntry a h c) :: a.metas.filter (fun p => p.1 != h) }, .ok .unit) := by
  simp only [AbsStore.updateMeta, hs, Bool.not_true, Bool.false_eq_true, if_false]; rfl

theorem updated_metaOf (a : AbsStore) (h k : Nat) (entry : List Cid) :
    AbsStore.metaOf { a with metas := (h, entry) :: a.metas.filter (fun p => p.1 != h) } k =
      if k = h then some entry else a.metaOf k := by
  unfold AbsStore.metaOf
  simp only [List.find?_cons]
  by_cases e : k = h
  · subst e; simp
  · have : (h == k) = false := by simp; omega
    simp only [this, e, if_false]
    rw [Util.find?_filter_key (fun p : Nat × List Cid => p.1) a.metas h k]
    simp [e]

theorem insert_hdrs_mem (v : Hdr → Hdr → Bool) (a : AbsStore) (b : List Hdr) :
    ∀ x ∈ (a.insert v b).1.hdrs, x ∈ a.hdrs ∨ x ∈ b := by
  intro x hx
  rcases insert_cases v a b with e | ⟨_, _, _, e⟩ <;> rw [e] at hx
  · exact Or.inl hx
  · exact List.mem_append.1 hx

theorem insert_hdrs_sub (v : Hdr → Hdr → Bool) (a : AbsStore) (b : List Hdr) :
    ∀ x ∈ a.hdrs, x ∈ (a.insert v b).1.hdrs := by
  intro x hx
  rcases insert_cases v a b with h | ⟨_, _, _, h⟩ <;> rw [h]
  · exact hx
  · exact List.mem_append_left _ hx

theorem insert_pruned_sub (v : Hdr → Hdr → Bool) (a : AbsStore) (b : List Hdr) :
    ∀ p ∈ (a.insert v b).1.pruned, p ∈ a.pruned := by
  intro p hp
  rcases insert_cases v a b with h | ⟨_, _, _, h⟩ <;> rw [h] at hp
  · exact hp
  · exact (List.mem_filter.1 hp).1

theorem insert_stored_mono (v : Hdr → Hdr → Bool) (a : AbsStore) (b : List Hdr) (h : Nat)
    (hs : a.stored h = true) : (a.insert v b).1.stored h = true :=
  stored_mono (insert_hdrs_sub v a b) hs

theorem insert_unpruned (v : Hdr → Hdr → Bool) (a : AbsStore) (b : List Hdr) (h : a.pruned = []) :
    (a.insert v b).1.pruned = [] :=
  List.eq_nil_iff_forall_not_mem.2 fun p hp => by
    have := insert_pruned_sub v a b p hp
    rw [h] at this; cases this

theorem insert_single_ok_nonempty (v : Hdr → Hdr → Bool) (a : AbsStore) (h : Hdr) (o : Lumina.Model.Store.Out)
    (hr : (a.insert v [h]).2 = .ok o) : (a.insert v [h]).1.hdrs ≠ [] := by
  unfold AbsStore.insert at hr ⊢
  split at hr
  · cases hr
  · rename_i hc
    have := insertCheck_none v a [h] hc
    cases this
  · simp

theorem insert_below (v : Hdr → Hdr → Bool) (a : AbsStore) (b : List Hdr) (M : Nat)
    (ha : ∀ x ∈ a.hdrs, x.height ≤ M) (hl : ∀ last, b.getLast? = some last → last.height ≤ M) :
    ∀ x ∈ (a.insert v b).1.hdrs, x.height ≤ M := by
  intro x hx
  rcases insert_cases v a b with h | ⟨first, last, ok, h⟩ <;> rw [h] at hx
  · exact ha x hx
  · rcases List.mem_append.1 hx with hx | hx
    · exact ha x hx
    · have := ((batch_heights v b first last ok.chain ok.hd ok.lst).2.1 x hx).2
      have := hl last ok.lst
      omega

theorem insert_accepted_first (v : Hdr → Hdr → Bool) (a : AbsStore) (b : List Hdr) (l h : Nat)
    (hc : AbsStore.insertCheck v a b = .ok (some (l, h))) :
    a.stored l = false ∧ (a.insert v b).1.stored l = true := by
  obtain ⟨first, last, ok, rfl, rfl⟩ := insertCheck_some v a b l h hc
  constructor
  · rw [stored_false_iff]
    exact fun x hx e => ok.disjoint x hx ⟨by omega, by rw [e]; exact ok.lo_le⟩
  · rw [insert_eq_added v a b _ _ hc]
    exact (added_stored v a b first last ok _).2 (Or.inr ⟨Nat.le_refl _, ok.lo_le⟩)

theorem isPruned_iff (a : AbsStore) (h : Nat) : a.isPruned h = true ↔ h ∈ a.pruned := by
  simp [AbsStore.isPruned]

theorem remove_stored (a : AbsStore) (h k : Nat) :
    (a.remove h).1.stored k = true ↔ a.stored k = true ∧ k ≠ h := by
  cases hs : a.stored h with
  | false =>
    rw [remove_err a h hs]
    exact ⟨fun hk => ⟨hk, fun e => by rw [e, hs] at hk; cases hk⟩, And.left⟩
  | true => rw [remove_ok a h hs]; exact removed_stored a h k

theorem remove_hdrs (a : AbsStore) (h : Nat) (x : Hdr) :
    x ∈ (a.remove h).1.hdrs ↔ x ∈ a.hdrs ∧ x.height ≠ h := by
  cases hs : a.stored h with
  | false =>
    rw [remove_err a h hs]
    exact ⟨fun hx => ⟨hx, (stored_false_iff a h).1 hs x hx⟩, And.left⟩
  | true => rw [remove_ok a h hs]; simp [removed]

theorem remove_pruned (a : AbsStore) (h p : Nat) :
    p ∈ (a.remove h).1.pruned ↔ p ∈ a.pruned ∨ (p = h ∧ a.stored h = true) := by
  cases hs : a.stored h with
  | false => rw [remove_err a h hs]; simp
  | true => rw [remove_ok a h hs]; simp [removed, or_comm]

theorem step_hdrs_cases (v : Hdr → Hdr → Bool) (a : AbsStore) (op : Op) :
    ∀ x ∈ (AbsStore.step v a op).1.hdrs, x ∈ a.hdrs ∨ ∃ b, op = .insert b ∧ x ∈ b := by
  cases op with
  | insert b => exact fun x hx => (insert_hdrs_mem v a b x hx).imp_right fun h => ⟨b, rfl, h⟩
  | remove h => exact fun x hx => Or.inl ((remove_hdrs a h x).1 hx).1
  | mark h => simp only [AbsStore.step, mark_hdrs]; exact fun _ hx => Or.inl hx
  | updMeta h c => simp only [AbsStore.step, updateMeta_hdrs]; exact fun _ hx => Or.inl hx
  | _ => exact fun _ hx => Or.inl hx

theorem step_hdrs_subset (v : Hdr → Hdr → Bool) (a : AbsStore) (op : Op) (hop : ∀ b, op ≠ .insert b) :
    ∀ x ∈ (AbsStore.step v a op).1.hdrs, x ∈ a.hdrs :=
  fun x hx => (step_hdrs_cases v a op x hx).resolve_right fun ⟨b, e, _⟩ => hop b e

theorem updateMeta_inv (a : AbsStore) (h : Nat) (c : List Cid) (hi : AbsInv a) : AbsInv (a.updateMeta h c).1 := by
  cases hs : a.stored h with
  | false => rw [updateMeta_err a h c hs]; exact hi
  | true =>
    rw [updateMeta_ok a h c hs]
    refine ⟨hi.nodupH, hi.nodupQ, hi.bounds, hi.sampled, hi.pruned, hi.prunedB, ?_⟩
    intro p hp
    simp only [List.mem_cons, List.mem_filter] at hp
    rcases hp with e | hp
    · subst e; exact hs
    · exact hi.metas p hp.1

end Lumina.Proofs.Store

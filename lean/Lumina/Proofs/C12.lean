/-
  Lemmas for C12: power-of-two rounding loops = `log2` closed forms, merkle-mountain-range sizes
  (model = spec; sum, powers of two, chain rule), subtree width (incl. ⌈√n⌉ via `Nat.sqrt`), the NMT
  root of a single-namespace leaf set (`Model.Nmt.computeRoot` = the spec's tree), and the commitment.
-/
import Lumina.Proofs.C13
import Mathlib.Data.Nat.Sqrt
import Lumina.Proofs.Nmt
import Lumina.Model.Commitment
import Lumina.Spec.C12
open Lumina.Util Lumina.Model.Commitment Lumina.Spec.C12

namespace Lumina.Proofs.C12

theorem nextPow2_of_bounds (x j : Nat) (h1 : x ≤ 2 ^ j) (h2 : j = 0 ∨ 2 ^ (j - 1) < x) : nextPow2 x = 2 ^ j := by
  unfold nextPow2
  by_cases hx : x ≤ 1
  · rw [if_pos hx]
    rcases h2 with h | h
    · subst h; rfl
    · have := Nat.two_pow_pos (j - 1); omega
  · rw [if_neg hx]
    rcases h2 with h | h
    · subst h; simp at h1; omega
    · have hj : 1 ≤ j := by
        rcases Nat.eq_zero_or_pos j with h0 | h0
        · subst h0; simp at h1; omega
        · exact h0
      have e : j - 1 + 1 = j := by omega
      have := Lumina.Proofs.C13.log2_unique x (j - 1) h (by rw [e]; exact h1)
      rw [this, e]

open Lumina.Model.Nmt (nextPowerOfTwoAux) in
/-- `round_up_to_power_of_2` runs the doubling loop of `usize::next_power_of_two` -/
theorem roundUpGo_eq_aux (x : Nat) : ∀ (f p : Nat), roundUpGo x f p = nextPowerOfTwoAux x f p
  | 0, _ => rfl
  | f + 1, p => by simp only [roundUpGo, nextPowerOfTwoAux, ge_iff_le, roundUpGo_eq_aux x f, Nat.mul_comm p 2]

theorem roundUp_window (x : Nat) (hx : x ≤ 2 ^ 64) :
    ∃ b, roundUpToPowerOf2 x = 2 ^ b ∧ x ≤ 2 ^ b ∧ (b = 0 ∨ 2 ^ (b - 1) < x) := by
  unfold roundUpToPowerOf2
  rw [roundUpGo_eq_aux]
  exact Lumina.Proofs.Nmt.npo2_aux x 64 0 (by simpa using hx) (.inl rfl)

theorem roundUp_eq (x : Nat) (hx : x ≤ 2 ^ 64) : roundUpToPowerOf2 x = nextPow2 x := by
  obtain ⟨b, e, hb1, hb2⟩ := roundUp_window x hx
  rw [e, nextPow2_of_bounds x b hb1 hb2]

theorem nextPow2_ge (x : Nat) : x ≤ nextPow2 x := by
  unfold nextPow2
  by_cases hx : x ≤ 1
  · rw [if_pos hx]; exact hx
  · rw [if_neg hx]
    have := @Nat.lt_log2_self (x - 1)
    omega

theorem nextPow2_isPow (x : Nat) : ∃ k, nextPow2 x = 2 ^ k := by
  unfold nextPow2
  by_cases hx : x ≤ 1
  · exact ⟨0, by rw [if_pos hx]⟩
  · exact ⟨_, by rw [if_neg hx]⟩

theorem prevPow2_le (x : Nat) (hx : 1 ≤ x) : prevPow2 x ≤ x := Nat.log2_self_le (by omega)

theorem lt_two_prevPow2 (x : Nat) : x < 2 * prevPow2 x := by
  have := @Nat.lt_log2_self x
  rw [Nat.pow_succ] at this
  unfold prevPow2; omega

theorem prevPow2_of_bounds (x j : Nat) (h1 : 2 ^ j ≤ x) (h2 : x < 2 ^ (j + 1)) : prevPow2 x = 2 ^ j := by
  have := Nat.two_pow_pos j
  unfold prevPow2
  rw [(Nat.log2_eq_iff (by omega)).mpr ⟨h1, h2⟩]

theorem roundDown_eq (x : Nat) (h1 : 1 ≤ x) (hx : x ≤ 2 ^ 64) : roundDownToPowerOf2 x = prevPow2 x := by
  obtain ⟨b, e, hb1, hb2⟩ := roundUp_window x hx
  unfold roundDownToPowerOf2
  simp only [e]
  split
  · -- `x` is the power of two the loop stops at
    rw [prevPow2_of_bounds x b (by omega) (by rw [Nat.pow_succ]; omega)]; exact (‹_› : _ = x).symm
  · -- the loop went one doubling past the power of two below `x`
    cases b with
    | zero => simp at hb1; omega
    | succ m =>
      rw [Nat.pow_succ, Nat.mul_div_cancel _ Nat.zero_lt_two]
      exact (prevPow2_of_bounds x m (by simpa using Nat.le_of_lt (hb2.resolve_left nofun)) (by omega)).symm

/-- model loop = spec loop (total below 2^64, i.e. any `u64`) -/
theorem mmrGo_eq (w : Nat) : ∀ (f n : Nat), n ≤ 2 ^ 64 → mmrGo w f n = mmrSizes w f n := by
  intro f
  induction f with
  | zero => intro n _; rfl
  | succ f ih =>
    intro n hn
    simp only [mmrGo, mmrSizes]
    by_cases h0 : n = 0
    · simp [h0]
    · simp only [h0, ↓reduceIte]
      by_cases hw : n ≥ w
      · simp only [hw, ↓reduceIte]
        rw [ih (n - w) (by omega)]
      · simp only [hw, ↓reduceIte]
        rw [roundDown_eq n (by omega) hn, ih (n - prevPow2 n) (by omega)]

theorem mmr_eq_spec (n w : Nat) (hn : n ≤ 2 ^ 64) : merkleMountainRangeSizes n w = mmrSizes w n n :=
  mmrGo_eq w n n hn

theorem prevPow2_pos (x : Nat) : 0 < prevPow2 x := Nat.two_pow_pos _

theorem mmr_sum (w : Nat) (hw : 1 ≤ w) : ∀ (f n : Nat), n ≤ f → (mmrSizes w f n).sum = n := by
  intro f
  induction f with
  | zero => intro n h; have : n = 0 := by omega
            subst this; rfl
  | succ f ih =>
    intro n h
    simp only [mmrSizes]
    by_cases h0 : n = 0
    · simp [h0]
    · simp only [h0, ↓reduceIte, List.sum_cons]
      by_cases hwn : w ≤ n
      · simp only [hwn, ↓reduceIte]
        rw [ih (n - w) (by omega)]; omega
      · simp only [hwn, ↓reduceIte]
        have h1 := prevPow2_le n (by omega)
        have h2 := prevPow2_pos n
        rw [ih (n - prevPow2 n) (by omega)]; omega

theorem isPow2_pow (k : Nat) : isPow2 (2 ^ k) = true := by
  have hp := Nat.two_pow_pos k
  simp only [isPow2, Bool.and_eq_true, bne_iff_ne, ne_eq, beq_iff_eq]
  refine ⟨by omega, ?_⟩
  apply nextPow2_of_bounds (2 ^ k) k (Nat.le_refl _)
  rcases Nat.eq_zero_or_pos k with h | h
  · exact Or.inl h
  · right
    have : 2 ^ (k - 1) < 2 ^ (k - 1 + 1) := by rw [Nat.pow_succ]; have := Nat.two_pow_pos (k - 1); omega
    have e : k - 1 + 1 = k := by omega
    rw [e] at this; exact this

theorem mmr_all (w k : Nat) (hw : w = 2 ^ k) : ∀ (f n : Nat),
    (mmrSizes w f n).all (fun s => isPow2 s && decide (s ≤ w)) = true := by
  intro f
  induction f with
  | zero => intro n; rfl
  | succ f ih =>
    intro n
    simp only [mmrSizes]
    by_cases h0 : n = 0
    · simp [h0]
    · simp only [h0, ↓reduceIte, List.all_cons, Bool.and_eq_true, decide_eq_true_eq]
      by_cases hwn : w ≤ n
      · simp only [hwn, ↓reduceIte]
        refine ⟨⟨by rw [hw]; exact isPow2_pow k, Nat.le_refl _⟩, ih _⟩
      · simp only [hwn, ↓reduceIte]
        have h1 := prevPow2_le n (by omega)
        refine ⟨⟨isPow2_pow _, by omega⟩, ih _⟩

theorem chainOk_cons (w a : Nat) (l : List Nat) :
    chainOk w (a :: l) = true ↔ (∀ b ∈ l.head?, b ≤ a ∧ (a = w ∨ b < a)) ∧ chainOk w l = true := by
  cases l <;> simp [chainOk, and_assoc]

theorem mmr_head_le (w f n : Nat) : ∀ b ∈ (mmrSizes w f n).head?, b ≤ w ∧ b ≤ n := by
  cases f with
  | zero => simp [mmrSizes]
  | succ f =>
    simp only [mmrSizes]
    by_cases h0 : n = 0
    · simp [h0]
    · have := prevPow2_le n (by omega)
      simp only [h0, ↓reduceIte, List.head?_cons, Option.mem_def, Option.some.injEq, forall_eq']
      split <;> omega

/-- after a full tree anything of at most `w` may follow; after `prevPow2 n` fewer than that many leaves are left -/
theorem mmr_chain (w : Nat) : ∀ (f n : Nat), chainOk w (mmrSizes w f n) = true := by
  intro f
  induction f with
  | zero => intro n; rfl
  | succ f ih =>
    intro n
    simp only [mmrSizes]
    by_cases h0 : n = 0
    · simp [h0, chainOk]
    · simp only [h0, ↓reduceIte]
      refine (chainOk_cons _ _ _).2 ⟨fun b hb => ?_, ih _⟩
      have hb := mmr_head_le w f _ b hb
      have := lt_two_prevPow2 n
      by_cases hwn : w ≤ n
      · rw [if_pos hwn] at hb ⊢
        exact ⟨hb.1, .inl rfl⟩
      · rw [if_neg hwn] at hb ⊢
        exact ⟨by omega, .inr (by omega)⟩

theorem ceilSqrt_props (n : Nat) :
    n ≤ Lumina.Model.Commitment.ceilSqrt n * Lumina.Model.Commitment.ceilSqrt n ∧
    ∀ j, j < Lumina.Model.Commitment.ceilSqrt n → j * j < n := by
  have h1 : Nat.sqrt n * Nat.sqrt n ≤ n := Nat.sqrt_le n
  have h2 : n < (Nat.sqrt n + 1) * (Nat.sqrt n + 1) := Nat.lt_succ_sqrt n
  unfold Lumina.Model.Commitment.ceilSqrt
  simp only
  by_cases he : Nat.sqrt n * Nat.sqrt n = n
  · rw [if_pos he]
    refine ⟨by omega, fun j hj => ?_⟩
    have := Nat.mul_self_lt_mul_self hj
    omega
  · rw [if_neg he]
    refine ⟨by omega, fun j hj => ?_⟩
    have hj' : j ≤ Nat.sqrt n := by omega
    have := Nat.mul_self_le_mul_self hj'
    omega

theorem ceilSqrtGo_eq (n c : Nat) (h1 : n ≤ c * c) (h2 : ∀ j, j < c → j * j < n) :
    ∀ (f s : Nat), s ≤ c → c - s ≤ f → ceilSqrtGo n f s = c := by
  intro f
  induction f with
  | zero => intro s hs hf; simp only [ceilSqrtGo]; omega
  | succ f ih =>
    intro s hs hf
    simp only [ceilSqrtGo]
    by_cases h : n ≤ s * s
    · rw [if_pos h]
      rcases Nat.lt_or_ge s c with hlt | hge
      · have := h2 s hlt; omega
      · omega
    · rw [if_neg h]
      have hne : s ≠ c := by intro e; subst e; exact h h1
      exact ih (s + 1) (by omega) (by omega)

theorem ceilSqrt_le (n : Nat) : Lumina.Model.Commitment.ceilSqrt n ≤ n + 1 := by
  unfold Lumina.Model.Commitment.ceilSqrt
  simp only
  have := Nat.sqrt_le_self n
  split <;> omega

theorem ceilSqrt_eq (n : Nat) : Lumina.Model.Commitment.ceilSqrt n = Lumina.Spec.C12.ceilSqrt n := by
  obtain ⟨h1, h2⟩ := ceilSqrt_props n
  have hle := ceilSqrt_le n
  exact (ceilSqrtGo_eq n _ h1 h2 (n + 1) 0 (Nat.zero_le _) (by omega)).symm

/-- **subtree width**: the model of `subtree_width` is ADR-013's
    `min (nextPow2 ⌈n / threshold⌉) (nextPow2 ⌈√n⌉)` for every share count below 2^63 -/
theorem subtreeWidth_eq (n th : Nat) (hn : n < 2 ^ 63) :
    Lumina.Model.Commitment.subtreeWidth n th = Lumina.Spec.C12.subtreeWidth n th := by
  unfold Lumina.Model.Commitment.subtreeWidth Lumina.Spec.C12.subtreeWidth blobMinSquareSize ceilDiv
  simp only
  have hdiv : n / th ≤ n := Nat.div_le_self n th
  have hcs := ceilSqrt_le n
  rw [roundUp_eq (Lumina.Model.Commitment.ceilSqrt n) (by omega), ceilSqrt_eq]
  by_cases hm : n % th = 0
  · simp only [hm, ne_eq, not_true_eq_false, ↓reduceIte]
    rw [roundUp_eq _ (by omega)]
  · simp only [hm, ne_eq, not_false_eq_true, ↓reduceIte]
    rw [roundUp_eq _ (by omega)]

theorem subtreeWidth_pow2 (n th : Nat) : ∃ k, Lumina.Spec.C12.subtreeWidth n th = 2 ^ k := by
  unfold Lumina.Spec.C12.subtreeWidth
  obtain ⟨a, ha⟩ := nextPow2_isPow (ceilDiv n th)
  obtain ⟨b, hb⟩ := nextPow2_isPow (Lumina.Spec.C12.ceilSqrt n)
  rw [ha, hb]
  rcases Nat.le_total (2 ^ a) (2 ^ b) with h | h
  · exact ⟨a, Nat.min_eq_left h⟩
  · exact ⟨b, Nat.min_eq_right h⟩

open Lumina.Model.Nmt (NsHash hashLeaf hashNodes computeRootAux computeRoot nextSmallerPo2 ltB leB minB maxB maxNsId)

theorem nextSmallerPo2_eq (n : Nat) (h : 2 ≤ n) : nextSmallerPo2 n = Lumina.Spec.C13.largestPow2Below n := by
  obtain ⟨m, h1, h2, h3⟩ := Lumina.Proofs.Nmt.nextSmallerPo2_spec n h
  rw [h1, Lumina.Proofs.C13.largestPow2Below_eq n h, Lumina.Model.Merkle.splitPoint_eq n h,
    Lumina.Proofs.C13.log2_unique n m h2 h3]

theorem hashNodes_uniform (h : Lumina.Model.Nmt.HashFn) (ns a b : Bytes) :
    hashNodes h true ⟨ns, ns, a⟩ ⟨ns, ns, b⟩ = .ok ⟨ns, ns, h (1 :: (ns ++ ns ++ a ++ (ns ++ ns ++ b)))⟩ := by
  have hirr := Lumina.Proofs.Nmt.ltB_irrefl ns
  have hle : leB ns ns = true := by simp [leB, hirr]
  unfold hashNodes
  simp only [hirr, Bool.false_eq_true, ↓reduceIte, minB, maxB, hle, Bool.true_and, NsHash.toBytes,
    Lumina.Model.Nmt.NODE_PREFIX]
  by_cases hm : (ns == maxNsId) = true
  · have : ns = maxNsId := by simpa using hm
    simp [← this]
  · simp [hm]

theorem computeRootAux_two (h : Lumina.Model.Nmt.HashFn) (F : Nat) (ls : List NsHash) (h2 : 2 ≤ ls.length)
    (l r : NsHash) (hl : computeRootAux h true F (ls.take (nextSmallerPo2 ls.length)) = .ok l)
    (hr : computeRootAux h true F (ls.drop (nextSmallerPo2 ls.length)) = .ok r) :
    computeRootAux h true (F + 1) ls = hashNodes h true l r := by
  rw [Lumina.Proofs.Nmt.computeRootAux_step h2, hl, hr]

theorem nmtHash_two (h : Lumina.Model.Nmt.HashFn) (ns : Bytes) (g : Nat) (l : List Bytes) (h2 : 2 ≤ l.length) :
    nmtHash h ns (g + 1) l =
      h (1 :: (ns ++ ns ++ nmtHash h ns g (l.take (Lumina.Spec.C13.largestPow2Below l.length)) ++
        (ns ++ ns ++ nmtHash h ns g (l.drop (Lumina.Spec.C13.largestPow2Below l.length))))) := by
  match l, h2 with
  | a :: b :: rest, _ =>
    rw [nmtHash]
    · simp
    · simp

theorem nmtHash_one (h : Lumina.Model.Nmt.HashFn) (ns : Bytes) (g : Nat) (x : Bytes) :
    nmtHash h ns g [x] = h (0 :: (ns ++ x)) := by
  cases g <;> simp [nmtHash]

/-- the NMT root of leaves pushed under one namespace, as computed by nmt-rs (`Model.Nmt.computeRootAux`), is
    the single-namespace tree of the spec -/
theorem computeRootAux_uniform (h : Lumina.Model.Nmt.HashFn) (ns : Bytes) :
    ∀ (F : Nat) (leaves : List Bytes) (g : Nat), 1 ≤ leaves.length → leaves.length ≤ F → leaves.length ≤ g →
      computeRootAux h true F (leaves.map (hashLeaf h ns)) = .ok ⟨ns, ns, nmtHash h ns g leaves⟩ := by
  intro F
  induction F with
  | zero => intro leaves g h1 h2 _; omega
  | succ F ih =>
    intro leaves g h1 h2 h3
    by_cases hlen : 2 ≤ leaves.length
    · obtain ⟨g', rfl⟩ : ∃ g', g = g' + 1 := ⟨g - 1, by omega⟩
      have hk := nextSmallerPo2_eq _ hlen
      have hk1 := Lumina.Model.Merkle.splitPoint_lt _ hlen
      have hk0 := Lumina.Model.Merkle.splitPoint_pos _ hlen
      have hkk := Lumina.Proofs.C13.largestPow2Below_eq _ hlen
      have e1 := ih (leaves.take (Lumina.Spec.C13.largestPow2Below leaves.length)) g'
            (by simp only [List.length_take]; omega) (by simp only [List.length_take]; omega)
            (by simp only [List.length_take]; omega)
      have e2 := ih (leaves.drop (Lumina.Spec.C13.largestPow2Below leaves.length)) g'
            (by simp only [List.length_drop]; omega) (by simp only [List.length_drop]; omega)
            (by simp only [List.length_drop]; omega)
      have hl' : 2 ≤ (leaves.map (hashLeaf h ns)).length := by simpa using hlen
      have e1' : computeRootAux h true F ((leaves.map (hashLeaf h ns)).take
          (nextSmallerPo2 (leaves.map (hashLeaf h ns)).length)) =
          .ok ⟨ns, ns, nmtHash h ns g' (leaves.take (Lumina.Spec.C13.largestPow2Below leaves.length))⟩ := by
        rw [List.length_map, hk, ← List.map_take]; exact e1
      have e2' : computeRootAux h true F ((leaves.map (hashLeaf h ns)).drop
          (nextSmallerPo2 (leaves.map (hashLeaf h ns)).length)) =
          .ok ⟨ns, ns, nmtHash h ns g' (leaves.drop (Lumina.Spec.C13.largestPow2Below leaves.length))⟩ := by
        rw [List.length_map, hk, ← List.map_drop]; exact e2
      rw [computeRootAux_two h F _ hl' _ _ e1' e2', nmtHash_two h ns g' leaves hlen, hashNodes_uniform]
    · match leaves, h1, hlen with
      | [x], _, _ =>
        rw [nmtHash_one]
        simp [computeRootAux, hashLeaf, Lumina.Model.Nmt.LEAF_PREFIX]
      | _ :: _ :: _, _, hlen => simp at hlen

theorem subtreeRoot_eq (h : Lumina.Model.Nmt.HashFn) (ns : Bytes) (leaves : List Bytes) (h1 : 1 ≤ leaves.length) :
    Lumina.Model.Commitment.subtreeRoot h ns leaves = .ok (Lumina.Spec.C12.subtreeRoot h ns leaves) := by
  unfold Lumina.Model.Commitment.subtreeRoot computeRoot
  rw [List.length_map, computeRootAux_uniform h ns (leaves.length + 1) leaves leaves.length h1 (by omega) (Nat.le_refl _)]
  simp [Lumina.Spec.C12.subtreeRoot, NsHash.toBytes]

theorem splitBySizes_eq {α : Type} (sizes : List Nat) (l : List α) : splitBySizes sizes l = partition sizes l := by
  induction sizes generalizing l with
  | nil => rfl
  | cons s ss ih => simp [splitBySizes, partition, ih]

theorem subtreeRoots_eq (h : Lumina.Model.Nmt.HashFn) (ns : Bytes) :
    ∀ (sizes : List Nat) (l : List Bytes), (∀ s ∈ sizes, 1 ≤ s) → sizes.sum = l.length →
      subtreeRoots h ns (partition sizes l) = .ok ((partition sizes l).map (Lumina.Spec.C12.subtreeRoot h ns)) := by
  intro sizes
  induction sizes with
  | nil => intro l _ _; rfl
  | cons s ss ih =>
    intro l hs hsum
    simp only [List.sum_cons] at hsum
    have h1 : 1 ≤ s := hs s (by simp)
    have hlen : (l.take s).length = s := by simp only [List.length_take]; omega
    simp only [partition, subtreeRoots, List.map_cons]
    rw [subtreeRoot_eq h ns (l.take s) (by omega)]
    simp only
    rw [ih (l.drop s) (fun x hx => hs x (by simp [hx])) (by simp only [List.length_drop]; omega)]

theorem isPow2_pos (s : Nat) (h : isPow2 s = true) : 1 ≤ s := by
  simp only [isPow2, Bool.and_eq_true, bne_iff_ne, ne_eq] at h
  omega

/-- **the commitment of a share list**: the model of `Commitment::from_shares` (nmt-rs trees, tendermint
    merkle tree, the code's width / mountain-range arithmetic) equals ADR-013's value — every share
    list shorter than 2^63, every known app version, any hashes -/
theorem fromShares_eq {D : Type} (H : Lumina.Model.Merkle.HashFns D) (h : Lumina.Model.Nmt.HashFn) (ns : Bytes)
    (shares : List Bytes) (app : Nat) (happ : app ∈ [1, 2, 3, 4, 5, 6, 7]) (hlen : shares.length < 2 ^ 63) :
    fromShares H h ns shares app = .ok (commitment H h ns shares 64) := by
  have hth : subtreeRootThreshold app = some 64 := by
    have : ∀ a ∈ [1, 2, 3, 4, 5, 6, 7], subtreeRootThreshold a = some 64 := by decide
    exact this app happ
  unfold fromShares commitment
  simp only [hth]
  rw [subtreeWidth_eq _ _ hlen, mmr_eq_spec _ _ (by omega), splitBySizes_eq]
  obtain ⟨k, hk⟩ := subtreeWidth_pow2 shares.length 64
  have hw1 : 1 ≤ Lumina.Spec.C12.subtreeWidth shares.length 64 := by rw [hk]; exact Nat.two_pow_pos k
  have hall := mmr_all _ k hk shares.length shares.length
  have hsum := mmr_sum _ hw1 shares.length shares.length (Nat.le_refl _)
  rw [subtreeRoots_eq h ns _ shares ?_ hsum]
  · simp only [Lumina.Proofs.C13.treeRoot_eq_root]
  · intro s hs
    simp only [List.all_eq_true, Bool.and_eq_true] at hall
    exact isPow2_pos s (hall s hs).1

end Lumina.Proofs.C12

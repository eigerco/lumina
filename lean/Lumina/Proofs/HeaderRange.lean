/-
  Lemmas about the `get_verified_headers_range` model: composition of the session invariant
  (Proofs/Session.lean) with the client acceptance theorems (Props/C28.lean).  The loop `drive` answers one outstanding
  request per turn: no schedule panics, and a drive that ends either failed or completed the session (`drive_inv`,
  `DriveOK`); with peers that deliver it completes within `remaining` turns (`drive_served`).
-/
import Lumina.Proofs.Session
import Lumina.Props.C28
import Lumina.Model.HeaderRange
import Lumina.Proofs.Util

namespace Lumina.Proofs.HeaderRange
open Lumina.Model.Session (State Ev Cfg step init result Range Req)
open Lumina.Model.HeaderExClient (Hdr Resp isValid decodeAndVerifyG)
open Lumina.Proofs.HeaderExClient (validated validated_cons_ok validatedOf_toEntry acceptable_iff perfect_iff toKind_origin)
open Lumina.Model.HeaderRange
open Lumina.Model.Session (rangeLen)
open Lumina.Proofs.Session

abbrev ht : Hdr → Nat := (·.height)

theorem clientAnswer_ok (net : Net) (b : Beh) (h a : Nat) (hs : List Hdr) (hh : 1 ≤ h)
    (hok : clientAnswer 32 true net b h a = .ok hs) :
    hs.length ≤ a ∧ hs.map ht = List.range' h hs.length := by
  simp only [clientAnswer] at hok
  split at hok
  · cases hok
  · have hacc := Lumina.Props.C28.accept_sound _ _ hs hok
    rw [toKind_origin (Nat.ne_of_gt hh)] at hacc
    exact (acceptable_iff.mp hacc).2.2

theorem clientAnswer_no_panic (net : Net) (b : Beh) (h a : Nat) :
    clientAnswer 32 true net b h a ≠ .panic := by
  simp only [clientAnswer]
  split
  · simp
  · exact Lumina.Props.C28.never_panics _ _

/-- whatever completes a task with `Ok(hs)` — the client, or a foreign `Ok(vec![])` — hands the
    session a prefix of the request -/
theorem answer_ok (net : Net) (b : Beh) (h a : Nat) (hs : List Hdr) (hh : 1 ≤ h)
    (hok : answer 32 true net b h a = some (.ok hs)) :
    hs.length ≤ a ∧ hs.map ht = List.range' h hs.length := by
  cases b with
  | dropped => cases hok
  | emptyOk => cases hok; exact ⟨Nat.zero_le _, rfl⟩
  | _ => exact clientAnswer_ok net _ h a hs hh (Option.some.inj hok)

theorem answer_no_panic (net : Net) (b : Beh) (h a : Nat) :
    answer 32 true net b h a ≠ some .panic := by
  cases b <;> simp [answer, clientAnswer_no_panic]

/-- a progressing behaviour is one of the real client's: the answer is the client's -/
theorem answer_progressing (net : Net) (b : Beh) (hb : b.progressing = true) (h a : Nat) :
    answer 32 true net b h a = some (clientAnswer 32 true net b h a) := by
  cases b <;> first | rfl | cases hb

theorem validated_map_ok {β : Type} (l : List β) (f : β → Hdr) :
    validated (l.map (fun x => ({ status := 1, decoded := some (f x) } : Resp)))
      = l.map f := by
  induction l with
  | nil => rfl
  | cons x xs ih => rw [List.map_cons, validated_cons_ok _ _ (f x) rfl, ih]; rfl

/-- a non-empty prefix `h, …, h+m-1` of the chain sent by a peer is a perfect response: the client
    accepts it as it is -/
theorem decode_chain_prefix (h a m : Nat) (hh : 1 ≤ h) (hm : 1 ≤ m) (hma : m ≤ a)
    (hfit : h + m - 1 ≤ U64_MAX) :
    decodeAndVerifyG true { data := .origin h, amount := a }
      ((List.range' h m).map (fun x => ({ status := 1, decoded := some (chainHdr x) } : Resp)))
      = .ok ((List.range' h m).map chainHdr) := by
  rw [← validated_map_ok]
  refine Lumina.Props.C28.perfect_accepted { data := .origin h, amount := a } _ (fun r hr x hx => ?_)
    (perfect_iff.mpr ⟨?_, ?_, by simpa using hma⟩)
  · obtain ⟨y, hy, rfl⟩ := List.mem_map.mp hr
    cases hx
    have := List.mem_range'_1.mp hy
    show y ≤ U64_MAX
    omega
  · exact List.all_eq_true.mpr fun r hr => by obtain ⟨y, -, rfl⟩ := List.mem_map.mp hr; rfl
  · rw [toKind_origin (Nat.ne_of_gt hh), validated_map_ok]
    refine acceptable_iff.mpr ⟨?_, fun x hx => ?_, by simpa using hma, by simp [chainHdr, Function.comp_def]⟩
    · simpa using Nat.ne_of_gt hm
    · rwa [validatedOf_toEntry, validated_map_ok]

theorem peerResps_progressing (net : Net) (b : Beh) (hb : b.progressing = true) (h a : Nat)
    (hh : 1 ≤ h) (ha : 1 ≤ a) (ha512 : a ≤ PEER_CAP) (hcov : h + a - 1 ≤ net.chainLen) :
    ∃ m, 1 ≤ m ∧ m ≤ a ∧ peerResps net b h a
      = (List.range' h m).map (fun x => ({ status := 1, decoded := some (chainHdr x) } : Resp)) := by
  have havail : (if 1 ≤ h ∧ h ≤ net.chainLen then min (min a PEER_CAP) (net.chainLen - h + 1) else 0)
      = a := by
    rw [if_pos ⟨hh, by omega⟩, Nat.min_eq_left ha512, Nat.min_eq_left (by omega)]
  cases b with
  | full => exact ⟨a, ha, Nat.le_refl _, by simp only [peerResps, havail, if_neg (Nat.ne_of_gt ha)]⟩
  | atMost k =>
    have hm : 1 ≤ min a k := Nat.le_min.mpr ⟨ha, of_decide_eq_true hb⟩
    exact ⟨min a k, hm, Nat.min_le_left .., by simp only [peerResps, havail, if_neg (Nat.ne_of_gt hm)]⟩
  | _ => cases hb

theorem clientAnswer_progress (net : Net) (b : Beh) (hb : b.progressing = true) (h a : Nat)
    (hh : 1 ≤ h) (ha : 1 ≤ a) (ha512 : a ≤ PEER_CAP)
    (hcov : h + a - 1 ≤ net.chainLen) (hfit : h + a - 1 ≤ U64_MAX) :
    ∃ m, 1 ≤ m ∧ m ≤ a ∧ clientAnswer 32 true net b h a = .ok ((List.range' h m).map chainHdr) := by
  obtain ⟨m, hm1, hma, hresps⟩ := peerResps_progressing net b hb h a hh ha ha512 hcov
  have hvalid : isValid 32 { data := .origin h, amount := a } = true := by
    simp [isValid, Nat.ne_of_gt ha, Nat.ne_of_gt hh]
  refine ⟨m, hm1, hma, ?_⟩
  unfold clientAnswer
  simp only [hvalid, Bool.not_true, Bool.false_eq_true, ↓reduceIte, hresps]
  exact decode_chain_prefix h a m hh hm1 hma (by omega)

theorem cyc_all {β : Type} (p : β → Bool) (l : List β) (h : l.all p = true) (d : β) (hd : p d = true)
    (j : Nat) : p (cyc l j d) = true := by
  unfold cyc
  split
  · exact hd
  · exact List.all_eq_true.mp h _ (Util.getD_mem (Nat.mod_lt _ (by omega)))

theorem drive_done (net : Net) (fuel j : Nat) (s : State Hdr)
    (h : s.status ≠ .running ∨ s.tasks = []) : drive 32 true net fuel j s = .done s j := by
  have : s.status ≠ .running ∨ s.tasks.isEmpty = true := h.imp_right List.isEmpty_iff.mpr
  cases fuel <;> simp only [drive, if_pos this]

theorem drive_zero (net : Net) (j : Nat) {s : State Hdr} (hr : s.status = .running)
    (hne : s.tasks ≠ []) : drive 32 true net 0 j s = .hang := by
  simp [drive, hr, hne]

theorem drive_succ (net : Net) (fuel j : Nat) {s : State Hdr} (hr : s.status = .running)
    (hne : s.tasks ≠ []) :
    ∃ t ∈ s.tasks, drive 32 true net (fuel + 1) j s =
      match answer 32 true net (cyc net.beh j .full) t.1 t.2 with
      | some (.ok hs) => drive 32 true net fuel (j + 1) (step s (.ok t.1 t.2 hs))
      | some (.err _) => drive 32 true net fuel (j + 1) (step s (.err t.1 t.2))
      | some .panic => .panic
      | none => drive 32 true net fuel (j + 1) (step s (.fatal t.1 t.2)) := by
  have : ¬ (s.status ≠ .running ∨ s.tasks.isEmpty = true) := by simp [hr, hne]
  refine ⟨_, Util.getD_mem (l := s.tasks) (i := cyc net.order j 0 % s.tasks.length) (d := (0, 0))
    (Nat.mod_lt _ (List.length_pos_iff.mpr hne)), ?_⟩
  simp only [drive, if_neg this]
  rfl

theorem drive_zero_amount (net : Net) (hnet : ∀ j, (cyc net.beh j .full).ofClient = true)
    {s : State Hdr} {h : Nat} (hr : s.status = .running) (ht : s.tasks = [(h, 0)]) :
    ∀ fuel j, drive 32 true net fuel j s = .hang := by
  have hne : s.tasks ≠ [] := by rw [ht]; nofun
  have hstep : step s (.err h 0) = s := by
    rw [step_err s h 0 hr (ht ▸ List.mem_singleton.mpr rfl)]
    cases s
    simp_all [Lumina.Model.Session.sendRequest, answered]
  intro fuel
  induction fuel with
  | zero => exact fun j => drive_zero net j hr hne
  | succ n ih =>
    intro j
    obtain ⟨t, hmem, hd⟩ := drive_succ net n j hr hne
    obtain rfl : t = (h, 0) := List.mem_singleton.mp (ht ▸ hmem)
    have hans : answer 32 true net (cyc net.beh j .full) h 0 = some (.err .invalidRequest) := by
      have hb := hnet j
      cases hc : cyc net.beh j .full <;> simp [hc, Beh.ofClient] at hb <;>
        simp [answer, clientAnswer, isValid]
    rw [hd, hans]
    simp only
    rw [hstep]
    exact ih (j + 1)

/-- what `drive_inv` says of an outcome: no panic, and a finished drive either was stopped by a
    non-HeaderEx error (`failed`: a dropped responder) or completed the session -/
def DriveOK (M n : Nat) (r : Range) (d : Driven) : Prop :=
  d ≠ .panic ∧ ∀ s' steps, d = .done s' steps →
    s'.status = .failed ∨ (Inv ht M r s' ∧ Full n s' ∧ s'.tasks = [])

theorem drive_inv {M n : Nat} (net : Net) (r : Range)
    (hr : 1 ≤ r.1 ∧ r.1 ≤ r.2 ∧ r.2 ≤ Lumina.Model.Session.U64_MAX) :
    ∀ (fuel j : Nat) (s : State Hdr), Inv ht M r s → Full n s →
      DriveOK M n r (drive 32 true net fuel j s) := by
  intro fuel
  induction fuel with
  | zero =>
    intro j s hinv hfull
    by_cases hne : s.tasks = []
    · rw [drive_done net 0 j s (.inr hne)]
      exact ⟨nofun, fun _ _ he => by cases he; exact .inr ⟨hinv, hfull, hne⟩⟩
    · rw [drive_zero net j hinv.running hne]; exact ⟨nofun, nofun⟩
  | succ fuel ih =>
    intro j s hinv hfull
    by_cases hne : s.tasks = []
    · rw [drive_done net _ j s (.inr hne)]
      exact ⟨nofun, fun _ _ he => by cases he; exact .inr ⟨hinv, hfull, hne⟩⟩
    obtain ⟨t, hmem, hd⟩ := drive_succ net fuel j hinv.running hne
    rw [hd]
    have ht1 : 1 ≤ t.1 := Nat.le_trans hr.1 (task_in_range hinv hmem).1
    cases hans : answer 32 true net (cyc net.beh j .full) t.1 t.2 with
    | none =>
      -- the responder was dropped: `run` returns the non-HeaderEx error
      have hst := step_fatal s t.1 t.2 hinv.running hmem
      simp only
      rw [drive_done net fuel (j + 1) _ (.inl (by rw [hst]; decide))]
      exact ⟨nofun, fun _ _ he => by cases he; exact .inl hst⟩
    | some o =>
      cases o with
      | panic => exact absurd hans (answer_no_panic _ _ _ _)
      | ok hs =>
        obtain ⟨i1, i2⟩ := inv_step hr.2.2 (.ok t.1 t.2 hs) hinv hfull
          ⟨hmem, answer_ok net _ t.1 t.2 hs ht1 hans⟩
        exact ih (j + 1) _ i1 i2
      | err e =>
        obtain ⟨i1, i2⟩ := inv_step hr.2.2 (.err t.1 t.2) hinv hfull hmem
        exact ih (j + 1) _ i1 i2

def ChainOnly (s : State Hdr) : Prop := ∀ x ∈ s.responses.flatten, x = chainHdr x.height

/-- with peers that hold the whole range and deliver at least one requested header per answer
    (full or truncated, any order), the drive completes within `remaining` further steps and only
    chain headers are received -/
theorem drive_served {M n : Nat} (hM : M ≤ PEER_CAP) (hn : 0 < n) (net : Net) (r : Range)
    (hr : 1 ≤ r.1 ∧ r.1 ≤ r.2 ∧ r.2 ≤ Lumina.Model.Session.U64_MAX) (hcov : r.2 ≤ net.chainLen)
    (hprog : ∀ j, (cyc net.beh j .full).progressing = true) :
    ∀ (fuel j : Nat) (s : State Hdr), Inv ht M r s → Full n s → ChainOnly s →
      remaining s ≤ fuel →
      ∃ s' steps, drive 32 true net fuel j s = .done s' steps ∧
        Inv ht M r s' ∧ Full n s' ∧ s'.tasks = [] ∧ ChainOnly s' ∧
        steps ≤ j + remaining s := by
  intro fuel
  induction fuel with
  | zero =>
    intro j s hinv hfull hch hrem
    have ht0 := (tasks_nil_iff_remaining hinv hfull hn).mpr (by omega)
    exact ⟨s, j, drive_done net 0 j s (.inr ht0), hinv, hfull, ht0, hch, by omega⟩
  | succ fuel ih =>
    intro j s hinv hfull hch hrem
    by_cases hne : s.tasks = []
    · exact ⟨s, j, drive_done net _ j s (.inr hne), hinv, hfull, hne, hch, by omega⟩
    obtain ⟨t, hmem, hd⟩ := drive_succ net fuel j hinv.running hne
    rw [hd]
    have hin := task_in_range hinv hmem
    have hamt := hinv.amt t hmem
    have hU : Lumina.Model.Session.U64_MAX = U64_MAX := rfl
    have hb : 1 ≤ t.1 ∧ t.2 ≤ PEER_CAP ∧ t.1 + t.2 - 1 ≤ net.chainLen ∧ t.1 + t.2 - 1 ≤ U64_MAX := by
      omega
    obtain ⟨m, hm1, hma, hans⟩ := clientAnswer_progress net _ (hprog j) t.1 t.2 hb.1 hamt.1
      hb.2.1 hb.2.2.1 hb.2.2.2
    rw [answer_progressing net _ (hprog j), hans]
    simp only
    obtain ⟨i1, i2⟩ := inv_step hr.2.2 (.ok t.1 t.2 ((List.range' t.1 m).map chainHdr))
      hinv hfull ⟨hmem, by simpa using hma, by simp [chainHdr, Function.comp_def]⟩
    have hflat := step_ok_flatten s t.1 t.2 ((List.range' t.1 m).map chainHdr) hinv.running hmem
    have hch' : ChainOnly (step s (.ok t.1 t.2 ((List.range' t.1 m).map chainHdr))) := by
      intro x hx
      rw [hflat, List.mem_append] at hx
      rcases hx with hx | hx
      · exact hch x hx
      · obtain ⟨y, _, rfl⟩ := List.mem_map.mp hx
        rfl
    have hl1 := inv_length hinv
    have hl2 := inv_length i1
    rw [hflat, List.length_append, List.length_map, List.length_range'] at hl2
    obtain ⟨s', steps, h1, h2, h3, h4, h5, h6⟩ := ih (j + 1) _ i1 i2 hch' (by omega)
    exact ⟨s', steps, h1, h2, h3, h4, h5, by omega⟩

theorem fromRange_valid {f a : Nat} (h0 : a ≠ 0) (hfit : f + a ≤ U64_MAX) :
    1 ≤ f + 1 ∧ f + 1 ≤ f + a ∧ f + a ≤ Lumina.Model.Session.U64_MAX :=
  ⟨by omega, by omega, hfit⟩

theorem rangeLen_from {f a : Nat} (h0 : a ≠ 0) : rangeLen (f + 1, f + a) = a := by
  rw [rangeLen_pos (by simp only; omega)]; simp only; omega

theorem result_from {f a M n : Nat} {s : State Hdr} (hinv : Inv ht M (f + 1, f + a) s)
    (hfull : Full n s) (hn : 0 < n) (h0 : a ≠ 0) (hdone : s.tasks = []) :
    (result ht s).map ht = List.range' (f + 1) a := by
  have := result_eq hinv hfull hn hdone
  rwa [rangeLen_from h0] at this

theorem inv_init_from (c : Cfg) (hc : 1 ≤ c.minAmount ∧ c.minAmount ≤ c.maxAmount) {f a : Nat}
    (h0 : a ≠ 0) (hfit : f + a ≤ U64_MAX) :
    Inv ht c.maxAmount (f + 1, f + a) (init c (f + 1, f + a)) ∧
    Full c.maxConcurrent (init c (f + 1, f + a) : State Hdr) :=
  inv_init ht c (f + 1, f + a) hc (fromRange_valid h0 hfit)

theorem call_cases (c : Cfg) (hsz : Nat) (i : Input) (hh : i.fromHeight < U64_MAX) :
    getVerifiedHeadersRangeG true true c hsz i = .err "InvalidRequest" 0 ∨
    (i.fromValid = true ∧ i.amount = 0 ∧ getVerifiedHeadersRangeG true true c hsz i = .ok [] 0) ∨
    (i.fromValid = true ∧ i.amount ≠ 0 ∧ i.fromHeight + i.amount ≤ U64_MAX) := by
  by_cases hv : i.fromValid = true
  · by_cases h0 : i.amount = 0
    · exact .inr (.inl ⟨hv, h0, by simp [getVerifiedHeadersRangeG, hv, h0]⟩)
    · by_cases hfit : i.fromHeight + i.amount ≤ U64_MAX
      · exact .inr (.inr ⟨hv, h0, hfit⟩)
      · -- `height.checked_add(amount - 1)` fails
        have h1 : ¬ U64_MAX < i.fromHeight + 1 := by omega
        have h2 : U64_MAX < i.fromHeight + 1 + (i.amount - 1) := by omega
        exact .inl (by simp [getVerifiedHeadersRangeG, hv, h0, h1, h2])
  · exact .inl (by simp [getVerifiedHeadersRangeG, hv])

def finish (f : Nat) (sameChain : Bool) : Driven → Out
  | .panic => .panic
  | .hang => .hang
  | .done s steps =>
    match s.status with
    | .panicked => .panic
    | .failed => .err "Fatal" steps
    | .running =>
      if verifyAdjacentRange f sameChain (result ht s) then .ok (result ht s) steps
      else .err "InvalidResponse" steps

theorem finish_spec {M n : Nat} {r : Range} {d : Driven} (hok : DriveOK M n r d) (f : Nat) (sc : Bool) :
    finish f sc d ≠ .panic ∧
    ∀ hs steps, finish f sc d = .ok hs steps →
      ∃ s, Inv ht M r s ∧ Full n s ∧ s.tasks = [] ∧ hs = result ht s ∧
        verifyAdjacentRange f sc hs = true := by
  cases d with
  | panic => exact absurd rfl hok.1
  | hang => exact ⟨nofun, nofun⟩
  | done s steps =>
    rcases hok.2 s steps rfl with hf | ⟨hinv, hfull, hdone⟩
    · simp only [finish, hf]; exact ⟨nofun, nofun⟩
    · simp only [finish, hinv.running]
      by_cases hver : verifyAdjacentRange f sc (result ht s) = true
      · rw [if_pos hver]
        exact ⟨nofun, fun hs _ he => by cases he; exact ⟨s, hinv, hfull, hdone, rfl, hver⟩⟩
      · rw [if_neg hver]; exact ⟨nofun, nofun⟩

theorem sameChain_of_verify {f : Nat} {sc : Bool} {hs : List Hdr} (hne : hs ≠ [])
    (h : verifyAdjacentRange f sc hs = true) : sc = true := by
  cases hs with
  | nil => exact absurd rfl hne
  | cons x xs => exact (Bool.and_eq_true_iff.mp h).2

end Lumina.Proofs.HeaderRange

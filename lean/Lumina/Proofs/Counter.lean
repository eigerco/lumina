/-
  C41 — lemmas about the `Counter` transition system (`Model/Counter.lean`): `stepN` as a relation
  (`StepN`); the invariant in two layers, `SafeInv` (preserved under ANY `Notify` semantics) and `Inv`
  (adds "no lost wake-up", needs tokio's); every protocol step decreases `variant`; one `poll`
  finishes the wait once every guard is `notified`; `Agree` ties a state to the spec's history of
  harness operations (`seqStep_ok`); under the Notify hypothesis `stepN ready` is `step`.
-/
import Lumina.Model.CounterObs

namespace Lumina.Proofs.Counter
open Lumina.Model.Counter

/-- states reachable from `init` by ANY interleaving of ANY labels (unbounded number of guards) -/
inductive Reachable : State → Prop
  | init : Reachable init
  | step {s s' : State} {l : Label} : Reachable s → step s l = some s' → Reachable s'

/-- reachability under an arbitrary Notify semantics -/
inductive ReachableN (ready : Nat → Nat → Bool) : State → Prop
  | init : ReachableN ready init
  | step {s s' : State} {l : Label} : ReachableN ready s → stepN ready s l = some s' → ReachableN ready s'

variable {ready : Nat → Nat → Bool} {s s' : State} {l : Label} {ls : List Label}

/-- `stepN ready` as a relation, one constructor per way a label fires -/
inductive StepN (ready : Nat → Nat → Bool) (s : State) : Label → State → Prop
  | newGuard : s.waiter = .idle → StepN ready s .newGuard { s with guards := s.guards ++ [.alive] }
  | decr {i} : s.guards[i]? = some .alive → StepN ready s (.decr i) { s with guards := s.guards.set i .dec }
  | notify {i} : s.guards[i]? = some .dec →
      StepN ready s (.notify i) { s with guards := s.guards.set i .notified, epoch := s.epoch + 1 }
  | call : s.waiter = .idle → StepN ready s .call { s with waiter := .start }
  | arm : s.waiter = .start → StepN ready s .arm { s with waiter := .armed s.epoch }
  | done {e} : s.waiter = .armed e → holders s = 0 → StepN ready s .check { s with waiter := .done }
  | block {e} : s.waiter = .armed e → holders s ≠ 0 → StepN ready s .check { s with waiter := .awaiting e }
  | wake {e} : s.waiter = .awaiting e → ready s.epoch e = true → StepN ready s .wake { s with waiter := .rearming }
  | rearm : s.waiter = .rearming → StepN ready s .rearm { s with waiter := .armed s.epoch }
  | cancel : StepN ready s .cancel { s with waiter := .idle }

theorem StepN.of_stepN (h : stepN ready s l = some s') : StepN ready s l s' := by
  cases l <;> simp only [stepN, step, Option.ite_none_right_eq_some, Option.some.injEq] at h
  case newGuard => exact h.2 ▸ .newGuard h.1
  case decr => exact h.2 ▸ .decr h.1
  case notify => exact h.2 ▸ .notify h.1
  case call => exact h.2 ▸ .call h.1
  case arm => exact h.2 ▸ .arm h.1
  case rearm => exact h.2 ▸ .rearm h.1
  case cancel => exact h ▸ .cancel
  case check =>
    split at h
    · split at h <;> cases h
      · exact .done ‹_› ‹_›
      · exact .block ‹_› ‹_›
    · cases h
  case wake =>
    split at h
    · simp only [Option.ite_none_right_eq_some, Option.some.injEq] at h
      exact h.2 ▸ .wake ‹_› h.1
    · cases h

theorem stepN_tokio (s : State) (l : Label) : stepN tokioReady s l = step s l := by
  cases l <;> simp only [stepN]
  simp only [step, tokioReady]
  split
  · simp
  · rfl

theorem StepN.of_step (h : step s l = some s') : StepN tokioReady s l s' :=
  .of_stepN (stepN_tokio s l ▸ h)

theorem holders_eq_zero : holders s = 0 ↔ G.alive ∉ s.guards ∧ G.early ∉ s.guards := by
  simp [holders, List.count_eq_zero]

/-- the part of the invariant that does not depend on the Notify semantics at all -/
structure SafeInv (s : State) : Prop where
  noEarly : G.early ∉ s.guards
  doneSafe : s.waiter = .done → G.alive ∉ s.guards

theorem SafeInv.stepN (hi : SafeInv s) (hs : StepN ready s l s') : SafeInv s' := by
  obtain ⟨h1, h2⟩ := hi
  cases hs with
  | newGuard hw => exact ⟨by simpa using h1, by simp [hw]⟩
  | decr | notify =>
    exact ⟨fun hm => (List.mem_or_eq_of_mem_set hm).elim h1 nofun,
      fun hd hm => (List.mem_or_eq_of_mem_set hm).elim (h2 hd) nofun⟩
  | done _ hz => exact ⟨h1, fun _ => (holders_eq_zero.mp hz).1⟩
  | _ => exact ⟨h1, nofun⟩

theorem safe_reachableN (h : ReachableN ready s) : SafeInv s := by
  induction h with
  | init => exact ⟨nofun, fun _ => nofun⟩
  | step _ hs ih => exact ih.stepN (.of_stepN hs)

theorem SafeInv.released (hi : SafeInv s) (hd : s.waiter = .done) :
    ∀ g ∈ s.guards, g = .dec ∨ g = .notified := by
  intro g hg
  cases g
  case alive => exact absurd hg (hi.doneSafe hd)
  case early => exact absurd hg hi.noEarly
  all_goals simp

structure Inv (s : State) : Prop extends SafeInv s where
  epochLe : ∀ e, (s.waiter = .armed e ∨ s.waiter = .awaiting e) → e ≤ s.epoch
  /-- no lost wake-up: a blocked waiter either still has a guard that is going to notify, or
      the notification it is waiting for has already happened -/
  noLost : ∀ e, s.waiter = .awaiting e → (∃ g ∈ s.guards, g = .alive ∨ g = .dec) ∨ e < s.epoch

theorem inv_step (hi : Inv s) (hs : step s l = some s') : Inv s' := by
  have hs := StepN.of_step hs
  have safe := hi.toSafeInv.stepN hs
  obtain ⟨_, h2, h3⟩ := hi
  cases hs with
  | newGuard => exact ⟨safe, h2, fun e he => (h3 e he).imp_left fun ⟨g, hg, h⟩ => ⟨g, List.mem_append_left _ hg, h⟩⟩
  | decr hg => exact ⟨safe, h2, fun e _ => .inl ⟨.dec, List.mem_set (List.getElem?_eq_some_iff.1 hg).1 _, .inr rfl⟩⟩
  | notify => exact ⟨safe, fun e he => Nat.le_succ_of_le (h2 e he),
      fun e he => .inr (Nat.lt_succ_of_le (h2 e (.inr he)))⟩
  | arm | rearm => exact ⟨safe, by simp, nofun⟩
  | block hw hz =>
    refine ⟨safe, by simpa [hw] using h2, fun e he => .inl ⟨.alive, ?_, .inl rfl⟩⟩
    -- some guard still holds the Arc; it is not `early`, so it is `alive`
    exact Classical.byContradiction fun ha => hz (holders_eq_zero.mpr ⟨ha, safe.noEarly⟩)
  | _ => exact ⟨safe, by simp, nofun⟩

theorem inv_reachable (h : Reachable s) : Inv s := by
  induction h with
  | init => exact ⟨⟨nofun, fun _ => nofun⟩, by simp [init], nofun⟩
  | step _ hs ih => exact inv_step ih hs

/-- the guard part decreases; the waiter part does not grow as long as the pending notifications
    do not and pay for any change of the epoch -/
theorem variant_lt_of_guards (hw : s'.waiter = s.waiter)
    (hg : 2 * s'.guards.count .alive + s'.guards.count .dec <
      2 * s.guards.count .alive + s.guards.count .dec)
    (hk : pendingNotifies s' ≤ pendingNotifies s)
    (he : s'.epoch = s.epoch ∨ pendingNotifies s' < pendingNotifies s) : variant s' < variant s := by
  simp only [pendingNotifies] at hk he
  simp only [variant, pendingNotifies, hw]
  cases s.waiter with
  | armed e | awaiting e => simp only; split <;> split <;> omega
  | _ => simp only; omega

theorem variant_decreases (hs : step s l = some s')
    (hl : l.isExternal = false) : variant s' < variant s := by
  cases StepN.of_step hs with
  | newGuard | cancel => cases hl
  | decr hg | notify hg =>
    obtain ⟨hlt, he⟩ := List.getElem?_eq_some_iff.mp hg
    have hp := List.count_pos_iff.mpr (List.mem_of_getElem? hg)
    refine variant_lt_of_guards (by rfl) ?_ ?_ ?_
    all_goals simp only [pendingNotifies, List.count_set hlt, he, beq_iff_eq, reduceCtorEq, ↓reduceIte,
      true_or]
    all_goals omega
  | @wake e hw hne =>
    have hne : s.epoch ≠ e := by simpa [tokioReady] using hne
    simp only [variant, pendingNotifies, hw, if_pos hne]
    omega
  | arm hw | rearm hw => simp [variant, pendingNotifies, hw]
  | call hw | done hw | block hw =>
    simp only [variant, pendingNotifies, hw]
    omega

theorem run_cons :
    run s (l :: ls) = some s' ↔ ∃ s1, step s l = some s1 ∧ run s1 ls = some s' := by
  simp only [run, runWith]
  cases step s l <;> simp

theorem reachable_run (h : Reachable s) (hr : run s ls = some s') :
    Reachable s' := by
  induction ls generalizing s with
  | nil => cases hr; exact h
  | cons l ls ih =>
    obtain ⟨s1, h1, hr⟩ := run_cons.mp hr
    exact ih (h.step h1) hr

theorem run_variant (hr : run s ls = some s')
    (hl : ∀ l ∈ ls, l.isExternal = false) : ls.length + variant s' ≤ variant s := by
  induction ls generalizing s with
  | nil => cases hr; simp
  | cons l ls ih =>
    obtain ⟨s1, h1, hr⟩ := run_cons.mp hr
    have := ih hr (fun l' hl' => hl l' (.tail _ hl'))
    have := variant_decreases h1 (hl l (.head _))
    simp only [List.length_cons]
    omega

/-- deadlock freedom: while the wait is in progress some step of the protocol is enabled -/
theorem progress {s : State} (h : Reachable s) (hi : s.waiter ≠ .idle) (hd : s.waiter ≠ .done) :
    ∃ l, l.isExternal = false ∧ (step s l).isSome = true := by
  have inv := inv_reachable h
  cases hw : s.waiter with
  | idle => exact absurd hw hi
  | done => exact absurd hw hd
  | start => exact ⟨.arm, rfl, by simp [step, hw]⟩
  | armed e => exact ⟨.check, rfl, by simp only [step, hw]; split <;> simp⟩
  | rearming => exact ⟨.rearm, rfl, by simp [step, hw]⟩
  | awaiting e =>
    rcases inv.noLost e hw with ⟨g, hg, hga⟩ | hlt
    · obtain ⟨i, hi'⟩ := List.mem_iff_getElem?.mp hg
      rcases hga with rfl | rfl
      · exact ⟨.decr i, rfl, by simp [step, hi']⟩
      · exact ⟨.notify i, rfl, by simp [step, hi']⟩
    · exact ⟨.wake, rfl, by simp [step, hw, Nat.ne_of_gt hlt]⟩

/-- `call` is a protocol step, so a state where none is enabled is not `idle` either -/
theorem maximal_done (h : Reachable s) (hmax : ∀ l, l.isExternal = false → step s l = none) :
    s.waiter = .done := by
  apply Classical.byContradiction
  intro hnd
  have hi : s.waiter ≠ .idle := fun hw => by simpa [step, hw] using hmax .call rfl
  obtain ⟨l, hl1, hl2⟩ := progress h hi hnd
  rw [hmax l hl1] at hl2
  cases hl2

theorem pollFuel_rec {P : State → Prop}
    (hP : ∀ {s s' l}, waiterLabel s = some l → step s l = some s' → P s → P s')
    (f : Nat) (h : P s) : P (pollFuel f s) := by
  induction f generalizing s with
  | zero => exact h
  | succ f ih =>
    simp only [pollFuel]
    split
    · split
      · exact ih (hP ‹_› ‹_› h)
      · exact h
    · exact h

theorem poll_reachable (h : Reachable s) : Reachable (poll s) :=
  pollFuel_rec (fun _ hs h => h.step hs) 8 h

theorem waiterLabel_isWaiter (h : waiterLabel s = some l) :
    l.isWaiter = true := by
  simp only [waiterLabel] at h
  split at h
  · cases h; rfl
  · cases h; rfl
  · split at h <;> cases h
    rfl
  · cases h; rfl
  · cases h

theorem step_waiter_guards (hl : l.isWaiter = true)
    (hs : step s l = some s') : s'.guards = s.guards := by
  cases StepN.of_step hs with
  | newGuard | decr | notify => cases hl
  | _ => rfl

theorem poll_guards (s : State) : (poll s).guards = s.guards :=
  pollFuel_rec (P := fun t => t.guards = s.guards)
    (fun hl hs h => (step_waiter_guards (waiterLabel_isWaiter hl) hs).trans h) 8 rfl

theorem epoch_ne_of_finished {e : Nat} (h : Reachable s) (hw : s.waiter = .awaiting e)
    (hall : ∀ g ∈ s.guards, g = .notified) : s.epoch ≠ e := by
  rcases (inv_reachable h).noLost e hw with ⟨g, hg, hga⟩ | hlt
  · cases hall g hg
    rcases hga with h | h <;> cases h
  · exact Nat.ne_of_gt hlt

theorem poll_done_of_all_notified (h : Reachable s) (hall : ∀ g ∈ s.guards, g = .notified)
    (hi : s.waiter ≠ .idle) : (poll s).waiter = .done := by
  have ha : s.guards.count .alive = 0 := List.count_eq_zero.mpr fun hm => by cases hall _ hm
  have he : s.guards.count .early = 0 := List.count_eq_zero.mpr fun hm => by cases hall _ hm
  cases hw : s.waiter with
  | idle => exact absurd hw hi
  | awaiting e =>
    simp [poll, pollFuel, waiterLabel, step, holders, hw, ha, he, epoch_ne_of_finished h hw hall]
  | _ => simp [poll, pollFuel, waiterLabel, step, holders, hw, ha, he]

open Lumina.Spec.C41 (Hist specPoll)

variable {h : Hist}

structure Agree (s : State) (h : Hist) : Prop where
  created : h.created = s.guards.length
  released : ∀ i, i < s.guards.length → s.guards[i]? ≠ some .alive → h.released.contains i = true
  dropped : ∀ i, h.dropped.contains i = true → s.guards[i]? = some .notified

theorem agree_init : Agree init Hist.empty := by
  constructor <;> simp [init, Hist.empty]

theorem Agree.of_guards_eq (ha : Agree s h) (hg : s'.guards = s.guards) :
    Agree s' h := by
  obtain ⟨hc, hr, hd⟩ := ha
  exact ⟨hg ▸ hc, hg ▸ hr, hg ▸ hd⟩

theorem Agree.newGuard (ha : Agree s h) (hs : step s .newGuard = some s') :
    Agree s' { h with created := h.created + 1 } := by
  obtain ⟨hc, hr, hd⟩ := ha
  cases StepN.of_step hs
  refine ⟨by simp [hc], fun i hi hne => ?_, fun i hi => ?_⟩
  · by_cases hlt : i < s.guards.length
    · exact hr i hlt (List.getElem?_append_left hlt ▸ hne)
    · have : i = s.guards.length := by simp at hi; omega
      simp [this] at hne
  · exact (List.getElem?_append_left (List.getElem?_eq_some_iff.1 (hd i hi)).1).trans (hd i hi)

theorem Agree.decr {i : Nat} (ha : Agree s h) (hs : step s (.decr i) = some s') :
    Agree s' { h with released := i :: h.released } := by
  obtain ⟨hc, hr, hd⟩ := ha
  cases StepN.of_step hs with | decr hg => ?_
  refine ⟨by simp [hc], fun j hj hne => ?_, fun j hj => ?_⟩
  · by_cases hij : i = j
    · simp [hij]
    · rw [List.getElem?_set_ne hij] at hne
      simp only [List.contains_cons, hr j (by simpa using hj) hne, Bool.or_true]
  · have := hd j hj
    rwa [List.getElem?_set_ne]
    rintro rfl
    cases hg.symm.trans this

theorem Agree.notify {i : Nat} (ha : Agree s h) (hs : step s (.notify i) = some s') :
    Agree s' { h with dropped := i :: h.dropped } := by
  obtain ⟨hc, hr, hd⟩ := ha
  cases StepN.of_step hs with | notify hg => ?_
  have hlt := (List.getElem?_eq_some_iff.1 hg).1
  refine ⟨by simp [hc], fun j hj hne => ?_, fun j hj => ?_⟩
  · by_cases hij : i = j
    · exact hr j (hij ▸ hlt) (by simp [← hij, hg])
    · exact hr j (by simpa using hj) (List.getElem?_set_ne hij ▸ hne)
  · by_cases hij : i = j
    · exact hij ▸ List.getElem?_set_self hlt
    · rw [List.getElem?_set_ne hij]
      exact hd j (by simpa [Ne.symm hij] using hj)

theorem poll_ready_ok (hr : Reachable s) (ha : Agree s h) (hd : (poll s).waiter = .done) :
    specPoll h true = true := by
  have hs : G.alive ∉ s.guards := poll_guards s ▸ (inv_reachable (poll_reachable hr)).doneSafe hd
  simp only [specPoll, ↓reduceIte, List.all_eq_true, List.mem_range]
  exact fun i hi => ha.released i (ha.created ▸ hi) fun hc => hs (List.mem_of_getElem? hc)

theorem poll_pending_ok (hr : Reachable s) (ha : Agree s h) (hi : s.waiter ≠ .idle)
    (hp : (poll s).waiter ≠ .done) : specPoll h false = true := by
  -- otherwise every guard's drop has completed and the poll would have finished the wait
  apply Classical.byContradiction
  intro hno
  simp only [specPoll, Bool.false_eq_true, ↓reduceIte, List.any_eq_true, List.mem_range,
    Bool.not_eq_true', not_exists, not_and, Bool.not_eq_false] at hno
  refine hp (poll_done_of_all_notified hr (fun g hg => ?_) hi)
  obtain ⟨i, hi⟩ := List.mem_iff_getElem?.mp hg
  exact Option.some.inj (hi.symm.trans (ha.dropped i (hno i (ha.created ▸ (List.getElem?_eq_some_iff.1 hi).1))))

theorem seqStep_ok (hr : Reachable s) (ha : Agree s h) (op : SeqOp) :
    Reachable (seqStep s op).1 ∧ Agree (seqStep s op).1 (track h op (seqStep s op).2) ∧
      (match (seqStep s op).2 with
        | .ready => specPoll h true
        | .pending => specPoll h false
        | _ => true) = true := by
  cases op <;> simp only [seqStep]
  case guard => split; exact ⟨hr.step ‹_›, ha.newGuard ‹_›, rfl⟩; exact ⟨hr, ha, rfl⟩
  case drop i =>
    split
    · split
      · exact ⟨(hr.step ‹_›).step ‹_›, (ha.decr ‹_›).notify ‹_›, rfl⟩
      · exact ⟨hr, ha, rfl⟩
    · exact ⟨hr, ha, rfl⟩
  case dec i => split; exact ⟨hr.step ‹_›, ha.decr ‹_›, rfl⟩; exact ⟨hr, ha, rfl⟩
  case notify i => split; exact ⟨hr.step ‹_›, ha.notify ‹_›, rfl⟩; exact ⟨hr, ha, rfl⟩
  case wait =>
    split
    · rename_i s' hs
      cases StepN.of_step hs
      exact ⟨hr.step hs, ha.of_guards_eq rfl, rfl⟩
    · exact ⟨hr, ha, rfl⟩
  case poll =>
    have ha' := ha.of_guards_eq (poll_guards s)
    split
    · exact ⟨hr, ha, rfl⟩
    · exact ⟨hr, ha, rfl⟩
    · split
      · exact ⟨poll_reachable hr, ha', poll_ready_ok hr ha ‹_›⟩
      · exact ⟨poll_reachable hr, ha', poll_pending_ok hr ha ‹_› ‹_›⟩
  case cancel => exact ⟨hr.step (l := .cancel) rfl, ha.of_guards_eq rfl, trivial⟩

theorem stepN_congr (hN : ∀ ep e, ready ep e = tokioReady ep e)
    (s : State) (l : Label) : stepN ready s l = step s l := by
  rw [funext fun ep => funext (hN ep)]
  exact stepN_tokio s l

theorem reachableN_reachable (hN : ∀ ep e, ready ep e = tokioReady ep e)
    (h : ReachableN ready s) : Reachable s := by
  induction h with
  | init => exact .init
  | step _ hs ih => exact ih.step (stepN_congr hN _ _ ▸ hs)

end Lumina.Proofs.Counter

/-
  C43: the observer's ledger of `Lumina/Spec/C43.lean` accepts every run of the client model — the bookkeeping
  equality between the ledger's maps (`believed`, `lastSigned`, `accepted`, `prev`) and the model state, as an invariant
  over arbitrary histories.

  * `oLine st`, `oAnswered op`: what the observer sees of a model step — the same abstraction the driver's `render` /
    `parseLine` realise through strings (events in order; per started submission its pending request / `wait` /
    result, sorted by submission number); `Driver/C43.lean` compares `parseLine (render st)` with `oLine st` at every
    step and classifies the answers with this file's `oAns`;
  * `oev`, `spec_events_replay`: where the model's `replay` of the events succeeds (and the other three premises hold), the ledger's event rule accepts the observed events with the same belief;
  * `X b st`: structural facts about one step, from the state `b` that the input's own assignment (`Assign`) leaves,
    kept by every step of the walk (`Reach`): keys of the submission table are unique; a submission in a confirmation
    phase has an accepted transaction; before the account is known nothing is signed and nobody is past the account
    query; the table of signed transactions only grows and every signature of the step indexes it; `acc`/`accSeq`
    change only by acceptance.  `BaseOK` says how `b` stands to the state before the step (`baseOK`, case by case of
    `Assign`), `StepFacts` how the end does (`x_step`, `facts_step`);
  * `stepA`: the ledger's answer rule (`direct`) makes the assignment the client makes (`StepA`: in the terms of
    `believedAfter`, `gok`, `accNow`, as `BaseOK` says it of the client), case by case of `Assign`;
  * `Rel l st`: the bookkeeping relation; `ledger_step`: one step — the events are accepted because they replay
    (`Inv`, `spec_events_replay`), `lastSigned` is right because a pending request is the last signature (`PB`,
    `events_frame`), nothing is signed after acceptance and a pending broadcast is not yet accepted (`W`), the rest is
    `X`; the two checks on the line hold of any related ledgers (`Rel.pending`, `evicted_ok`); `specRun_ok`: every history.
-/
import Lumina.Proofs.TxSeq
import Lumina.Spec.C43
import Lumina.Proofs.InsertSort

namespace Lumina.Proofs.TxSeq
open Lumina.Model.TxSeq
open Lumina.Spec.C43 (OTx OEv Ledger)

def oev : Event → OEv
  | .sign i k tx => .sign ⟨i, tx.seq, tx.gas, tx.fee, k⟩
  | .finished i r => .fin i (match r with | .rejected c => some c | _ => none)

theorem lookup_put {α} (l : List (Nat × α)) (i j : Nat) (a : α) :
    (Lumina.Spec.C43.put l i a).lookup j = if j = i then some a else l.lookup j := by
  unfold Lumina.Spec.C43.put
  by_cases h : j = i
  · subst h; simp [List.lookup]
  · have : (j == i) = false := by simp [h]
    simp only [List.lookup, this, h, ↓reduceIte]
    induction l with
    | nil => rfl
    | cons p l ih =>
      obtain ⟨k, b⟩ := p
      by_cases hk : k = i
      · subst hk
        have : (j == k) = false := by simp [h]
        simp [List.filter, List.lookup, this, ih]
      · have hk' : (k != i) = true := by simp [hk]
        simp only [List.filter, hk', List.lookup]
        split <;> simp_all

/-- **the ledger's event rule is `replay`**: if the ledger believes `b`, its table of accepted
    transactions agrees with `g` on the signed sequences, no signature in `es` is for a submission
    with an accepted transaction and every rejection in `es` that is not about the sequence is for one
    that has, then the ledger accepts the events when `replay` does, and ends up believing what `replay` computes -/
theorem spec_events_replay (g : Nat → Nat) (es : List Event) (l : Ledger) (b : Nat)
    (hb : l.believed = some b)
    (hacc : ∀ j tx, l.accepted.lookup j = some tx → tx.seq = g j)
    (hfin : ∀ j c, Event.finished j (.rejected c) ∈ es → isWrongSequence c = false → (l.accepted.lookup j).isSome)
    (hsig : ∀ j k tx, Event.sign j k tx ∈ es → l.accepted.lookup j = none)
    (b' : Nat) (hr : replay g b es = some b') :
    ∃ l', Lumina.Spec.C43.events l (es.map oev) = .ok l' ∧ l'.believed = some b' ∧ l'.accepted = l.accepted := by
  induction es generalizing l b with
  | nil =>
    simp only [replay, Option.some.injEq] at hr
    exact ⟨l, rfl, by rw [hb, hr], rfl⟩
  | cons e es ih =>
    have ih' : ∀ (l' : Ledger) (b : Nat), l'.accepted = l.accepted → l'.believed = some b → replay g b es = some b' →
        ∃ l'', Lumina.Spec.C43.events l' (es.map oev) = .ok l'' ∧ l''.believed = some b' ∧ l''.accepted = l.accepted := by
      intro l' b hl hb hr
      rw [← hl] at hacc hfin hsig ⊢
      exact ih l' b hb hacc (fun j c hm hw => hfin j c (List.mem_cons_of_mem _ hm) hw)
        (fun j k tx hm => hsig j k tx (List.mem_cons_of_mem _ hm)) hr
    cases e with
    | sign i k tx =>
      simp only [replay] at hr
      split at hr
      · rename_i hseq
        have hn := hsig i k tx (by simp)
        simp only [List.map_cons, oev, Lumina.Spec.C43.events, Lumina.Spec.C43.event, hn, Option.isSome_none,
          Bool.false_eq_true, ↓reduceIte, hb, hseq]
        simp only [bne_self_eq_false, Bool.false_eq_true, ↓reduceIte]
        exact ih' { l with believed := some b, lastSigned := Lumina.Spec.C43.put l.lastSigned i ⟨i, b, tx.gas, tx.fee, k⟩ }
          b rfl rfl hr
      · cases hr
    | finished i r =>
      simp only [replay] at hr
      cases r with
      | rejected c =>
        simp only [List.map_cons, oev, Lumina.Spec.C43.events, Lumina.Spec.C43.event]
        by_cases hw : isWrongSequence c = true
        · have hw' : Lumina.Spec.C43.wrongSequence c = true := hw
          simp only [hw, ↓reduceIte] at hr
          cases hl : l.accepted.lookup i with
          | none => exact ih' l b rfl hb hr
          | some tx => simp only [hw', ↓reduceIte]; exact ih' l b rfl hb hr
        · have hwf : isWrongSequence c = false := by simpa using hw
          have hw' : Lumina.Spec.C43.wrongSequence c = false := hwf
          simp only [hwf, Bool.false_eq_true, ↓reduceIte] at hr
          have hs := hfin i c (by simp) hwf
          cases hl : l.accepted.lookup i with
          | none => simp [hl] at hs
          | some tx =>
            simp only [hw', Bool.false_eq_true, ↓reduceIte]
            exact ih' { l with believed := some tx.seq } (g i) rfl (by simp [hacc i tx hl]) hr
      | _ =>
        simp only [List.map_cons, oev, Lumina.Spec.C43.events, Lumina.Spec.C43.event]
        exact ih' l b rfl hb hr

end Lumina.Proofs.TxSeq

namespace Lumina.Proofs.TxSeqLedger
open Lumina.Model.TxSeq Lumina.Proofs.TxSeq
open Lumina.Spec.C43
open Lumina.Proofs.InsertSort (IsInsert Never)

def oPend (s : Sub) : Option OPend :=
  match s.phase with
  | .idle => none
  | .reqL => some .L
  | .reqG => some .G
  | .reqP => some .P
  | .reqE k => some (.E k)
  | .reqB k => some (.B k)
  | .reqT => some (.T (s.acc.getD 0))
  | .reqRB _ => some (.B (s.acc.getD 0))
  | .waitChain => some .wait
  | .waitAcct => some .wait
  | .waitLock => some .wait
  | .waitRollback _ => some .wait
  | .done _ => some .fin

def insertSortedO (p : Nat × OPend) : List (Nat × OPend) → List (Nat × OPend)
  | [] => [p]
  | q :: rest => if p.1 ≤ q.1 then p :: q :: rest else q :: insertSortedO p rest

def rawStates (subs : List (Nat × Sub)) : List (Nat × OPend) :=
  subs.filterMap (fun p => (oPend p.2).map (fun t => (p.1, t)))

/-- the `st=` part of a line: every started submission with what it has pending, sorted by submission -/
def oStates (st : St) : List (Nat × OPend) := (rawStates st.subs).foldr insertSortedO []

/-- the line the model prints after a step, as the observer parses it -/
def oLine (st : St) : OLine := { events := st.events.map oev, states := oStates st }

/-- the answers that matter to the ledger (the driver's `oAns` is this function) -/
def oAns : Ans → OAns
  | .okSeq n => .acctSeq n
  | .ok => .accepted
  | .cache => .accepted
  | .mis n => .mismatch n
  | .evicted => .evicted
  | .unknown => .evicted
  | _ => .other

def oAnswered : Op → Option (Nat × OAns)
  | .ans i a => some (i, oAns a)
  | .start _ _ _ => none

/-- the ledger accepts every line of the model's run on `ops` from state `st` -/
def specRun (l : Ledger) (st : St) : List Op → Bool
  | [] => true
  | op :: ops =>
    match ledgerStep l (oAnswered op) (oLine (step st op)) with
    | .ok l' => specRun l' (step st op) ops
    | .error _ => false

theorem oPend_G {s : Sub} (h : oPend s = some .G) : s.phase = .reqG := by
  unfold oPend at h
  split at h <;> first | assumption | cases h

theorem oPend_E {s : Sub} {k : Nat} (h : oPend s = some (.E k)) : s.phase = .reqE k := by
  unfold oPend at h
  split at h <;> simp at h
  rw [← h]; assumption

theorem oPend_B {s : Sub} {k : Nat} (h : oPend s = some (.B k)) :
    s.phase = .reqB k ∨ ∃ nf, s.phase = .reqRB nf ∧ s.acc.getD 0 = k := by
  unfold oPend at h
  split at h <;> simp at h
  · rw [← h]; exact Or.inl ‹_›
  · exact Or.inr ⟨_, ‹_›, h⟩

theorem oPend_T {s : Sub} {k : Nat} (h : oPend s = some (.T k)) : s.phase = .reqT ∧ s.acc.getD 0 = k := by
  unfold oPend at h
  split at h <;> simp at h
  exact ⟨‹_›, h⟩

theorem oAns_acctSeq {a : Ans} {n : Nat} (h : oAns a = .acctSeq n) : a = .okSeq n := by
  unfold oAns at h
  split at h <;> simp at h
  rw [h]

theorem oAns_accepted {a : Ans} (h : oAns a = .accepted) : a = .ok ∨ a = .cache := by
  unfold oAns at h
  split at h <;> simp at h
  · exact Or.inl rfl
  · exact Or.inr rfl

theorem oAns_mismatch {a : Ans} {n : Nat} (h : oAns a = .mismatch n) : a = .mis n := by
  unfold oAns at h
  split at h <;> simp at h
  rw [h]

theorem insertSortedO_isInsert : IsInsert (fun p q : Nat × OPend => p.1 ≤ q.1) Never insertSortedO :=
  ⟨fun _ => rfl, fun _ _ _ => rfl⟩

theorem perm_sortO (l : List (Nat × OPend)) : (l.foldr insertSortedO []).Perm l :=
  insertSortedO_isInsert.foldr_perm l

theorem lookup_iff_mem {α} : ∀ {l : List (Nat × α)} {i : Nat} {v : α}, (l.map Prod.fst).Nodup →
    (l.lookup i = some v ↔ (i, v) ∈ l)
  | [], _, _, _ => by simp
  | (j, w) :: rest, i, v, hn => by
    simp only [List.map_cons, List.nodup_cons] at hn
    rw [List.lookup_cons, List.mem_cons, ← lookup_iff_mem hn.2]
    by_cases e : i = j
    · subst e
      have : rest.lookup i = none := List.lookup_eq_none_iff.mpr fun p hp =>
        bne_iff_ne.mpr fun e => hn.1 (e ▸ List.mem_map_of_mem hp)
      simp [this, eq_comm]
    · simp [e, show (i == j) = false by simp [e]]

theorem nodup_oStates (st : St) (hn : (st.subs.map Prod.fst).Nodup) : ((oStates st).map Prod.fst).Nodup := by
  -- the sort permutes; `rawStates` keeps or drops an entry and never changes its key
  refine ((perm_sortO _).map Prod.fst).nodup_iff.mpr (List.pairwise_map.mpr ?_)
  refine (List.pairwise_map.mp hn).filterMap _ fun a a' h b hb b' hb' => ?_
  obtain ⟨_, _, rfl⟩ := Option.map_eq_some_iff.mp hb
  obtain ⟨_, _, rfl⟩ := Option.map_eq_some_iff.mp hb'
  exact h

theorem mem_oStates (st : St) (hn : (st.subs.map Prod.fst).Nodup) (i : Nat) (p : OPend) :
    (i, p) ∈ oStates st ↔ oPend (getSub st i) = some p := by
  rw [oStates, (perm_sortO _).mem_iff, rawStates, List.mem_filterMap, getSub]
  constructor
  · rintro ⟨⟨j, s⟩, hm, hq⟩
    obtain ⟨t, ht, e⟩ := Option.map_eq_some_iff.mp hq
    cases e
    rw [(lookup_iff_mem hn).mpr hm]; exact ht
  · intro h
    cases hl : st.subs.lookup i with
    | none => rw [hl] at h; cases h
    | some s => rw [hl] at h; exact ⟨(i, s), (lookup_iff_mem hn).mp hl, by simp [h]⟩

theorem lookup_oStates (st : St) (hn : (st.subs.map Prod.fst).Nodup) (i : Nat) :
    (oStates st).lookup i = oPend (getSub st i) :=
  Option.ext fun p => by rw [lookup_iff_mem (nodup_oStates st hn), mem_oStates st hn]

theorem pends_ok (l : Ledger) : ∀ (xs : List (Nat × OPend)), (∀ x ∈ xs, pendOK l x.1 x.2 = .ok ()) → pends l xs = .ok ()
  | [], _ => rfl
  | (i, p) :: rest, h => by
    simp only [pends, h (i, p) (by simp)]
    exact pends_ok l rest (fun x hx => h x (List.mem_cons_of_mem _ hx))

def earlyPhase : Phase → Bool
  | .idle | .waitChain | .reqL | .waitAcct | .reqG | .done _ => true
  | _ => false

/-- the confirmation phases: the submission has an accepted transaction -/
def postPhase : Phase → Bool
  | .reqT | .reqRB _ | .waitRollback _ => true
  | _ => false

def plainFin : Event → Bool
  | .finished _ (.rejected _) => false
  | .finished _ _ => true
  | .sign _ _ _ => false

theorem nodup_setSubL : ∀ (l : List (Nat × Sub)) (i : Nat) (s : Sub), (l.map Prod.fst).Nodup →
    ((setSubL l i s).map Prod.fst).Nodup ∧ ∀ j, j ∈ (setSubL l i s).map Prod.fst → j = i ∨ j ∈ l.map Prod.fst
  | [], i, s, _ => by simp [setSubL]
  | (j, t) :: rest, i, s, hn => by
    simp only [List.map_cons, List.nodup_cons] at hn
    by_cases e : j = i
    · subst e
      simp only [setSubL, ↓reduceIte, List.map_cons, List.nodup_cons]
      exact ⟨hn, fun k hk => Or.inr hk⟩
    · obtain ⟨ih1, ih2⟩ := nodup_setSubL rest i s hn.2
      simp only [setSubL, e, ↓reduceIte, List.map_cons, List.nodup_cons, List.mem_cons]
      refine ⟨⟨fun hm => ?_, ih1⟩, fun k hk => ?_⟩
      · rcases ih2 j hm with h | h
        · exact e h
        · exact hn.1 h
      · rcases hk with h | h
        · exact Or.inr (Or.inl h)
        · rcases ih2 k h with h | h
          · exact Or.inl h
          · exact Or.inr (Or.inr h)

structure X (b st : St) : Prop where
  keys : (st.subs.map Prod.fst).Nodup
  post : ∀ j, postPhase (getSub st j).phase = true → (getSub st j).acc ≠ none
  early : st.acct.ready = false → ∀ j, earlyPhase (getSub st j).phase = true ∧ (getSub st j).acc = none
  nosign : st.acct.ready = false → ∀ e ∈ st.events, plainFin e = true
  rdy : st.acct.ready = b.acct.ready
  txs : ∃ ext, st.txs = b.txs ++ ext
  sgn : ∀ i k tx, Event.sign i k tx ∈ st.events → st.txs[k]? = some tx
  accfr : ∀ j, (getSub st j).acc = (getSub b j).acc ∧
    ((getSub b j).acc ≠ none → (getSub st j).accSeq = (getSub b j).accSeq)
  rej : ∀ j c, Event.finished j (.rejected c) ∈ st.events → (getSub st j).acc ≠ none

/-- the part of `X` that speaks of the state alone: it holds of every reachable state between steps -/
structure Y (st : St) : Prop where
  keys : (st.subs.map Prod.fst).Nodup
  post : ∀ j, postPhase (getSub st j).phase = true → (getSub st j).acc ≠ none
  early : st.acct.ready = false → ∀ j, earlyPhase (getSub st j).phase = true ∧ (getSub st j).acc = none

theorem X.toY {b st : St} (h : X b st) : Y st := ⟨h.keys, h.post, h.early⟩

theorem Y.setSub {st : St} (hy : Y st) (i : Nat) (s : Sub) (hpost : postPhase s.phase = true → s.acc ≠ none)
    (hearly : st.acct.ready = false → earlyPhase s.phase = true ∧ s.acc = none) :
    Y (Lumina.Model.TxSeq.setSub st i s) := by
  refine ⟨(nodup_setSubL _ i s hy.keys).1, fun j => ?_, fun hn j => ?_⟩ <;> rw [getSub_setSub] <;> split
  · exact hpost
  · exact hy.post j
  · exact hearly hn
  · exact hy.early hn j

theorem X.congr {b st st' : St} (h : X b st) (hs : st'.subs = st.subs) (he : st'.events = st.events)
    (ht : st'.txs = st.txs) (hr : st'.acct.ready = st.acct.ready) : X b st' := by
  have hg := getSub_congr hs
  refine ⟨by rw [hs]; exact h.keys, ?_, ?_, ?_, by rw [hr]; exact h.rdy, by rw [ht]; exact h.txs, ?_, ?_, ?_⟩
  · intro j; rw [hg]; exact h.post j
  · intro hn j; rw [hg]; exact h.early (by rw [← hr]; exact hn) j
  · intro hn e; rw [he]; exact h.nosign (by rw [← hr]; exact hn) e
  · intro i k tx; rw [he, ht]; exact h.sgn i k tx
  · intro j; rw [hg]; exact h.accfr j
  · intro j c; rw [he, hg]; exact h.rej j c

theorem X.setSub {b st : St} (h : X b st) (i : Nat) (s : Sub) (hacc : s.acc = (getSub st i).acc)
    (hseq : (getSub st i).acc ≠ none → s.accSeq = (getSub st i).accSeq)
    (hpost : postPhase s.phase = true → s.acc ≠ none)
    (hearly : st.acct.ready = false → earlyPhase s.phase = true) : X b (setSub st i s) := by
  have y := h.toY.setSub i s hpost fun hn => ⟨hearly hn, hacc.trans (h.early hn i).2⟩
  refine ⟨y.keys, y.post, y.early, h.nosign, h.rdy, h.txs, h.sgn, ?_, ?_⟩
  · intro j
    rw [getSub_setSub]
    split
    · rename_i e; subst e
      refine ⟨by rw [hacc]; exact (h.accfr j).1, fun hb => ?_⟩
      have hne : (getSub st j).acc ≠ none := by rw [(h.accfr j).1]; exact hb
      rw [hseq hne]; exact (h.accfr j).2 hb
    · exact h.accfr j
  · intro j c hm
    have := h.rej j c hm
    rw [getSub_setSub]
    split
    · rename_i e; subst e; rw [hacc]; exact this
    · exact this

theorem X.setPhase {b st : St} (h : X b st) (i : Nat) (p : Phase)
    (hpost : postPhase p = true → (getSub st i).acc ≠ none)
    (hearly : st.acct.ready = false → earlyPhase p = true) : X b (setPhase st i p) :=
  h.setSub i _ rfl (fun _ => rfl) hpost hearly

theorem X.emitFin {b st : St} (h : X b st) (i : Nat) (r : Res)
    (hr : ∀ c, r = .rejected c → (getSub st i).acc ≠ none ∧ st.acct.ready = true) :
    X b (emit st (.finished i r)) := by
  have hg : ∀ j, getSub (emit st (.finished i r)) j = getSub st j := fun j => rfl
  refine ⟨h.keys, h.post, h.early, ?_, h.rdy, h.txs, ?_, h.accfr, ?_⟩
  · intro hn e he
    simp only [emit, List.mem_append, List.mem_singleton] at he
    rcases he with he | he
    · exact h.nosign hn e he
    · subst he
      cases r with
      | rejected c =>
        have := (hr c rfl).2
        have hn' : st.acct.ready = false := hn
        rw [hn'] at this; cases this
      | _ => rfl
  · intro i' k tx hm
    simp only [emit, List.mem_append, List.mem_singleton, reduceCtorEq, or_false] at hm
    exact h.sgn i' k tx hm
  · intro j c hm
    simp only [emit, List.mem_append, List.mem_singleton] at hm
    rcases hm with hm | hm
    · exact h.rej j c hm
    · injection hm with e1 e2
      subst e1
      exact (hr c e2.symm).1

theorem X.finish {b st : St} (h : X b st) (i : Nat) (r : Res)
    (hr : ∀ c, r = .rejected c → (getSub st i).acc ≠ none ∧ st.acct.ready = true) : X b (finish st i r) := by
  unfold Lumina.Model.TxSeq.finish
  have h1 := h.setPhase i (.done r) (by simp [postPhase]) (fun _ => rfl)
  refine h1.emitFin i r ?_
  intro c hc
  obtain ⟨k1, k2⟩ := hr c hc
  refine ⟨?_, k2⟩
  simp only [Lumina.Model.TxSeq.setPhase, getSub_setSub_same]
  exact k1

/-- the account's readiness does not change within a walk: it is a fact about the state the walk starts from -/
theorem X.ready {b st : St} (h : X b st) (hb : b.acct.ready = true) : st.acct.ready = true := h.rdy.trans hb

theorem X.signTx {b st : St} (h : X b st) (hb : b.acct.ready = true) (i gas fee : Nat) :
    X b (signTx st i gas fee).1 := by
  obtain ⟨T, K, hs, ⟨ext, hT⟩, hK⟩ := signTx_shape st i gas fee
  obtain ⟨ext0, hext0⟩ := h.txs
  rw [hs]
  refine ⟨h.keys, h.post, h.early, fun hn => (by rw [show _ = st.acct.ready from rfl, h.ready hb] at hn; cases hn), h.rdy,
    ⟨ext0 ++ ext, by simp [hT, hext0]⟩, fun i' k' tx hm => ?_, h.accfr, fun j c hm => ?_⟩
  · rcases List.mem_append.mp hm with hm | hm
    · have h0 := h.sgn i' k' tx hm
      rw [hT, List.getElem?_append_left (List.getElem?_eq_some_iff.mp h0).1]; exact h0
    · simp only [List.mem_singleton, Event.sign.injEq] at hm
      obtain ⟨_, rfl, rfl⟩ := hm
      exact hK
  · simp only [List.mem_append, List.mem_singleton, reduceCtorEq, or_false] at hm
    exact h.rej j c hm

theorem signTx_sub (st : St) (i gas fee : Nat) (j : Nat) : getSub (signTx st i gas fee).1 j = getSub st j := by
  obtain ⟨T, K, hs, _⟩ := signTx_shape st i gas fee
  rw [hs]; rfl

theorem X.setPhaseReady {b st : St} (h : X b st) (hb : b.acct.ready = true) (i : Nat) (p : Phase)
    (hpost : postPhase p = true → (getSub st i).acc ≠ none) : X b (Lumina.Model.TxSeq.setPhase st i p) :=
  h.setPhase i p hpost (fun hn => by rw [h.ready hb] at hn; cases hn)

theorem finish_ready (st : St) (i : Nat) (r : Res) : (finish st i r).acct.ready = st.acct.ready := rfl

theorem X.mv {b st st' : St} {cs pre : Bool} {i : Nat} {p : Phase} (h : X b st) (hb : cs = true → b.acct.ready = true)
    (m : Mv cs pre st i p st') : X b st' := by
  have post : ∀ {i : Nat}, (getSub st i).phase = .reqT ∨ (∃ nf, (getSub st i).phase = .reqRB nf) ∨
      (∃ c, (getSub st i).phase = .waitRollback c) → (getSub st i).acc ≠ none := fun hp =>
    h.post _ (by rcases hp with hp | ⟨_, hp⟩ | ⟨_, hp⟩ <;> rw [hp] <;> rfl)
  cases m with
  | early i p hp =>
    exact h.setPhase i p (by rcases hp with rfl | rfl | rfl | rfl <;> simp [postPhase])
      (fun _ => by rcases hp with rfl | rfl | rfl | rfl <;> rfl)
  | lock i p hp => exact h.setPhaseReady (hb rfl) i p (by rcases hp with rfl | rfl <;> simp [postPhase])
  | sign i gas fee mk hp =>
    exact (h.signTx (hb rfl) i gas fee).setPhaseReady (hb rfl) i _ (by rcases hp with rfl | rfl <;> simp [postPhase])
  | fin i r hr => exact h.finish i r (fun c e => absurd e (hr c))
  | rej i c hp _ => exact h.finish i _ (fun _ _ => ⟨post (.inl hp), h.ready (hb rfl)⟩)
  | roll i c hp =>
    exact (h.congr (st' := { st with seq := (getSub st i).accSeq }) rfl rfl rfl rfl).finish i _ (fun _ _ =>
      ⟨post (hp.elim (fun h => .inl h.1) (fun h => .inr (.inr ⟨c, h⟩))), h.ready (hb rfl)⟩)
  | post i p hp _ => exact h.setPhaseReady (hb rfl) i p (fun _ => post (hp.elim .inl (fun h => .inr (.inl h))))

theorem X.reach {b : St} {s s' : WS} {cs : Bool} (r : Reach cs s s') (h : X b s.st) (hb : cs = true → b.acct.ready = true) :
    X b s'.st :=
  r.keeps (Q := X b) (G := fun cs => cs = true → b.acct.ready = true) (fun f h => h.congr f.subs f.events f.txs f.ready)
    (fun hb m h => h.mv hb m) (fun hr h _ => h.rdy ▸ hr) hb h

theorem X.release {b st : St} (h : X b st) (hr : st.acct.ready = true) : X b (release st) :=
  X.reach (cs := true) (reach_release (cw := []) (aw := []) .refl) h (fun _ => h.rdy ▸ hr)

theorem X.init {st : St} (hy : Y st) (he : st.events = []) : X st st :=
  ⟨hy.keys, hy.post, hy.early, fun _ e hm => (by rw [he] at hm; cases hm), rfl, ⟨[], by simp⟩,
   fun i k tx hm => (by rw [he] at hm; cases hm), fun _ => ⟨rfl, fun _ => rfl⟩,
   fun j c hm => (by rw [he] at hm; cases hm)⟩

theorem Y.ready {st : St} (hy : Y st) {i : Nat} (h : earlyPhase (getSub st i).phase = false) : st.acct.ready = true := by
  cases hr : st.acct.ready with
  | true => rfl
  | false => rw [(hy.early hr i).1] at h; cases h

/-- the transaction whose broadcast this input accepts for submission `j` (success or mempool-cache hit inside the
    critical section), if any -/
def accNow (st : St) (op : Op) (j : Nat) : Option Nat :=
  match op with
  | .ans i a =>
    if i = j then
      match (getSub st i).phase, a with
      | .reqB k, .ok => some k
      | .reqB k, .cache => some k
      | _, _ => none
    else none
  | _ => none

/-- this input is the answer of the account query with the account's sequence -/
def gok (st : St) (op : Op) : Bool :=
  match op with
  | .ans i (.okSeq _) => decide ((getSub st i).phase = .reqG)
  | _ => false

structure StepFacts (st : St) (op : Op) (st' : St) : Prop where
  y : Y st'
  nosign : st'.acct.ready = false → ∀ e ∈ st'.events, plainFin e = true
  rdy : st'.acct.ready = (st.acct.ready || gok st op)
  txs : ∃ ext, st'.txs = st.txs ++ ext
  sgn : ∀ i k tx, Event.sign i k tx ∈ st'.events → st'.txs[k]? = some tx
  acc : ∀ j, (getSub st' j).acc = match accNow st op j with
    | some k => some k
    | none => (getSub st j).acc
  accSeq : ∀ j, match accNow st op j with
    | some k => (getSub st' j).accSeq = (st.txs.getD k ⟨0, 0, 0, 0⟩).seq
    | none => (getSub st j).acc ≠ none → (getSub st' j).accSeq = (getSub st j).accSeq
  rej : ∀ j c, Event.finished j (.rejected c) ∈ st'.events → (getSub st' j).acc ≠ none

/-- `b` is the state from which the walk of the step `op` from `st` starts: `b` already stands to `st` as the step's
    facts say; the walk (`X`) carries them to the end of the step -/
structure BaseOK (st : St) (op : Op) (b : St) : Prop where
  y : Y b
  rdy : b.acct.ready = (st.acct.ready || gok st op)
  txs : b.txs = st.txs
  acc : ∀ j, (getSub b j).acc = match accNow st op j with
    | some k => some k
    | none => (getSub st j).acc
  accSeq : ∀ j, match accNow st op j with
    | some k => (getSub b j).accSeq = (st.txs.getD k ⟨0, 0, 0, 0⟩).seq
    | none => (getSub st j).acc ≠ none → (getSub b j).accSeq = (getSub st j).accSeq

theorem StepFacts.ofBase {st : St} {op : Op} {b st' : St} (hb : BaseOK st op b) (hx : X b st') :
    StepFacts st op st' := by
  refine ⟨hx.toY, hx.nosign, by rw [hx.rdy, hb.rdy], by rw [← hb.txs]; exact hx.txs, hx.sgn, ?_, ?_, hx.rej⟩
  · intro j; rw [(hx.accfr j).1]; exact hb.acc j
  · intro j
    have h1 := hb.acc j
    have h2 := hb.accSeq j
    cases hn : accNow st op j with
    | some k =>
      rw [hn] at h1 h2
      exact ((hx.accfr j).2 (by rw [h1]; simp)).trans h2
    | none =>
      rw [hn] at h1 h2
      exact fun hne => ((hx.accfr j).2 (by rw [h1]; exact hne)).trans (h2 hne)

theorem BaseOK.plain {st : St} {op : Op} (hy : Y st) (hacc : ∀ j, accNow st op j = none)
    (hg : gok st op = false) (n : Nat) : BaseOK st op { st with seq := n } :=
  ⟨⟨hy.keys, hy.post, hy.early⟩, by rw [hg, Bool.or_false], rfl, fun j => by rw [hacc j]; rfl,
    fun j => by rw [hacc j]; exact fun _ => rfl⟩

theorem gok_false {st : St} {i : Nat} {a : Ans} (h : (getSub st i).phase = .reqG → ∀ n, a ≠ .okSeq n) :
    gok st (.ans i a) = false := by
  unfold gok
  split
  · rename_i e
    injection e with e1 e2
    subst e1
    exact decide_eq_false (fun hp => h hp _ e2)
  · rfl

theorem accNow_none {st : St} {i : Nat} {a : Ans} (h : ∀ k, (getSub st i).phase = .reqB k → a ≠ .ok ∧ a ≠ .cache)
    (j : Nat) : accNow st (.ans i a) j = none := by
  simp only [accNow]
  split
  · split
    · exact absurd rfl (h _ ‹_›).1
    · exact absurd rfl (h _ ‹_›).2
    · rfl
  · rfl

theorem accNow_accept {st : St} {i k : Nat} {a : Ans} (hp : (getSub st i).phase = .reqB k) (ha : a = .ok ∨ a = .cache)
    (j : Nat) : accNow st (.ans i a) j = if i = j then some k else none := by
  rcases ha with rfl | rfl <;> simp [accNow, hp]

theorem accNow_some {st : St} {op : Op} {j k : Nat} (h : accNow st op j = some k) :
    ∃ a, op = .ans j a ∧ (getSub st j).phase = .reqB k ∧ (a = .ok ∨ a = .cache) := by
  unfold accNow at h
  split at h
  · split at h
    · rename_i e
      subst e
      split at h
      · injection h with h; subst h; exact ⟨_, rfl, ‹_›, .inl rfl⟩
      · injection h with h; subst h; exact ⟨_, rfl, ‹_›, .inr rfl⟩
      · cases h
    · cases h
  · cases h

theorem knowsAcct_late {p : Phase} (h : knowsAcct p = true) : earlyPhase p = false := by
  cases p <;> first | rfl | cases h

theorem baseOK {st : St} {op : Op} {b : St} {aw : List Nat} (hb : Assign st op b aw) (hy : Y st) (hwf : WF st) :
    BaseOK st op b := by
  cases hb with
  | plain h => exact .plain hy (accNow_none h.b) (gok_false h.g) st.seq
  | acct n hp ha =>
    subst ha
    exact ⟨⟨hy.keys, hy.post, fun hn => by cases hn⟩, by simp [gok, hp], rfl,
      fun j => by rw [accNow_none (by simp [hp]) j]; rfl, fun j => by rw [accNow_none (by simp [hp]) j]; exact fun _ => rfl⟩
  | @accept i a k hp ha =>
    have hr : st.acct.ready = true := hy.ready (i := i) (by rw [hp]; rfl)
    have hsub : ∀ j, getSub (acceptBase { st with seq := st.seq + 1 } i k) j = if j = i then
        { getSub st i with phase := .reqT, acc := some k, accSeq := (st.txs.getD k ⟨0, 0, 0, 0⟩).seq }
        else getSub st j := fun j => getSub_setSub _ i j _
    refine ⟨Y.setSub (st := { st with seq := st.seq + 1 }) ⟨hy.keys, hy.post, hy.early⟩ i _
        (fun _ => by simp) (fun hn => by rw [show ({ st with seq := _ } : St).acct.ready = true from hr] at hn; cases hn),
      by rw [gok_false (by simp [hp]), Bool.or_false]; rfl, rfl, fun j => ?_, fun j => ?_⟩
    all_goals
      rw [accNow_accept hp ha j, hsub j]
      by_cases e : i = j
      · subst e; simp
      · simp [e, Ne.symm e]
  | resync n k hp ha => subst ha; exact .plain hy (accNow_none (by simp)) (gok_false (by simp)) n
  | @start i gl gp hp =>
    have hacci : (getSub st i).acc = none := hwf.an i (by rw [hp]; rfl)
    have hsub : ∀ j, getSub (Lumina.Model.TxSeq.setSub st i { gl := gl, gp := gp }) j =
        if j = i then { gl := gl, gp := gp } else getSub st j := fun j => getSub_setSub _ i j _
    refine ⟨hy.setSub i _ (fun h => by cases h) (fun _ => ⟨rfl, rfl⟩), by simp [gok]; rfl, rfl, fun j => ?_, fun j hne => ?_⟩
    · rw [hsub]; split
      · rename_i e; subst e; exact hacci.symm
      · rfl
    · rw [hsub, if_neg (fun e : j = i => hne (by rw [e]; exact hacci))]
  | skip => exact .plain hy (fun _ => rfl) rfl st.seq

theorem x_step {st : St} (op : Op) (hy : Y st) (hwf : WF st) {b aw}
    (hb : Assign { st with events := [] } op b aw) (r : Reach (stepCS st op) ⟨b, [], aw⟩ ⟨step st op, [], []⟩) :
    BaseOK { st with events := [] } op b ∧ X b (step st op) := by
  have h := baseOK hb ⟨hy.keys, hy.post, hy.early⟩ (hwf.start (fun _ _ => trivial))
  refine ⟨h, X.reach r (X.init h.y hb.events) (fun hc => ?_)⟩
  cases op with
  | start => cases hc
  | ans i a => rw [h.rdy, hy.ready (i := i) (knowsAcct_late hc)]; rfl

theorem facts_step (st : St) (op : Op) (hy : Y st) (hwf : WF st) : StepFacts st op (step st op) := by
  obtain ⟨b, aw, hb, r⟩ := step_reach st op
  obtain ⟨hbase, hx⟩ := x_step op hy hwf hb r
  have h := StepFacts.ofBase hbase hx
  exact ⟨h.y, h.nosign, h.rdy, h.txs, h.sgn, h.acc, h.accSeq, h.rej⟩

/-- no signature for a submission whose broadcast has been accepted — at the end of every step, every submission
    that signed during the step has no accepted transaction: it had none after the step's own assignment (`W`, with
    that as what a signer must satisfy), and the walk does not change it (`X.accfr`) -/
theorem sign_acc_none (st : St) (op : Op) (hy : Y st) (hwf : WF st) (j k : Nat) (tx : Tx)
    (hm : Event.sign j k tx ∈ (step st op).events) : (getSub (step st op) j).acc = none := by
  obtain ⟨b, aw, hb, r⟩ := step_reach st op
  have hw := W.reach r (((hwf.start (Q := fun _ => True) (fun _ _ => trivial)).onAssign hb).rebase
    (Q := fun j => (getSub b j).acc = none) hb.events (fun _ h => h))
  rw [((x_step op hy hwf hb r).2.accfr j).1]
  exact hw.sg j k tx hm

theorem event_frame {l l1 : Ledger} : ∀ {e : Event}, event l (oev e) = .ok l1 →
    l1.accepted = l.accepted ∧ l1.lastSigned = match e with
      | .sign i k tx => put l.lastSigned i ⟨i, tx.seq, tx.gas, tx.fee, k⟩
      | .finished _ _ => l.lastSigned
  | .sign i k tx, h => by
    simp only [oev, event] at h
    split at h
    · cases h
    · split at h
      · cases h
      · cases h; exact ⟨rfl, rfl⟩
  | .finished i res, h => by
    cases res with
    | rejected c =>
      simp only [oev, event] at h
      split at h <;> cases h
      · split <;> exact ⟨rfl, rfl⟩
      · exact ⟨rfl, rfl⟩
    | _ => cases h; exact ⟨rfl, rfl⟩

theorem events_frame : ∀ (es : List Event) (l l' : Ledger), events l (es.map oev) = .ok l' →
    l'.accepted = l.accepted ∧
    ∀ j, match lastSign j es with
      | some k => ∃ tx, Event.sign j k tx ∈ es ∧ l'.lastSigned.lookup j = some ⟨j, tx.seq, tx.gas, tx.fee, k⟩
      | none => l'.lastSigned.lookup j = l.lastSigned.lookup j
  | [], l, l', h => by
    simp only [List.map_nil, events, Except.ok.injEq] at h
    subst h
    exact ⟨rfl, fun j => rfl⟩
  | e :: r, l, l', h => by
    simp only [List.map_cons, events] at h
    split at h
    · cases h
    · rename_i l1 hev
      obtain ⟨a1, a2⟩ := event_frame hev
      obtain ⟨h2, h3⟩ := events_frame r l1 l' h
      refine ⟨h2.trans a1, fun j => ?_⟩
      have h3 := h3 j
      cases hr : lastSign j r with
      | some k' =>
        rw [hr] at h3
        obtain ⟨tx', hm, h3⟩ := h3
        rw [show lastSign j (e :: r) = some k' by cases e <;> simp [lastSign, hr]]
        exact ⟨tx', List.mem_cons_of_mem _ hm, h3⟩
      | none =>
        rw [hr, a2] at h3
        cases e with
        | finished i res => simp only [lastSign, hr]; exact h3
        | sign i k tx =>
          simp only [lastSign, hr, lookup_put] at h3 ⊢
          by_cases e : i = j
          · subst e
            simp only [↓reduceIte] at h3 ⊢
            exact ⟨tx, List.mem_cons_self, h3⟩
          · simpa [e, Ne.symm e] using h3

theorem events_plain : ∀ (es : List Event) (l : Ledger), (∀ e ∈ es, plainFin e = true) → events l (es.map oev) = .ok l
  | [], _, _ => rfl
  | e :: r, l, h => by
    have he := h e (by simp)
    have ih := events_plain r l (fun e' h' => h e' (List.mem_cons_of_mem _ h'))
    cases e with
    | sign i k tx => cases he
    | finished i res =>
      cases res with
      | rejected c => cases he
      | _ => simpa [oev, events, event] using ih

/-- the ledger after the answer rule -/
def afterAnswer (l : Ledger) : Option (Nat × OAns) → Ledger
  | some (i, a) => direct l i a
  | none => l

/-- the check "an evicted transaction is re-broadcast: the very next request is that broadcast" -/
def evictedOK (l l2 : Ledger) (states : List (Nat × OPend)) : Option (Nat × OAns) → Bool
  | some (i, .evicted) =>
    (match l.prev.lookup i, l2.accepted.lookup i with
     | some (.T _), some tx => states.lookup i == some (.B tx.id)
     | _, _ => true)
  | _ => true

theorem ledgerStep_eq (l : Ledger) (answered : Option (Nat × OAns)) (line : OLine) :
    ledgerStep l answered line =
      match events (afterAnswer l answered) line.events with
      | .error s => .error s
      | .ok l2 =>
        match pends l2 line.states with
        | .error s => .error s
        | .ok () =>
          if evictedOK l l2 line.states answered then .ok { l2 with prev := line.states }
          else .error "C43/evicted-not-rebroadcast" := by
  unfold ledgerStep afterAnswer evictedOK
  rfl

theorem ledgerStep_ok {l l2 : Ledger} {answered : Option (Nat × OAns)} {line : OLine}
    (h2 : events (afterAnswer l answered) line.events = .ok l2) (h3 : pends l2 line.states = .ok ())
    (h4 : evictedOK l l2 line.states answered = true) :
    ledgerStep l answered line = .ok { l2 with prev := line.states } := by
  rw [ledgerStep_eq]
  simp only [h2, h3, h4, ↓reduceIte]


/-- the ledger's maps against the model state -/
structure Rel (l : Ledger) (st : St) : Prop where
  /-- the believed sequence is the client's, and is unknown exactly as long as the account is -/
  bel : l.believed = if st.acct.ready then some st.seq else none
  prev : l.prev = oStates st
  /-- `accepted` = the submissions with an accepted transaction, with its id and signed sequence -/
  acc : ∀ j, match (getSub st j).acc with
    | some k => ∃ tx, l.accepted.lookup j = some tx ∧ tx.id = k ∧ tx.seq = (getSub st j).accSeq
    | none => l.accepted.lookup j = none
  /-- `lastSigned` of a submission whose broadcast / simulation is pending is that transaction -/
  ls : ∀ j k, isTxReq (getSub st j).phase k →
    ∃ otx tx, l.lastSigned.lookup j = some otx ∧ otx.id = k ∧ st.txs[k]? = some tx ∧ otx.seq = tx.seq

theorem Rel.prevAt {l : Ledger} {st : St} (hr : Rel l st) (hy : Y st) (i : Nat) :
    l.prev.lookup i = oPend (getSub st i) := by
  rw [hr.prev]; exact lookup_oStates st hy.keys i

theorem rel_init : Rel {} {} :=
  ⟨rfl, rfl, fun j => by simp [getSub, List.lookup], fun j k h => by
    rcases h with h | h <;> simp [getSub, List.lookup] at h⟩

/-- the `accepted` clause of `Rel` for one submission: table `acc` at `j` against the record `s` -/
def AccOK (acc : List (Nat × OTx)) (j : Nat) (s : Sub) : Prop :=
  match s.acc with
  | some k => ∃ tx, acc.lookup j = some tx ∧ tx.id = k ∧ tx.seq = s.accSeq
  | none => acc.lookup j = none

theorem AccOK.none_iff {acc : List (Nat × OTx)} {j : Nat} {s : Sub} (h : AccOK acc j s) :
    acc.lookup j = none ↔ s.acc = none := by
  unfold AccOK at h
  cases hc : s.acc with
  | none => rw [hc] at h; simp [h]
  | some k => rw [hc] at h; obtain ⟨tx, e, _⟩ := h; simp [e]

theorem AccOK.of_some {acc : List (Nat × OTx)} {j : Nat} {s : Sub} {tx : OTx} (h : AccOK acc j s)
    (e : acc.lookup j = some tx) : s.acc = some tx.id ∧ tx.seq = s.accSeq := by
  unfold AccOK at h
  cases hc : s.acc with
  | none => rw [hc, e] at h; cases h
  | some k =>
    rw [hc] at h
    obtain ⟨tx', e', e1, e2⟩ := h
    cases e'.symm.trans e
    exact ⟨by rw [e1], e2⟩

/-- a ledger in the bookkeeping relation accepts what every submission has pending: inside the critical section the last
    signature, in the confirmation loop the accepted transaction -/
theorem Rel.pending {l : Ledger} {st : St} (hr : Rel l st) (hy : Y st) (hwf : WF st) {j : Nat} {p : OPend}
    (h : oPend (getSub st j) = some p) : pendOK l j p = .ok () := by
  have post : postPhase (getSub st j).phase = true →
      ∃ tx, l.accepted.lookup j = some tx ∧ tx.id = (getSub st j).acc.getD 0 := by
    intro hpp
    cases hl : l.accepted.lookup j with
    | none => exact absurd ((AccOK.none_iff (hr.acc j)).mp hl) (hy.post j hpp)
    | some tx => exact ⟨tx, rfl, by rw [(AccOK.of_some (hr.acc j) hl).1]; rfl⟩
  cases p with
  | E k =>
    obtain ⟨otx, _, e1, e2, _⟩ := hr.ls j k (.inr (oPend_E h))
    simp [pendOK, e1, e2]
  | B k =>
    rcases oPend_B h with hp | ⟨nf, hp, e⟩
    · have hn := (AccOK.none_iff (hr.acc j)).mpr (hwf.an j (by rw [hp]; rfl))
      obtain ⟨otx, _, e1, e2, _⟩ := hr.ls j k (.inl hp)
      simp [pendOK, hn, e1, e2]
    · obtain ⟨tx, e1, e2⟩ := post (by rw [hp]; rfl)
      simp [pendOK, e1, e2, e]
  | T k =>
    obtain ⟨hp, e⟩ := oPend_T h
    obtain ⟨tx, e1, e2⟩ := post (by rw [hp]; rfl)
    simp [pendOK, e1, e2, e]
  | _ => rfl

/-- the ledger `l1` after the answer rule (`direct`), against the client's own classification of the input: it believes
    `believedAfter`, from the moment the account is known (`gok`), and its table of accepted transactions gains `accNow` -/
structure StepA (l1 l : Ledger) (st : St) (op : Op) : Prop where
  bel : l1.believed = if st.acct.ready || gok st op then some (believedAfter st op) else none
  ls : l1.lastSigned = l.lastSigned
  acc : ∀ j, match accNow st op j with
    | some k => ∃ tx, l1.accepted.lookup j = some tx ∧ tx.id = k ∧ tx.seq = (st.txs.getD k ⟨0, 0, 0, 0⟩).seq
    | none => l1.accepted.lookup j = l.accepted.lookup j

/-- the `accepted` clause of `Rel` after a step -/
theorem StepA.accEnd {l1 l : Ledger} {st : St} {op : Op} {st' : St} (ha : StepA l1 l st op) (hr : Rel l st)
    (sf : StepFacts st op st') : ∀ j, AccOK l1.accepted j (getSub st' j) := by
  intro j
  unfold AccOK
  have h1 := sf.acc j
  have h2 := sf.accSeq j
  have h3 := ha.acc j
  cases hn : accNow st op j with
  | some k =>
    rw [hn] at h1 h2 h3
    rw [h1]
    obtain ⟨tx, e1, e2, e3⟩ := h3
    exact ⟨tx, e1, e2, e3.trans h2.symm⟩
  | none =>
    rw [hn] at h1 h2 h3
    rw [h1, h3]
    have h4 := hr.acc j
    cases hc : (getSub st j).acc with
    | none => rw [hc] at h4; exact h4
    | some k =>
      rw [hc] at h4
      obtain ⟨tx, e1, e2, e3⟩ := h4
      exact ⟨tx, e1, e2, e3.trans (h2 (by rw [hc]; simp)).symm⟩

theorem stepA_same {l : Ledger} {st : St} {op : Op} (hr : Rel l st)
    (hb : believedAfter st op = st.seq) (hg : gok st op = false) (hacc : ∀ j, accNow st op j = none) :
    StepA l l st op :=
  ⟨by rw [hg, hb, Bool.or_false]; exact hr.bel, rfl, fun j => by rw [hacc j]⟩

theorem _root_.Lumina.Proofs.TxSeq.Plain.direct {l : Ledger} {st : St} {i : Nat} {a : Ans} (h : Plain st i a) (hr : Rel l st) (hy : Y st) :
    direct l i (oAns a) = l := by
  have hprev := hr.prevAt hy i
  -- the re-broadcast of the confirmation loop: the submission has an accepted transaction
  have hrb : ∀ nf, (getSub st i).phase = .reqRB nf → (l.accepted.lookup i).isSome = true := by
    intro nf hp
    exact Option.isSome_iff_ne_none.mpr fun e => hy.post i (by rw [hp]; rfl) ((AccOK.none_iff (hr.acc i)).mp e)
  unfold Lumina.Spec.C43.direct
  rw [hprev]
  split
  · exact absurd (oAns_acctSeq ‹_›) (h.g (oPend_G ‹_›) _)
  · rcases oPend_B ‹_› with hp | ⟨nf, hp, _⟩
    · rcases oAns_accepted ‹_› with e | e
      · exact absurd e (h.b _ hp).1
      · exact absurd e (h.b _ hp).2
    · rw [if_pos (hrb nf hp)]
  · rcases oPend_B ‹_› with hp | ⟨nf, hp, _⟩
    · exact absurd hp (h.m _ (oAns_mismatch ‹_›) _).2
    · rw [if_pos (hrb nf hp)]
  · exact absurd (oPend_E ‹_›) (h.m _ (oAns_mismatch ‹_›) _).1
  · rfl

/-- **the ledger classifies every answer the way the client does** -/
theorem stepA {l : Ledger} {st : St} (hr : Rel l st) (hy : Y st) (hwf : WF st) (op : Op) :
    StepA (afterAnswer l (oAnswered op)) l st op := by
  cases op with
  | start i gl gp => exact stepA_same hr rfl rfl (fun _ => rfl)
  | ans i a =>
    simp only [oAnswered, afterAnswer]
    have hprev := hr.prevAt hy i
    -- inside the critical section: the account is known, nothing is accepted yet for `i`
    have cs : ∀ k, isTxReq (getSub st i).phase k → st.acct.ready = true ∧ l.accepted.lookup i = none := by
      intro k hk
      have he : earlyPhase (getSub st i).phase = false ∧ preAccept (getSub st i).phase = true := by
        rcases hk with hk | hk <;> rw [hk] <;> exact ⟨rfl, rfl⟩
      exact ⟨hy.ready he.1, (AccOK.none_iff (hr.acc i)).mpr (hwf.an i he.2)⟩
    obtain ⟨b, aw, hb⟩ := Assign.ofAns st i a
    cases hb with
    | plain h => rw [h.direct hr hy]; exact stepA_same hr h.believedAfter (gok_false h.g) (accNow_none h.b)
    | acct n hG ha =>
      subst ha
      have hd : direct l i (oAns (.okSeq n)) = { l with believed := some n } := by
        simp [direct, hprev, oPend, hG, oAns]
      rw [hd]
      refine ⟨?_, rfl, fun j => by rw [accNow_none (by simp [hG]) j]⟩
      simp [gok, hG, believedAfter]
    | resync n k hk ha =>
      subst ha
      have hk : isTxReq (getSub st i).phase k := hk.symm
      obtain ⟨hrdy, hlk⟩ := cs k hk
      have hd : direct l i (oAns (.mis n)) = { l with believed := some n } := by
        rcases hk with hk | hk <;> simp [direct, hprev, oPend, hk, oAns, hlk]
      rw [hd]
      refine ⟨?_, rfl, fun j => by rw [accNow_none (by simp) j]⟩
      rw [gok_false (by simp), hrdy]
      rcases hk with hk | hk <;> simp [believedAfter, hk]
    | accept k hp ha =>
      obtain ⟨hrdy, hlk⟩ := cs k (.inl hp)
      have hbel : l.believed = some st.seq := by rw [hr.bel, hrdy]; rfl
      obtain ⟨otx, tx, hls, hid, htx, hseq⟩ := hr.ls i k (Or.inl hp)
      have hd : direct l i (oAns a) = { l with accepted := put l.accepted i otx, believed := l.believed.map (· + 1) } := by
        rcases ha with rfl | rfl <;> simp [direct, hprev, oPend, hp, oAns, hlk, hls]
      rw [hd]
      have hnow := accNow_accept hp ha
      refine ⟨?_, rfl, fun j => ?_⟩
      · rw [gok_false (by simp [hp]), hrdy, hbel]
        rcases ha with rfl | rfl <;> simp [believedAfter, hp]
      · rw [hnow j]
        by_cases e : i = j
        · subst e
          rw [if_pos rfl]
          exact ⟨otx, by simp [lookup_put], hid, by rw [hseq]; simp [List.getD, htx]⟩
        · simp [lookup_put, e, Ne.symm e]

theorem evicted_rb (st : St) (i : Nat) (a : Ans) (h : (getSub st i).phase = .reqT) (ha : a = .evicted ∨ a = .unknown) :
    (step st (.ans i a)).events = [] ∧ (step st (.ans i a)).txs = st.txs ∧ (step st (.ans i a)).seq = st.seq ∧
    (∃ nf, (getSub (step st (.ans i a)) i).phase = .reqRB nf) ∧
    (getSub (step st (.ans i a)) i).acc = (getSub st i).acc := by
  have hp : (getSub { st with events := [] } i).phase = .reqT := h
  rcases ha with rfl | rfl
  · simp only [step, answer, hp, ansT]
    exact ⟨rfl, rfl, rfl, ⟨false, by simp [Lumina.Model.TxSeq.setPhase]⟩, by simp [Lumina.Model.TxSeq.setPhase]; rfl⟩
  · simp only [step, answer, hp, ansT]
    exact ⟨rfl, rfl, rfl, ⟨true, by simp [Lumina.Model.TxSeq.setPhase]⟩, by simp [Lumina.Model.TxSeq.setPhase]; rfl⟩

/-- an evicted transaction is re-broadcast: between ledgers related to the states before and after the answer, the next
    request observed is the broadcast of the accepted transaction -/
theorem evicted_ok {l l' : Ledger} {st : St} (hr : Rel l st) (hy : Y st) (op : Op) (hr' : Rel l' (step st op))
    (hy' : Y (step st op)) : evictedOK l l' (oStates (step st op)) (oAnswered op) = true := by
  cases op with
  | start i gl gp => rfl
  | ans i a =>
    have key : (a = .evicted ∨ a = .unknown) →
        (match l.prev.lookup i, l'.accepted.lookup i with
         | some (.T _), some tx => (oStates (step st (.ans i a))).lookup i == some (.B tx.id)
         | _, _ => true) = true := by
      intro hae
      split
      · rename_i id tx h1 h2
        obtain ⟨_, _, _, ⟨nf, hph'⟩, _⟩ := evicted_rb st i a (oPend_T (hr.prevAt hy i ▸ h1)).1 hae
        rw [lookup_oStates _ hy'.keys i]
        simp [oPend, hph', (AccOK.of_some (hr'.acc i) h2).1]
      · rfl
    cases a with
    | evicted => exact key (Or.inl rfl)
    | unknown => exact key (Or.inr rfl)
    | _ => rfl

/-- **one step**: the ledger accepts the line the model prints, and the bookkeeping relation holds again -/
theorem ledger_step {l : Ledger} {st : St} (hr : Rel l st) (hy : Y st) (hwf : WF st) (hnw : NoWrong st) (op : Op) :
    ∃ l', ledgerStep l (oAnswered op) (oLine (step st op)) = .ok l' ∧ Rel l' (step st op) := by
  have sf := facts_step st op hy hwf
  have ha := stepA hr hy hwf op
  obtain ⟨g, hg1, hg2, _⟩ := inv_step st op hnw
  have hw := w_step hwf op
  have hpb := pb_step st op
  generalize hl1 : afterAnswer l (oAnswered op) = l1 at ha
  have hbel := sf.rdy ▸ ha.bel
  have hacc := ha.accEnd hr sf
  -- the events of the step
  have hev : ∃ l2, events l1 ((step st op).events.map oev) = .ok l2 ∧
      l2.believed = (if (step st op).acct.ready then some (step st op).seq else none) := by
    cases hrd : (step st op).acct.ready with
    | true =>
      have hb : l1.believed = some (believedAfter st op) := by rw [hbel, hrd]; rfl
      obtain ⟨l2, e1, e2, _⟩ := spec_events_replay g _ l1 _ hb
        (fun j tx hlk => ((hacc j).of_some hlk).2.trans (hg1 j))
        (fun j c hm _ => Option.isSome_iff_ne_none.mpr fun e => sf.rej j c hm ((hacc j).none_iff.mp e))
        (fun j k tx hm => (hacc j).none_iff.mpr (sign_acc_none st op hy hwf j k tx hm))
        _ hg2
      exact ⟨l2, e1, by simp [e2]⟩
    | false =>
      exact ⟨l1, events_plain _ l1 (sf.nosign hrd), by rw [hbel]; simp [hrd]⟩
  obtain ⟨l2, he, hbel2⟩ := hev
  obtain ⟨f2, f3⟩ := events_frame _ l1 l2 he
  -- the relation after the step
  have hrel : Rel { l2 with prev := oStates (step st op) } (step st op) := by
    refine ⟨hbel2, rfl, ?_, ?_⟩
    · intro j
      show AccOK l2.accepted j _
      rw [f2]; exact hacc j
    · intro j k hreq
      show ∃ otx tx, l2.lastSigned.lookup j = some otx ∧ otx.id = k ∧ (step st op).txs[k]? = some tx ∧ otx.seq = tx.seq
      have h3 := f3 j
      rcases hpb j k hreq with h1 | ⟨h1, h2⟩
      · rw [h1] at h3
        obtain ⟨tx, hm, h3⟩ := h3
        exact ⟨_, tx, h3, rfl, sf.sgn j k tx hm, rfl⟩
      · rw [h1] at h3
        obtain ⟨otx, tx, e1, e2, e3, e4⟩ := hr.ls j k (by rw [h2]; exact hreq)
        refine ⟨otx, tx, by rw [h3, ha.ls]; exact e1, e2, ?_, e4⟩
        obtain ⟨ext, hext⟩ := sf.txs
        rw [hext, List.getElem?_append_left (List.getElem?_eq_some_iff.mp e3).1]; exact e3
  have hevict := evicted_ok hr hy op hrel sf.y
  subst hl1
  exact ⟨_, ledgerStep_ok he (pends_ok _ _ fun x hx => hrel.pending sf.y hw.weaken ((mem_oStates _ sf.y.keys _ _).mp hx)) hevict,
    hrel⟩

/-- `Y` at the start; every step keeps it (`StepFacts.y` of `facts_step`) -/
theorem y_init : Y {} :=
  ⟨by simp, fun j h => by simp [getSub, List.lookup, postPhase] at h, fun _ j => by simp [getSub, List.lookup, earlyPhase]⟩

/-- the ledger after replaying the model's run (`none` = some line was rejected) -/
def ledgerRun (l : Ledger) (st : St) : List Op → Option Ledger
  | [] => some l
  | op :: ops =>
    match ledgerStep l (oAnswered op) (oLine (step st op)) with
    | .ok l' => ledgerRun l' (step st op) ops
    | .error _ => none

/-- **the bookkeeping equality is an invariant over arbitrary histories** -/
theorem ledgerRun_rel : ∀ (ops : List Op) (l : Ledger) (st : St), Rel l st → Y st → WF st → NoWrong st →
    ∃ l', ledgerRun l st ops = some l' ∧ Rel l' (run st ops)
  | [], l, _, hr, _, _, _ => ⟨l, rfl, hr⟩
  | op :: ops, l, st, hr, hy, hwf, hnw => by
    obtain ⟨l', h1, h2⟩ := ledger_step hr hy hwf hnw op
    obtain ⟨g, hi⟩ := inv_step st op hnw
    obtain ⟨l'', h3, h4⟩ := ledgerRun_rel ops l' (step st op) h2 (facts_step st op hy hwf).y (w_step hwf op).weaken hi.2.2
    exact ⟨l'', by simp only [ledgerRun, h1]; exact h3, by simpa [run] using h4⟩

theorem specRun_eq : ∀ (ops : List Op) (l : Ledger) (st : St), specRun l st ops = (ledgerRun l st ops).isSome
  | [], _, _ => rfl
  | op :: ops, l, st => by
    simp only [specRun, ledgerRun]
    split
    · exact specRun_eq ops _ _
    · rfl

/-- **every history**: from related states the ledger accepts every line of the model's run -/
theorem specRun_ok : ∀ (ops : List Op) (l : Ledger) (st : St), Rel l st → Y st → WF st → NoWrong st →
    specRun l st ops = true := fun ops l st hr hy hwf hnw => by
  obtain ⟨l', h, _⟩ := ledgerRun_rel ops l st hr hy hwf hnw
  rw [specRun_eq, h]; rfl

theorem noWrong_init : NoWrong {} := fun j c hp => by simp [getSub, List.lookup] at hp

end Lumina.Proofs.TxSeqLedger

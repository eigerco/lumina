/-
  `random_indexes` (C33): the transcribed loop `Lumina.Model.Daser.randLoop` / `randomIndexes`.
  For EVERY width and EVERY sequence of raw draws: if the loop exits, the result is duplicate-free,
  inside the square and has exactly `min (w², max)` elements; the whole square is returned when
  `w² ≤ max`; the loop can exit for every width (there are enough distinct cells).
  Plus the sampling-metadata bookkeeping of the store (`metaUpdate` / `metaGet`).
-/
import Lumina.Model.DaserView
import Lumina.Proofs.Util

namespace Lumina.Proofs.DaserIndexes
open Lumina.Model.Daser
open Lumina.Spec

/-- the first `n` rows -/
def rows (w n : Nat) : List Share := (List.range n).flatMap (fun r => (List.range w).map (fun c => (r, c)))

theorem rows_succ (w n : Nat) : rows w (n + 1) = rows w n ++ (List.range w).map (fun c => (n, c)) := by
  simp [rows, List.range_succ, List.flatMap_append]

theorem mem_rows (w n : Nat) (p : Share) : p ∈ rows w n ↔ p.1 < n ∧ p.2 < w := by
  simp only [rows, List.mem_flatMap, List.mem_range, List.mem_map]
  constructor
  · rintro ⟨r, hr, c, hc, rfl⟩; exact ⟨hr, hc⟩
  · rintro ⟨h1, h2⟩; exact ⟨p.1, h1, p.2, h2, rfl⟩

theorem mem_fullGrid (w : Nat) (p : Share) : p ∈ fullGrid w ↔ p.1 < w ∧ p.2 < w := mem_rows w w p

theorem length_rows (w : Nat) : ∀ n, (rows w n).length = n * w
  | 0 => by simp [rows]
  | n + 1 => by
    rw [rows_succ, List.length_append, length_rows w n, List.length_map, List.length_range, Nat.succ_mul]

theorem nodup_rows (w : Nat) : ∀ n, (rows w n).Nodup
  | 0 => by simp [rows]
  | n + 1 => by
    rw [rows_succ, List.nodup_append]
    refine ⟨nodup_rows w n, ?_, ?_⟩
    · rw [List.Nodup, List.pairwise_map]
      exact List.Pairwise.imp (fun hab h => hab (by simpa using h)) (List.nodup_range (n := w))
    · intro a ha b hb hab
      subst hab
      have h1 := ((mem_rows w n a).1 ha).1
      simp only [List.mem_map, List.mem_range] at hb
      obtain ⟨c, _, rfl⟩ := hb
      simp at h1

theorem length_fullGrid (w : Nat) : (fullGrid w).length = w * w := length_rows w w

theorem nodup_fullGrid (w : Nat) : (fullGrid w).Nodup := nodup_rows w w

theorem length_setInsert_le (acc : List Share) (p : Share) : (setInsert acc p).length ≤ acc.length + 1 := by
  unfold setInsert; split <;> simp

theorem nodup_setInsert {acc : List Share} (h : acc.Nodup) (p : Share) : (setInsert acc p).Nodup := by
  unfold setInsert
  split
  · exact h
  · rename_i hc
    rw [List.nodup_append]
    refine ⟨h, by simp, ?_⟩
    intro a ha b hb hab
    simp only [List.mem_singleton] at hb
    subst hb; subst hab
    exact hc (by simpa using ha)

theorem mem_setInsert {acc : List Share} {p q : Share} : q ∈ setInsert acc p ↔ q ∈ acc ∨ q = p := by
  unfold setInsert
  split
  · rename_i hc
    constructor
    · exact Or.inl
    · rintro (h | rfl)
      · exact h
      · simpa using hc
  · simp

theorem setInsert_of_nodup {acc l : List Share} {p : Share} (hn : (acc ++ p :: l).Nodup) :
    setInsert acc p = acc ++ [p] := by
  have hnotin : p ∉ acc := fun hin => (List.nodup_append.1 hn).2.2 p hin p (by simp) rfl
  unfold setInsert
  rw [if_neg (by simpa using hnotin)]

/-- the loop invariant: duplicate-free, in-square, at most `max` elements; at the exit exactly `max` -/
theorem randLoop_spec (w max : Nat) (hw : 0 < w) : ∀ (draws : List (Nat × Nat)) (acc out : List Share),
    acc.Nodup → (∀ p ∈ acc, p.1 < w ∧ p.2 < w) → acc.length ≤ max → randLoop w max draws acc = some out →
    out.Nodup ∧ (∀ p ∈ out, p.1 < w ∧ p.2 < w) ∧ out.length = max
  | [], acc, out, hn, hsq, hle, h => by
    simp only [randLoop] at h
    split at h
    · cases h
    · cases h; exact ⟨hn, hsq, by omega⟩
  | d :: ds, acc, out, hn, hsq, hle, h => by
    simp only [randLoop] at h
    split at h
    · rename_i hlt
      refine randLoop_spec w max hw ds _ out (nodup_setInsert hn _) ?_ ?_ h
      · intro p hp
        rcases mem_setInsert.1 hp with hp | rfl
        · exact hsq p hp
        · exact ⟨Nat.mod_lt _ hw, Nat.mod_lt _ hw⟩
      · have := length_setInsert_le acc (d.1 % w, d.2 % w); omega
    · cases h; exact ⟨hn, hsq, by omega⟩

/-- **`random_indexes`, every width, every draws**: if it returns, the indexes are distinct, inside the
    square and number `min (w², max)` -/
theorem randomIndexes_spec (w max : Nat) (draws : List (Nat × Nat)) (out : List Share)
    (h : randomIndexes w max draws = some out) :
    out.Nodup ∧ (∀ p ∈ out, p.1 < w ∧ p.2 < w) ∧ out.length = min (w * w) max := by
  unfold randomIndexes at h
  split at h
  · rename_i hle
    cases h
    exact ⟨nodup_fullGrid w, fun p hp => (mem_fullGrid w p).1 hp, by rw [length_fullGrid]; omega⟩
  · rename_i hlt
    have hw : 0 < w := by
      cases w with
      | zero => simp at hlt
      | succ k => omega
    have := randLoop_spec w max hw draws [] out List.nodup_nil (by simp) (by simp) h
    exact ⟨this.1, this.2.1, by rw [this.2.2]; omega⟩

theorem randomIndexes_small (w max : Nat) (draws : List (Nat × Nat)) (h : w * w ≤ max) :
    randomIndexes w max draws = some (fullGrid w) := by
  simp [randomIndexes, h]

theorem randLoop_of_distinct (w max : Nat) : ∀ (draws acc : List Share),
    (acc ++ draws).Nodup → (∀ p ∈ draws, p.1 < w ∧ p.2 < w) → (acc ++ draws).length = max →
    randLoop w max draws acc = some (acc ++ draws)
  | [], acc, _, _, hlen => by
    simp only [randLoop, List.append_nil] at hlen ⊢
    rw [if_neg (by omega)]
  | d :: ds, acc, hn, hsq, hlen => by
    have hd := hsq d (by simp)
    have hmod : (d.1 % w, d.2 % w) = d := by
      rw [Nat.mod_eq_of_lt hd.1, Nat.mod_eq_of_lt hd.2]
    simp only [randLoop, hmod, setInsert_of_nodup hn]
    have hl : acc.length < max := by simp at hlen; omega
    rw [if_pos hl]
    have := randLoop_of_distinct w max ds (acc ++ [d]) (by simpa using hn)
      (fun p hp => hsq p (by simp [hp])) (by simpa using hlen)
    simpa using this

/-- **the exit argument, every width**: when the square has more than `max` cells there are draws on which
    the loop exits (any `max` distinct cells), so the `while` condition can always become false -/
theorem randomIndexes_can_exit (w max : Nat) (h : max < w * w) :
    ∃ draws, (randomIndexes w max draws).isSome = true := by
  refine ⟨(fullGrid w).take max, ?_⟩
  have hlen : ((fullGrid w).take max).length = max := by
    rw [List.length_take, length_fullGrid]; omega
  have := randLoop_of_distinct w max ((fullGrid w).take max) []
    (by simpa using (nodup_fullGrid w).sublist (List.take_sublist _ _))
    (fun p hp => (mem_fullGrid w p).1 (List.mem_of_mem_take hp)) (by simpa using hlen)
  simp [randomIndexes, Nat.not_le.2 h, this]

theorem sharesOK_iff (w : Nat) (l : List Share) :
    C33.sharesOK w l = true ↔ l.Nodup ∧ (∀ p ∈ l, p.1 < w ∧ p.2 < w) ∧ l.length = min (w * w) 16 := by
  simp only [C33.sharesOK, Bool.and_eq_true, decide_eq_true_eq, List.all_eq_true, beq_iff_eq, and_assoc]

theorem sharesOK_of_randomIndexes (w : Nat) (draws : List (Nat × Nat)) (out : List Share)
    (h : randomIndexes w 16 draws = some out) : C33.sharesOK w out = true :=
  (sharesOK_iff w out).2 (randomIndexes_spec w 16 draws out h)

theorem addAll_eq (old new : List Share) : C33.addAll old new = new.foldl setInsert old := rfl

theorem foldl_setInsert_of_nodup : ∀ (l acc : List Share), (acc ++ l).Nodup → l.foldl setInsert acc = acc ++ l
  | [], acc, _ => by simp
  | p :: l, acc, hn => by
    simp only [List.foldl_cons, setInsert_of_nodup hn]
    rw [foldl_setInsert_of_nodup l (acc ++ [p]) (by simpa using hn)]
    simp

theorem mem_foldl_setInsert (l : List Share) : ∀ (acc : List Share) (q : Share),
    q ∈ l.foldl setInsert acc ↔ q ∈ acc ∨ q ∈ l := by
  induction l with
  | nil => intro acc q; simp
  | cons p l ih =>
    intro acc q
    simp only [List.foldl_cons, ih, mem_setInsert, List.mem_cons, or_assoc]

theorem metaGet_cons (k : Nat) (old : List Share) (rest : List (Nat × List Share)) (x : Nat) :
    metaGet ((k, old) :: rest) x = if k = x then old else metaGet rest x := by
  by_cases h : k = x
  · simp [metaGet, h]
  · have : (k == x) = false := by simpa using h
    simp [metaGet, h, this]

theorem metaGet_metaUpdate (h : Nat) (cids : List Share) (hn : cids.Nodup) : ∀ (m : List (Nat × List Share)),
    metaGet (metaUpdate m h cids) = C33.setRecorded (metaGet m) h (C33.addAll (metaGet m h) cids)
  | [] => by
    funext x
    simp only [metaUpdate, metaGet_cons, C33.setRecorded, addAll_eq, beq_iff_eq]
    by_cases hx : x = h
    · subst hx; simp [metaGet, foldl_setInsert_of_nodup cids [] (by simpa using hn)]
    · simp [hx, Ne.symm hx, metaGet]
  | (k, old) :: rest => by
    funext x
    have ih := congrFun (metaGet_metaUpdate h cids hn rest) x
    simp only [C33.setRecorded, beq_iff_eq, addAll_eq] at ih ⊢
    simp only [metaUpdate, beq_iff_eq]
    by_cases hk : k = h
    · subst hk
      by_cases hx : x = k
      · subst hx; simp [metaGet_cons]
      · simp [metaGet_cons, hx, Ne.symm hx]
    · by_cases hkx : k = x
      · subst hkx; simp [metaGet_cons, hk]
      · simp only [hk, if_false, metaGet_cons, hkx]; exact ih

/-- what is recorded after `update_sampling_metadata(h, cids)`: what was, and `cids` for `h` -/
theorem mem_metaGet_metaUpdate (h : Nat) {cids : List Share} (hn : cids.Nodup) (m : List (Nat × List Share)) (x : Nat)
    (p : Share) : p ∈ metaGet (metaUpdate m h cids) x ↔ p ∈ metaGet m x ∨ (x = h ∧ p ∈ cids) := by
  rw [metaGet_metaUpdate h cids hn, C33.setRecorded]
  by_cases hx : x = h
  · subst hx; simp [addAll_eq, mem_foldl_setInsert]
  · simp [hx]

theorem metaGet_filter (h : Nat) : ∀ (m : List (Nat × List Share)),
    metaGet (m.filter (fun e => e.1 != h)) = C33.setRecorded (metaGet m) h [] :=
  fun m => by
    funext x
    simp only [metaGet, C33.setRecorded, Util.find?_filter_key (fun e : Nat × List Share => e.1)]
    by_cases e : x = h <;> simp [e]

end Lumina.Proofs.DaserIndexes

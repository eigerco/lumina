/-
  The committed root of a row or column of an accepted square binds its shares (`axis_root_binds`): C09's uniqueness of the
  accepted payload and the re-encoding check of C07 both rest on it.
-/
import Lumina.Proofs.EdsCode
import Lumina.Proofs.NmtTree

namespace Lumina.Proofs.EdsBind
open Lumina.Util Lumina.Model.Nmt Lumina.Model.Eds Lumina.Model.EdsCode
open Lumina.Proofs.Nmt Lumina.Proofs.Eds Lumina.Proofs.EdsCode

/-- **the committed root of an axis binds its shares**: leaves `(ns, d)` with 29-byte namespaces whose tree has the root
    of axis `(ax, i)` of an accepted square carry that axis' shares — no collision among the byte strings `S` hashed for
    the square and for those leaves -/
theorem axis_root_binds {H : HashFn} {S : Bytes → Prop} (hk : HashOKOn H S) {ver : Nat} {X : List Bytes} {e : Eds}
    (hn : NewOK ver X e) (hE : ∀ y ∈ edsInputs H e, S y) (ax : Axis) {i : Nat} (hi : i < e.width)
    {nss full : List Bytes} (hlen : nss.length = full.length) (hns : ∀ ns ∈ nss, ns.length = NS_SIZE)
    (hL : ∀ p ∈ nss.zip full, S (leafInput p.1 p.2))
    (hT : ∀ y ∈ rootInputs H true ((List.zipWith (hashLeaf H) nss full).length + 1) (List.zipWith (hashLeaf H) nss full), S y)
    {r : NsHash} (hr : computeRoot H true (List.zipWith (hashLeaf H) nss full) = .ok r)
    (hr' : computeRoot H true ((lineCells e.width X ax i).map (Share.leafHash H)) = .ok r) :
    full = (lineCells e.width X ax i).map Share.data := by
  have hax := hn.axis ax hi
  have hA : ∀ y ∈ axisInputs H e ax i, S y := fun y hy => hE y (axisInputs_mem_eds hi hy)
  have hz : List.zipWith (hashLeaf H) nss full = (nss.zip full).map (fun p => hashLeaf H p.1 p.2) := by
    rw [List.map_zip_eq_zipWith]; rfl
  have al : AllLeafOn H S (List.zipWith (hashLeaf H) nss full) := by
    rw [hz]
    intro x hx
    obtain ⟨p, hp, rfl⟩ := List.mem_map.mp hx
    exact ⟨p.1, p.2, hns p.1 (List.of_mem_zip hp).1, rfl, hL p hp⟩
  have al' : AllLeafOn H S ((lineCells e.width X ax i).map (Share.leafHash H)) :=
    (axis_allLeafOn hax (fun sh hsh => by rw [(hn.cells i hi ax sh hsh).size]; decide)).mono hA
  have hlists := computeRoot_hash_inj_on hk (hE _ (nil_mem_edsInputs H e)) al al' hT
    (fun y hy => hA y (axis_rootInputs_mem hax hy)) hr hr' rfl
  rw [hz] at hlists
  rw [← List.map_snd_zip (Nat.le_of_eq hlen.symm)]
  exact (map_hashLeaf_inj_on hk.inj (n' := Share.ns) (d' := Share.data) hL
    (fun c hc => hA _ (axis_leafInput_mem hax hc)) hlists).2

theorem zipWith_leafHash (H : HashFn) (cs : List Share) :
    List.zipWith (hashLeaf H) (cs.map Share.ns) (cs.map Share.data) = cs.map (Share.leafHash H) := by
  rw [List.zipWith_map, List.zipWith_self]; rfl

end Lumina.Proofs.EdsBind

/-
  C38 × C35 × C25: convergence of the syncer with PRUNER REMOVALS interleaved arbitrarily.

  `Proofs/SyncerFair.lean` proves convergence under fairness (`fair_converges`) for runs in which
  nothing is ever pruned and the pruning cutoff is older than every header (`hP`, `Aux.unpruned`,
  `Aux.slow`).  Here the runs get a second kind of event, `prune h` = `Store::remove_height(h)`
  issued by the pruner, admissible when `h` satisfies the per-height safety condition that C35
  (`Props.C35.batch_safe_partial`) proves of every height of every pruner batch (`PruneSafe`: stored, outside the
  pruning window, and outside the sampling window or not bordering an unsynced gap; the
  sampled / granted conjuncts of C35 are not needed and dropped, which only enlarges the set of
  admissible removals).

  Regime of the main theorem: `hwin` — the pruning window is at least the sampling window (the
  default configuration: 7 d + 1 h vs 7 d), so a prunable header is outside the sampling window.
  In that regime
    * safe removals never remove a height of the sampling window (`stepP_keeps_window_heights`),
      every pruned height and every slow-sync height is outside the window (`Reg`),
    * neither the slow-sync throttle nor the window gate of C25 withholds a batch the
      window needs (`not_full_requestsP`, from `SyncerGate.gate_progress`),
    * the potential of `SyncerFair`, taken over SYNCED = stored ∪ pruned heights (what the
      syncer's `calculate_range_to_fetch` uses; `tracks_synced`), never increases — a removal
      leaves it unchanged — and strictly decreases at every honest answer,
  hence `fair_convergesP`.  The opposite regime (pruning window smaller than the sampling window,
  e.g. the in-memory default 0) is NOT covered: there sampled in-window heights are removed and
  the slow-sync throttle hands progress to the daser, which is outside this model.

  In either regime: `PrunedHist`, what safe removals leave behind; `SameStore`, the pruner model's and
  the syncer model's view of one store.

  Core Lean only.
-/
import Lumina.Proofs.SyncerFair
import Lumina.Model.Pruner

namespace Lumina.Proofs.ComposeSyncerPrune
open Lumina.Model.Store (Hdr)
open Lumina.Spec.C19
open Lumina.Model.SyncerLoop
open Lumina.Proofs.Store
open Lumina.Proofs.SyncerLoop
open Lumina.Proofs.SyncerFair
open Lumina.Model.SyncerGate (fetchDecision)

/-- `pruned_ranges + stored_ranges` of `fetch_next_batch`, pointwise -/
def syncedB (a : AbsStore) (h : Nat) : Bool := a.stored h || a.isPruned h

theorem synced_iff (a : AbsStore) (h : Nat) : syncedB a h = true ↔ a.stored h = true ∨ h ∈ a.pruned := by
  simp [syncedB, isPruned_iff]

/-- a removal moves a height from `stored` to `pruned`: the synced set is unchanged -/
theorem remove_synced (a : AbsStore) (h k : Nat) : syncedB (a.remove h).1 k = syncedB a k := by
  apply Bool.eq_iff_iff.2
  rw [synced_iff, synced_iff, remove_stored, remove_pruned]
  constructor
  · rintro (⟨h1, _⟩ | h1 | ⟨rfl, hs⟩)
    · exact Or.inl h1
    · exact Or.inr h1
    · exact Or.inl hs
  · rintro (h1 | h1)
    · by_cases e : k = h
      · exact Or.inr (Or.inr ⟨e, e ▸ h1⟩)
      · exact Or.inl ⟨h1, e⟩
    · exact Or.inr (Or.inl h1)

/-- a height leaves `pruned` only by becoming stored -/
theorem insert_synced_mono (v : Hdr → Hdr → Bool) (a : AbsStore) (b : List Hdr) (k : Nat)
    (hs : syncedB a k = true) : syncedB (a.insert v b).1 k = true := by
  rw [synced_iff] at hs ⊢
  rcases hs with hs | hp
  · exact Or.inl (insert_stored_mono v a b k hs)
  rcases insert_cases v a b with h | ⟨first, last, ok, h⟩ <;> rw [h]
  · exact Or.inr hp
  by_cases hb : first.height ≤ k ∧ k ≤ last.height
  · exact Or.inl ((added_stored v a b first last ok k).2 (Or.inr hb))
  · refine Or.inr (List.mem_filter.2 ⟨hp, ?_⟩)
    simp [between]
    omega

theorem insert_synced_new (v : Hdr → Hdr → Bool) (a : AbsStore) (b : List Hdr) (k : Nat)
    (h0 : syncedB a k = false) (h1 : syncedB (a.insert v b).1 k = true) :
    (a.insert v b).1.stored k = true := by
  rw [synced_iff] at h1
  rcases h1 with h1 | h1
  · exact h1
  · rw [(synced_iff a k).2 (Or.inr (insert_pruned_sub v a b k h1))] at h0
    cases h0

theorem tracks_synced : Tracks syncedB :=
  ⟨fun a k h => (synced_iff a k).2 (Or.inl h), insert_synced_mono, fun hi h k h1 h2 => by
    obtain ⟨hs, hp⟩ := request_unsynced hi h h1 h2
    cases hk : syncedB _ k with
    | false => rfl
    | true => exact ((synced_iff _ _).1 hk).elim (fun h => by rw [hs] at h; cases h) (fun h => absurd h hp)⟩

/-- the per-height safety condition of C35 (`Props/C35.lean`, `batch_safe_partial`) on the abstract store:
    stored, outside the pruning window, and outside the sampling window or not bordering a gap of
    the synced set (C35 additionally demands sampled / granted, which plays no role here) -/
def PruneSafe (e : Env) (a : AbsStore) (h : Nat) : Prop :=
  a.stored h = true ∧ e.chain.oldP h = true ∧
    (e.chain.oldS h = true ∨ (syncedB a (h - 1) = true ∧ syncedB a (h + 1) = true))

theorem pruneSafe_mono {e : Env} {a a' : AbsStore} {h : Nat} (hs : a.stored h = true → a'.stored h = true)
    (hsy : ∀ k, syncedB a k = true → syncedB a' k = true) (hp : PruneSafe e a h) : PruneSafe e a' h :=
  ⟨hs hp.1, hp.2.1, hp.2.2.imp id fun h3 => ⟨hsy _ h3.1, hsy _ h3.2⟩⟩

/-- events of the composed system: the syncer's events, and a removal by the pruner -/
inductive EvP where
  | ev (x : Ev)
  | prune (h : Nat)
deriving Repr

/-- one step: the worker's reaction to its own events; `Store::remove_height` for the pruner's
    (the worker is not notified) -/
def stepP (e : Env) (s : State) : EvP → State
  | .ev x => (step e s x).1
  | .prune h => { s with store := (s.store.remove h).1 }

def traceP (e : Env) (s0 : State) (evs : Nat → EvP) : Nat → State
  | 0 => s0
  | k + 1 => stepP e (traceP e s0 evs k) (evs k)

def runP (e : Env) : State → List EvP → State
  | s, [] => s
  | s, ev :: evs => runP e (stepP e s ev) evs

theorem runP_append (e : Env) : ∀ (l1 l2 : List EvP) (s : State), runP e s (l1 ++ l2) = runP e (runP e s l1) l2
  | [], _, _ => rfl
  | ev :: l1, l2, s => by simp only [List.cons_append, runP]; exact runP_append e l1 l2 _

/-- the network head handed over by trusted peers is inside the sampling window -/
def HeadFresh (e : Env) : Ev → Prop
  | .netHead h => e.chain.oldS h.height = false
  | _ => True

/-- admissible events: the syncer's as in C38 (`EvOk`), network heads recent; removals safe (C35) -/
def EvOkP (v : Hdr → Hdr → Bool) (c : Nat → Hdr) (e : Env) (s : State) : EvP → Prop
  | .ev x => EvOk v c s x ∧ HeadFresh e x
  | .prune h => PruneSafe e s.store h

def EvBelowP (M : Nat) : EvP → Prop
  | .ev x => EvBelow M x
  | .prune _ => True

/-- facts that hold along every run when the pruning window is at least the sampling window -/
structure Reg (e : Env) (s : State) : Prop where
  /-- once anything is stored, some stored header is inside the sampling window -/
  fresh : s.store.hdrs ≠ [] → ∃ x ∈ s.store.hdrs, e.chain.oldS x.height = false
  prunedOld : ∀ p ∈ s.store.pruned, e.chain.oldS p = true
  slowOld : ∀ h0, s.slowSync = some h0 → e.chain.oldS h0 = true
  /-- the ongoing request touches a stored header INSIDE the sampling window -/
  ongoingFresh : ∀ r, s.ongoing = some r →
    (s.store.stored (r.1 - 1) = true ∧ e.chain.oldS (r.1 - 1) = false) ∨
    (s.store.stored (r.2 + 1) = true ∧ e.chain.oldS (r.2 + 1) = false)

/-- the side conditions of `SyncerFair.Aux` that survive pruning -/
structure AuxP (M : Nat) (s : State) : Prop where
  batch : 1 ≤ s.batchSize
  below : ∀ x ∈ s.store.hdrs, x.height ≤ M
  prunedBelow : ∀ p ∈ s.store.pruned, p ≤ M
  headLe : ∀ h, s.head = some h → h ≤ M
  ongoingLe : ∀ r, s.ongoing = some r → r.2 ≤ M
  connPeers : s.phase = .connected → s.peers ≠ 0
  connHead : s.phase = .connected → ∃ h, s.head = some h

theorem AuxP.bounded {M : Nat} {s : State} (ha : AuxP M s) : Bounded M s :=
  ⟨ha.batch, ha.below, ha.headLe, ha.ongoingLe, ha.connPeers, ha.connHead⟩

section regime
variable {e : Env}
  (hwin : ∀ h, e.chain.oldP h = true → e.chain.oldS h = true)
  (hmono : ∀ h1 h2, h1 ≤ h2 → e.chain.oldS h2 = true → e.chain.oldS h1 = true)

include hwin in
theorem pruneSafe_outside_window {a : AbsStore} {h : Nat} (hp : PruneSafe e a h) : e.chain.oldS h = true :=
  hwin h hp.2.1

include hwin in
theorem remove_keeps_window {a : AbsStore} {h k : Nat} (hp : PruneSafe e a h)
    (hk : a.stored k = true) (hkw : e.chain.oldS k = false) : (a.remove h).1.stored k = true :=
  (remove_stored a h k).2 ⟨hk, fun e' => by rw [e', pruneSafe_outside_window hwin hp] at hkw; cases hkw⟩

include hmono in
theorem fresh_above {x p : Nat} (hx : e.chain.oldS x = false) (hp : e.chain.oldS p = true) : p < x :=
  Nat.lt_of_not_le fun hc => by rw [hmono x p hc hp] at hx; cases hx

include hwin in
/-- a safe removal finds something stored, hence (`Reg.fresh`) a header inside the sampling
    window, which it cannot remove -/
theorem fresh_survives {s : State} (hr : Reg e s) {h : Nat} (hp : PruneSafe e s.store h) :
    ∃ w ∈ (s.store.remove h).1.hdrs, e.chain.oldS w.height = false := by
  obtain ⟨x, hx, _⟩ := (stored_iff _ _).1 hp.1
  obtain ⟨w, hw, hwo⟩ := hr.fresh (List.ne_nil_of_mem hx)
  exact ⟨w, (remove_hdrs _ _ w).2 ⟨hw, fun hc => by
    rw [hc, pruneSafe_outside_window hwin hp] at hwo; cases hwo⟩, hwo⟩

include hwin in
theorem reg_prune {s : State} (hr : Reg e s) {h : Nat} (hp : PruneSafe e s.store h) :
    Reg e { s with store := (s.store.remove h).1 } := by
  refine ⟨fun _ => fresh_survives hwin hr hp, fun p hpp => ?_, hr.slowOld, fun r hon => ?_⟩
  · rcases (remove_pruned _ _ p).1 hpp with hpp | ⟨rfl, _⟩
    · exact hr.prunedOld p hpp
    · exact pruneSafe_outside_window hwin hp
  · exact (hr.ongoingFresh r hon).imp (fun k => ⟨remove_keeps_window hwin hp k.1 k.2, k.2⟩)
      (fun k => ⟨remove_keeps_window hwin hp k.1 k.2, k.2⟩)

include hwin hmono in
/-- the safety invariant of C38 survives a safe removal: the header that bounds an ongoing
    request and the highest stored header are inside the sampling window, hence not removable -/
theorem inv_prune {c : Nat → Hdr} {s : State} (hi : Inv c s) (hr : Reg e s) {h : Nat}
    (hp : PruneSafe e s.store h) : Inv c { s with store := (s.store.remove h).1 } := by
  have hr' := reg_prune hwin hr hp
  obtain ⟨w, hw, hwo⟩ := fresh_survives hwin hr hp
  have hne' := List.ne_nil_of_mem hw
  -- `top` and `ongoingNb` are read off `Reg` after the removal: the fresh header is above every
  -- pruned height (the old witness of `top` may be gone), the request's fresh neighbour is stored
  exact ⟨fun x hx => hi.onchain x ((remove_hdrs _ _ x).1 hx).1, remove_inv _ _ hi.abs,
    fun p hpp => ⟨w, hw, fresh_above hmono hwo (hr'.prunedOld p hpp)⟩, fun _ _ => hne', fun _ => hne',
    fun r hon => let ⟨h1, h2, _⟩ := hi.ongoingNb r hon
      ⟨h1, h2, (hr'.ongoingFresh r hon).imp And.left And.left⟩⟩

theorem auxP_prune {M : Nat} {s : State} (ha : AuxP M s) (h : Nat) :
    AuxP M { s with store := (s.store.remove h).1 } := by
  refine ⟨ha.batch, fun x hx => ha.below x ((remove_hdrs _ _ x).1 hx).1, fun p hpp => ?_, ha.headLe,
    ha.ongoingLe, ha.connPeers, ha.connHead⟩
  rcases (remove_pruned _ _ p).1 hpp with hpp | ⟨rfl, hs⟩
  · exact ha.prunedBelow p hpp
  · obtain ⟨x, hx, ex⟩ := (stored_iff _ _).1 hs
    rw [← ex]; exact ha.below x hx

include hmono in
/-- A scheduled batch touches a stored header that is INSIDE the sampling window (forward
    batch: the highest synced height, which is stored and at or above the in-window header;
    backward batch: the gate demands it), hence one the pruner cannot remove while the request is
    outstanding. -/
theorem request_fresh_neighbour {s : State} {r : Lumina.Model.Ranges.Range}
    (hi : AbsInv s.store) (htop : TopStored s.store)
    (hf : ∃ x ∈ s.store.hdrs, e.chain.oldS x.height = false)
    (h : fetchDecision e.slowMin (gateIn e s) = .ok (.request r)) :
    (s.store.stored (r.1 - 1) = true ∧ e.chain.oldS (r.1 - 1) = false) ∨
    (s.store.stored (r.2 + 1) = true ∧ e.chain.oldS (r.2 + 1) = false) := by
  obtain ⟨w, hw, hwo⟩ := hf
  obtain ⟨_, _, hn⟩ := request_neighbour hi htop (List.ne_nil_of_mem hw) h
  refine hn.imp (fun ⟨hs, habove⟩ => ⟨hs, ?_⟩) id
  have := habove w hw
  exact Lumina.Proofs.SyncerGate.not_old_of_le hmono (by omega) hwo

/-- safety invariant of C38 + regime facts + side conditions -/
structure G3 (c : Nat → Hdr) (e : Env) (M : Nat) (s : State) : Prop where
  inv : Inv c s
  reg : Reg e s
  aux : AuxP M s

theorem setHead_peers (s : State) (h : Nat) : (setHead s h).peers = s.peers := by
  obtain ⟨_, _, _, e⟩ := setHead_eq s h; rw [e]

theorem setHead_batchSize (s : State) (h : Nat) : (setHead s h).batchSize = s.batchSize := by
  obtain ⟨_, _, _, e⟩ := setHead_eq s h; rw [e]

include hmono in
/-- a fresh request is bounded by an in-window header -/
theorem reg_fetch {c : Nat → Hdr} {s : State} (hi : Inv c s) (hr : Reg e s) :
    Reg e (fetchNextBatch e s).1 := by
  rcases fetch_cases e s with ⟨hf, _⟩ | ⟨r, hdec, hf⟩ <;> rw [hf]
  · exact hr
  · obtain ⟨head, _, _, hhead, _⟩ := request_shape hi.abs hdec
    exact ⟨hr.fresh, hr.prunedOld, hr.slowOld, fun r' hr' => by
      cases hr'
      exact request_fresh_neighbour (s := s) hmono hi.abs hi.top (hr.fresh (hi.headSet head hhead)) hdec⟩

include hwin hmono in
theorem step_reg {c : Nat → Hdr} (hd : LinkDown e.verify c) (hu : LinkUp e.verify c)
    {s : State} {ev : Ev} (hi : Inv c s) (hr : Reg e s) (hok : EvOk e.verify c s ev)
    (hfr : HeadFresh e ev) : Reg e (step e s ev).1 := by
  refine step_keeps (fun s2 hre => reg_fetch hmono (hre.inv hd hu hi hok)) fun s2 f hre => ?_
  obtain ⟨h2, h3, _, h5, h6⟩ := hre.effect
  have hsub : ∀ x ∈ s.store.hdrs, x ∈ s2.store.hdrs := by
    rcases h2 with h2 | h2 <;> rw [h2]
    · exact fun _ hx => hx
    · exact insert_hdrs_sub _ _ _
  refine ⟨fun hne' => ?_, fun p hp => hr.prunedOld p ?_, fun h0 hh0 => ?_, fun r hon => ?_⟩
  · by_cases hne : s.store.hdrs = []
    · -- the store was empty: everything stored now is the network head, which is fresh
      rcases h6 with h6 | h6 | ⟨h, rfl⟩
      · rw [h6] at hne'; exact absurd hne hne'
      · exact absurd hne (hi.connected h6)
      · obtain ⟨x, hx⟩ := List.exists_mem_of_ne_nil _ hne'
        refine ⟨x, hx, ?_⟩
        rcases h2 with h2 | h2 <;> rw [h2] at hx
        · rw [hne] at hx; cases hx
        · rcases insert_hdrs_mem _ _ _ x hx with hx | hx
          · rw [hne] at hx; cases hx
          · rw [List.mem_singleton.1 hx]; exact hfr
    · obtain ⟨w, hw, hwo⟩ := hr.fresh hne
      exact ⟨w, hsub w hw, hwo⟩
  · rcases h2 with h2 | h2 <;> rw [h2] at hp
    · exact hp
    · exact insert_pruned_sub _ _ _ p hp
  · rcases h5 with h5 | ⟨l, h5⟩ <;> rw [h5] at hh0
    · exact hr.slowOld h0 hh0
    · rcases slowSyncScan_cases e.chain.oldP s.slowSync l with hc | ⟨h', hc, ho⟩ <;> rw [hc] at hh0
      · exact hr.slowOld h0 hh0
      · cases hh0; exact hwin _ ho
  · rcases h3 with h3 | h3 <;> rw [h3] at hon
    · exact (hr.ongoingFresh r hon).imp (fun k => ⟨stored_mono hsub k.1, k.2⟩) (fun k => ⟨stored_mono hsub k.1, k.2⟩)
    · cases hon

theorem step_auxP {v : Hdr → Hdr → Bool} {c : Nat → Hdr} {e : Env} {M : Nat} {s : State}
    (hi : Inv c s) (ha : AuxP M s) {ev : Ev} (hok : EvOk v c s ev) (hbl : EvBelow M ev) :
    AuxP M (step e s ev).1 := by
  have hb := step_bounded (e := e) hi ha.bounded hok hbl
  refine ⟨hb.batch, hb.below, fun p hp => ha.prunedBelow p ?_, hb.headLe, hb.ongoingLe, hb.connPeers,
    hb.connHead⟩
  rcases step_store_cases e s ev with hc | hc <;> rw [hc] at hp
  · exact hp
  · exact insert_pruned_sub _ _ _ p hp

include hwin hmono in
theorem step_g3 {c : Nat → Hdr} (hd : LinkDown e.verify c) (hu : LinkUp e.verify c)
    {M : Nat} {s : State} (hg : G3 c e M s) {ev : Ev}
    (hok : EvOk e.verify c s ev) (hfr : HeadFresh e ev) (hbl : EvBelow M ev) : G3 c e M (step e s ev).1 :=
  ⟨step_inv hd hu hg.inv hok, step_reg hwin hmono hd hu hg.inv hg.reg hok hfr,
    step_auxP hg.inv hg.aux hok hbl⟩

/-- number of heights of `[lo, hi]` that are not synced (neither stored nor pruned).  `missingS`,
    `overlapsS`, `staleS`, `phiS`, `PhiP` spell out `SyncerFair.pot` at `p = syncedB` for C38's
    statements (`PhiP_eq_Pot`, by `rfl`); nothing is proved of them directly. -/
def missingS (a : AbsStore) (lo hi : Nat) : Nat :=
  (List.range' lo (hi + 1 - lo)).countP (fun h => !syncedB a h)

/-- some height of the range is synced -/
def overlapsS (a : AbsStore) (r : Lumina.Model.Ranges.Range) : Bool :=
  (List.range' r.1 (r.2 + 1 - r.1)).any (syncedB a)

def staleS (a : AbsStore) : Option Lumina.Model.Ranges.Range → Nat
  | some r => if overlapsS a r then 1 else 0
  | none => 0

def phiS (M : Nat) (a : AbsStore) (og : Option Lumina.Model.Ranges.Range) : Nat := missingS a 1 M + staleS a og

/-- the potential: unsynced heights of `[1, M]` + staleness of the ongoing request -/
def PhiP (M : Nat) (s : State) : Nat := phiS M s.store s.ongoing

theorem PhiP_eq_Pot (M : Nat) (s : State) : PhiP M s = Pot syncedB M s := by
  unfold PhiP Pot
  cases s.ongoing <;> rfl

/-- the removed height stays synced -/
theorem PhiP_prune (e : Env) (M : Nat) (s : State) (h : Nat) : PhiP M (stepP e s (.prune h)) = PhiP M s := by
  have : syncedB (s.store.remove h).1 = syncedB s.store := funext (remove_synced s.store h)
  rw [PhiP_eq_Pot, PhiP_eq_Pot]
  show pot (syncedB (s.store.remove h).1) M s.ongoing = _
  rw [this]
  rfl

theorem step_phiP_le {v : Hdr → Hdr → Bool} {c : Nat → Hdr} {e : Env} {M : Nat} {s : State}
    (hi : Inv c s) (ha : AuxP M s) {ev : Ev} (hok : EvOk v c s ev) :
    PhiP M (step e s ev).1 ≤ PhiP M s := by
  rw [PhiP_eq_Pot, PhiP_eq_Pot]
  exact step_Pot_le tracks_synced hi ha.ongoingLe hok

/-- Every honest answer strictly decreases the potential, with pruned heights around: a request
    still disjoint from the synced set is accepted (its bounding header is still stored) and syncs
    a missing height; a stale one is replaced by a fresh one. -/
theorem honest_answer_phiP_lt {c : Nat → Hdr} {e : Env} (hc : HonestChain e.verify c) {M : Nat} (hM : M < Lumina.Model.Ranges.U64_MAX) {s : State} (hi : Inv c s)
    (ha : AuxP M s) (hph : s.phase = .connected) {r : Lumina.Model.Ranges.Range} (hon : s.ongoing = some r) :
    PhiP M (step e s (.batch (some (span c r.1 (r.2 + 1 - r.1))))).1 < PhiP M s := by
  rw [PhiP_eq_Pot, PhiP_eq_Pot]
  exact honest_answer_Pot_lt tracks_synced hc hM hi ha.ongoingLe hph hon

include hmono in
/-- **Progress with pruned heights and an armed slow-sync height.**  A connected worker without an
    ongoing batch whose window is not full schedules a request: neither the slow-sync throttle nor
    the sampling-window gate of C25 withholds a batch the window needs. -/
theorem not_full_requestsP {c : Nat → Hdr} {M : Nat} (hM : M < Lumina.Model.Ranges.U64_MAX) {s : State} (hg : G3 c e M s)
    (hph : s.phase = .connected) (hon : s.ongoing = none) {H : Nat} (hH : s.head = some H)
    (hnf : ¬ WindowFull e s.store H) : ∃ r, (fetchNextBatch e s).2 = some r := by
  obtain ⟨m, hm1, hm2, hm4, hm3⟩ := not_windowFull hnf
  have := hg.aux.headLe H hH
  exact fetch_progress hg.inv.abs hon (hg.aux.connPeers hph) hH (by omega) hg.aux.batch hmono
    hg.reg.prunedOld (fun h0 hh0 => ⟨hg.reg.slowOld h0 hh0, hg.reg.fresh (hg.inv.connected hph)⟩)
    hm1 hm2 hm3 hm4

/-- a connected worker without an outstanding request has its window full.  (With pruning,
    `SyncerFair.Busy` — "has nothing to schedule" — is NOT an invariant: a removal can open the
    slow-sync throttle for a batch outside the window; the worker then stays idle until its next
    event.  What is invariant is that nothing the WINDOW needs is left unrequested.) -/
def BusyW (e : Env) (s : State) : Prop :=
  s.phase = .connected → s.ongoing = none → ∀ H, s.head = some H → WindowFull e s.store H

include hmono in
theorem busyW_of_busy {c : Nat → Hdr} {M : Nat} (hM : M < Lumina.Model.Ranges.U64_MAX) {s : State} (hg : G3 c e M s) (hb : Busy e s) :
    BusyW e s := by
  intro hph hon H hH
  apply Classical.byContradiction
  intro hnf
  obtain ⟨r, hr⟩ := not_full_requestsP hmono hM hg hph hon hH hnf
  rw [hb hph hon] at hr
  cases hr

/-- everything the convergence argument maintains along a run with pruning -/
structure GoodP (c : Nat → Hdr) (e : Env) (M : Nat) (s : State) : Prop where
  g3 : G3 c e M s
  busy : BusyW e s

theorem good_initP (c : Nat → Hdr) (e : Env) (M bs : Nat) (hbs : 1 ≤ bs) : GoodP c e M { batchSize := bs } where
  g3 := ⟨inv_init c bs, ⟨fun h => absurd rfl h, nofun, nofun, nofun⟩,
    ⟨hbs, nofun, nofun, nofun, nofun, nofun, nofun⟩⟩
  busy := nofun

include hwin in
/-- **A stored height inside the sampling window is still stored after ANY admissible event** —
    the syncer only inserts, the pruner's safe removals are outside the window. -/
theorem stepP_keeps_window_heights {v : Hdr → Hdr → Bool} {c : Nat → Hdr} {s : State} {ev : EvP}
    (hok : EvOkP v c e s ev) {k : Nat} (hk : s.store.stored k = true) (hkw : e.chain.oldS k = false) :
    (stepP e s ev).store.stored k = true := by
  cases ev with
  | ev x => exact step_stored_mono e s x k hk
  | prune h => exact remove_keeps_window hwin hok hk hkw

include hwin hmono in
theorem stepP_good {c : Nat → Hdr} (hd : LinkDown e.verify c) (hu : LinkUp e.verify c)
    {M : Nat} (hM : M < Lumina.Model.Ranges.U64_MAX) {s : State} (hg : GoodP c e M s)
    {ev : EvP} (hok : EvOkP e.verify c e s ev) (hbl : EvBelowP M ev) : GoodP c e M (stepP e s ev) := by
  cases ev with
  | ev x =>
    have hg3 : G3 c e M (step e s x).1 := step_g3 hwin hmono hd hu hg.g3 hok.1 hok.2 hbl
    refine ⟨hg3, ?_⟩
    rcases step_busy_cases e s x with hb | hsame
    · exact busyW_of_busy hmono hM hg3 hb
    · intro hph hon H hH
      obtain ⟨hph', n, _, e1⟩ := hsame hph
      have hon' : (step e s x).1.ongoing = none := hon
      have hH' : (step e s x).1.head = some H := hH
      show WindowFull e (step e s x).1.store H
      rw [e1] at hon' hH' ⊢
      exact hg.busy hph' hon' H hH'
  | prune h =>
    refine ⟨⟨inv_prune hwin hmono hg.g3.inv hg.g3.reg hok, reg_prune hwin hg.g3.reg hok,
      auxP_prune hg.g3.aux h⟩, ?_⟩
    intro hph hon H hH m h1 h2 h3
    exact remove_keeps_window hwin hok (hg.busy hph hon H hH m h1 h2 h3) h3

/-- the worker is in `connected_event_loop` and the event it is handed is the honest answer to its
    outstanding request (if it has one) -/
def HonestAnswerAtP (c : Nat → Hdr) (s : State) (ev : EvP) : Prop :=
  s.phase = .connected ∧ ∀ r, s.ongoing = some r → ev = .ev (.batch (some (span c r.1 (r.2 + 1 - r.1))))

section run
variable {c : Nat → Hdr} {M : Nat} {s0 : State} {evs : Nat → EvP}

include hwin hmono in
theorem traceP_good (hd : LinkDown e.verify c) (hu : LinkUp e.verify c)
    (hM : M < Lumina.Model.Ranges.U64_MAX) (hg0 : GoodP c e M s0)
    (hok : ∀ k, EvOkP e.verify c e (traceP e s0 evs k) (evs k)) (hbl : ∀ k, EvBelowP M (evs k))
    (k : Nat) : GoodP c e M (traceP e s0 evs k) :=
  stays (fun k hg => stepP_good hwin hmono hd hu hM hg (hok k) (hbl k)) (Nat.zero_le k) hg0

theorem stepP_head_mono (s : State) (ev : EvP) (H : Nat) (hh : s.head = some H) :
    ∃ H', H ≤ H' ∧ (stepP e s ev).head = some H' := by
  cases ev with
  | ev x => exact step_head_mono e s x H hh
  | prune h => exact ⟨H, Nat.le_refl _, hh⟩

theorem stepP_phiP_le {v : Hdr → Hdr → Bool} (hg : GoodP c e M s0) {ev : EvP} (hok : EvOkP v c e s0 ev) :
    PhiP M (stepP e s0 ev) ≤ PhiP M s0 := by
  cases ev with
  | ev x => exact step_phiP_le hg.g3.inv hg.g3.aux hok.1
  | prune h => exact Nat.le_of_eq (PhiP_prune e M _ h)

include hwin hmono in
/-- **Convergence under fairness, with pruning.**  Along ANY infinite run of admissible events —
    the syncer's events of C38 and, interleaved arbitrarily, removals by the pruner that satisfy
    C35's safety condition — whose announced heads stay at or below `M`, if as long as the window
    up to the head is not fully stored there is always a later moment at which the connected worker
    is handed the honest answer to its outstanding request, then from every point of the run there
    is a later point at which every height of the sampling window up to the head is STORED. -/
theorem fair_convergesP (hc : HonestChain e.verify c) (hd : LinkDown e.verify c) (hu : LinkUp e.verify c)
    (hM : M < Lumina.Model.Ranges.U64_MAX) (hg0 : GoodP c e M s0)
    (hok : ∀ k, EvOkP e.verify c e (traceP e s0 evs k) (evs k)) (hbl : ∀ k, EvBelowP M (evs k))
    (hfair : ∀ i, ¬ Synced e (traceP e s0 evs i) →
      ∃ j, i ≤ j ∧ HonestAnswerAtP c (traceP e s0 evs j) (evs j)) :
    ∀ i, ∃ k, i ≤ k ∧ Synced e (traceP e s0 evs k) := by
  have hg := traceP_good hwin hmono hd hu hM hg0 hok hbl
  refine fair_converges_of (Φ := PhiP M)
    (Ans := fun j r => evs j = .ev (.batch (some (span c r.1 (r.2 + 1 - r.1)))))
    (fun k => stepP_phiP_le (hg k) (hok k))
    (fun j hph hon => let ⟨H, hH⟩ := (hg j).g3.aux.connHead hph; ⟨H, hH, (hg j).busy hph hon H hH⟩)
    (fun j r hph hon ha => ?_) hfair
  show PhiP M (stepP e (traceP e s0 evs j) (evs j)) < _
  rw [ha]
  exact honest_answer_phiP_lt hc hM (hg j).g3.inv (hg j).g3.aux hph hon

end run

end regime

/-- what the pruner's safety condition leaves behind, in EITHER window order: every pruned height is
    outside the sampling window or has a synced height directly below it (the hypothesis on pruned
    heights of `ComposeSyncerGate.window_gate_blocks_only_outside_window`) -/
def PrunedHist (e : Env) (a : AbsStore) : Prop :=
  ∀ p ∈ a.pruned, e.chain.oldS p = true ∨ syncedB a (p - 1) = true

theorem prunedHist_insert {e : Env} {a : AbsStore} (h : PrunedHist e a) (v : Hdr → Hdr → Bool) (b : List Hdr) :
    PrunedHist e (a.insert v b).1 := fun p hp =>
  (h p (insert_pruned_sub v a b p hp)).imp id (insert_synced_mono v a b _)

theorem prunedHist_remove {e : Env} {a : AbsStore} (h : PrunedHist e a) {k : Nat} (hp : PruneSafe e a k) :
    PrunedHist e (a.remove k).1 := by
  intro p hpp
  rw [remove_synced]
  rcases (remove_pruned _ _ p).1 hpp with hpp | ⟨rfl, _⟩
  · exact h p hpp
  · exact hp.2.2.imp id And.left

/-- `PrunedHist` holds along every run of syncer events and safe removals — no assumption on the
    order of the two windows, on fairness, or on the answers -/
theorem stepP_prunedHist {v : Hdr → Hdr → Bool} {c : Nat → Hdr} {e : Env} {s : State}
    (h : PrunedHist e s.store) {ev : EvP} (hok : EvOkP v c e s ev) : PrunedHist e (stepP e s ev).store := by
  cases ev with
  | ev x =>
    show PrunedHist e (step e s x).1.store
    rcases step_store_cases e s x with hc | hc <;> rw [hc]
    · exact h
    · exact prunedHist_insert h _ _
  | prune k => exact prunedHist_remove h hok

/-!
  The relation between the pruner model's view of the store (`PStore`: the three `BlockRanges`,
  header times) and the syncer model's (`AbsStore`, time classes `oldS` / `oldP`) under which
  every height of a batch the pruner model of C35 produces is an admissible `prune` event above
  (`Props.C38.pruner_batches_are_admissible_removals`; the regime hypotheses from the cutoffs:
  `Props.C38.regime_from_cutoffs`). -/

section pruner
open Lumina.Model.Ranges (mem)
open Lumina.Model.Pruner (PStore)

/-- the pruner's store view and the syncer model's store describe the same store and cutoffs -/
structure SameStore (ps : PStore) (sc pc : Nat) (e : Env) (a : AbsStore) : Prop where
  stored : ∀ h, mem ps.stored h ↔ a.stored h = true
  pruned : ∀ h, mem ps.pruned h ↔ h ∈ a.pruned
  oldS : ∀ h, e.chain.oldS h = decide (ps.time h ≤ sc)
  oldP : ∀ h, e.chain.oldP h = decide (ps.time h ≤ pc)

theorem SameStore.synced {ps : PStore} {sc pc : Nat} {e : Env} {a : AbsStore} (h : SameStore ps sc pc e a)
    (x : Nat) : syncedB a x = true ↔ mem ps.stored x ∨ mem ps.pruned x := by
  rw [synced_iff, ← h.stored, ← h.pruned]

end pruner

end Lumina.Proofs.ComposeSyncerPrune

/-
  Definitions and lemmas for C04 (samples): observed verdicts (`accepted`), the square as the spec sees it (`rawSquare`),
  what `ExtendedDataSquare::new` guarantees (`ValidSquare`), the position check that `Sample::verify` and one iteration
  of the bad-encoding loop share (`PosChecked`: an accepted one pins the share, `posChecked_sound`), honest samples
  decode to themselves and verify (`fromRaw_toRaw_honest`, `sample_complete_core`); the toy hash `toySum` of the
  non-vacuity examples of C04–C07, C10 and C33, with the form in which the kernel evaluates it (`toySum_eq_lanes`,
  `noCollOn_of_codes`).
-/
import Lumina.Proofs.AxisTree
import Lumina.Proofs.Util
import Lumina.Model.Sample
import Lumina.Spec.C04

namespace Lumina.Proofs.Sample
open Lumina.Util Lumina.Model.Nmt Lumina.Model.Eds Lumina.Model.Sample
open Lumina.Proofs.Nmt Lumina.Proofs.NmtRange Lumina.Proofs.Eds Lumina.Spec.C04

/-- observed verdict of a verification -/
def accepted {ε} (r : Except ε Unit) : Bool :=
  match r with
  | .ok _ => true
  | .error _ => false

/-- a computation seen to succeed returns the value that a concrete instance extracts from it by `match` (seeing that
    takes no more than its outermost constructor) -/
theorem eq_ok_of_isOk {ε α} [Inhabited α] {x : Except ε α} (h : x.isOk = true) :
    x = .ok (match x with | .ok a => a | .error _ => default) := by
  cases x with
  | ok a => rfl
  | error e => cases h

/-- the square as the spec sees it: the plain row-major list of share byte strings -/
def rawSquare (e : Eds) : List Bytes := e.shares.map Share.data

theorem new_ok {H : HashFn} {e : Eds} {row col : Nat} {ax : Axis} {s : Sample}
    (h : Lumina.Model.Sample.new H e row col ax = .ok s) : s.proofType = ax ∧ e.share? row col = some s.share := by
  unfold Lumina.Model.Sample.new at h
  cases hsh : e.share? row col with
  | none => simp [hsh] at h
  | some share =>
    simp only [hsh] at h
    split at h
    · cases h
    · split at h
      · cases h
      · cases h
        exact ⟨rfl, rfl⟩

/-- the share `(ns, d)` claimed for the cell `(row, col)` and proven along `pa`: the header has a root for the tree of `pa`
    through the cell, the proof starts at the cell's position on that tree, and the range proof verifies -/
def PosChecked (H : HashFn) (dah : Dah) (pa : Axis) (row col : Nat) (proof : NsProof) (d ns : Bytes) : Prop :=
  ∃ root leafIdx, (match pa with
      | .row => (dah.rowRoot? row, col)
      | .col => (dah.colRoot? col, row)) = (some root, leafIdx) ∧
    proof.start = leafIdx ∧ luminaVerifyRange H proof root [d] ns = .ok ()

theorem verify_ok_iff {H : HashFn} {s : Sample} {row col : Nat} {dah : Dah} :
    verify H s row col dah = .ok () ↔ (dah.rowRoot? row).isSome ∧ (dah.colRoot? col).isSome ∧
      PosChecked H dah s.proofType row col s.proof s.share.data s.share.ns := by
  unfold verify PosChecked
  -- the `match` on both roots reduces only once both are cased
  rcases dah.rowRoot? row with _ | rr <;> rcases dah.colRoot? col with _ | cr <;> try (simp; done)
  cases s.proofType <;>
  · simp only [Util.guard_ok_iff, Option.isSome_some, true_and, Prod.mk.injEq, Option.some.injEq, ne_eq, Decidable.not_not]
    constructor
    · rintro ⟨hst, h⟩
      refine ⟨_, _, ⟨rfl, rfl⟩, hst, ?_⟩
      split at h
      · assumption
      · cases h
    · rintro ⟨_, _, ⟨rfl, rfl⟩, hst, hv⟩
      exact ⟨hst, by rw [hv]⟩

/-- **a share that passes the position check is the square's share of that cell** — provided the hash has no collision
    among the byte strings hashed for the square (`edsInputs`), for the leaf and by the verification of the proof -/
theorem posChecked_sound {H : HashFn} {S : Bytes → Prop} (hk : HashOKOn H S) {e : Eds} {j : Nat} (hw : e.width = 2 ^ j)
    (hsz : ∀ sh ∈ e.shares, NS_SIZE ≤ sh.data.length) {dah : Dah} (hd : Dah.ofEds H e = .ok dah) {pa : Axis} {row col : Nat}
    (hr : row < e.width) (hc : col < e.width) {proof : NsProof} {d ns : Bytes} (hns : ns.length = NS_SIZE)
    (hsib : ∀ p ∈ proof.siblings, p.WF) (hE : ∀ y ∈ edsInputs H e, S y) (hLf : S (leafInput ns d))
    (hV : ∀ y ∈ proofInputs H proof.ignoreMaxNs [hashLeaf H ns d] proof.siblings proof.start, S y)
    (h : PosChecked H dah pa row col proof d ns) : ∃ sh, e.share? row col = some sh ∧ sh.data = d ∧ sh.ns = ns := by
  obtain ⟨root, leafIdx, hsel, hst, hvr⟩ := h
  have hv := Lumina.Proofs.NmtRange.luminaVerifyRange_ok hvr
  cases pa with
  | row =>
    obtain ⟨hroot, rfl⟩ := Prod.mk.inj hsel
    obtain ⟨_, T⟩ := axisTree_of_root ((dah_root?_iff (ax := .row) hd).mp hroot).2
    exact T.cell_sound_on hk hw hsz (fun y hy => hE y (axisInputs_mem_eds hr hy)) hc hns hsib hLf hV hv hst
  | col =>
    obtain ⟨hroot, rfl⟩ := Prod.mk.inj hsel
    obtain ⟨_, T⟩ := axisTree_of_root ((dah_root?_iff (ax := .col) hd).mp hroot).2
    exact T.cell_sound_on hk hw hsz (fun y hy => hE y (axisInputs_mem_eds hc hy)) hr hns hsib hLf hV hv hst

/-- what `ExtendedDataSquare::new` guarantees about a square, as far as sampling is concerned: power-of-two
    width `2^k` (1 ≤ k ≤ 16: the width is a `u16` ≥ 2), every share 512 bytes, parity flag set from the quadrant,
    original-data shares carry a valid namespace -/
structure ValidSquare (e : Eds) (k : Nat) : Prop where
  width : e.width = 2 ^ k
  kpos : 1 ≤ k
  kle : k ≤ 16
  flags : ∀ r c sh, r < e.width → c < e.width → e.share? r c = some sh → sh.isParity = !isOdsSquare r c e.width
  size : ∀ sh ∈ e.shares, sh.data.length = SHARE_SIZE
  ns : ∀ sh ∈ e.shares, sh.isParity = false → ∃ n, Lumina.Model.Namespace.fromRaw (sh.data.take NS_SIZE) = .ok n

theorem ValidSquare.hsz {e : Eds} {k : Nat} (hv : ValidSquare e k) : ∀ sh ∈ e.shares, NS_SIZE ≤ sh.data.length :=
  fun sh hm => by rw [hv.size sh hm]; decide

/-- a 512-byte share flagged by `q` (original data iff `q`), with a valid namespace when it is original data, is what
    the decoders make of its bytes -/
theorem share_reparse {sh : Share} {q : Prop} [Decidable q] (hsz : sh.data.length = SHARE_SIZE)
    (hp : sh.isParity = !decide q)
    (hns : sh.isParity = false → ∃ n, Lumina.Model.Namespace.fromRaw (sh.data.take NS_SIZE) = .ok n) :
    (if q then shareFromRaw sh.data else shareParity sh.data) = .ok sh := by
  by_cases hq : q
  · have hpar : sh.isParity = false := by simp [hp, hq]
    obtain ⟨n, hn⟩ := hns hpar
    simp only [hq, ↓reduceIte, shareFromRaw, hsz, ne_eq, not_true_eq_false, hn]
    cases sh with
    | mk d p => simp at hpar; subst hpar; rfl
  · have hpar : sh.isParity = true := by simp [hp, hq]
    simp only [hq, ↓reduceIte, shareParity, hsz, ne_eq, not_true_eq_false]
    cases sh with
    | mk d p => simp at hpar; subst hpar; rfl

/-- decoding what `From<Sample> for RawSample` produced for an honest single-leaf sample gives the sample back -/
theorem fromRaw_toRaw_honest {e : Eds} {k : Nat} (hv : ValidSquare e k) {row col leafIdx : Nat}
    (hr : row < e.width) (hc : col < e.width) (hli : leafIdx < e.width) {sh : Share} (hsh : e.share? row col = some sh)
    {sibs : List NsHash} (hw : ∀ p ∈ sibs, p.WF) (hs : sibs.length = k) (ax : Axis) :
    fromRaw row col (toRaw ⟨ax, sh, ⟨leafIdx, leafIdx + 1, sibs, true, false, none⟩⟩) =
      .ok ⟨ax, sh, ⟨leafIdx, leafIdx + 1, sibs, true, false, none⟩⟩ := by
  have hmem : sh ∈ e.shares := List.mem_of_getElem? hsh
  have hk16 : (2:Nat) ^ k ≤ 2 ^ 16 := Nat.pow_le_pow_right (by omega) hv.kle
  have hw' := hv.width
  have hm1 : leafIdx % 4294967296 = leafIdx := Nat.mod_eq_of_lt (by omega)
  have hm2 : (leafIdx + 1) % 4294967296 = leafIdx + 1 := Nat.mod_eq_of_lt (by omega)
  have hflag := hv.flags row col sh hr hc hsh
  have htl : NsProof.totalLeaves ⟨leafIdx, leafIdx + 1, sibs, true, false, none⟩ = .ok (some (2 ^ k)) := by
    unfold NsProof.totalLeaves
    have : leafIdx + 1 - leafIdx = 1 := by omega
    have h64 : ¬ (k ≥ 64) := by have := hv.kle; omega
    simp only [this, ↓reduceIte, hs, h64]
  have hsh' := share_reparse (q := row < e.width / 2 ∧ col < e.width / 2) (hv.size sh hmem)
    (by rw [hflag]; simp [isOdsSquare]) (hv.ns sh hmem)
  cases ax <;>
    simp only [fromRaw, toRaw, Bool.false_eq_true, ↓reduceIte, NsProof.ofRaw, parseNodes_toBytes hw, List.isEmpty_nil,
      hm1, hm2, Int.reduceEq, htl, ← hw', hsh']

/-- the model's `Sample::new` at a cell of a valid square whose DAH exists (every axis tree exists): its sample decodes to
    itself, verifies and carries the cell's share; the proof it builds consists of well-formed nodes (that last part is
    what `sample_sound` asks of a sample, so the non-vacuity instance of C04 takes it from here) -/
theorem sample_complete_wf {H : HashFn} (hlen : HashLen H) {e : Eds} {k : Nat} (hv : ValidSquare e k)
    {dah : Dah} (hd : Dah.ofEds H e = .ok dah) (row col : Nat) (hr : row < e.width) (hc : col < e.width) (ax : Axis) :
    ∃ s, Lumina.Model.Sample.new H e row col ax = .ok s ∧ fromRaw row col (toRaw s) = .ok s ∧
      verify H s row col dah = .ok () ∧ e.share? row col = some s.share ∧ ∀ p ∈ s.proof.siblings, p.WF := by
  obtain ⟨_, rr, hrr, _⟩ := dah_axisTree hd .row hr
  obtain ⟨_, cr, hcr, _⟩ := dah_axisTree hd .col hc
  have hrr : dah.rowRoot? row = some rr := hrr
  have hcr : dah.colRoot? col = some cr := hcr
  have hw := hv.width
  have hk16 : (2:Nat) ^ k ≤ 2 ^ 16 := Nat.pow_le_pow_right (by omega) hv.kle
  have hsz := hv.hsz
  -- generic part, for the axis tree `t` and the leaf `l` on it
  have core : ∀ (t l : Nat) (root : NsHash), l < e.width → dah.root? ax t = some root → axisCoord ax t l = (row, col) →
      ∃ sh sibs, e.share? row col = some sh ∧
        Lumina.Model.Sample.new H e row col ax = .ok ⟨ax, sh, ⟨l, l + 1, sibs, true, false, none⟩⟩ ∧
        sibs.length = k ∧ (∀ p ∈ sibs, p.WF) ∧
        luminaVerifyRange H ⟨l, l + 1, sibs, true, false, none⟩ root [sh.data] sh.ns = .ok () := by
    intro t l root hl hroot hcoord
    obtain ⟨shares, T⟩ := axisTree_of_root ((dah_root?_iff hd).mp hroot).2
    obtain ⟨sh, hsh, hshi⟩ := T.get hl
    rw [hcoord] at hsh
    have hrun : (shares.drop l).take (l + 1 - l) = [sh] := by
      rw [Nat.add_sub_cancel_left, List.take_one, List.head?_drop, hshi]; rfl
    obtain ⟨sibs, hb, hlv⟩ := T.range_complete hsz (by omega) (Nat.lt_succ_self l) hl (ns := sh.ns)
      (by rw [hrun]; intro x hx; rw [List.mem_singleton.mp hx])
    rw [hrun] at hlv
    -- the tree is perfect: `k` siblings, the roots of segments of well-formed leaves
    have hL : (shares.map (Share.leafHash H)).length = 2 ^ k := by rw [List.length_map, T.length, hw]
    obtain ⟨pl, pr, hb', hs, hsl, hsr, _⟩ := range_single_complete_segs (idx := l) (by have := hv.kle; omega) hL T.root
      (by omega) (x := sh.leafHash H) (by rw [List.getElem?_map, hshi]; rfl)
    rw [hb] at hb'; cases hb'
    have wl := T.leavesWF hlen hsz
    have hwf : ∀ p ∈ pl ++ pr, p.WF := fun p hp => (List.mem_append.mp hp).elim
      (hsl.WF hlen (fun x hx => wl x (List.mem_of_mem_take hx)) p) (hsr.WF hlen (fun x hx => wl x (List.mem_of_mem_drop hx)) p)
    refine ⟨sh, pl ++ pr, hsh, ?_, hs, hwf, hlv⟩
    cases ax <;> cases hcoord <;> simp only [Lumina.Model.Sample.new, hsh, T.leafHashes, hb]
  cases ax with
  | row =>
    obtain ⟨sh, sibs, hsh, hnew, hs, hwf, hlv⟩ := core row col rr hc hrr rfl
    exact ⟨_, hnew, fromRaw_toRaw_honest hv hr hc hc hsh hwf hs .row, by simp [verify, hrr, hcr, hlv], hsh, hwf⟩
  | col =>
    obtain ⟨sh, sibs, hsh, hnew, hs, hwf, hlv⟩ := core col row cr hr hcr rfl
    exact ⟨_, hnew, fromRaw_toRaw_honest hv hr hc hr hsh hwf hs .col, by simp [verify, hrr, hcr, hlv], hsh, hwf⟩

/-- `sample_complete_wf` without the well-formedness of the proof nodes -/
theorem sample_complete_core {H : HashFn} (hlen : HashLen H) {e : Eds} {k : Nat} (hv : ValidSquare e k)
    {dah : Dah} (hd : Dah.ofEds H e = .ok dah) (row col : Nat) (hr : row < e.width) (hc : col < e.width) (ax : Axis) :
    ∃ s, Lumina.Model.Sample.new H e row col ax = .ok s ∧ fromRaw row col (toRaw s) = .ok s ∧
      verify H s row col dah = .ok () ∧ e.share? row col = some s.share :=
  let ⟨s, h1, h2, h3, h4, _⟩ := sample_complete_wf hlen hv hd row col hr hc ax
  ⟨s, h1, h2, h3, h4⟩

/-- inputs hashed while `Sample::verify` checks this sample: the leaf preimage and the `hash_nodes` calls of
    `check_range_proof` -/
def sampleInputs (H : HashFn) (s : Sample) : List Bytes :=
  leafInput s.share.ns s.share.data ::
    proofInputs H s.proof.ignoreMaxNs [hashLeaf H s.share.ns s.share.data] s.proof.siblings s.proof.start

/-- a toy 32-byte hash: byte `j` of the digest is the sum (mod 256) of `byte + 1` over the input positions ≡ j (mod 32).
    Of course it has collisions; it has none among the few inputs of the concrete examples (checked by `decide`). -/
def toySum : HashFn := fun x =>
  (x.foldl (fun (st : List UInt8 × Nat) b => (st.1.set (st.2 % 32) (st.1.getD (st.2 % 32) 0 + b + 1), st.2 + 1))
    (List.replicate 32 0, 0)).1

theorem toySum_len : HashLen toySum := by
  intro x
  unfold toySum
  have : ∀ (l : List UInt8) (st : List UInt8 × Nat), st.1.length = 32 →
      (l.foldl (fun (st : List UInt8 × Nat) b => (st.1.set (st.2 % 32) (st.1.getD (st.2 % 32) 0 + b + 1), st.2 + 1)) st).1.length = 32 := by
    intro l
    induction l with
    | nil => intro st h; exact h
    | cons a t ih => intro st h; exact ih _ (by simp [h])
  exact this x _ (by simp)

/-- inputs that all occur in a collision-free list already may be appended to it (an honest verifier hashes what the
    builder of the tree hashed) -/
theorem noCollOn_append_of_all {H : HashFn} {l m : List Bytes} (h : NoCollOn H (fun y => y ∈ l))
    (hm : m.all (fun y => decide (y ∈ l)) = true) : NoCollOn H (fun y => y ∈ l ++ m) :=
  h.mono fun y hy => (List.mem_append.mp hy).elim id fun hy => by simpa using List.all_eq_true.mp hm y hy

/-- a byte string as a number, injectively (base-257 digits `byte + 1`): the kernel compares numbers in one step -/
def bytesCode (a : Bytes) : Nat := a.foldr (fun b n => b.toNat + 1 + 257 * n) 0

theorem bytesCode_inj : ∀ {a b : Bytes}, bytesCode a = bytesCode b → a = b
  | [], [], _ => rfl
  | [], y :: b, h => by simp only [bytesCode, List.foldr] at h; omega
  | x :: a, [], h => by simp only [bytesCode, List.foldr] at h; omega
  | x :: a, y :: b, h => by
    have hx := x.toNat_lt; have hy := y.toNat_lt
    simp only [bytesCode, List.foldr] at h
    rw [UInt8.toNat_inj.mp (show x.toNat = y.toNat by omega), bytesCode_inj (a := a) (b := b) (by unfold bytesCode; omega)]

/-- collision-freeness on an explicit list is decidable; every input and every digest is turned into a number once -/
theorem noCollOn_of_codes {H : HashFn} {l : List Bytes}
    (h : (l.map fun a => (bytesCode (H a), bytesCode a)).all (fun p =>
      (l.map fun a => (bytesCode (H a), bytesCode a)).all (fun q => p.1 != q.1 || p.2 == q.2)) = true) :
    NoCollOn H (fun y => y ∈ l) := by
  intro a b ha hb hab
  have := List.all_eq_true.mp (List.all_eq_true.mp h _ (List.mem_map_of_mem ha)) _ (List.mem_map_of_mem hb)
  exact bytesCode_inj (by simpa [hab] using this)

/-- `toySum` in a form the kernel evaluates in one pass over the input: the 32 digest bytes are kept as unreduced
    numbers in a queue that is rotated once per input byte (`f`: the bytes still to be visited in this round of 32,
    `b`: those already visited, reversed).  In `toySum` itself every `List.set` is a suspended computation on top of the
    previous one, which costs the kernel about ten times as much. -/
def toyLanes : List UInt8 → List Nat → List Nat → List Nat
  | [], f, b => b.reverse ++ f
  | x :: xs, [a], b => toyLanes xs ((a + x.toNat + 1) :: b).reverse []
  | x :: xs, a :: f, b => toyLanes xs f ((a + x.toNat + 1) :: b)
  | _ :: _, [], b => b.reverse

theorem toyLanes_foldl (xs : List UInt8) : ∀ (f b : List Nat) (p : Nat), b.length = p % 32 → b.length + f.length = 32 →
    (xs.foldl (fun (st : List UInt8 × Nat) b => (st.1.set (st.2 % 32) (st.1.getD (st.2 % 32) 0 + b + 1), st.2 + 1))
      ((b.reverse ++ f).map UInt8.ofNat, p)).1 = (toyLanes xs f b).map UInt8.ofNat := by
  induction xs with
  | nil => intro f b p _ _; rfl
  | cons x xs ih =>
    intro f b p hb hl
    match f, hl with
    | [], hl => simp only [List.length_nil] at hl; omega
    | [a], hl =>
      simp only [List.length_cons, List.length_nil] at hl
      simp only [List.foldl_cons, toyLanes]
      rw [← ih _ [] (p + 1) (by simp only [List.length_nil]; omega) (by simp; omega), ← hb]
      simp [UInt8.ofNat_add]
    | a :: c :: f, hl =>
      simp only [List.length_cons] at hl
      simp only [List.foldl_cons, toyLanes]
      rw [← ih (c :: f) (_ :: b) (p + 1) (by simp only [List.length_cons]; omega) (by simp only [List.length_cons]; omega), ← hb]
      simp [UInt8.ofNat_add]

/-- rewrite with this before evaluating a statement about `toySum` on concrete inputs -/
theorem toySum_eq_lanes : toySum = fun x => (toyLanes x (List.replicate 32 0) []).map UInt8.ofNat :=
  funext fun x => toyLanes_foldl x (List.replicate 32 0) [] 0 rfl rfl

end Lumina.Proofs.Sample

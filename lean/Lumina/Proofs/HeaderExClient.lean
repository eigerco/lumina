/-
  What `decode_and_verify_responses` accepts (Props/C28; Props/C27 through `Proofs/HeaderRange`): the decoding loop
  returns the maximal good prefix (`decodeLoop_eq`), so acceptance is the size check plus `shape` of the sorted
  prefix (`ok_iff`), which in the spec's terms is `wellFormed` of that prefix (`ok_iff_wellFormed`, `obs_eq`).
-/
import Lumina.Model.HeaderExClient
import Lumina.Model.HeaderExClientView
import Lumina.Proofs.InsertSort

namespace Lumina.Proofs.HeaderExClient
open Lumina.Model.HeaderExClient Lumina.Proofs.InsertSort
open Lumina.Spec.C28 (Kind Entry validatedOf acceptable wellFormed perfect sortH insertH)

/-- validated OK entries of a response list, in order -/
def validated (resps : List Resp) : List Hdr :=
  resps.filterMap (fun r => if r.status = 1 then r.decoded else none)

/-- entry is OK and its body validated -/
def goodB (r : Resp) : Bool := decide (r.status = 1) && r.decoded.isSome

theorem toValidated_ok (r : Resp) (h : Hdr) :
    toValidated r = .ok h ↔ r.status = 1 ∧ r.decoded = some h := by
  unfold toValidated
  by_cases h1 : r.status = 1
  · simp only [h1, ↓reduceIte, true_and]
    cases r.decoded <;> simp
  · simp only [h1, ↓reduceIte, false_and, iff_false]
    split <;> simp

theorem validated_cons_ok (r : Resp) (rs : List Resp) (h : Hdr) (hv : toValidated r = .ok h) :
    validated (r :: rs) = h :: validated rs := by
  obtain ⟨h1, h2⟩ := (toValidated_ok r h).mp hv
  simp [validated, h1, h2]

theorem mem_validated {resps : List Resp} {x : Hdr} :
    x ∈ validated resps ↔ ∃ r ∈ resps, r.status = 1 ∧ r.decoded = some x := by
  simp only [validated, List.mem_filterMap, Option.ite_none_right_eq_some]

theorem mem_validated_cons (r : Resp) (rs : List Resp) (x : Hdr) (hx : x ∈ validated rs) :
    x ∈ validated (r :: rs) := by
  obtain ⟨r', hr', h⟩ := mem_validated.mp hx
  exact mem_validated.mpr ⟨r', List.mem_cons_of_mem _ hr', h⟩

theorem toValidated_of_good {r : Resp} (h : goodB r = true) : ∃ x, toValidated r = .ok x := by
  simp only [goodB, Bool.and_eq_true, decide_eq_true_eq] at h
  obtain ⟨x, hx⟩ := Option.isSome_iff_exists.mp h.2
  exact ⟨x, (toValidated_ok r x).mpr ⟨h.1, hx⟩⟩

theorem toValidated_of_bad {r : Resp} (h : goodB r = false) : ∃ e, toValidated r = .error e := by
  cases hv : toValidated r with
  | error e => exact ⟨e, rfl⟩
  | ok x =>
    obtain ⟨h1, h2⟩ := (toValidated_ok r x).mp hv
    simp [goodB, h1, h2] at h

theorem takeWhile_eq_self {α : Type} {p : α → Bool} {l : List α} (h : ∀ x ∈ l, p x = true) :
    l.takeWhile p = l := by
  induction l with
  | nil => rfl
  | cons x xs ih =>
    rw [List.takeWhile_cons_of_pos (h x (List.mem_cons_self ..)),
      ih (fun y hy => h y (List.mem_cons_of_mem _ hy))]

/-- unless it meets a bad first entry with nothing decoded yet (then it fails with that entry's
    error), the decoding loop returns what it had plus the maximal good prefix -/
theorem decodeLoop_eq (resps : List Resp) :
    ∀ acc, (acc = [] → ∀ r ∈ resps.head?, goodB r = true) →
      decodeLoop resps acc = .ok (acc ++ validated (resps.takeWhile goodB)) := by
  induction resps with
  | nil => intro acc _; simp [decodeLoop, validated]
  | cons r rs ih =>
    intro acc h
    cases hg : goodB r with
    | true =>
      obtain ⟨x, hx⟩ := toValidated_of_good hg
      simp only [decodeLoop, hx, List.takeWhile_cons_of_pos hg, validated_cons_ok r _ x hx]
      rw [ih (acc ++ [x]) (by simp)]
      simp
    | false =>
      obtain ⟨e, he⟩ := toValidated_of_bad hg
      have hacc : acc.isEmpty = false := by
        cases acc with
        | nil => simp [hg] at h
        | cons _ _ => rfl
      simp [decodeLoop, he, hacc, hg, validated]

theorem insertByHeight_isInsert : IsInsert (fun a b : Hdr => a.height ≤ b.height) Never insertByHeight :=
  ⟨fun _ => rfl, fun _ _ _ => rfl⟩

theorem sortByHeight_eq : ∀ l, sortByHeight l = l.foldr insertByHeight []
  | [] => rfl
  | x :: xs => congrArg (insertByHeight x) (sortByHeight_eq xs)

theorem sortByHeight_perm (l : List Hdr) : (sortByHeight l).Perm l :=
  sortByHeight_eq l ▸ insertByHeight_isInsert.foldr_perm l

theorem sortByHeight_id (l : List Hdr) (h : l.Pairwise (fun a b => a.height ≤ b.height)) :
    sortByHeight l = l :=
  (sortByHeight_eq l).trans (insertByHeight_isInsert.foldr_id l h)

/-- besides the heights, the check refuses a height beyond `u64::MAX` -/
theorem heightsMatchFrom_iff (hs : List Hdr) : ∀ start, heightsMatchFrom start hs = true ↔
    (∀ h ∈ hs, h.height ≤ U64_MAX) ∧ hs.map (·.height) = List.range' start hs.length := by
  induction hs with
  | nil => intro _; simp [heightsMatchFrom]
  | cons h hs ih =>
    intro start
    simp only [heightsMatchFrom, Bool.and_eq_true, decide_eq_true_eq, ih, List.forall_mem_cons, List.map_cons,
      List.length_cons, List.range'_succ, List.cons.injEq]
    constructor
    · rintro ⟨⟨h1, h2⟩, h3, h4⟩; exact ⟨⟨h2 ▸ h1, h3⟩, h2, h4⟩
    · rintro ⟨⟨h1, h3⟩, h2, h4⟩; exact ⟨⟨h2 ▸ h1, h2⟩, h3, h4⟩

theorem range'_heights_ascending (hs : List Hdr) (start : Nat)
    (h : hs.map (·.height) = List.range' start hs.length) :
    hs.Pairwise (fun a b => a.height ≤ b.height) := by
  have : (hs.map (·.height)).Pairwise (· < ·) := by rw [h]; exact List.pairwise_lt_range'
  rw [List.pairwise_map] at this
  exact this.imp (fun hab => Nat.le_of_lt hab)

theorem insertH_isInsert :
    IsInsert (fun a b : Hdr => a.height ≤ b.height) Never (Lumina.Spec.C28.insertH (·.height)) :=
  ⟨fun _ => rfl, fun _ _ _ => rfl⟩

theorem sortH_eq : ∀ l : List Hdr, Lumina.Spec.C28.sortH (·.height) l = sortByHeight l
  | [] => rfl
  | x :: xs => by
    rw [Lumina.Spec.C28.sortH, sortByHeight, sortH_eq xs]
    exact insertH_isInsert.ext insertByHeight_isInsert x _

/-- the last check of `decode_and_verify_responses`: what the request demands of the sorted headers, written along
    the spec's request kinds so that it lines up with `acceptable` -/
def shape (d : ReqData) (hs : List Hdr) : Bool :=
  match toKind d with
  | .height start => !hs.isEmpty && heightsMatchFrom start hs
  | .head => decide (hs.length = 1)
  | .hash h => decide (hs.length = 1) && hs.all (·.hash == h)
  | .none => false

theorem decodeAndVerify_eq (req : Request) (resps : List Resp) :
    decodeAndVerify req resps =
      if resps = [] ∨ req.amount < resps.length then .err .invalidResponse
      else match decodeLoop resps [] with
        | .error e => .err e
        | .ok headers =>
          if shape req.data (sortByHeight headers) then .ok (sortByHeight headers)
          else .err .invalidResponse := by
  obtain ⟨d, amount⟩ := req
  cases resps with
  | nil => rfl
  | cons r rs =>
    by_cases hl : amount < (r :: rs).length
    · simp only [decodeAndVerify, decodeAndVerifyG, List.isEmpty_cons, Bool.false_eq_true, ↓reduceIte,
        gt_iff_lt, hl, or_true]
    · simp only [decodeAndVerify, decodeAndVerifyG, List.isEmpty_cons, Bool.false_eq_true, ↓reduceIte,
        gt_iff_lt, hl, reduceCtorEq, or_self]
      cases decodeLoop (r :: rs) [] with
      | error e => rfl
      | ok headers =>
        dsimp only
        generalize sortByHeight headers = hs
        cases d with
        | none => rfl
        | origin start =>
          by_cases h0 : start = 0
          · simp only [shape, toKind, h0, ↓reduceIte, decide_eq_true_eq]
          · cases hs with
            | nil => simp only [shape, toKind, h0, ↓reduceIte, List.length_nil]; rfl
            | cons x xs =>
              simp only [shape, toKind, h0, ↓reduceIte, List.length_cons, Nat.add_one_ne_zero, List.isEmpty_cons,
                Bool.not_false, Bool.true_and]
        | hash h len =>
          match hs with
          | [] | _ :: _ :: _ => rfl
          | [x] =>
            simp only [shape, toKind, List.length_singleton, decide_true, List.all_cons, List.all_nil,
              Bool.and_true, Bool.true_and, beq_iff_eq]

/-- **what is accepted**: the response is not oversized, its first entry is good, and the good
    prefix (what the loop decodes), sorted, passes the last check -/
theorem ok_iff (req : Request) (resps : List Resp) (hs : List Hdr) :
    decodeAndVerify req resps = .ok hs ↔
      resps.length ≤ req.amount ∧ resps.takeWhile goodB ≠ [] ∧
      hs = sortByHeight (validated (resps.takeWhile goodB)) ∧ shape req.data hs = true := by
  rw [decodeAndVerify_eq]
  cases resps with
  | nil => simp
  | cons r rs =>
    cases hg : goodB r with
    | false =>
      obtain ⟨e, he⟩ := toValidated_of_bad hg
      simp only [decodeLoop, he, List.isEmpty_nil, ↓reduceIte, List.takeWhile_cons, hg]
      exact ⟨fun h => by (split at h <;> cases h), fun h => absurd rfl h.2.1⟩
    | true =>
      rw [decodeLoop_eq (r :: rs) [] fun _ x hx => by cases Option.mem_some.mp hx; exact hg]
      simp only [List.nil_append]
      have htw : (r :: rs).takeWhile goodB ≠ [] := by simp [hg]
      by_cases hl : (r :: rs).length ≤ req.amount
      · rw [if_neg (not_or.mpr ⟨nofun, Nat.not_lt.mpr hl⟩)]
        constructor
        · intro h
          split at h
          · cases h; exact ⟨hl, htw, rfl, ‹_›⟩
          · cases h
        · rintro ⟨-, -, rfl, h⟩
          exact if_pos h
      · rw [if_pos (Or.inr (Nat.lt_of_not_le hl))]
        exact ⟨nofun, fun h => absurd h.1 hl⟩

/-- `acceptable` in Prop form: the one place that unfolds it -/
theorem acceptable_iff {k : Kind} {amount : Nat} {es : List (Entry Hdr)} {hs : List Hdr} :
    acceptable (·.height) (·.hash) k amount es hs = true ↔
      hs ≠ [] ∧ (∀ h ∈ hs, h ∈ validatedOf es) ∧
      match k with
      | .height start => hs.length ≤ amount ∧ hs.map (·.height) = List.range' start hs.length
      | .hash h => hs.length = 1 ∧ ∀ x ∈ hs, x.hash = h
      | .head => hs.length = 1
      | .none => False := by
  simp only [acceptable, Bool.and_eq_true, Bool.not_eq_eq_eq_not, Bool.not_true, List.isEmpty_eq_false_iff,
    List.all_eq_true, List.contains_iff_mem, and_assoc]
  cases k <;> simp only [Bool.and_eq_true, decide_eq_true_eq, beq_iff_eq, List.all_eq_true, Bool.false_eq_true]

theorem toKind_origin {start : Nat} (h : start ≠ 0) : toKind (.origin start) = .height start := if_neg h

theorem acceptable_of_shape {d : ReqData} {amount : Nat} {es : List (Entry Hdr)} {hs : List Hdr}
    (hsh : shape d hs = true) (hlen : hs.length ≤ amount) (hmem : ∀ h ∈ hs, h ∈ validatedOf es) :
    acceptable (·.height) (·.hash) (toKind d) amount es hs = true := by
  unfold shape at hsh
  generalize toKind d = k at hsh ⊢
  refine acceptable_iff.mpr ⟨?_, hmem, ?_⟩
  · rintro rfl
    cases k <;> cases hsh
  · cases k with
    | none => cases hsh
    | height start => exact ⟨hlen, ((heightsMatchFrom_iff hs start).mp (Bool.and_eq_true_iff.mp hsh).2).2⟩
    | head => simpa using hsh
    | hash h => simpa using hsh

/-- the converse needs the typing fact that heights are `u64`: `heightsMatchFrom` also refuses
    heights beyond `u64::MAX` -/
theorem shape_of_acceptable {d : ReqData} {amount : Nat} {es : List (Entry Hdr)} {hs : List Hdr}
    (hfit : ∀ h ∈ hs, h.height ≤ U64_MAX)
    (hacc : acceptable (·.height) (·.hash) (toKind d) amount es hs = true) : shape d hs = true := by
  obtain ⟨hne, -, hk⟩ := acceptable_iff.mp hacc
  unfold shape
  generalize toKind d = k at hk ⊢
  cases k with
  | none => cases hk
  | height start => simpa [hne] using (heightsMatchFrom_iff hs start).mpr ⟨hfit, hk.2⟩
  | head => simpa using hk
  | hash h => simpa using hk

theorem acceptable_ne_nil {k : Kind} {amount : Nat} {es : List (Entry Hdr)}
    {hs : List Hdr} (hacc : acceptable (·.height) (·.hash) k amount es hs = true) : hs ≠ [] :=
  (acceptable_iff.mp hacc).1

/-- `acceptable` looks at the entries only through the headers they validate -/
theorem acceptable_mono {k : Kind} {amount : Nat} {es es' : List (Entry Hdr)} {hs : List Hdr}
    (hsub : ∀ h ∈ validatedOf es, h ∈ validatedOf es')
    (hacc : acceptable (·.height) (·.hash) k amount es hs = true) :
    acceptable (·.height) (·.hash) k amount es' hs = true :=
  have ⟨hne, hmem, hk⟩ := acceptable_iff.mp hacc
  acceptable_iff.mpr ⟨hne, fun x hx => hsub x (hmem x hx), hk⟩

theorem sortByHeight_of_acceptable {k : Kind} {amount : Nat} {es : List (Entry Hdr)}
    {hs : List Hdr} (hacc : acceptable (·.height) (·.hash) k amount es hs = true) :
    sortByHeight hs = hs := by
  have hk := (acceptable_iff.mp hacc).2.2
  have one : hs.length = 1 → sortByHeight hs = hs := fun h => by
    obtain ⟨x, rfl⟩ := List.length_eq_one_iff.mp h
    rfl
  cases k with
  | none => cases hk
  | height start => exact sortByHeight_id hs (range'_heights_ascending hs start hk.2)
  | head => exact one hk
  | hash h => exact one hk.1

theorem validatedOf_toEntry (resps : List Resp) : validatedOf (resps.map toEntry) = validated resps := by
  unfold validatedOf validated
  rw [List.filterMap_map]
  rfl

theorem wellFormed_iff {k : Kind} {amount : Nat} {resps : List Resp} :
    wellFormed (·.height) (·.hash) k amount (resps.map toEntry) = true ↔
      resps.all goodB = true ∧ resps.length ≤ amount ∧
      acceptable (·.height) (·.hash) k amount (resps.map toEntry) (sortByHeight (validated resps)) = true := by
  simp only [wellFormed, Bool.and_eq_true, decide_eq_true_eq, List.length_map, List.all_map,
    validatedOf_toEntry, sortH_eq, and_assoc]
  rfl

theorem perfect_iff {k : Kind} {amount : Nat} {resps : List Resp} :
    perfect (·.height) (·.hash) k amount (resps.map toEntry) = true ↔
      resps.all goodB = true ∧
      acceptable (·.height) (·.hash) k amount (resps.map toEntry) (validated resps) = true ∧
      resps.length ≤ amount := by
  simp only [perfect, Bool.and_eq_true, decide_eq_true_eq, List.length_map, List.all_map,
    validatedOf_toEntry, and_assoc]
  rfl

theorem wellFormed_takeWhile {k : Kind} {amount : Nat} {resps : List Resp}
    (hw : wellFormed (·.height) (·.hash) k amount (resps.map toEntry) = true) :
    resps.takeWhile goodB = resps ∧ resps ≠ [] := by
  obtain ⟨hall, -, hacc⟩ := wellFormed_iff.mp hw
  refine ⟨takeWhile_eq_self (List.all_eq_true.mp hall), ?_⟩
  rintro rfl
  exact acceptable_ne_nil hacc rfl

/-- typing fact: the heights of decoded headers are `u64` (what `heightsMatchFrom` also checks) -/
abbrev FitU64 (resps : List Resp) : Prop := ∀ r ∈ resps, ∀ h, r.decoded = some h → h.height ≤ U64_MAX

theorem ok_of_prefix_wellFormed (req : Request) (resps : List Resp)
    (hfit : FitU64 resps) (hlen : resps.length ≤ req.amount)
    (hw : wellFormed (·.height) (·.hash) (toKind req.data) req.amount
      ((resps.takeWhile goodB).map toEntry) = true) :
    decodeAndVerify req resps = .ok (sortByHeight (validated (resps.takeWhile goodB))) := by
  have hacc := (wellFormed_iff.mp hw).2.2
  refine (ok_iff req resps _).mpr ⟨hlen, fun h => ?_, rfl, shape_of_acceptable (fun h hh => ?_) hacc⟩
  · rw [h] at hacc; exact acceptable_ne_nil hacc rfl
  · obtain ⟨r, hr, -, hd⟩ := mem_validated.mp ((sortByHeight_perm _).mem_iff.mp hh)
    exact hfit r ((List.takeWhile_sublist goodB).subset hr) h hd

/-- no typing hypothesis (`FitU64`) in this direction -/
theorem wellFormed_of_ok {req : Request} {resps : List Resp} {hs : List Hdr}
    (h : decodeAndVerify req resps = .ok hs) :
    (resps.length ≤ req.amount ∧ wellFormed (·.height) (·.hash) (toKind req.data) req.amount
      ((resps.takeWhile goodB).map toEntry) = true) ∧
    hs = sortByHeight (validated (resps.takeWhile goodB)) := by
  obtain ⟨hlen, -, rfl, hsh⟩ := (ok_iff req resps hs).mp h
  have hperm := sortByHeight_perm (validated (resps.takeWhile goodB))
  have hl := Nat.le_trans (List.takeWhile_sublist goodB).length_le hlen
  refine ⟨⟨hlen, wellFormed_iff.mpr ⟨List.all_takeWhile, hl, acceptable_of_shape hsh ?_ fun x hx => ?_⟩⟩, rfl⟩
  · rw [hperm.length_eq]; exact Nat.le_trans (List.length_filterMap_le _ _) hl
  · rw [validatedOf_toEntry]; exact hperm.mem_iff.mp hx

/-- **what the client is, in the spec's terms**: the strict rule (`wellFormed`, ascending headers)
    applied to the good prefix of the response, plus the size check on the whole of it.  On a response
    that is its own good prefix this is the property; the difference `takeWhile goodB resps ≠ resps` is
    the one known departure. -/
theorem ok_iff_wellFormed (req : Request) (resps : List Resp) (hs : List Hdr)
    (hfit : FitU64 resps) :
    decodeAndVerify req resps = .ok hs ↔
      (resps.length ≤ req.amount ∧ wellFormed (·.height) (·.hash) (toKind req.data) req.amount
        ((resps.takeWhile goodB).map toEntry) = true) ∧
      hs = sortByHeight (validated (resps.takeWhile goodB)) :=
  ⟨wellFormed_of_ok, fun h => h.2 ▸ ok_of_prefix_wellFormed req resps hfit h.1.1 h.1.2⟩

/-- a well-formed response is its own good prefix -/
theorem ok_of_wellFormed (req : Request) (resps : List Resp)
    (hfit : FitU64 resps)
    (hw : wellFormed (·.height) (·.hash) (toKind req.data) req.amount (resps.map toEntry) = true) :
    decodeAndVerify req resps = .ok (sortByHeight (validated resps)) := by
  have htw := (wellFormed_takeWhile hw).1
  have := ok_of_prefix_wellFormed req resps hfit (wellFormed_iff.mp hw).2.1 (by rwa [htw])
  rwa [htw] at this

theorem ne_panic (req : Request) (resps : List Resp) : decodeAndVerify req resps ≠ .panic := by
  rw [decodeAndVerify_eq]
  split
  · nofun
  · split
    · nofun
    · split <;> nofun

theorem obs_eq (req : Request) (resps : List Resp)
    (hfit : FitU64 resps) :
    obsOf (decodeAndVerify req resps) =
      if resps.length ≤ req.amount ∧ wellFormed (·.height) (·.hash) (toKind req.data) req.amount
        ((resps.takeWhile goodB).map toEntry) = true
      then .accepted (sortByHeight (validated (resps.takeWhile goodB))) else .error := by
  cases h : decodeAndVerify req resps with
  | panic => exact absurd h (ne_panic req resps)
  | ok hs =>
    obtain ⟨hc, rfl⟩ := (ok_iff_wellFormed req resps hs hfit).mp h
    rw [if_pos hc]; rfl
  | err e =>
    rw [if_neg fun hc => ?_]; · rfl
    have := (ok_iff_wellFormed req resps _ hfit).mpr ⟨hc, rfl⟩
    rw [h] at this; cases this

end Lumina.Proofs.HeaderExClient


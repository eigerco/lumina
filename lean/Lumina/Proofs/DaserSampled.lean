/-
  C33, history form: "a height is marked sampled only after every chosen share of it was answered successfully".

  A ghost-history invariant over the worker model (`Lumina.Model.Daser`), independent of the representation
  invariants of `Proofs/Daser.lean` (partial correctness: whenever a step succeeds …; a failed step kills the worker,
  which drops every sampling future):

  * `hits s evs`: the successful answers (`Ev.answer h p false`) of the history `evs` from state `s` that met an
    outstanding request (block `h` being sampled with `p` pending);
  * `FutsOK s A`: every sampling future of `s` was created by `random_indexes(width of its header, 16)` — its shares are
    distinct, in-square and `min (w², 16)` many — and each of its shares is still pending, or the block has a timeout,
    or the share's successful answer is in `A`;
  * `Trk s s' toks`: what every scheduling function does to the futures (only fresh ones are added; header chain and
    configuration untouched) and that it never emits `mark_as_sampled`;
  * `step_futsOK`: one stimulus; `run_futsOK`: every history; the statement is `mark_all_retrieved` in `Props/C33.lean`.
-/
import Lumina.Proofs.DaserIndexes

namespace Lumina.Proofs.DaserSampled
open Lumina.Model.Daser Lumina.Proofs.DaserIndexes
open Lumina.Spec

/-- partial correctness in the worker monad -/
def Post {α} (m : M α) (P : α → Prop) : Prop := ∀ a, m = .ok a → P a

theorem Post.bind {α β} {m : M α} {k : α → M β} {P : α → Prop} {Q : β → Prop}
    (hm : Post m P) (hk : ∀ a, P a → Post (k a) Q) : Post (m >>= k) Q := by
  intro b hb
  cases m with
  | ok a => exact hk a (hm a rfl) b hb
  | error e => cases hb

theorem Post.pure {α} {a : α} {P : α → Prop} (h : P a) : Post (pure a : M α) P := by
  intro b hb
  cases hb
  exact h

/-- a step whose result the postcondition does not depend on -/
theorem Post.bind_any {α β} {m : M α} {k : α → M β} {Q : β → Prop} (hk : ∀ a, Post (k a) Q) : Post (m >>= k) Q :=
  Post.bind (P := fun _ => True) (fun _ _ => trivial) fun a _ => hk a

theorem Post.error {α} {e : Fail} {P : α → Prop} : Post (.error e : M α) P := by
  intro b hb; cases hb

theorem Post.mono {α} {m : M α} {P Q : α → Prop} (hm : Post m P) (h : ∀ a, P a → Q a) : Post m Q :=
  fun a ha => h a (hm a ha)

/-- a future as `schedule_next_sample_block` pushes it -/
def FreshFut (hdr : Nat → Hdr) (cfg : Cfg) (f : Fut) : Prop :=
  f.pending = f.shares ∧ f.timedOut = false ∧
    ∃ draws, randomIndexes (hdr f.height).width cfg.maxSamples draws = some f.shares

structure TrkOf (hd : Nat → Hdr) (c : Cfg) (fs : List Fut) (s' : State) (toks : List Tok) : Prop where
  hdr : s'.hdr = hd
  cfg : s'.cfg = c
  futs : ∀ f ∈ s'.w.futs, f ∈ fs ∨ FreshFut hd c f
  nomark : ∀ h, Tok.mark h ∉ toks

/-- `Trk s s' toks` reads of `s` only its header chain, configuration and futures, so for a record update `s1` of `s`
    that keeps these three, `Trk s1 s' toks` is `Trk s s' toks` by unfolding: the walks below pass through the model's
    updates of the queue, the store and the prunable heights without a step -/
abbrev Trk (s s' : State) (toks : List Tok) : Prop := TrkOf s.hdr s.cfg s.w.futs s' toks

theorem Trk.refl (s : State) : Trk s s [] := ⟨rfl, rfl, fun _ hf => Or.inl hf, by simp⟩

theorem Trk.trans {a b c : State} {t1 t2 : List Tok} (h1 : Trk a b t1) (h2 : Trk b c t2) : Trk a c (t1 ++ t2) := by
  refine ⟨h2.hdr.trans h1.hdr, h2.cfg.trans h1.cfg, ?_, ?_⟩
  · intro f hf
    rcases h2.futs f hf with h | h
    · exact h1.futs f h
    · exact Or.inr (h1.hdr ▸ h1.cfg ▸ h)
  · intro h hm
    rcases List.mem_append.mp hm with hm | hm
    · exact h1.nomark h hm
    · exact h2.nomark h hm

theorem Trk.same {s s' : State} {toks : List Tok} (hh : s'.hdr = s.hdr) (hc : s'.cfg = s.cfg)
    (hf : s'.w.futs = s.w.futs) (hn : ∀ h, Tok.mark h ∉ toks) : Trk s s' toks :=
  ⟨hh, hc, fun _ hm => Or.inl (hf ▸ hm), hn⟩

theorem updateQueue_trk (s : State) : Post (updateQueue s) (fun r => Trk s r.1 r.2) := by
  unfold updateQueue
  refine Post.bind_any fun c => ?_
  refine Post.bind_any fun q1 => ?_
  refine Post.bind_any fun q2 => ?_
  refine Post.bind_any fun q3 => ?_
  exact Post.pure (Trk.same rfl rfl rfl (by simp))

theorem pickHeader_trk : ∀ (fuel : Nat) (s : State), Post (pickHeader fuel s) (fun r => Trk s r.2.1 r.2.2)
  | 0, s => Post.error
  | fuel + 1, s => by
    unfold pickHeader
    refine Post.bind_any fun pq => ?_
    obtain ⟨top, q'⟩ := pq
    dsimp only
    cases top with
    | none => exact Post.pure (Trk.same rfl rfl rfl (by simp))
    | some h =>
      dsimp only
      split
      · refine Post.bind_any fun q'' => ?_
        exact Post.pure (Trk.same rfl rfl rfl (by simp))
      · split
        · exact Post.pure (Trk.same rfl rfl rfl (by simp))
        · refine Post.bind (updateQueue_trk _) fun r2 h2 => ?_
          obtain ⟨s2, t2⟩ := r2
          refine Post.bind (pickHeader_trk fuel s2) fun r3 h3 => ?_
          obtain ⟨r, s3, t3⟩ := r3
          exact Post.pure (h2.trans h3)

theorem scheduleNext_trk (s : State) (draws : List (Nat × Nat)) :
    Post (scheduleNext s draws) (fun r => Trk s r.2.1 r.2.2) := by
  unfold scheduleNext
  refine Post.bind (pickHeader_trk 3 s) fun r1 h1 => ?_
  obtain ⟨top, s1, t1⟩ := r1
  dsimp only at h1 ⊢
  cases top with
  | none => exact Post.pure h1
  | some h =>
    dsimp only
    split
    · refine Post.bind_any fun q => ?_
      refine Post.bind_any fun t => ?_
      exact Post.pure ⟨h1.hdr, h1.cfg, h1.futs, h1.nomark⟩
    · cases hri : randomIndexes (s1.hdr h).width s1.cfg.maxSamples draws with
      | none => exact Post.error
      | some shares =>
        dsimp only
        refine Post.bind_any fun o => ?_
        refine Post.pure (h1.trans ⟨rfl, rfl, fun f hf => ?_, by simp⟩)
        rcases List.mem_append.mp hf with hf | hf
        · exact Or.inl hf
        · cases List.mem_singleton.mp hf
          exact Or.inr ⟨rfl, rfl, draws, hri⟩

theorem pollNew_nomark (fs : List Fut) (h : Nat) : Tok.mark h ∉ pollNew fs := by
  simp [pollNew]

theorem scheduleLoop_trk : ∀ (fuel : Nat) (s : State) (rnd : List (List (Nat × Nat))),
    Post (scheduleLoop fuel s rnd) (fun r => Trk s r.2.1 r.2.2)
  | 0, s, _ => Post.error
  | fuel + 1, s, rnd => by
    unfold scheduleLoop
    refine Post.bind (scheduleNext_trk s _) fun r1 h1 => ?_
    obtain ⟨r, s1, t1⟩ := r1
    cases r with
    | none => exact Post.pure h1
    | some f =>
      refine Post.bind (scheduleLoop_trk fuel s1 rnd.tail) fun r2 h2 => ?_
      exact Post.pure (h1.trans h2)

theorem scheduleAll_trk (s : State) (rnd : List (List (Nat × Nat))) :
    Post (scheduleAll s rnd) (fun r => Trk s r.1 r.2) := by
  unfold scheduleAll
  refine Post.bind (scheduleLoop_trk _ s rnd) fun r1 h1 => ?_
  exact Post.pure (h1.trans (Trk.same rfl rfl rfl (pollNew_nomark r1.1 ·)))

theorem onWantToPrune_trk (s : State) (h : Nat) : Post (onWantToPrune s h) (fun r => Trk s r.2 []) := by
  unfold onWantToPrune
  split
  · exact Post.pure (Trk.refl s)
  · refine Post.bind_any fun q => ?_
    refine Post.bind_any fun p => ?_
    exact Post.pure (Trk.same rfl rfl rfl (by simp))

theorem connect_trk (s : State) (rnd : List (List (Nat × Nat))) : Post (connect s rnd) (fun r => Trk s r.1 r.2) := by
  unfold connect
  refine Post.bind (updateQueue_trk _) fun r1 h1 => ?_
  refine Post.bind (scheduleAll_trk r1.1 rnd) fun r2 h2 => ?_
  exact Post.pure (h1.trans h2)

/-- the completion arm: the futures that remain are old ones or fresh ones; the only possible `mark_as_sampled` is
    the one of the finished block, and only without a timeout -/
theorem onSamplingDone_trk (s : State) (h : Nat) (to : Bool) (rnd : List (List (Nat × Nat))) :
    Post (onSamplingDone s h to rnd) (fun r => r.1.hdr = s.hdr ∧ r.1.cfg = s.cfg ∧
      (∀ f ∈ r.1.w.futs, f ∈ s.w.futs ∨ FreshFut s.hdr s.cfg f) ∧
      (∀ h', Tok.mark h' ∈ r.2 → h' = h ∧ to = false)) := by
  unfold onSamplingDone
  dsimp only
  -- scheduling goes on from the state without the finished block's future
  have hfilt : ∀ {s' : State} {toks : List Tok}, TrkOf s.hdr s.cfg (s.w.futs.filter (fun f => f.height != h)) s' toks →
      ∀ f ∈ s'.w.futs, f ∈ s.w.futs ∨ FreshFut s.hdr s.cfg f :=
    fun htr f hf => (htr.futs f hf).imp_left fun hf => (List.mem_filter.mp hf).1
  split
  · refine Post.bind_any fun t => ?_
    refine Post.bind_any fun o => ?_
    exact Post.mono (scheduleAll_trk _ rnd) fun r htr =>
      ⟨htr.hdr, htr.cfg, hfilt htr, fun h' hm => absurd hm (htr.nomark h')⟩
  · rename_i hto
    have hto' : to = false := by simpa using hto
    split
    · refine Post.pure ⟨rfl, rfl, by simp [die, Worker.deadState, Worker.init], fun h' hm => ?_⟩
      simp only [List.mem_cons, Tok.mark.injEq, reduceCtorEq, List.not_mem_nil, or_false] at hm
      exact ⟨hm, hto'⟩
    · refine Post.bind_any fun sm => ?_
      refine Post.bind_any fun c => ?_
      refine Post.bind_any fun o => ?_
      refine Post.bind (scheduleAll_trk _ rnd) fun r htr => ?_
      refine Post.pure ⟨htr.hdr, htr.cfg, hfilt htr, fun h' hm => ?_⟩
      rcases List.mem_cons.mp hm with hm | hm
      · injection hm with hm; exact ⟨hm, hto'⟩
      · exact absurd hm (htr.nomark h')

theorem stepM_trk (s : State) (ev : Ev) (rnd : List (List (Nat × Nat))) (hev : ∀ h p to, ev ≠ .answer h p to) :
    Post (stepM s ev rnd) (fun r => Trk s r.1 r.2) := by
  cases ev with
  | insert lo hi =>
    simp only [stepM]
    cases storeInsert s.store lo hi with
    | none => exact Post.pure (Trk.same rfl rfl rfl (by simp))
    | some st =>
      dsimp only
      split
      · refine Post.bind (updateQueue_trk _) fun r1 h1 => ?_
        refine Post.bind (scheduleAll_trk r1.1 rnd) fun r2 h2 => ?_
        exact Post.pure (h1.trans h2)
      · exact Post.pure (Trk.same rfl rfl rfl (by simp))
  | remove h =>
    simp only [stepM]
    cases storeRemove s.store h with
    | none => exact Post.pure (Trk.same rfl rfl rfl (by simp))
    | some st => exact Post.pure (Trk.same rfl rfl rfl (by simp))
  | peers n =>
    simp only [stepM]
    split
    · split
      · exact Post.pure ⟨rfl, rfl, by simp [disconnect], by simp⟩
      · exact scheduleAll_trk s rnd
    · split
      · exact Post.pure (Trk.refl s)
      · exact connect_trk s rnd
  | prune h =>
    simp only [stepM]
    refine Post.bind (onWantToPrune_trk s h) fun r1 h1 => ?_
    obtain ⟨ok, s1⟩ := r1
    dsimp only at h1 ⊢
    have hg : Trk s s1 [Tok.grant h ok] := ⟨h1.hdr, h1.cfg, h1.futs, by simp⟩
    split
    · refine Post.bind (scheduleAll_trk s1 rnd) fun r2 h2 => ?_
      exact Post.pure (hg.trans h2)
    · exact Post.pure hg
  | setHighestPrunable v =>
    simp only [stepM]
    split
    · exact scheduleAll_trk _ rnd
    · exact Post.pure (Trk.same rfl rfl rfl (by simp))
  | setNumPrunable v =>
    simp only [stepM]
    split
    · exact scheduleAll_trk _ rnd
    · exact Post.pure (Trk.same rfl rfl rfl (by simp))
  | answer h p to => exact absurd rfl (hev h p to)

/-- share `p` of block `h` is being waited for -/
def outstanding (s : State) (h : Nat) (p : Share) : Bool :=
  s.w.futs.any (fun f => f.height == h && f.pending.contains p)

/-- the stimulus is a successful answer (`Ok(sample)`) to an outstanding request -/
def hitOf (s : State) (ev : Ev) : List (Nat × Share) :=
  match ev with
  | .answer h p false => if outstanding s h p then [(h, p)] else []
  | _ => []

/-- all of them along a history -/
def hits (s : State) : List (Ev × List (List (Nat × Nat))) → List (Nat × Share)
  | [] => []
  | (ev, rnd) :: rest => hitOf s ev ++ hits (step s ev rnd).1 rest

def FutOK (s : State) (A : List (Nat × Share)) (f : Fut) : Prop :=
  C33.sharesOK (s.hdr f.height).width f.shares = true ∧
  ∀ q ∈ f.shares, q ∈ f.pending ∨ f.timedOut = true ∨ (f.height, q) ∈ A

def FutsOK (s : State) (A : List (Nat × Share)) : Prop := ∀ f ∈ s.w.futs, FutOK s A f

theorem FutOK.mono {s s' : State} {A B : List (Nat × Share)} {f : Fut} (h : FutOK s A f) (hh : s'.hdr = s.hdr)
    (hAB : ∀ x ∈ A, x ∈ B) : FutOK s' B f := by
  refine ⟨by rw [hh]; exact h.1, fun q hq => ?_⟩
  rcases h.2 q hq with h1 | h1 | h1
  · exact Or.inl h1
  · exact Or.inr (Or.inl h1)
  · exact Or.inr (Or.inr (hAB _ h1))

theorem FreshFut.ok {s : State} {f : Fut} (h16 : s.cfg.maxSamples = 16) (h : FreshFut s.hdr s.cfg f)
    (A : List (Nat × Share)) :
    FutOK s A f := by
  obtain ⟨hp, _, d, hr⟩ := h
  rw [h16] at hr
  exact ⟨sharesOK_of_randomIndexes _ d _ hr, fun q hq => Or.inl (by rw [hp]; exact hq)⟩

theorem Trk.futsOK {s s' : State} {toks : List Tok} {A : List (Nat × Share)} (h : Trk s s' toks)
    (h16 : s.cfg.maxSamples = 16) (hA : FutsOK s A) : FutsOK s' A := by
  intro f hf
  rcases h.futs f hf with hf | hf
  · exact (hA f hf).mono h.hdr (fun _ hx => hx)
  · exact (hf.ok h16 A).mono h.hdr (fun _ hx => hx)

/-- one `get_sample` resolves -/
def answered (f : Fut) (p : Share) (to : Bool) : Fut :=
  { f with pending := f.pending.erase p, timedOut := f.timedOut || to }

theorem onAnswer_trk (s : State) (h : Nat) (p : Share) (to : Bool) (rnd : List (List (Nat × Nat))) :
    Post (onAnswer s h p to rnd) (fun r => r.1.hdr = s.hdr ∧ r.1.cfg = s.cfg ∧
      (∀ g ∈ r.1.w.futs, g ∈ s.w.futs ∨ FreshFut s.hdr s.cfg g ∨
        ∃ f ∈ s.w.futs, f.height = h ∧ p ∈ f.pending ∧ g = answered f p to) ∧
      (∀ h', Tok.mark h' ∈ r.2 → h' = h ∧
        ∃ f ∈ s.w.futs, f.height = h ∧ f.pending.erase p = [] ∧ p ∈ f.pending ∧ (f.timedOut || to) = false)) := by
  unfold onAnswer
  cases hfind : s.w.futs.find? (fun f => f.height == h) with
  | none => exact Post.pure ⟨rfl, rfl, fun g hg => Or.inl hg, by simp⟩
  | some f =>
    obtain ⟨hfm, hfh⟩ := Util.find?_key_some _ hfind
    dsimp only
    split
    · exact Post.pure ⟨rfl, rfl, fun g hg => Or.inl hg, by simp⟩
    · rename_i hpend
      have hpm : p ∈ f.pending := by simpa using hpend
      split
      · rename_i hemp
        have hemp' : f.pending.erase p = [] := by simpa using hemp
        refine Post.bind (onSamplingDone_trk s h (f.timedOut || to) rnd) fun r hr => ?_
        obtain ⟨s', t⟩ := r
        obtain ⟨h1, h2, h3, h4⟩ := hr
        refine Post.pure ⟨h1, h2, ?_, ?_⟩
        · exact fun g hg => (h3 g hg).imp_right Or.inl
        · intro h' hm
          simp only [List.mem_cons, reduceCtorEq, false_or] at hm
          obtain ⟨e1, e2⟩ := h4 h' hm
          exact ⟨e1, f, hfm, hfh, hemp', hpm, e2⟩
      · refine Post.pure ⟨rfl, rfl, ?_, by simp⟩
        intro g hg
        dsimp only at hg
        obtain ⟨g0, hg0, rfl⟩ := List.mem_map.mp hg
        split
        · exact Or.inr (Or.inr ⟨f, hfm, hfh, hpm, rfl⟩)
        · exact Or.inl hg0

theorem answered_ok {s : State} {A : List (Nat × Share)} {f : Fut} {p : Share} {to : Bool}
    (hf : FutOK s A f) (hfm : f ∈ s.w.futs) (hp : p ∈ f.pending) :
    FutOK s (A ++ hitOf s (.answer f.height p to)) (answered f p to) := by
  refine ⟨hf.1, fun q hq => ?_⟩
  rcases hf.2 q hq with h1 | h1 | h1
  · by_cases hqp : q = p
    · subst hqp
      cases to with
      | true => exact Or.inr (Or.inl (by simp [answered]))
      | false =>
        refine Or.inr (Or.inr ?_)
        have : outstanding s f.height q = true := by
          simp only [outstanding, List.any_eq_true, Bool.and_eq_true, beq_iff_eq, List.contains_iff_mem]
          exact ⟨f, hfm, rfl, hp⟩
        simp [hitOf, this, answered]
    · exact Or.inl ((List.mem_erase_of_ne hqp).mpr h1)
  · exact Or.inr (Or.inl (by simp [answered, h1]))
  · exact Or.inr (Or.inr (List.mem_append_left _ h1))

theorem stepDead_futs (s : State) (ev : Ev) : (stepDead s ev).1.w.futs = s.w.futs ∧ (stepDead s ev).1.hdr = s.hdr ∧
    (stepDead s ev).1.cfg = s.cfg ∧ ∀ h, Tok.mark h ∉ (stepDead s ev).2 := by
  cases ev with
  | insert lo hi => simp only [stepDead]; cases storeInsert s.store lo hi <;> simp
  | remove h => simp only [stepDead]; cases storeRemove s.store h <;> simp
  | _ => simp [stepDead]

/-- **one stimulus**: the ghost invariant is kept (the answers seen grow by this stimulus' hit), and a
    `mark_as_sampled(h)` in the worker's reaction means that every share chosen for `h` — distinct, in-square,
    `min (w², 16)` many — has been answered successfully -/
theorem step_futsOK (s : State) (ev : Ev) (rnd : List (List (Nat × Nat))) (A : List (Nat × Share))
    (h16 : s.cfg.maxSamples = 16) (hA : FutsOK s A) :
    FutsOK (step s ev rnd).1 (A ++ hitOf s ev) ∧ (step s ev rnd).1.hdr = s.hdr ∧ (step s ev rnd).1.cfg = s.cfg ∧
    ∀ h, Tok.mark h ∈ (step s ev rnd).2 →
      ∃ shares, C33.sharesOK (s.hdr h).width shares = true ∧ ∀ q ∈ shares, (h, q) ∈ A ++ hitOf s ev := by
  have hmono : ∀ {s' : State} {f : Fut}, s'.hdr = s.hdr → FutOK s A f → FutOK s' (A ++ hitOf s ev) f :=
    fun hh hf => hf.mono hh (fun _ hx => List.mem_append_left _ hx)
  unfold step
  split
  · obtain ⟨h1, h2, h3, h4⟩ := stepDead_futs s ev
    refine ⟨fun f hf => hmono h2 (hA f (h1 ▸ hf)), h2, h3, fun h hm => absurd hm (h4 h)⟩
  · cases hm : stepM s ev rnd with
    | error e =>
      refine ⟨fun f hf => by simp [die, Worker.deadState, Worker.init] at hf, rfl, rfl, ?_⟩
      intro h hmk
      cases ev <;> simp at hmk
    | ok r =>
      dsimp only
      have hcase : (∃ h p to, ev = .answer h p to) ∨ ∀ h p to, ev ≠ .answer h p to := by cases ev <;> simp
      rcases hcase with ⟨h, p, to, rfl⟩ | hev
      · simp only [stepM] at hm
        obtain ⟨h1, h2, h3, h4⟩ := onAnswer_trk s h p to rnd r hm
        refine ⟨?_, h1, h2, ?_⟩
        · intro g hg
          rcases h3 g hg with hg | hg | ⟨f, hfm, hfh, hpm, rfl⟩
          · exact hmono h1 (hA g hg)
          · exact hmono h1 (hg.ok h16 A)
          · subst hfh
            exact (answered_ok (hA f hfm) hfm hpm).mono h1 (fun _ hx => hx)
        · intro h' hmk
          obtain ⟨rfl, f, hfm, hfh, hemp, hpm, hto⟩ := h4 h' hmk
          subst hfh
          have hok := answered_ok (to := to) (hA f hfm) hfm hpm
          refine ⟨f.shares, hok.1, fun q hq => ?_⟩
          rcases hok.2 q hq with h5 | h5 | h5
          · simp [answered, hemp] at h5
          · simp only [answered] at h5; rw [hto] at h5; cases h5
          · exact h5
      · have htr := stepM_trk s ev rnd hev r hm
        refine ⟨fun f hf => ?_, htr.hdr, htr.cfg, fun h hmk => absurd hmk (htr.nomark h)⟩
        exact hmono htr.hdr (htr.futsOK h16 hA f hf |>.mono htr.hdr.symm (fun _ hx => hx))

theorem run_futsOK : ∀ (evs : List (Ev × List (List (Nat × Nat)))) (s : State) (A : List (Nat × Share)),
    s.cfg.maxSamples = 16 → FutsOK s A →
    FutsOK (run s evs).1 (A ++ hits s evs) ∧ (run s evs).1.hdr = s.hdr ∧ (run s evs).1.cfg = s.cfg
  | [], s, A, _, hA => by simpa [run, hits] using hA
  | (ev, rnd) :: rest, s, A, h16, hA => by
    obtain ⟨h1, h2, h3, _⟩ := step_futsOK s ev rnd A h16 hA
    obtain ⟨h4, h5, h6⟩ := run_futsOK rest (step s ev rnd).1 (A ++ hitOf s ev) (by rw [h3]; exact h16) h1
    simp only [run, hits]
    refine ⟨?_, h5.trans h2, h6.trans h3⟩
    rw [← List.append_assoc]
    exact h4

theorem hits_append (s : State) (pre : List (Ev × List (List (Nat × Nat)))) (ev : Ev) (rnd : List (List (Nat × Nat))) :
    hits s (pre ++ [(ev, rnd)]) = hits s pre ++ hitOf (run s pre).1 ev := by
  induction pre generalizing s with
  | nil => simp [hits, run]
  | cons x rest ih =>
    obtain ⟨ev0, rnd0⟩ := x
    simp only [List.cons_append, hits, run, ih, List.append_assoc]

end Lumina.Proofs.DaserSampled

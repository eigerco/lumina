/-
  Schema migration on open (`Model/RedbSchema.lean`, C23): `from_vec` accepts exactly the vectors
  the spec calls `legal` and returns their `merge` (`fromVec_eq`), association-list table algebra,
  the open transaction in explicit form per schema version (`openTx_eq`) and what the opened
  database reports, key order of the v1 table built by B-tree inserts.
-/
import Lumina.Model.RedbSchema
import Lumina.Spec.C23

namespace Lumina.Proofs.RedbSchema
open Lumina.Model.RedbSchema Lumina.Gen.C23
open Lumina.Spec.C23 (legal reading underKey merge mergeFrom)

/-- `rs` may follow a (merged) range ending at `p.2` -/
def legalAfter (p : Nat × Nat) (rs : Raw) : Bool :=
  match rs with
  | [] => true
  | r :: _ => decide (p.2 < r.1) && legal rs

theorem legal_cons (r : Nat × Nat) (rest : Raw) :
    legal (r :: rest) = (decide (1 ≤ r.1) && decide (r.1 ≤ r.2) && legalAfter r rest) := by
  cases rest with
  | nil => simp [legal, legalAfter]
  | cons s rest' => simp [legal, legalAfter, Bool.and_assoc]

theorem fromVecLoop_cons (p : Nat × Nat) (older rs : Raw) :
    fromVecLoop (p :: older) rs =
      if legalAfter p rs then some (older.reverse ++ mergeFrom p rs) else none := by
  induction rs generalizing p older with
  | nil => simp [fromVecLoop, legalAfter, mergeFrom]
  | cons r rest ih =>
    simp only [fromVecLoop, validRange, legalAfter, legal_cons, mergeFrom]
    by_cases h1 : r.1 > 0 <;> by_cases h2 : r.1 ≤ r.2 <;> by_cases h3 : r.1 ≤ p.2 <;>
      by_cases h4 : p.2 + 1 = r.1 <;> simp [h1, h2, h3, h4, ih, legalAfter] <;> first | omega | grind

theorem fromVecLoop_nil (rs : Raw) :
    fromVecLoop [] rs = if legal rs then some (merge rs) else none := by
  cases rs with
  | nil => simp [fromVecLoop, legal, merge]
  | cons r rest =>
    simp only [fromVecLoop, validRange, legal_cons, merge, fromVecLoop_cons]
    by_cases h1 : r.1 > 0 <;> by_cases h2 : r.1 ≤ r.2 <;> simp [h1, h2] <;> first | omega | grind

theorem fromVec_eq (rs : Raw) : fromVec rs = if legal rs then .ok (merge rs) else .error .storedData := by
  simp only [fromVec, fromVecLoop_nil]
  split <;> simp_all

theorem mergeFrom_head (p : Nat × Nat) (rs : Raw) : ∃ q tl, mergeFrom p rs = q :: tl ∧ q.1 = p.1 := by
  induction rs generalizing p with
  | nil => exact ⟨p, [], rfl, rfl⟩
  | cons r rest ih =>
    simp only [mergeFrom]
    split
    · exact ih (p.1, r.2)
    · exact ⟨p, _, rfl, rfl⟩

/-- joining the touching ranges of a legal vector leaves a legal vector in which nothing touches,
    so joining again changes nothing -/
theorem mergeFrom_legal_idem (p : Nat × Nat) (rs : Raw) (h1 : 1 ≤ p.1) (h2 : p.1 ≤ p.2)
    (h : legalAfter p rs = true) :
    legal (mergeFrom p rs) = true ∧ merge (mergeFrom p rs) = mergeFrom p rs := by
  induction rs generalizing p with
  | nil => simp [mergeFrom, legal, merge, h1, h2]
  | cons r rest ih =>
    simp only [legalAfter, legal_cons, Bool.and_eq_true, decide_eq_true_eq] at h
    obtain ⟨hpr, ⟨hr1, hr2⟩, hrest⟩ := h
    simp only [mergeFrom]
    split
    · exact ih (p.1, r.2) h1 (by simp; omega) hrest
    · -- `p` stays; what follows starts at `r.1`, beyond `p.2 + 1`, so a second pass does not join it to `p`
      obtain ⟨q, tl, hq, hq1⟩ := mergeFrom_head r rest
      obtain ⟨il, im⟩ := ih r hr1 hr2 hrest
      rw [hq] at il im ⊢
      refine ⟨by simp [legal_cons, legalAfter, h1, h2, il]; omega, ?_⟩
      simp only [merge, mergeFrom] at im ⊢
      rw [if_neg (by omega), im]

theorem merge_legal_idem (rs : Raw) (h : legal rs = true) : legal (merge rs) = true ∧ merge (merge rs) = merge rs := by
  cases rs with
  | nil => simp [merge, legal]
  | cons r rest =>
    simp only [legal_cons, Bool.and_eq_true, decide_eq_true_eq] at h
    exact mergeFrom_legal_idem r rest h.1.1 h.1.2 h.2

/-- an `Except Err Raw` report as the spec's observation (`none` = error) -/
def toOpt : Except Err Raw → Option Raw
  | .ok r => some r
  | .error _ => none

theorem toOpt_fromVec (rs : Raw) : toOpt (fromVec rs) = reading rs := by
  rw [fromVec_eq]; unfold reading; split <;> rfl

theorem get_insert_self (t : RangesTable) (k : String) (v : Raw) : (t.insert k v).get k = some v := by
  induction t with
  | nil => simp [RangesTable.insert, RangesTable.get]
  | cons e rest ih => grind [RangesTable.insert, RangesTable.get]

theorem get_insert_ne (t : RangesTable) (k k' : String) (v : Raw) (hne : k' ≠ k) :
    (t.insert k v).get k' = t.get k' := by
  induction t with
  | nil => simp [RangesTable.insert, RangesTable.get, Ne.symm hne]
  | cons e rest ih => grind [RangesTable.insert, RangesTable.get]

theorem get_remove_self (t : RangesTable) (k : String) : (t.remove k).get k = none := by
  induction t with
  | nil => simp [RangesTable.remove, RangesTable.get]
  | cons e rest ih => grind [RangesTable.remove, RangesTable.get]

theorem get_remove_ne (t : RangesTable) (k k' : String) (hne : k' ≠ k) :
    (t.remove k).get k' = t.get k' := by
  induction t with
  | nil => simp [RangesTable.remove, RangesTable.get]
  | cons e rest ih => grind [RangesTable.remove, RangesTable.get]

theorem insert_same (t : RangesTable) (k : String) (v : Raw) (h : t.get k = some v) :
    t.insert k v = t := by
  induction t with
  | nil => simp [RangesTable.get] at h
  | cons e rest ih => grind [RangesTable.insert, RangesTable.get]

theorem remove_absent (t : RangesTable) (k : String) (h : t.get k = none) : t.remove k = t := by
  induction t with
  | nil => rfl
  | cons e rest ih => grind [RangesTable.remove, RangesTable.get]

theorem underKey_eq (db : Db) (k : String) : underKey db k = ((db.ranges.getD []).get k).getD [] := by
  unfold underKey
  cases hr : db.ranges with
  | none => simp [RangesTable.get]
  | some t =>
    simp only [Option.getD_some]
    clear hr
    induction t with
    | nil => simp [RangesTable.get]
    | cons e rest ih => grind [RangesTable.get, List.find?]


theorem hS_ne_H : SAMPLED_RANGES_KEY ≠ HEADER_RANGES_KEY := by simp [SAMPLED_RANGES_KEY, HEADER_RANGES_KEY]
theorem hA_ne_H : V2_SAMPLED_RANGES_KEY ≠ HEADER_RANGES_KEY := by simp [V2_SAMPLED_RANGES_KEY, HEADER_RANGES_KEY]
theorem hA_ne_S : V2_SAMPLED_RANGES_KEY ≠ SAMPLED_RANGES_KEY := by simp [V2_SAMPLED_RANGES_KEY, SAMPLED_RANGES_KEY]
theorem hH_ne_S : HEADER_RANGES_KEY ≠ SAMPLED_RANGES_KEY := by simp [HEADER_RANGES_KEY, SAMPLED_RANGES_KEY]
theorem hH_ne_A : HEADER_RANGES_KEY ≠ V2_SAMPLED_RANGES_KEY := by simp [HEADER_RANGES_KEY, V2_SAMPLED_RANGES_KEY]
theorem hS_ne_A : SAMPLED_RANGES_KEY ≠ V2_SAMPLED_RANGES_KEY := by simp [SAMPLED_RANGES_KEY, V2_SAMPLED_RANGES_KEY]
theorem hP_ne_H : PRUNED_RANGES_KEY ≠ HEADER_RANGES_KEY := by simp [PRUNED_RANGES_KEY, HEADER_RANGES_KEY]
theorem hP_ne_S : PRUNED_RANGES_KEY ≠ SAMPLED_RANGES_KEY := by simp [PRUNED_RANGES_KEY, SAMPLED_RANGES_KEY]
theorem hP_ne_A : PRUNED_RANGES_KEY ≠ V2_SAMPLED_RANGES_KEY := by simp [PRUNED_RANGES_KEY, V2_SAMPLED_RANGES_KEY]

/-- the vector under the v2 sampled key -/
def oldSampled (db : Db) : Raw := ((db.ranges.getD []).get V2_SAMPLED_RANGES_KEY).getD []

def legalA (db : Db) : Bool := legal (oldSampled db)

/-- the database a successful migration from v1 commits -/
def afterV1 (newId : Nat) (db : Db) : Db :=
  let raw := (db.heightRanges.getD []).map (fun e => e.2)
  let rt := db.ranges.getD []
  createTables newId { db with
    heightRanges := none
    ranges := some ((((rt.insert HEADER_RANGES_KEY raw).insert SAMPLED_RANGES_KEY (merge (oldSampled db)))).remove V2_SAMPLED_RANGES_KEY)
    version := some 3 }

/-- the database a successful migration from v2 commits -/
def afterV2 (newId : Nat) (db : Db) : Db :=
  let rt := db.ranges.getD []
  createTables newId { db with
    ranges := some ((rt.insert SAMPLED_RANGES_KEY (merge (oldSampled db))).remove V2_SAMPLED_RANGES_KEY)
    version := some 3 }

theorem openTx_eq (newId : Nat) (db : Db) :
    openTx newId db = match db.version with
      | none => .ok (createTables newId { db with version := some 3 })
      | some 0 => .error .debugAssert
      | some 1 => if legalA db then .ok (afterV1 newId db) else .error .storedData
      | some 2 => if legalA db then .ok (afterV2 newId db) else .error .storedData
      | some 3 => .ok (createTables newId db)
      | some (v + 4) => .error (.incompatible (v + 4)) := by
  split
  next hv => simp [openTx, hv, SCHEMA_VERSION, createTables]
  next hv => simp [openTx, hv, migrateV1toV2, SCHEMA_VERSION, V1V2_GATE, V1V2_FROM]
  next hv =>
    cases hl : legal (((db.ranges.getD []).get V2_SAMPLED_RANGES_KEY).getD []) <;>
      simp [openTx, hv, migrateV1toV2, migrateV2toV3, getRanges, fromVec_eq, SCHEMA_VERSION, V1V2_GATE,
        V1V2_FROM, V1V2_TARGET, V2V3_GATE, V2V3_FROM, V2V3_TARGET, afterV1, legalA, oldSampled, hl,
        get_insert_ne _ _ _ _ hA_ne_H]
  next hv =>
    cases hl : legal (((db.ranges.getD []).get V2_SAMPLED_RANGES_KEY).getD []) <;>
      simp [openTx, hv, migrateV1toV2, migrateV2toV3, getRanges, fromVec_eq, SCHEMA_VERSION, V1V2_GATE,
        V2V3_GATE, V2V3_FROM, V2V3_TARGET, afterV2, legalA, oldSampled, hl]
  next hv => simp [openTx, hv, migrateV1toV2, migrateV2toV3, SCHEMA_VERSION, V1V2_GATE, V2V3_GATE, createTables]
  next v hv => simp [openTx, hv, SCHEMA_VERSION]

theorem heldSampled_v12 (db : Db) (hv : db.version = some 1 ∨ db.version = some 2) :
    Lumina.Spec.C23.heldSampled db = if legalA db then some (merge (oldSampled db)) else none := by
  have hk : V2_SAMPLED_RANGES_KEY = "KEY.ACCEPTED_SAMPING_RANGES" := by decide
  rcases hv with hv | hv <;>
    simp only [Lumina.Spec.C23.heldSampled, hv, underKey_eq, reading, legalA, oldSampled, hk]

theorem legalA_of_held (db : Db) (hv : db.version = some 1 ∨ db.version = some 2)
    (hs : Lumina.Spec.C23.heldSampled db ≠ none) : legalA db = true := by
  rw [heldSampled_v12 db hv] at hs
  cases hl : legalA db <;> simp_all

theorem reading_merge (rs : Raw) (h : legal rs = true) : reading (merge rs) = some (merge rs) := by
  obtain ⟨h1, h2⟩ := merge_legal_idem rs h
  simp [reading, h1, h2]

theorem afterV1_reports (newId : Nat) (db : Db) (hv : db.version = some 1) (hleg : legalA db = true) :
    toOpt (reportStored (afterV1 newId db)) = Lumina.Spec.C23.heldStored db ∧
    toOpt (reportSampled (afterV1 newId db)) = Lumina.Spec.C23.heldSampled db := by
  constructor
  · simp only [reportStored, report, getRanges, afterV1, createTables, Option.getD_some,
      get_remove_ne _ _ _ hH_ne_A, get_insert_ne _ _ _ _ hH_ne_S, get_insert_self,
      toOpt_fromVec, Lumina.Spec.C23.heldStored, hv]
  · simp only [reportSampled, report, getRanges, afterV1, createTables, Option.getD_some,
      get_remove_ne _ _ _ hS_ne_A, get_insert_self, toOpt_fromVec, heldSampled_v12 db (Or.inl hv), hleg, if_true]
    exact reading_merge _ hleg

theorem afterV2_reports (newId : Nat) (db : Db) (hv : db.version = some 2) (hleg : legalA db = true) :
    toOpt (reportStored (afterV2 newId db)) = Lumina.Spec.C23.heldStored db ∧
    toOpt (reportSampled (afterV2 newId db)) = Lumina.Spec.C23.heldSampled db := by
  have hH : HEADER_RANGES_KEY = "KEY.HEADER_RANGES" := rfl
  constructor
  · simp only [reportStored, report, getRanges, afterV2, createTables, Option.getD_some,
      get_remove_ne _ _ _ hH_ne_A, get_insert_ne _ _ _ _ hH_ne_S, toOpt_fromVec]
    simp only [Lumina.Spec.C23.heldStored, hv, underKey_eq, hH]
  · simp only [reportSampled, report, getRanges, afterV2, createTables, Option.getD_some,
      get_remove_ne _ _ _ hS_ne_A, get_insert_self, toOpt_fromVec, heldSampled_v12 db (Or.inr hv), hleg, if_true]
    exact reading_merge _ hleg

theorem createTables_reports (newId : Nat) (db : Db) (hv : db.version = some 3) :
    toOpt (reportStored (createTables newId db)) = Lumina.Spec.C23.heldStored db ∧
    toOpt (reportSampled (createTables newId db)) = Lumina.Spec.C23.heldSampled db := by
  have hH : HEADER_RANGES_KEY = "KEY.HEADER_RANGES" := rfl
  have hS : SAMPLED_RANGES_KEY = "KEY.SAMPLED_RANGES" := rfl
  constructor
  · simp only [reportStored, report, getRanges, createTables, Option.getD_some,
      toOpt_fromVec, Lumina.Spec.C23.heldStored, hv, underKey_eq, hH]
  · simp only [reportSampled, report, getRanges, createTables, Option.getD_some,
      toOpt_fromVec, Lumina.Spec.C23.heldSampled, hv, underKey_eq, hS]

/-- every successfully opened database: version 3, all tables exist, an identity is stored -/
def Opened (db : Db) : Prop :=
  db.version = some 3 ∧ db.heights = true ∧ db.headers = true ∧ db.sampling = true ∧
    (∃ t, db.ranges = some t) ∧ ∃ k, db.identity = some (some k)

theorem createTables_opened (newId : Nat) (db : Db) (hv : db.version = some 3) :
    Opened (createTables newId db) := by
  refine ⟨by simpa [createTables] using hv, by simp [createTables], by simp [createTables],
    by simp [createTables], ⟨db.ranges.getD [], by simp [createTables]⟩, ?_⟩
  simp only [createTables]
  split <;> simp

theorem createTables_fixed (newId : Nat) (db : Db) (h : Opened db) : createTables newId db = db := by
  obtain ⟨hv, hh, hd, hs, ⟨t, ht⟩, ⟨k, hk⟩⟩ := h
  cases db
  simp_all [createTables]

def KeyOrdered : HeightRanges → Prop
  | [] => True
  | [_] => True
  | a :: b :: rest => a.1 < b.1 ∧ KeyOrdered (b :: rest)

theorem keyOrdered_tail {a : Nat × (Nat × Nat)} {t : HeightRanges} (h : KeyOrdered (a :: t)) : KeyOrdered t := by
  cases t with
  | nil => trivial
  | cons b rest => exact h.2

theorem hrInsert_head (t : HeightRanges) (k : Nat) (v : Nat × Nat) :
    ∃ e rest, hrInsert t k v = e :: rest ∧ (e.1 = k ∨ ∃ e' rest', t = e' :: rest' ∧ e = e' ∧ e'.1 < k) := by
  cases t with
  | nil => exact ⟨(k, v), [], rfl, Or.inl rfl⟩
  | cons a rest =>
    simp only [hrInsert]
    by_cases h1 : k < a.1
    · exact ⟨(k, v), a :: rest, by simp [h1], Or.inl rfl⟩
    · by_cases h2 : k = a.1
      · exact ⟨(k, v), rest, by simp [h2], Or.inl rfl⟩
      · exact ⟨a, hrInsert rest k v, by simp [h1, h2], Or.inr ⟨a, rest, rfl, rfl, by omega⟩⟩

theorem hrInsert_keyOrdered (t : HeightRanges) (k : Nat) (v : Nat × Nat) (h : KeyOrdered t) :
    KeyOrdered (hrInsert t k v) := by
  induction t with
  | nil => trivial
  | cons a rest ih =>
    simp only [hrInsert]
    by_cases h1 : k < a.1
    · simp only [h1, ↓reduceIte]; exact ⟨h1, h⟩
    · by_cases h2 : k = a.1
      · simp only [h2, Nat.lt_irrefl, ↓reduceIte]
        cases rest with
        | nil => trivial
        | cons b rest' => exact h
      · simp only [h1, h2, ↓reduceIte]
        have ih' := ih (keyOrdered_tail h)
        obtain ⟨e, r, he, hcase⟩ := hrInsert_head rest k v
        rw [he] at ih' ⊢
        refine ⟨?_, ih'⟩
        rcases hcase with hk | ⟨e', rest', hrest, hee, _⟩
        · rw [hk]; omega
        · subst hrest; subst hee; exact h.1

end Lumina.Proofs.RedbSchema

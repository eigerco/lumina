/-
  Lemmas about the pruner model (`Lumina/Model/Pruner.lean`): the window-edge search
  `find_height_after_window` (C36).  The binary search is run once, by `findSlowGo_run`, for any
  property of the loop state that `Narrows`; correctness (`SlowInv`) and totality are its instances.
  Core Lean only.
-/
import Lumina.Model.Pruner
import Lumina.Proofs.RangesTrunc
import Lumina.Spec.C36

namespace Lumina.Proofs.Pruner
open Lumina.Model.Ranges hiding Inv
open Lumina.Model.Pruner
open Lumina.Proofs.Ranges

open Lumina.Model.Ranges renaming Inv → RInv

/-- times of stored headers increase with height -/
def Mono (stored : Ranges) (T : Nat → Nat) : Prop :=
  ∀ a b, mem stored a → mem stored b → a < b → T a < T b

/-- the header store holds (at least) the heights of `stored`, with times `T` -/
def StoreOK (store : Nat → Option Nat) (stored : Ranges) (T : Nat → Nat) : Prop :=
  ∀ h, mem stored h → store h = some (T h)

/-- admissible previous answer: none, or `p ≥ 1` with nothing stored at or below `p` newer than the cutoff -/
def Adm (stored : Ranges) (T : Nat → Nat) (cutoff : Nat) : Option Nat → Prop
  | none => True
  | some p => 1 ≤ p ∧ ∀ h, mem stored h → h ≤ p → T h ≤ cutoff

/-- `h` is a right (correct) answer; `Prop` form of `Spec.C36.rightEdge` -/
def RightEdge (stored : Ranges) (T : Nat → Nat) (cutoff h : Nat) : Prop :=
  mem stored h ∧ T h ≤ cutoff ∧ ∀ h', mem stored h' → h < h' → ¬ T h' < cutoff

def NothingOlder (stored : Ranges) (T : Nat → Nat) (cutoff : Nat) : Prop :=
  ∀ h, mem stored h → ¬ T h < cutoff

def AnswerOK (stored : Ranges) (T : Nat → Nat) (cutoff : Nat) : Option Nat → Prop
  | some h => RightEdge stored T cutoff h
  | none => NothingOlder stored T cutoff

/-- the exact answer of the binary search: the greatest stored height strictly older than the cutoff -/
def SlowAnswer (stored : Ranges) (T : Nat → Nat) (cutoff : Nat) : Option Nat → Prop
  | some h => mem stored h ∧ T h < cutoff ∧ ∀ h', mem stored h' → h < h' → ¬ T h' < cutoff
  | none => NothingOlder stored T cutoff

theorem SlowAnswer.answerOK {stored T cutoff} {o : Option Nat} (h : SlowAnswer stored T cutoff o) :
    AnswerOK stored T cutoff o := by
  cases o with
  | none => exact h
  | some x => exact ⟨h.1, Nat.le_of_lt h.2.1, h.2.2⟩

theorem Mono.le {stored T} (hm : Mono stored T) {a b : Nat} (ha : mem stored a) (hb : mem stored b)
    (hab : a ≤ b) : T a ≤ T b := by
  rcases Nat.eq_or_lt_of_le hab with h | h
  · subst h; exact Nat.le_refl _
  · exact Nat.le_of_lt (hm a b ha hb h)

theorem liftR_ok {α} (a : α) : liftR (.ok a : Res α) = .ok a := rfl

theorem getBlockTime_ok {store stored T} (hs : StoreOK store stored T) {h : Nat} (hm : mem stored h) :
    getBlockTime store h = .ok (T h) := by
  simp [getBlockTime, hs h hm]

/-- `partitions` on a well-formed value: nothing for the empty value, otherwise a split
    `left < middle < right` of the set into well-formed parts.  Not an assumption: `partitionsOK` proves it
    next; the search lemmas take it as an argument because it is all they use of `partitions`. -/
def PartitionsOK : Prop := ∀ {rs : Ranges}, RInv rs →
  (rs = [] ∧ partitions rs = .ok none) ∨
  ∃ l m r, partitions rs = .ok (some (l, m, r)) ∧ RInv l ∧ RInv r ∧
    (∀ h, mem rs h ↔ mem l h ∨ h = m ∨ mem r h) ∧ (∀ h, mem l h → h < m) ∧ (∀ h, mem r h → m < h)

/-- `partitions_spec` (`Proofs/RangesTrunc.lean`, stated on the sorted height lists) in the
    membership form used here -/
theorem partitionsOK : PartitionsOK := by
  intro rs hi
  rcases partitions_spec hi with h | ⟨_, l, m, r, hp, hl, hr, hh, _, _⟩
  · exact Or.inl h
  · exact Or.inr ⟨l, m, r, hp, hl, hr, partitions_mem hh, (partitions_order hi hh).1, (partitions_order hi hh).2⟩

theorem span_pos {rs : Ranges} (hi : RInv rs) {m : Nat} (hm : mem rs m) : 1 ≤ span rs := by
  obtain ⟨hd, hh, h1⟩ := head_of_mem hi hm
  obtain ⟨tl, ht, h2⟩ := tail_of_mem hi hm
  simp only [span, hh, ht]
  omega

theorem span_lt {rs l : Ranges} (hi : RInv rs) (hl : RInv l) {m : Nat} (hm : mem rs m)
    (hsub : ∀ h, mem l h → mem rs h) (hside : (∀ h, mem l h → h < m) ∨ (∀ h, mem l h → m < h)) :
    span l < span rs := by
  have hpos := span_pos hi hm
  unfold span at hpos ⊢
  cases hlh : head l with
  | none => simp only; exact hpos
  | some x =>
    cases hlt : tail l with
    | none =>
      rw [tail_eq_none_iff.1 hlt] at hlh
      simp [head] at hlh
    | some y =>
      obtain ⟨hd, hh, hm1⟩ := head_of_mem hi hm
      obtain ⟨tl, ht, hm2⟩ := tail_of_mem hi hm
      rw [hh, ht] at hpos ⊢
      have hx := head_spec hl hlh
      have hy := tail_spec hl hlt
      have hxy := hy.2 x hx.1
      have hxr := (head_spec hi hh).2 x (hsub x hx.1)
      have hyr := (tail_spec hi ht).2 y (hsub y hy.1)
      simp only
      rcases hside with hs | hs
      · have := hs x hx.1; omega
      · have := hs y hy.1; omega

/-- loop invariant of `find_height_after_window_slow` (`S` = the full stored set, `ranges` a part of it) -/
structure SlowInv (S : Ranges) (T : Nat → Nat) (cutoff : Nat) (ranges : Ranges)
    (highest : Option BlockInfo) : Prop where
  hi_ok : ∀ b, highest = some b → mem S b.1 ∧ b.2 = T b.1 ∧ T b.1 < cutoff
  above : ∀ b, highest = some b → ∀ h, mem ranges h → b.1 < h
  cand : ∀ h, mem S h → T h < cutoff → mem ranges h ∨ ∃ b, highest = some b ∧ h ≤ b.1

theorem slow_exit {S : Ranges} {T : Nat → Nat} {cutoff : Nat} {highest : Option BlockInfo}
    (hinv : SlowInv S T cutoff [] highest) : SlowAnswer S T cutoff (highest.map (fun b => b.1)) := by
  cases hh : highest with
  | none =>
    intro h hS hlt
    rcases hinv.cand h hS hlt with hc | ⟨b, hb, _⟩
    · exact absurd hc (mem_nil h)
    · rw [hh] at hb; cases hb
  | some b =>
    obtain ⟨h1, _, h3⟩ := hinv.hi_ok b hh
    show SlowAnswer S T cutoff (some b.1)
    refine ⟨h1, h3, ?_⟩
    intro h' hS' hlt' hc
    rcases hinv.cand h' hS' hc with hc' | ⟨b', hb', hle⟩
    · exact absurd hc' (mem_nil h')
    · rw [hh] at hb'; cases hb'; omega

/-- `P` survives both ways in which the loop narrows a part `rs` of the stored set `S` at a `middle` with time `T m` -/
def Narrows (S : Ranges) (T : Nat → Nat) (cutoff : Nat) (P : Ranges → Option BlockInfo → Prop) : Prop :=
  ∀ rs hi l m r, P rs hi → (∀ h, mem rs h → mem S h) → (∀ h, mem rs h ↔ mem l h ∨ h = m ∨ mem r h) →
    (∀ h, mem l h → h < m) → (∀ h, mem r h → m < h) →
    (T m < cutoff → P r (updHighest hi (m, T m))) ∧ (¬ T m < cutoff → P l hi)

/-- The loop runs to its exit, whatever the times are, on every well-formed part `ranges` of the stored set, and keeps
    every property `P` of (`ranges`, `highest`) that survives narrowing.
    `n` bounds the measure `span ranges`, which both parts of a partition decrease. -/
theorem findSlowGo_run (hp : PartitionsOK) {store : Nat → Option Nat} {S : Ranges} {T : Nat → Nat} {cutoff : Nat}
    (hs : StoreOK store S T) (P : Ranges → Option BlockInfo → Prop) (hstep : Narrows S T cutoff P) :
    ∀ (n : Nat) (ranges : Ranges) (highest : Option BlockInfo), span ranges < n → RInv ranges →
      (∀ h, mem ranges h → mem S h) → P ranges highest →
      ∃ hi', findSlowGo store cutoff ranges highest = .ok (hi'.map (fun b => b.1)) ∧ P [] hi'
  | 0, _, _, hn, _, _, _ => by omega
  | n + 1, ranges, highest, hn, hir, hsub, hinv => by
    rcases hp hir with ⟨rfl, hpart⟩ | ⟨l, m, r, hpart, hil, hirr, hmem, hlm, hrm⟩
    · rw [findSlowGo, hpart]
      exact ⟨highest, rfl, hinv⟩
    · have hmm : mem ranges m := (hmem m).2 (Or.inr (Or.inl rfl))
      have hl : ∀ h, mem l h → mem ranges h := fun h hh => (hmem h).2 (Or.inl hh)
      have hr : ∀ h, mem r h → mem ranges h := fun h hh => (hmem h).2 (Or.inr (Or.inr hh))
      have hsl : span l < span ranges := span_lt hir hil hmm hl (Or.inl hlm)
      have hsr : span r < span ranges := span_lt hir hirr hmm hr (Or.inr hrm)
      obtain ⟨h1, h2⟩ := hstep _ _ l m r hinv hsub hmem hlm hrm
      rw [findSlowGo, hpart]
      simp only [hsl, hsr, and_self, ↓reduceDIte, getBlockTime_ok hs (hsub m hmm)]
      by_cases hlt : T m < cutoff
      · simp only [hlt, ↓reduceIte]
        exact findSlowGo_run hp hs P hstep n r _ (by omega) hirr (fun h hh => hsub h (hr h hh)) (h1 hlt)
      · simp only [hlt, ↓reduceIte]
        exact findSlowGo_run hp hs P hstep n l _ (by omega) hil (fun h hh => hsub h (hl h hh)) (h2 hlt)

/-- `find_height_after_window_slow`: terminates (never `diverge`), never fails, and returns the
    greatest stored height whose time is strictly older than the cutoff -/
theorem findSlow_correct (hp : PartitionsOK) {store : Nat → Option Nat} {stored : Ranges} {T : Nat → Nat}
    (cutoff : Nat) (hi : RInv stored) (hs : StoreOK store stored T) (hm : Mono stored T) :
    ∃ o, findSlow store stored cutoff = .ok o ∧ SlowAnswer stored T cutoff o := by
  suffices hstep : Narrows stored T cutoff (SlowInv stored T cutoff) by
    obtain ⟨hi', h1, h2⟩ := findSlowGo_run hp hs _ hstep (span stored + 1) stored none (Nat.lt_succ_self _) hi
      (fun _ h => h) ⟨fun b hb => (by cases hb), fun b hb => (by cases hb), fun h hS _ => Or.inl hS⟩
    exact ⟨_, h1, slow_exit h2⟩
  · intro ranges highest l m r hinv hsub hmem hlm hrm
    have hmm : mem ranges m := (hmem m).2 (Or.inr (Or.inl rfl))
    have hmS : mem stored m := hsub m hmm
    constructor
    · intro hlt
      -- `middle` is older than the cutoff and newer than `highest`: it becomes `highest`, the search goes right
      have hupd : updHighest highest (m, T m) = some (m, T m) := by
        cases hh : highest with
        | none => rfl
        | some b =>
          obtain ⟨h1, h2, _⟩ := hinv.hi_ok b hh
          have := hm b.1 m h1 hmS (hinv.above b hh m hmm)
          simp [updHighest, h2, this]
      rw [hupd]
      refine ⟨?_, ?_, ?_⟩
      · intro b hb; cases hb; exact ⟨hmS, rfl, hlt⟩
      · intro b hb h hh; cases hb; exact hrm h hh
      · intro h hS hltc
        rcases hinv.cand h hS hltc with hc | ⟨b, hb, hle⟩
        · rcases (hmem h).1 hc with h1 | h1 | h1
          · exact Or.inr ⟨(m, T m), rfl, Nat.le_of_lt (hlm h h1)⟩
          · exact Or.inr ⟨(m, T m), rfl, by subst h1; exact Nat.le_refl _⟩
          · exact Or.inl h1
        · have := hinv.above b hb m hmm
          exact Or.inr ⟨(m, T m), rfl, by simp only; omega⟩
    · intro hlt
      -- `middle` and, times increasing, everything right of it is inside the window: the search goes left
      refine ⟨hinv.hi_ok, ?_, ?_⟩
      · intro b hb h hh; exact hinv.above b hb h ((hmem h).2 (Or.inl hh))
      · intro h hS hltc
        rcases hinv.cand h hS hltc with hc | hc
        · rcases (hmem h).1 hc with h1 | h1 | h1
          · exact Or.inl h1
          · subst h1; exact absurd hltc hlt
          · have := hm.le hmS hS (Nat.le_of_lt (hrm h h1))
            omega
        · exact Or.inr hc

/-- the `while let Some(..) = ranges.partitions()` loop terminates on every well-formed
    `BlockRanges` whose heights are in the store: never `diverge`, never an error; no assumption on the times -/
theorem findSlow_total {store : Nat → Option Nat} {stored : Ranges} {T : Nat → Nat} (cutoff : Nat)
    (hi : RInv stored) (hs : StoreOK store stored T) : ∃ o, findSlow store stored cutoff = .ok o := by
  obtain ⟨hi', h1, _⟩ := findSlowGo_run partitionsOK hs (cutoff := cutoff) (fun _ _ => True)
    (fun _ _ _ _ _ _ _ _ _ _ => ⟨fun _ => trivial, fun _ => trivial⟩)
    (span stored + 1) stored none (Nat.lt_succ_self _) hi (fun _ h => h) trivial
  exact ⟨_, h1⟩

theorem prevOrLeft_correct {stored : Ranges} {T : Nat → Nat} {cutoff p : Nat} (hi : RInv stored)
    (hp1 : 1 ≤ p) (hadm : ∀ h, mem stored h → h ≤ p → T h ≤ cutoff)
    (habove : ∀ h', mem stored h' → p < h' → ¬ T h' < cutoff) :
    ∃ x, prevOrLeft stored p = .ok x ∧ AnswerOK stored T cutoff x := by
  unfold prevOrLeft
  by_cases hc : contains stored p = true
  · have hmp := (contains_iff_mem stored p).1 hc
    refine ⟨some p, by simp [hc], hmp, hadm p hmp (Nat.le_refl _), habove⟩
  · have hnp : ¬ mem stored p := fun h => hc ((contains_iff_mem stored p).2 h)
    obtain ⟨o, h1, h2, h3⟩ := leftOf_spec hi hp1
    refine ⟨o, by simp [hc, h1, liftR_ok], ?_⟩
    cases o with
    | none =>
      intro h hmh hlt
      have hle := h2 rfl h hmh
      rcases Nat.eq_or_lt_of_le hle with he | hl
      · subst he; exact hnp hmh
      · exact habove h hmh hl hlt
    | some y =>
      obtain ⟨k1, k2, k3⟩ := h3 y rfl
      refine ⟨k1, hadm y k1 (Nat.le_of_lt k2), ?_⟩
      intro h' hmh' hlt'
      by_cases hq : p < h'
      · exact habove h' hmh' hq
      · have : h' ≠ p := fun he => hnp (he ▸ hmh')
        have := k3 h' hmh' (by omega)
        omega

theorem findFast_correct {store : Nat → Option Nat} {stored : Ranges} {T : Nat → Nat}
    (cutoff : Nat) (prev : Option Nat) (hi : RInv stored) (hs : StoreOK store stored T)
    (hm : Mono stored T) (ha : Adm stored T cutoff prev) :
    ∃ o, findFast store stored cutoff prev = .ok o ∧ ∀ res, o = some res → AnswerOK stored T cutoff res := by
  cases prev with
  | none =>
    unfold findFast
    cases htl : tail stored with
    | none =>
      refine ⟨some none, rfl, ?_⟩
      intro res hres; cases hres
      intro h hmh
      rw [tail_eq_none_iff.1 htl] at hmh
      exact absurd hmh (mem_nil h)
    | some tl =>
      obtain ⟨k1, k2⟩ := tail_spec hi htl
      simp only [getBlockTime_ok hs k1]
      by_cases hc : cutoff < T tl
      · refine ⟨some none, by simp [hc], ?_⟩
        intro res hres; cases hres
        intro h hmh hlt
        have := hm.le k1 hmh (k2 h hmh)
        omega
      · exact ⟨none, by simp [hc], fun res hres => by cases hres⟩
  | some p =>
    obtain ⟨hp1, hadm⟩ := ha
    unfold findFast
    obtain ⟨o1, h1, h2, h3⟩ := rightOf_spec hi hp1
    simp only [h1, liftR_ok]
    cases o1 with
    | none =>
      obtain ⟨x, hx1, hx2⟩ := prevOrLeft_correct (T := T) (cutoff := cutoff) hi hp1 hadm
        (fun h' hmh' hlt' => by have := h2 rfl h' hmh'; omega)
      exact ⟨some x, by simp [hx1], fun res hres => by cases hres; exact hx2⟩
    | some r =>
      obtain ⟨r1, r2, r3⟩ := h3 r rfl
      simp only [getBlockTime_ok hs r1]
      by_cases hc : cutoff < T r
      · obtain ⟨x, hx1, hx2⟩ := prevOrLeft_correct (T := T) (cutoff := cutoff) hi hp1 hadm
          (fun h' hmh' hlt' => by
            have := hm.le r1 hmh' (r3 h' hmh' hlt'); omega)
        exact ⟨some x, by simp [hc, hx1], fun res hres => by cases hres; exact hx2⟩
      · have hr1 : 1 ≤ r := by omega
        obtain ⟨o2, g1, g2, g3⟩ := rightOf_spec hi hr1
        simp only [hc, ↓reduceIte, g1, liftR_ok]
        cases o2 with
        | none =>
          refine ⟨some (some r), rfl, ?_⟩
          intro res hres; cases hres
          refine ⟨r1, by omega, ?_⟩
          intro h' hmh' hlt'
          have := g2 rfl h' hmh'; omega
        | some rr =>
          obtain ⟨q1, q2, q3⟩ := g3 rr rfl
          simp only [getBlockTime_ok hs q1]
          by_cases hc2 : cutoff < T rr
          · refine ⟨some (some r), by simp [hc2], ?_⟩
            intro res hres; cases hres
            refine ⟨r1, by omega, ?_⟩
            intro h' hmh' hlt'
            have := hm.le q1 hmh' (q3 h' hmh' hlt'); omega
          · exact ⟨none, by simp [hc2], fun res hres => by cases hres⟩

/-- `find_height_after_window`: total and right, for every well-formed stored set, increasing
    times, every cutoff and every admissible previous answer -/
theorem find_correct (hp : PartitionsOK) {store : Nat → Option Nat} {stored : Ranges} {T : Nat → Nat}
    (cutoff : Nat) (prev : Option Nat) (hi : RInv stored) (hs : StoreOK store stored T)
    (hm : Mono stored T) (ha : Adm stored T cutoff prev) :
    ∃ o, find store stored cutoff prev = .ok o ∧ AnswerOK stored T cutoff o := by
  obtain ⟨o, h1, h2⟩ := findFast_correct cutoff prev hi hs hm ha
  unfold find
  rw [h1]
  cases o with
  | some res => exact ⟨res, rfl, h2 res rfl⟩
  | none =>
    obtain ⟨o', k1, k2⟩ := findSlow_correct hp cutoff hi hs hm
    exact ⟨o', k1, k2.answerOK⟩

open Lumina.Spec.C36 in
theorem timesIncrease_iff (stored : Ranges) (T : Nat → Nat) :
    timesIncrease (heights stored) T = true ↔ Mono stored T := by
  simp only [timesIncrease, List.all_eq_true, mem_heights, Bool.or_eq_true, Bool.not_eq_true',
    decide_eq_false_iff_not, decide_eq_true_eq, Mono, ← Decidable.imp_iff_not_or]
  exact ⟨fun h a b ha hb => h a ha b hb, fun h a ha b hb => h a b ha hb⟩

open Lumina.Spec.C36 in
theorem admissible_iff (stored : Ranges) (T : Nat → Nat) (cutoff : Nat) (prev : Option Nat) :
    admissible (heights stored) T cutoff prev = true ↔ Adm stored T cutoff prev := by
  cases prev <;> simp only [admissible, Bool.and_eq_true, decide_eq_true_eq, List.all_eq_true, mem_heights,
    Bool.or_eq_true, Bool.not_eq_true', decide_eq_false_iff_not, Adm, ← Decidable.imp_iff_not_or]

open Lumina.Spec.C36 in
theorem answerOK_iff (stored : Ranges) (T : Nat → Nat) (cutoff : Nat) (o : Option Nat) :
    answerOK (heights stored) T cutoff o = true ↔ AnswerOK stored T cutoff o := by
  cases o <;> simp only [answerOK, nothingOlder, rightEdge, Bool.and_eq_true, List.contains_iff_mem, List.all_eq_true,
    mem_heights, decide_eq_true_eq, Bool.or_eq_true, Bool.not_eq_true', decide_eq_false_iff_not, AnswerOK, NothingOlder,
    RightEdge, ← Decidable.imp_iff_not_or, and_assoc]

/-- An answer that was right for an earlier cutoff (possibly for an earlier content of the
    store) is admissible now, provided header times increase with height over the heights
    involved (`p` itself and what is stored now). -/
theorem adm_of_earlier_answer {stored : Ranges} {T : Nat → Nat} {cutoff cutoff' p : Nat}
    (hp1 : 1 ≤ p) (hwas : T p ≤ cutoff') (hc : cutoff' ≤ cutoff)
    (hmono : ∀ h, mem stored h → h ≤ p → T h ≤ T p) :
    Adm stored T cutoff (some p) :=
  ⟨hp1, fun h hm hle => Nat.le_trans (hmono h hm hle) (Nat.le_trans hwas hc)⟩

end Lumina.Proofs.Pruner

/-
  Lemmas for C40 (model `Lumina/Model/Pools.lean`).  Two invariants, each preserved once per operation
  (`removePeer`, `ensurePool`, `vote`, `validatePool`, `tryUpdateSubjectiveHead`, `pollLoop`) and carried along
  histories (`run` is a `foldl`, so by `List.foldlRecOn`): `PoolsInv` (`PoolsOk`: what `hash_pools` and `validated_pools` hold, any history) and `HInv`
  (every announcement is excused or still stands; histories without failing header tasks).  The blocking
  lemmas between them are about one call, from any state.
-/
import Lumina.Model.PoolsView
import Lumina.Proofs.Util

namespace Lumina.Proofs.Pools
open Lumina.Model.Pools

theorem alGet_mem {β} {l : List (Nat × β)} {k : Nat} {v : β} (h : alGet l k = some v) : (k, v) ∈ l := by
  obtain ⟨e, hf, rfl⟩ := Option.map_eq_some_iff.1 h
  obtain ⟨he, rfl⟩ := Util.find?_key_some _ hf
  exact he

theorem alGet_none_iff {β} {l : List (Nat × β)} {k : Nat} : alGet l k = none ↔ ∀ e ∈ l, e.1 ≠ k := by
  simp [alGet, List.find?_eq_none]

theorem alGet_isSome_of_mem {β} {l : List (Nat × β)} {e : Nat × β} (h : e ∈ l) : (alGet l e.1).isSome := by
  cases hg : alGet l e.1 with
  | some _ => rfl
  | none => exact absurd rfl (alGet_none_iff.1 hg e h)

theorem mem_getD_alGet {l : List (Nat × List Nat)} {k p : Nat} :
    p ∈ (alGet l k).getD [] ↔ ∃ ps, alGet l k = some ps ∧ p ∈ ps := by
  cases alGet l k <;> simp

theorem mem_alRemove {β} {l : List (Nat × β)} {k : Nat} {e : Nat × β} :
    e ∈ alRemove l k ↔ e ∈ l ∧ e.1 ≠ k := by
  simp [alRemove, List.mem_filter]

theorem alRemove_of_none {β} {l : List (Nat × β)} {k : Nat} (h : alGet l k = none) : alRemove l k = l :=
  List.filter_eq_self.2 fun e he => by simpa using alGet_none_iff.1 h e he

theorem any_key_iff {β} {l : List (Nat × β)} {k : Nat} :
    l.any (fun e => e.1 == k) = true ↔ ∃ e ∈ l, e.1 = k := by
  simp

theorem mem_alSet {β} {l : List (Nat × β)} {k : Nat} {v : β} {e : Nat × β} :
    e ∈ alSet l k v ↔ e = (k, v) ∨ (e ∈ l ∧ e.1 ≠ k) := by
  unfold alSet
  split
  · rename_i hany
    obtain ⟨a, ha, hk⟩ := any_key_iff.1 hany
    rw [List.mem_map]
    constructor
    · rintro ⟨b, hb, rfl⟩
      by_cases hk : b.1 = k <;> simp [hk, hb]
    · rintro (rfl | ⟨he, hne⟩)
      · exact ⟨a, ha, by simp [hk]⟩
      · exact ⟨e, he, by simp [hne]⟩
  · rename_i hany
    rw [List.mem_append, List.mem_singleton, or_comm]
    exact or_congr_right (and_iff_left_of_imp fun h hk => hany (any_key_iff.2 ⟨e, h, hk⟩)).symm

theorem alSet_mem_self {β} (l : List (Nat × β)) (k : Nat) (v : β) : (k, v) ∈ alSet l k v :=
  mem_alSet.2 (.inl rfl)

theorem mem_alSet_of_mem {β} {l : List (Nat × β)} {k : Nat} {v : β} {e : Nat × β} (h : e ∈ l) (hk : e.1 ≠ k) :
    e ∈ alSet l k v :=
  mem_alSet.2 (.inr ⟨h, hk⟩)

theorem forall_mem_alSet {β} {Φ : Nat × β → Prop} {l : List (Nat × β)} {k : Nat} {v : β}
    (hl : ∀ e ∈ l, Φ e) (hv : Φ (k, v)) : ∀ e ∈ alSet l k v, Φ e :=
  fun e he => (mem_alSet.1 he).elim (fun h => h ▸ hv) (fun h => hl e h.1)

theorem alGet_alSet {β} (l : List (Nat × β)) (k k' : Nat) (v : β) :
    alGet (alSet l k v) k' = if k' = k then some v else alGet l k' := by
  unfold alSet alGet
  split
  · rename_i hany
    rw [Util.find?_map_key (fun e : Nat × β => e.1) (fun e : Nat × β => e.1) _ (fun e => by split <;> simp_all)]
    cases hf : l.find? (fun e => e.1 == k') with
    | none =>
      obtain ⟨a, ha, hk⟩ := any_key_iff.1 hany
      have : ¬ k' = k := fun e => by simpa [hk, e] using List.find?_eq_none.1 hf a ha
      simp [this]
    | some e =>
      have he : e.1 = k' := by simpa using List.find?_some hf
      by_cases hkk : k' = k <;> simp [hkk, he]
  · rename_i hany
    rw [List.find?_append]
    by_cases hkk : k' = k
    · subst hkk
      have : l.find? (fun e => e.1 == k') = none :=
        List.find?_eq_none.2 fun e he hk => hany (any_key_iff.2 ⟨e, he, by simpa using hk⟩)
      simp [this]
    · simp [hkk, Ne.symm hkk]

theorem isSome_alSet {β} {l : List (Nat × β)} {k k' : Nat} {v : β} (h : (alGet l k').isSome) :
    (alGet (alSet l k v) k').isSome := by
  rw [alGet_alSet]; split <;> simp [h]

theorem alGet_alRemove {β} (l : List (Nat × β)) (k k' : Nat) :
    alGet (alRemove l k) k' = if k' = k then none else alGet l k' := by
  rw [alRemove, alGet, Util.find?_filter_key (fun e : Nat × β => e.1)]
  split <;> rfl

theorem alGet_map {β γ} (l : List (Nat × β)) (f : β → γ) (k : Nat) :
    alGet (l.map (fun e => (e.1, f e.2))) k = (alGet l k).map f := by
  simp [alGet, List.find?_map, Function.comp_def]

theorem forall_mem_alPush {Ψ : Nat → Nat → Prop} {l : List (Nat × List Nat)} {k p : Nat}
    (hl : ∀ e ∈ l, ∀ q ∈ e.2, Ψ e.1 q) (hp : Ψ k p) : ∀ e ∈ alPush l k p, ∀ q ∈ e.2, Ψ e.1 q := by
  refine forall_mem_alSet hl fun q hq => ?_
  rcases List.mem_append.1 hq with hq | hq
  · obtain ⟨old, hg, hqo⟩ := mem_getD_alGet.1 hq
    exact hl _ (alGet_mem hg) q hqo
  · exact List.mem_singleton.1 hq ▸ hp

theorem alGet_alPush (l : List (Nat × List Nat)) (k k' p : Nat) :
    (alGet (alPush l k p) k').getD [] = if k' = k then (alGet l k).getD [] ++ [p] else (alGet l k').getD [] := by
  unfold alPush
  rw [alGet_alSet]
  split <;> simp_all

theorem removeFromPool_validated {q : Nat} {pool : Pool} {x : Nat} :
    removeFromPool q pool = .validated x ↔ pool = .validated x := by
  cases pool <;> simp [removeFromPool]

theorem getPool_ok {s : State} {h : Nat} {ps : List Nat} :
    getPool s h = .ok ps ↔ ∃ x, alGet s.hashPools h = some (.validated x) ∧ alGet s.validatedPools x = some ps := by
  unfold getPool
  split
  · rename_i x hg
    split <;> simp_all
  · simp_all
  · split <;> (try split) <;> simp_all

theorem getPool_panic {s : State} {h : Nat} :
    getPool s h = .panic ↔ ∃ x, alGet s.hashPools h = some (.validated x) ∧ alGet s.validatedPools x = none := by
  unfold getPool
  split
  · rename_i x hg
    split <;> simp_all
  · simp_all
  · split <;> (try split) <;> simp_all

theorem ensurePool_frame (s : State) (k : Nat) :
    ensurePool s k = { s with hashPools := (ensurePool s k).hashPools, queue := (ensurePool s k).queue } := by
  unfold ensurePool; split <;> rfl

theorem vote_frame (s : State) (p x k : Nat) :
    vote s p x k = { s with hashPools := (vote s p x k).hashPools, validatedPools := (vote s p x k).validatedPools,
                            pendingEvents := (vote s p x k).pendingEvents, blocked := (vote s p x k).blocked } := by
  unfold vote
  repeat' split
  all_goals rfl

theorem evict_frame (s : State) (hs : List Nat) :
    evict s hs = { s with hashPools := (evict s hs).hashPools, validatedPools := (evict s hs).validatedPools } := by
  induction hs generalizing s with
  | nil => rfl
  | cons h hs ih => simp only [evict]; split <;> exact ih _

theorem evict_cons (s : State) (h : Nat) (hs : List Nat) :
    ∃ vp, (∀ e ∈ vp, e ∈ s.validatedPools) ∧
      evict s (h :: hs) = evict { s with hashPools := alRemove s.hashPools h, validatedPools := vp } hs := by
  simp only [evict]
  split
  · exact ⟨_, fun e he => (mem_alRemove.1 he).1, rfl⟩
  · exact ⟨_, fun e he => he, rfl⟩
  · rename_i hnone
    exact ⟨_, fun e he => he, by rw [alRemove_of_none hnone]⟩

theorem mem_evict (hs : List Nat) : ∀ (s : State),
    (∀ e ∈ (evict s hs).hashPools, e ∈ s.hashPools ∧ e.1 ∉ hs) ∧
    ∀ e ∈ (evict s hs).validatedPools, e ∈ s.validatedPools := by
  induction hs with
  | nil => exact fun s => ⟨fun e he => ⟨he, by simp⟩, fun e he => he⟩
  | cons h hs ih =>
    intro s
    obtain ⟨vp, hvp, heq⟩ := evict_cons s h hs
    rw [heq]
    refine ⟨fun e he => ?_, fun e he => hvp e ((ih _).2 e he)⟩
    obtain ⟨h1, h2⟩ := (ih _).1 e he
    obtain ⟨h3, h4⟩ := mem_alRemove.1 h1
    exact ⟨h3, by simp [h4, h2]⟩

theorem alGet_evict_pools (hs : List Nat) : ∀ (s : State) (k : Nat),
    alGet (evict s hs).hashPools k = if k ∈ hs then none else alGet s.hashPools k := by
  induction hs with
  | nil => intro s k; simp [evict]
  | cons h hs ih =>
    intro s k
    obtain ⟨vp, _, heq⟩ := evict_cons s h hs
    rw [heq, ih]
    show (if k ∈ hs then none else alGet (alRemove s.hashPools h) k) = _
    rw [alGet_alRemove]
    by_cases hk : k = h <;> simp [hk]

theorem staleThreshold_mono {a b : Nat} (h : a ≤ b) : staleThreshold a ≤ staleThreshold b := by
  unfold staleThreshold; omega

theorem rootHashWindow_eq : ROOT_HASH_WINDOW = 10 := rfl

/-- `try_update_subjective_head` is an eviction under a head `H` whose threshold is not below the old one: the
    heights evicted are at most `H`'s threshold and not `k` itself, and every height between the two thresholds
    is among them -/
theorem tryUpdate_eq (s : State) (k : Nat) :
    ∃ H hs, tryUpdateSubjectiveHead s k = evict { s with subjectiveHead := some H } hs ∧
      (∀ h ∈ hs, h ≤ staleThreshold H ∧ h ≠ k) ∧
      ∀ old, s.subjectiveHead = some old → staleThreshold old ≤ staleThreshold H ∧
        ∀ h, staleThreshold old < h → h ≤ staleThreshold H → h ∈ hs := by
  unfold tryUpdateSubjectiveHead
  split
  · rename_i hnone
    exact ⟨k, [], rfl, nofun, fun old ho => by rw [hnone] at ho; cases ho⟩
  · rename_i old hold
    simp only [hold, Option.some.injEq, forall_eq']
    split
    · exact ⟨old, [], by rw [← hold]; rfl, nofun, Nat.le_refl _, fun h h1 h2 => absurd h2 (Nat.not_le.2 h1)⟩
    · have hmono : staleThreshold old ≤ staleThreshold k := staleThreshold_mono (by omega)
      refine ⟨k, _, rfl, fun h hm => ?_, hmono, fun h h1 h2 => List.mem_range'_1.2 (by omega)⟩
      rw [List.mem_range'_1] at hm
      have : staleThreshold k < k := by unfold staleThreshold; rw [rootHashWindow_eq]; omega
      omega

theorem tryUpdate_frame (s : State) (h : Nat) :
    tryUpdateSubjectiveHead s h =
      { s with subjectiveHead := (tryUpdateSubjectiveHead s h).subjectiveHead,
               hashPools := (tryUpdateSubjectiveHead s h).hashPools,
               validatedPools := (tryUpdateSubjectiveHead s h).validatedPools } := by
  obtain ⟨H, hs, e, -⟩ := tryUpdate_eq s h
  rw [e, evict_frame]

theorem tryUpdate_events (s : State) (h : Nat) :
    (tryUpdateSubjectiveHead s h).pendingEvents = s.pendingEvents := by
  rw [tryUpdate_frame]

theorem storeHead_mem (stored : List (Nat × Nat)) (t : Nat × Nat) (h : storeHead stored = some t) : t ∈ stored := by
  refine stored.foldlRecOn (motive := fun acc => acc = some t → t ∈ stored) _ (b := none) nofun
    (fun acc ih e he ha => ?_) h
  cases acc with
  | none => exact Option.some.inj ha ▸ he
  | some b =>
    simp only at ha
    split at ha
    · exact Option.some.inj ha ▸ he
    · exact ih ha

/-- where a result of `poll_next` comes from: a header from the store, a failure from the queue -/
def ResFrom (stored : List (Nat × Nat)) (q : List Task) : TaskRes → Prop
  | .ok h x => (h, x) ∈ stored
  | .timeout h => Task.timeout h ∈ q
  | .storeErr h => Task.storeErr h ∈ q

def PollNextOk (stored : List (Nat × Nat)) (q w : List Task) (r : List Task × List Task × Option TaskRes) : Prop :=
  (∀ tk, tk ∈ r.1 ∨ tk ∈ r.2.1 → tk ∈ q ∨ tk ∈ w) ∧ ∀ res, r.2.2 = some res → ResFrom stored q res

theorem pollNext_spec (stored : List (Nat × Nat)) : ∀ (q w : List Task), PollNextOk stored q w (pollNext stored q w)
  | [], w => ⟨fun _ h => h, nofun⟩
  | t :: q, w => by
    have park : PollNextOk stored (t :: q) w (pollNext stored q (w ++ [t])) := by
      obtain ⟨hm, hr⟩ := pollNext_spec stored q (w ++ [t])
      refine ⟨fun tk h => ?_, fun res h => ?_⟩
      · rcases hm tk h with h | h
        · exact .inl (List.mem_cons_of_mem _ h)
        · rcases List.mem_append.1 h with h | h
          · exact .inr h
          · exact .inl (List.mem_singleton.1 h ▸ List.mem_cons_self)
      · have := hr res h
        cases res with
        | ok _ _ => exact this
        | timeout _ => exact List.mem_cons_of_mem _ this
        | storeErr _ => exact List.mem_cons_of_mem _ this
    have yield : ∀ res, ResFrom stored (t :: q) res → PollNextOk stored (t :: q) w (q, w, some res) :=
      fun res hr => ⟨fun tk h => h.imp_left (List.mem_cons_of_mem _), fun _ e => Option.some.inj e ▸ hr⟩
    unfold pollNext
    cases t with
    | real h =>
      simp only
      split
      · rename_i hg
        exact yield _ (alGet_mem hg)
      · exact park
    | timeout h => exact yield _ List.mem_cons_self
    | storeErr h => exact yield _ List.mem_cons_self
    | head =>
      simp only
      split
      · rename_i hg
        exact yield _ (storeHead_mem _ _ hg)
      · exact park

/-! ### what the two pool maps hold (`PoolsInv`) -/

/-- one entry of `hash_pools`: inside the window of a head that exists; candidates hold only votes announced
    for that very height and hash; a height is validated only with a delivered hash `x`, and
    `validated_pools` has an entry for `x` unless another height was delivered with `x` as well (evicting
    that one took the entry away) -/
def PoolOk (vp : List (Nat × List Nat)) (head : Option Nat) (an : List (Nat × Nat × Nat)) (ar : List (Nat × Nat))
    (e : Nat × Pool) : Prop :=
  (∃ H, head = some H ∧ staleThreshold H < e.1) ∧
  match e.2 with
  | .candidates _ cands => ∀ c ∈ cands, ∀ p ∈ c.2, (p, c.1, e.1) ∈ an
  | .validated x => (e.1, x) ∈ ar ∧ ((alGet vp x).isSome ∨ ∃ h, h ≠ e.1 ∧ (h, x) ∈ ar)

theorem PoolOk.mono {vp vp' : List (Nat × List Nat)} {head : Option Nat} {an an' : List (Nat × Nat × Nat)}
    {ar ar' : List (Nat × Nat)} {e : Nat × Pool} (h : PoolOk vp head an ar e)
    (hvp : ∀ x, (alGet vp x).isSome → (alGet vp' x).isSome) (han : ∀ t ∈ an, t ∈ an') (har : ∀ t ∈ ar, t ∈ ar') :
    PoolOk vp' head an' ar' e := by
  obtain ⟨k, pool⟩ := e
  cases pool with
  | candidates v c => exact ⟨h.1, fun c1 hc1 p hp1 => han _ (h.2 c1 hc1 p hp1)⟩
  | validated x => exact ⟨h.1, har _ h.2.1, h.2.2.imp (hvp x) fun ⟨h', hne, hm⟩ => ⟨h', hne, har _ hm⟩⟩

/-- an event is admissible for `P` when the header it stores satisfies `P` -/
def EvP (P : Nat → Nat → Prop) : Event → Prop
  | .store h x => P h x
  | _ => True

/-- `P h x`: a predicate that every stored header satisfies.  Stated over the six fields it reads, so that
    it passes unchanged over every update of the others. -/
structure PoolsOk (P : Nat → Nat → Prop) (hp : List (Nat × Pool)) (vp : List (Nat × List Nat)) (head : Option Nat)
    (an : List (Nat × Nat × Nat)) (ar st : List (Nat × Nat)) : Prop where
  pools : ∀ e ∈ hp, PoolOk vp head an ar e
  vps : ∀ e ∈ vp, ∀ p ∈ e.2, ∃ h, (p, e.1, h) ∈ an
  stored : ∀ t ∈ st, P t.1 t.2
  arrived : ∀ t ∈ ar, P t.1 t.2

abbrev PoolsInv (P : Nat → Nat → Prop) (s : State) : Prop :=
  PoolsOk P s.hashPools s.validatedPools s.subjectiveHead s.announced s.arrived s.stored

section
variable {P : Nat → Nat → Prop} (s : State) (p x k : Nat)

theorem poolsInv_init : PoolsInv P init := ⟨nofun, nofun, nofun, nofun⟩

theorem PoolsOk.mono {hp hp' : List (Nat × Pool)} {vp : List (Nat × List Nat)} {head : Option Nat}
    {an an' : List (Nat × Nat × Nat)} {ar ar' st : List (Nat × Nat)} (h : PoolsOk P hp vp head an ar st)
    (hps : ∀ e ∈ hp', e ∈ hp) (han : ∀ t ∈ an, t ∈ an') (har : ∀ t ∈ ar, t ∈ ar') (hP : ∀ t ∈ ar', P t.1 t.2) :
    PoolsOk P hp' vp head an' ar' st :=
  ⟨fun e he => (h.pools e (hps e he)).mono (fun _ hx => hx) han har,
   fun e he p hp1 => (h.vps e he p hp1).imp fun _ => han _, h.stored, hP⟩

theorem PoolsInv.drop {s : State} (h : PoolsInv P s) (k : Nat) :
    PoolsInv P { s with hashPools := alRemove s.hashPools k } :=
  h.mono (fun _ he => (mem_alRemove.1 he).1) (fun _ ht => ht) (fun _ ht => ht) h.arrived

theorem PoolsInv.arrive {s : State} (h : PoolsInv P s) {k x : Nat} (hs : (k, x) ∈ s.stored) :
    PoolsInv P { s with arrived := s.arrived ++ [(k, x)] } :=
  h.mono (fun _ he => he) (fun _ ht => ht) (fun _ ht => List.mem_append_left _ ht) fun t ht =>
    (List.mem_append.1 ht).elim (h.arrived t) fun h' => List.mem_singleton.1 h' ▸ h.stored _ hs

theorem poolsInv_removePeer (q : Nat) (h : PoolsInv P s) : PoolsInv P (removePeer s q) := by
  refine ⟨fun e he => ?_, fun e he p hp => ?_, h.stored, h.arrived⟩
  · obtain ⟨⟨k, pool⟩, he0, rfl⟩ := List.mem_map.1 he
    have h0 := h.pools _ he0
    cases pool with
    | candidates v c =>
      refine ⟨h0.1, fun c1 hc1 p hp => ?_⟩
      obtain ⟨c2, hc2, rfl⟩ := List.mem_map.1 hc1
      exact h0.2 c2 hc2 p (List.mem_filter.1 hp).1
    | validated x =>
      refine h0.mono (fun y hy => ?_) (fun _ ht => ht) (fun _ ht => ht)
      show (alGet (s.validatedPools.map _) y).isSome
      rw [alGet_map]
      simpa using hy
  · obtain ⟨e0, he0, rfl⟩ := List.mem_map.1 he
    exact h.vps e0 he0 p (List.mem_filter.1 hp).1

theorem poolsInv_ensurePool (h : PoolsInv P s)
    (hk : ∃ H, s.subjectiveHead = some H ∧ staleThreshold H < k) : PoolsInv P (ensurePool s k) := by
  unfold ensurePool
  split
  · exact h
  · exact ⟨forall_mem_alSet h.pools ⟨hk, nofun⟩, h.vps, h.stored, h.arrived⟩

theorem poolsInv_vote (h : PoolsInv P s) (han : (p, x, k) ∈ s.announced) :
    PoolsInv P (vote s p x k) := by
  unfold vote
  split
  · rename_i voted cands hg
    have h0 := h.pools _ (alGet_mem hg)
    split
    · exact h
    · exact ⟨forall_mem_alSet h.pools
        ⟨h0.1, forall_mem_alPush (Ψ := fun y q => (q, y, k) ∈ s.announced) h0.2 han⟩, h.vps, h.stored, h.arrived⟩
  · split
    · split
      · exact h
      · exact ⟨fun e he => (h.pools e he).mono (fun _ => isSome_alSet) (fun _ ht => ht) (fun _ ht => ht),
          forall_mem_alPush (Ψ := fun y q => ∃ k, (q, y, k) ∈ s.announced) h.vps ⟨k, han⟩,
          h.stored, h.arrived⟩
    · exact h
  · exact h

theorem poolsInv_notify (h : PoolsInv P s) : PoolsInv P (notify s p x k) := by
  unfold notify
  split
  · exact h
  · rename_i H hH
    split
    · exact h
    · refine poolsInv_vote _ p x k (poolsInv_ensurePool _ k ?_ ⟨H, hH, by omega⟩) (by rw [ensurePool_frame]; simp)
      exact h.mono (fun _ he => he) (fun _ ht => List.mem_append_left _ ht) (fun _ ht => ht) h.arrived

theorem poolsInv_validatePool (h : PoolsInv P s) (har : (k, x) ∈ s.arrived) :
    PoolsInv P (validatePool s x k) := by
  unfold validatePool
  split
  · rename_i voted cands hg
    have h0 := h.pools _ (alGet_mem hg)
    refine ⟨forall_mem_alSet
        (fun e he => (h.pools e he).mono (fun _ => isSome_alSet) (fun _ ht => ht) (fun _ ht => ht))
        ⟨h0.1, har, .inl (by rw [alGet_alSet, if_pos rfl]; rfl)⟩,
      forall_mem_alSet h.vps fun p hp => ?_, h.stored, h.arrived⟩
    obtain ⟨ps, hgc, hps⟩ := mem_getD_alGet.1 hp
    exact ⟨k, h0.2 _ (alGet_mem hgc) p hps⟩
  · exact h
  · exact h

/-- evicting a validated height takes the `validated_pools` entry of its hash away from every other height
    validated with that hash -/
theorem evict_poolOk (head : Option Nat) (an : List (Nat × Nat × Nat)) (ar : List (Nat × Nat)) (hs : List Nat) :
    ∀ (s : State), (∀ e ∈ s.hashPools, PoolOk s.validatedPools head an ar e) →
      ∀ e ∈ (evict s hs).hashPools, PoolOk (evict s hs).validatedPools head an ar e := by
  induction hs with
  | nil => exact fun s h => h
  | cons k hs ih =>
    intro s h
    simp only [evict]
    split
    · rename_i x hg
      refine ih _ fun e he => ?_
      obtain ⟨he', hne⟩ := mem_alRemove.1 he
      have h0 := h e he'
      obtain ⟨k', pool⟩ := e
      cases pool with
      | candidates v c => exact h0
      | validated y =>
        refine ⟨h0.1, h0.2.1, ?_⟩
        by_cases hyx : y = x
        · exact .inr ⟨k, Ne.symm hne, hyx ▸ (h _ (alGet_mem hg)).2.1⟩
        · exact h0.2.2.imp_left fun hy => by
            show (alGet (alRemove s.validatedPools x) y).isSome
            rw [alGet_alRemove, if_neg hyx]
            exact hy
    · exact ih _ fun e he => h e (mem_alRemove.1 he).1
    · exact ih s h

theorem poolsInv_tryUpdate (h : PoolsInv P s) : PoolsInv P (tryUpdateSubjectiveHead s k) := by
  obtain ⟨H, hs, heq, -, hold⟩ := tryUpdate_eq s k
  have hm := mem_evict hs { s with subjectiveHead := some H }
  have hp := evict_poolOk s.subjectiveHead s.announced s.arrived hs { s with subjectiveHead := some H } h.pools
  rw [heq, evict_frame]
  refine ⟨fun e he => ⟨⟨H, rfl, ?_⟩, (hp e he).2⟩, fun e he => h.vps e (hm.2 e he), h.stored, h.arrived⟩
  -- a pool above the old threshold that was not evicted is above the new one
  obtain ⟨H0, hH0, hlt⟩ := (h.pools e (hm.1 e he).1).1
  exact Nat.lt_of_not_le fun hc => (hm.1 e he).2 ((hold H0 hH0).2 _ hlt hc)

theorem poolsInv_pollLoop : ∀ (fuel : Nat) (s : State), PoolsInv P s → PoolsInv P (pollLoop fuel s).1 := by
  intro fuel
  induction fuel with
  | zero => exact fun s h => h
  | succ fuel ih =>
    intro s h
    unfold pollLoop
    split
    · rename_i ev rest _
      cases ev with
      | addPeers ps => exact h
      | blockPeers ps => exact ps.foldlRecOn _ h fun s hs p _ => poolsInv_removePeer s p hs
    · simp only
      split
      · exact h
      · rename_i hres
        exact poolsInv_validatePool _ _ _ (poolsInv_tryUpdate _ _ (h.arrive ((pollNext_spec _ _ _).2 _ hres)))
          (by rw [tryUpdate_frame]; simp)
      · split
        · exact ih _ (h.drop _)
        · exact ih _ (h.drop _)
        · exact ih _ h
      · exact ih _ (h.drop _)

theorem poolsInv_step (e : Event) (he : EvP P e) (h : PoolsInv P s) :
    PoolsInv P (step s e).1 := by
  cases e with
  | notify p x ht => exact poolsInv_notify s p x ht h
  | removePeer p => exact poolsInv_removePeer s p h
  | poll => exact poolsInv_pollLoop _ s h
  | store ht x => exact ⟨h.pools, h.vps, forall_mem_alSet h.stored he, h.arrived⟩
  | taskTimeout ht => exact h
  | taskStoreErr ht => exact h

theorem poolsInv_run (evs : List Event) (hev : ∀ e ∈ evs, EvP P e) : PoolsInv P (run init evs) :=
  evs.foldlRecOn _ poolsInv_init fun s h e he => poolsInv_step s e (hev e he) h

theorem poolsInv_run_any (evs : List Event) : PoolsInv (fun _ _ => True) (run init evs) :=
  poolsInv_run evs fun e _ => by cases e <;> trivial

theorem PoolsOk.offered {s : State} (hi : PoolsInv P s) {h : Nat} {ps : List Nat} (hg : getPool s h = .ok ps) :
    ∃ x, (h, x) ∈ s.arrived ∧ ∀ p ∈ ps, ∃ h', (p, x, h') ∈ s.announced := by
  obtain ⟨x, hgp, hgv⟩ := getPool_ok.1 hg
  exact ⟨x, (hi.pools _ (alGet_mem hgp)).2.1, hi.vps _ (alGet_mem hgv)⟩

open Lumina.Spec.C40 in
theorem PoolsOk.window {s : State} (hi : PoolsInv P s) : specWindow (view s) = true := by
  have hw := fun e he => (hi.pools e he).1
  unfold specWindow view
  simp only
  cases hs : s.subjectiveHead with
  | none =>
    have : s.hashPools = [] := List.eq_nil_iff_forall_not_mem.2 fun e he => by
      obtain ⟨H, hH, _⟩ := hw e he
      rw [hs] at hH
      cases hH
    simp [this]
  | some H =>
    simp only [List.all_eq_true, List.mem_map, forall_exists_index, and_imp, forall_apply_eq_imp_iff₂,
      Bool.not_eq_eq_eq_not, Bool.not_true, decide_eq_false_iff_not]
    intro e he
    obtain ⟨H', hH, hlt⟩ := hw e he
    rw [hs] at hH
    cases hH
    unfold staleThreshold at hlt
    rw [rootHashWindow_eq] at hlt
    omega

end

/-! ### `get_pool` panics only when a data hash is shared across heights -/

/-- `P h x`: "the header at height `h` has data hash `x`" — a relation that is a function of the height
    and injective (the property's "data hashes differ across heights") -/
def InjP (P : Nat → Nat → Prop) : Prop :=
  ∀ h1 x1 h2 x2, P h1 x1 → P h2 x2 → (h1 = h2 ↔ x1 = x2)

/-- every validated height has its entry in `validated_pools`.  Not an invariant of histories (two heights
    delivered with one hash break it); `PoolOk`'s last clause is the form that always holds. -/
def VInv (s : State) : Prop :=
  ∀ e ∈ s.hashPools, ∀ x, e.2 = Pool.validated x → (alGet s.validatedPools x).isSome

theorem vinv_removePeer (s : State) (p : Nat) (hv : VInv s) : VInv (removePeer s p) := by
  intro e he x hx
  obtain ⟨e0, he0, rfl⟩ := List.mem_map.1 he
  have := hv e0 he0 x (removeFromPool_validated.1 hx)
  show (alGet (s.validatedPools.map _) x).isSome
  rw [alGet_map]
  simpa using this

theorem foldl_removePeer_vinv (ps : List Nat) (s : State) (h : VInv s) : VInv (ps.foldl removePeer s) :=
  ps.foldlRecOn _ h fun s hs p _ => vinv_removePeer s p hs

/-- `get_pool` can hit its `expect` only for a height whose data hash was also delivered for another height -/
theorem getPool_panic_shares_hash (evs : List Event) (h : Nat) (hp : getPool (run init evs) h = .panic) :
    ∃ x h', h' ≠ h ∧ (h, x) ∈ (run init evs).arrived ∧ (h', x) ∈ (run init evs).arrived := by
  obtain ⟨x, hg, hnone⟩ := getPool_panic.1 hp
  obtain ⟨_, har, hv⟩ := (poolsInv_run_any evs).pools _ (alGet_mem hg)
  obtain ⟨h', hne, hm⟩ := hv.resolve_left (by rw [hnone]; nofun)
  exact ⟨x, h', hne, har, hm⟩

/-! ### blocking: one call, from any state -/

open Lumina.Spec.C40 in
theorem lookup_view_pools (s : State) (h : Nat) :
    lookup (view s).pools h = (alGet s.hashPools h).map viewPool :=
  alGet_map s.hashPools viewPool h

open Lumina.Spec.C40 in
/-- `add_peer_for_hash` for a height `h ≥ 1` inside the window blocks the announcing peer in three cases,
    read off what is observed before the call: wrong hash for a validated height, already offered for it,
    already voted for it -/
theorem notify_newlyBlocked {s : State} (p x h : Nat) (hpos : 0 < h) (hi : ignored (view s) h = false)
    (hdup : match lookup (view s).pools h with
      | some (.validated y) => y ≠ x ∨ p ∈ (lookup (view s).vp y).getD []
      | some (.candidates voted _) => p ∈ voted
      | none => False) :
    newlyBlocked (view s) (view (notify s p x h)) p = true := by
  cases hH : s.subjectiveHead with
  | none => simp [ignored, view, hH] at hi
  | some H =>
    have hst : ¬ h ≤ staleThreshold H := by
      simp only [ignored, view, hH, decide_eq_false_iff_not] at hi
      unfold staleThreshold
      rw [rootHashWindow_eq]
      omega
    suffices (notify s p x h).pendingEvents = s.pendingEvents ++ [.blockPeers [p]] by
      simp [newlyBlocked, view, this, viewEv]
    rw [lookup_view_pools] at hdup
    cases hg : alGet s.hashPools h with
    | none => rw [hg] at hdup; exact hdup.elim
    | some pool =>
      rw [hg] at hdup
      cases pool with
      | candidates voted cands => simp [notify, hH, hst, ensurePool, hg, vote, show p ∈ voted from hdup]
      | validated y =>
        by_cases hyx : y = x
        · subst hyx
          simp [notify, hH, hst, ensurePool, hg, vote,
            show p ∈ (alGet s.validatedPools y).getD [] from hdup.resolve_left (fun h => h rfl)]
        · simp [notify, hH, hst, ensurePool, hg, vote, hyx]

/-- `validate_pool`: every peer that voted for another hash is named in a queued `BlockPeers` -/
theorem validatePool_blocks (s : State) (x h : Nat) (voted : List Nat) (cands : List (Nat × List Nat))
    (hg : alGet s.hashPools h = some (.candidates voted cands)) :
    ∀ c ∈ cands, c.1 ≠ x → ∀ p ∈ c.2, ∃ bs, Ev.blockPeers bs ∈ (validatePool s x h).pendingEvents ∧ p ∈ bs := by
  intro c hc hne p hp
  have hbad : p ∈ (alRemove cands x).flatMap (·.2) := List.mem_flatMap.2 ⟨c, mem_alRemove.2 ⟨hc, hne⟩, hp⟩
  have hne' : ((alRemove cands x).flatMap (·.2)).isEmpty = false := by
    cases hb : (alRemove cands x).flatMap (·.2) with
    | nil => rw [hb] at hbad; cases hbad
    | cons => rfl
  exact ⟨_, by simp [validatePool, hg, hne'], hbad⟩

theorem tryUpdate_keeps_own_pool (s : State) (h : Nat) :
    alGet (tryUpdateSubjectiveHead s h).hashPools h = alGet s.hashPools h := by
  obtain ⟨H, hs, heq, hle, -⟩ := tryUpdate_eq s h
  rw [heq, alGet_evict_pools, if_neg fun hm => (hle h hm).2 rfl]

/-- `remove_peer q` leaves no pool with `q`, and none with a peer that was in none before -/
theorem removePeer_absent (s : State) (q p : Nat) (h : p = q ∨ ∀ e ∈ s.validatedPools, p ∉ e.2) :
    ∀ e ∈ (removePeer s q).validatedPools, p ∉ e.2 := by
  intro e he hpe
  obtain ⟨e0, he0, rfl⟩ := List.mem_map.1 he
  obtain ⟨hp0, hne⟩ := List.mem_filter.1 hpe
  exact h.elim (fun hpq => by simp [hpq] at hne) fun h => h e0 he0 hp0

theorem foldl_removePeer_absent (ps : List Nat) (s : State) :
    ∀ p ∈ ps, ∀ e ∈ (ps.foldl removePeer s).validatedPools, p ∉ e.2 := by
  intro p hp
  obtain ⟨pre, post, rfl⟩ := List.append_of_mem hp
  rw [List.foldl_append, List.foldl_cons]
  exact post.foldlRecOn _ (removePeer_absent _ p p (.inl rfl)) fun s' h q _ => removePeer_absent s' q p (.inr h)

/-! ### the blocking clause over histories without failing header tasks -/

/-- the announcement `(p, x, h)` still stands: it is a vote in `h`'s candidates, or `h` is validated with
    that very hash, or `h` fell out of the window -/
def Stand (s : State) (p x h : Nat) : Prop :=
  match alGet s.hashPools h with
  | some (.candidates _ cands) => p ∈ (alGet cands x).getD []
  | some (.validated y) => y = x
  | none => ∃ H, s.subjectiveHead = some H ∧ h ≤ staleThreshold H

def Excused (s : State) (p : Nat) : Prop := p ∈ s.blocked ∨ p ∈ s.removed

def GoodTask : Task → Prop
  | .timeout _ => False
  | .storeErr _ => False
  | _ => True

/-- `l`: the announcements accounted for (all of them, except in the middle of `add_peer_for_hash`) -/
structure HInvL (l : List (Nat × Nat × Nat)) (s : State) : Prop where
  q : ∀ ps, Ev.blockPeers ps ∈ s.pendingEvents → ∀ p ∈ ps, p ∈ s.blocked
  t : ∀ tk, tk ∈ s.queue ∨ tk ∈ s.waiters → GoodTask tk
  h : ∀ tr ∈ l, Excused s tr.1 ∨ Stand s tr.1 tr.2.1 tr.2.2

abbrev HInv (s : State) : Prop := HInvL s.announced s

theorem stand_candidates {s : State} {p x h : Nat} {voted : List Nat} {cands : List (Nat × List Nat)}
    (hg : alGet s.hashPools h = some (.candidates voted cands)) :
    Stand s p x h ↔ p ∈ (alGet cands x).getD [] := by
  unfold Stand; rw [hg]

theorem stand_validated {s : State} {p x h y : Nat} (hg : alGet s.hashPools h = some (.validated y)) :
    Stand s p x h ↔ y = x := by
  unfold Stand; rw [hg]

theorem stand_none {s : State} {p x h : Nat} (hg : alGet s.hashPools h = none) :
    Stand s p x h ↔ ∃ H, s.subjectiveHead = some H ∧ h ≤ staleThreshold H := by
  unfold Stand; rw [hg]

theorem Stand.of_eq {s s' : State} {p x h : Nat} (hs : Stand s p x h)
    (hp : alGet s'.hashPools h = alGet s.hashPools h)
    (hh : ∀ H, s.subjectiveHead = some H → h ≤ staleThreshold H →
      ∃ H', s'.subjectiveHead = some H' ∧ h ≤ staleThreshold H') : Stand s' p x h := by
  unfold Stand at hs ⊢
  rw [hp]
  cases hg : alGet s.hashPools h with
  | none =>
    rw [hg] at hs
    obtain ⟨H, h1, h2⟩ := hs
    exact hh H h1 h2
  | some pool =>
    rw [hg] at hs
    cases pool <;> exact hs

theorem Stand.set_ne {s s' : State} {p x h k : Nat} {v : Pool} (hs : Stand s p x h)
    (hp : s'.hashPools = alSet s.hashPools k v) (hh : s'.subjectiveHead = s.subjectiveHead) (hk : h ≠ k) :
    Stand s' p x h :=
  hs.of_eq (by rw [hp, alGet_alSet, if_neg hk]) fun H h1 h2 => ⟨H, hh ▸ h1, h2⟩

section
variable {l : List (Nat × Nat × Nat)} (s : State) (p x k : Nat)

theorem hinv_init : HInv init := by
  refine ⟨nofun, fun tk h => ?_, nofun⟩
  rcases h with h | h
  · cases List.mem_singleton.1 h
    trivial
  · cases h

theorem hinv_ensurePool (H : Nat) (hH : s.subjectiveHead = some H)
    (hst : ¬ k ≤ staleThreshold H) (hi : HInvL l s) : HInvL l (ensurePool s k) := by
  unfold ensurePool
  split
  · exact hi
  · rename_i hnone
    refine ⟨hi.q, fun tk htk => ?_, fun tr htr => (hi.h tr htr).imp id fun hs => ?_⟩
    · rcases htk with htk | htk
      · rcases List.mem_append.1 htk with htk | htk
        · exact hi.t tk (.inl htk)
        · cases List.mem_singleton.1 htk
          trivial
      · exact hi.t tk (.inr htk)
    · by_cases hk : tr.2.2 = k
      · obtain ⟨H', h1, h2⟩ := (stand_none (hk ▸ hnone)).1 hs
        rw [hH] at h1
        cases h1
        exact absurd (hk ▸ h2) hst
      · exact hs.set_ne rfl rfl hk

theorem ensurePool_some : (alGet (ensurePool s k).hashPools k).isSome := by
  unfold ensurePool
  split
  · rename_i hg
    rw [hg]
    rfl
  · show (alGet (alSet s.hashPools k _) k).isSome
    rw [alGet_alSet]
    simp

theorem hinv_block (ps : List Nat) (hi : HInvL l s) :
    HInvL l { s with pendingEvents := s.pendingEvents ++ [.blockPeers ps], blocked := s.blocked ++ ps } := by
  refine ⟨fun qs hqs p hp => ?_, hi.t, fun tr htr => (hi.h tr htr).imp (Or.imp_left (List.mem_append_left _)) id⟩
  rcases List.mem_append.1 hqs with h | h
  · exact List.mem_append_left _ (hi.q qs h p hp)
  · cases List.mem_singleton.1 h
    exact List.mem_append_right _ hp

theorem hinv_vote (hsome : (alGet s.hashPools k).isSome)
    (hi : HInvL l s) : HInvL l (vote s p x k) ∧ (Excused (vote s p x k) p ∨ Stand (vote s p x k) p x k) := by
  have hblock := hinv_block s [p] hi
  have hex : p ∈ s.blocked ++ [p] := by simp
  unfold vote
  cases hg : alGet s.hashPools k with
  | none => rw [hg] at hsome; cases hsome
  | some pool =>
    cases pool with
    | candidates voted cands =>
      simp only
      split
      · exact ⟨hblock, .inl (.inl hex)⟩
      · have hget : alGet (alSet s.hashPools k (.candidates (voted ++ [p]) (alPush cands x p))) k
            = some (.candidates (voted ++ [p]) (alPush cands x p)) := by rw [alGet_alSet, if_pos rfl]
        refine ⟨⟨hi.q, hi.t, fun tr htr => (hi.h tr htr).imp id fun hs => ?_⟩, .inr ?_⟩
        · by_cases hk : tr.2.2 = k
          · rw [hk] at hs ⊢
            refine (stand_candidates hget).2 ?_
            have := (stand_candidates hg).1 hs
            rw [alGet_alPush]
            split
            · rename_i e
              exact List.mem_append_left _ (e ▸ this)
            · exact this
          · exact hs.set_ne rfl rfl hk
        · refine (stand_candidates hget).2 ?_
          rw [alGet_alPush, if_pos rfl]
          simp
    | validated y =>
      simp only
      split
      · rename_i hyx
        split
        · exact ⟨hblock, .inl (.inl hex)⟩
        · refine ⟨⟨fun qs hqs => ?_, hi.t, hi.h⟩, .inr ((stand_validated hg).2 (by simpa using hyx))⟩
          rcases List.mem_append.1 hqs with h | h
          · exact hi.q qs h
          · cases List.mem_singleton.1 h
      · exact ⟨hblock, .inl (.inl hex)⟩

theorem hinv_notify (hi : HInv s) : HInv (notify s p x k) := by
  unfold notify
  split
  · exact hi
  · rename_i H hH
    split
    · exact hi
    · rename_i hst
      obtain ⟨hv, hnew⟩ := hinv_vote _ p x k (ensurePool_some _ k)
        (hinv_ensurePool { s with announced := s.announced ++ [(p, x, k)] } k H hH hst ⟨hi.q, hi.t, hi.h⟩)
      refine ⟨hv.q, hv.t, fun tr htr => ?_⟩
      rw [vote_frame, ensurePool_frame] at htr
      rcases List.mem_append.1 htr with htr | htr
      · exact hv.h tr htr
      · cases List.mem_singleton.1 htr
        exact hnew

theorem stand_removePeer (q : Nat) (hne : p ≠ q) (hs : Stand s p x k) :
    Stand (removePeer s q) p x k := by
  have hmap : alGet (removePeer s q).hashPools k = (alGet s.hashPools k).map (removeFromPool q) := alGet_map _ _ _
  cases hg : alGet s.hashPools k with
  | none =>
    rw [hg] at hmap
    exact (stand_none hmap).2 ((stand_none hg).1 hs)
  | some pool =>
    rw [hg] at hmap
    cases pool with
    | validated y => exact (stand_validated hmap).2 ((stand_validated hg).1 hs)
    | candidates voted cands =>
      refine (stand_candidates hmap).2 ?_
      obtain ⟨l, hc, hl⟩ := mem_getD_alGet.1 ((stand_candidates hg).1 hs)
      rw [alGet_map]
      simp [hc, hl, hne]

theorem hinv_removePeer (q : Nat) (r : List Nat) (hi : HInv s) (hr : ∀ p ∈ s.removed, p ∈ r)
    (hex : q ∈ s.blocked ∨ q ∈ r) : HInv { removePeer s q with removed := r } := by
  refine ⟨hi.q, hi.t, fun tr htr => ?_⟩
  by_cases hpq : tr.1 = q
  · exact .inl (hpq ▸ hex)
  · exact (hi.h tr htr).imp (Or.imp_right (hr _)) (stand_removePeer s _ _ _ q hpq)

theorem foldl_removePeer_hinv (ps : List Nat) (s : State) (h : HInv s) (hb : ∀ p ∈ ps, p ∈ s.blocked) :
    HInv (ps.foldl removePeer s) :=
  (ps.foldlRecOn (motive := fun s' => HInv s' ∧ s'.blocked = s.blocked) removePeer ⟨h, rfl⟩ fun s' hs p hp =>
    ⟨hinv_removePeer s' p s'.removed hs.1 (fun _ hr => hr) (.inl (hs.2 ▸ hb p hp)), hs.2⟩).1

theorem stand_tryUpdate (h : Nat) (hs : Stand s p x h) :
    Stand (tryUpdateSubjectiveHead s k) p x h := by
  obtain ⟨H, ev, heq, hle, hold⟩ := tryUpdate_eq s k
  have hhead : (evict { s with subjectiveHead := some H } ev).subjectiveHead = some H := by rw [evict_frame]
  rw [heq]
  by_cases hk : h ∈ ev
  · exact (stand_none (by rw [alGet_evict_pools, if_pos hk])).2 ⟨H, hhead, (hle h hk).1⟩
  · exact hs.of_eq (by rw [alGet_evict_pools, if_neg hk]) fun H0 h1 h2 =>
      ⟨H, hhead, Nat.le_trans h2 (hold H0 h1).1⟩

theorem hinv_tryUpdate (hi : HInv s) : HInv (tryUpdateSubjectiveHead s k) := by
  rw [tryUpdate_frame]
  exact ⟨hi.q, hi.t, fun tr htr => (hi.h tr htr).imp id (stand_tryUpdate s _ _ k _)⟩

theorem hinv_validatePool (hi : HInv s) : HInv (validatePool s x k) := by
  unfold validatePool
  split
  · rename_i voted cands hg
    refine ⟨fun qs hqs p hp => ?_, hi.t, fun tr htr => ?_⟩
    · rcases List.mem_append.1 hqs with h | h
      · rcases List.mem_append.1 h with h | h
        · exact List.mem_append_left _ (hi.q qs h p hp)
        · split at h
          · cases h
          · cases List.mem_singleton.1 h
      · split at h
        · cases h
        · cases List.mem_singleton.1 h
          exact List.mem_append_right _ hp
    · rcases hi.h tr htr with he | hs
      · exact .inl (he.imp_left (List.mem_append_left _))
      · by_cases hk : tr.2.2 = k
        · rw [hk] at hs ⊢
          by_cases hx : tr.2.1 = x
          · exact .inr ((stand_validated (by rw [alGet_alSet, if_pos rfl])).2 hx.symm)
          · obtain ⟨l, hc, hl⟩ := mem_getD_alGet.1 ((stand_candidates hg).1 hs)
            exact .inl (.inl (List.mem_append_right _
              (List.mem_flatMap.2 ⟨(tr.2.1, l), mem_alRemove.2 ⟨alGet_mem hc, hx⟩, hl⟩)))
        · exact .inr (hs.set_ne rfl rfl hk)
  · exact hi
  · exact hi

/-- only a failed task sends `poll` round its loop again, and none is queued: no induction -/
theorem hinv_pollLoop (fuel : Nat) (s : State) (hi : HInv s) : HInv (pollLoop fuel s).1 := by
  cases fuel with
  | zero => exact hi
  | succ fuel =>
    have hnext := pollNext_spec s.stored s.queue s.waiters
    unfold pollLoop
    split
    · rename_i ev rest hpe
      have h0 : HInv { s with pendingEvents := rest } :=
        ⟨fun qs hqs => hi.q qs (hpe ▸ List.mem_cons_of_mem _ hqs), hi.t, hi.h⟩
      cases ev with
      | addPeers ps => exact h0
      | blockPeers ps => exact foldl_removePeer_hinv ps _ h0 (hi.q ps (hpe ▸ List.mem_cons_self))
    · simp only
      split
      · exact ⟨hi.q, fun tk htk => hi.t tk (hnext.1 tk htk), hi.h⟩
      · exact hinv_validatePool _ _ _ (hinv_tryUpdate _ _ ⟨hi.q, fun tk htk => hi.t tk (hnext.1 tk htk), hi.h⟩)
      · rename_i height hres
        exact (hi.t _ (.inl (hnext.2 _ hres))).elim
      · rename_i height hres
        exact (hi.t _ (.inl (hnext.2 _ hres))).elim

end

/-- no header task is made to fail -/
def NoFail : Event → Prop
  | .taskTimeout _ => False
  | .taskStoreErr _ => False
  | _ => True

theorem hinv_step (s : State) (e : Event) (hn : NoFail e) (hi : HInv s) : HInv (step s e).1 := by
  cases e with
  | notify p x ht => exact hinv_notify s p x ht hi
  | removePeer p =>
    exact hinv_removePeer s p _ hi (fun _ hr => List.mem_append_left _ hr) (.inr (by simp))
  | poll => exact hinv_pollLoop _ s hi
  | store ht x => exact ⟨hi.q, fun tk htk => hi.t tk (htk.elim List.mem_append.1 nofun), hi.h⟩
  | taskTimeout ht => cases hn
  | taskStoreErr ht => cases hn

theorem hinv_run (evs : List Event) (hn : ∀ e ∈ evs, NoFail e) : HInv (run init evs) :=
  evs.foldlRecOn _ hinv_init fun s h e he => hinv_step s e (hn e he) h

end Lumina.Proofs.Pools

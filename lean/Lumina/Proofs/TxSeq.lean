/-
  C43.  One statement says what a step of the client does, from ANY state (`step_reach`): the input makes its own
  assignment (`Assign`: an answer assigns nothing, the account's sequence, the accepted transaction, or the node's
  expected sequence; a start assigns the fresh record), then the client walks (`Reach`); in each step of the walk a
  submission leaves the queues (`Take`), joins the queue its new phase waits in (`Put`) and moves (`Mv`).  The premises
  of the steps are what the code itself matched on or tested, so the walk proves no fact about the state.
  An invariant is proved of the state the assignment leaves (`onAssign`, case by case of `Assign`) and kept along the
  walk.  `Take` and `Put` leave the submission table, the events, the signed transactions, the believed sequence and
  `acct.ready` alone (`Same`), so an invariant over those needs `.congr` (it respects `Same`) and `.mv` (one case per
  move of `Mv`), and `Reach.keeps` carries it along; only `W` reads `Take` and `Put` (`W.step`, `W.reach`).  A move, like
  the assignment of an accepted transaction or of a fresh record, gives one submission a new record and adds at most one
  event: each invariant has one lemma for that (`Inv.place`, `PB.place`, `W.place`).  Its `_step` theorem is then
  `step_reach` + `onAssign` + `.reach` (in the place of `onAssign`, `Inv` has `Assign.seq` / `.events` / `.noWrong` with
  `inv_init`, and `X` has `baseOK` with `X.init`):
    * `Inv` (the step's events replay from `believedAfter` to the believed sequence), `inv_step` — `seq_discipline`,
      `noWrong_run`;
    * `PB` (a pending broadcast / simulation is the last signature), from any state, `pb_step` —
      `broadcast_is_last_signed`;
    * `W` (queues against phases, each waiter once; who may sign), `w_step` — `reachable_wf`, `never_resigned`;
    * `X` (`TxSeqLedger`: the structural facts the ledger's bookkeeping needs), `x_step` — `ledger_accepts_every_run`,
      which uses all four.
  The file ends with the parser of the node's sequence-mismatch message (`extract_sequence`).
-/
import Lumina.Model.TxSeq

namespace Lumina.Proofs.TxSeq
open Lumina.Model.TxSeq

theorem lookup_setSubL (l : List (Nat × Sub)) (i j : Nat) (s : Sub) :
    (setSubL l i s).lookup j = if j = i then some s else l.lookup j := by
  induction l with
  | nil => simp only [setSubL, List.lookup]; cases hb : j == i <;> simp_all
  | cons p l ih =>
    obtain ⟨k, t⟩ := p
    simp only [setSubL]
    split <;> simp only [List.lookup, ih] <;> cases hb : j == k <;> simp_all

theorem getSub_of_subs {st st' : St} {i : Nat} {s : Sub} (h : st'.subs = setSubL st.subs i s) (j : Nat) :
    getSub st' j = if j = i then s else getSub st j := by
  by_cases e : j = i <;> simp [getSub, h, lookup_setSubL, e]

theorem getSub_setSub (st : St) (i j : Nat) (s : Sub) :
    getSub (setSub st i s) j = if j = i then s else getSub st j :=
  getSub_of_subs rfl j

@[simp] theorem getSub_setSub_same (st : St) (i : Nat) (s : Sub) : getSub (setSub st i s) i = s := by
  rw [getSub_setSub, if_pos rfl]

theorem getSub_congr {st st' : St} (h : st'.subs = st.subs) (j : Nat) : getSub st' j = getSub st j := by
  simp [getSub, h]

theorem signTx_shape (st : St) (i gas fee : Nat) :
    ∃ T K, signTx st i gas fee =
      ({ st with txs := T, events := st.events ++ [.sign i K ⟨i, st.seq, gas, fee⟩] }, K) ∧
      (∃ ext, T = st.txs ++ ext) ∧ T[K]? = some ⟨i, st.seq, gas, fee⟩ := by
  unfold signTx txId
  simp only []
  split
  · rename_i k hidx
    obtain ⟨hlt, heq, _⟩ := List.idxOf?_eq_some_iff.mp hidx
    exact ⟨st.txs, k, rfl, ⟨[], by simp⟩, by rw [List.getElem?_eq_getElem hlt, heq]⟩
  · exact ⟨_, _, rfl, ⟨_, rfl⟩, by simp⟩

theorem releaseLock_ind {Q : St → Prop}
    (free : ∀ st, Q st → Q { st with lockHeld := none })
    (roll : ∀ st j q c, Q st → st.lockQ = j :: q → (getSub st j).phase = .waitRollback c →
      Q (finish { st with lockHeld := some j, lockQ := q, seq := (getSub st j).accSeq } j (.rejected c)))
    (enter : ∀ st j q, Q st → st.lockQ = j :: q → (∀ c, (getSub st j).phase ≠ .waitRollback c) →
      Q (csLoop { st with lockHeld := some j, lockQ := q } j)) :
    ∀ (fuel : Nat) (st : St), Q st → Q (releaseLock fuel st) := by
  intro fuel
  induction fuel with
  | zero => exact free
  | succ fuel ih =>
    intro st h
    unfold releaseLock
    split
    · exact free st h
    · rename_i j q hq
      simp only []
      split
      · rename_i c hc
        exact ih _ (roll st j q c h hq hc)
      · rename_i hnr
        exact enter st j q h hq (fun c e => hnr c e)

/-- the rules by which a node answer changes the believed sequence: the account query sets it,
    an accepted broadcast (success or mempool-cache hit) inside the critical section advances it by
    one, a sequence mismatch (on simulation or broadcast) resynchronises it to the node's value -/
def believedAfter (st : St) (op : Op) : Nat :=
  match op with
  | .ans i a =>
    match (getSub st i).phase, a with
    | .reqG, .okSeq n => n
    | .reqB _, .ok => st.seq + 1
    | .reqB _, .cache => st.seq + 1
    | .reqE _, .mis n => n
    | .reqB _, .mis n => n
    | _, _ => st.seq
  | _ => st.seq

def NoWrong (st : St) : Prop :=
  ∀ j c, (getSub st j).phase = .waitRollback c → isWrongSequence c = false

theorem NoWrong.congr {st st' : St} (h : NoWrong st) (hs : st'.subs = st.subs) : NoWrong st' :=
  fun j c hp => h j c (getSub_congr hs j ▸ hp)

/-- the answer `a` to submission `i` is none of those the sequence rules name: not the account's
    sequence for the account query, not an accepted broadcast, not a mismatch inside the critical
    section -/
structure Plain (st : St) (i : Nat) (a : Ans) : Prop where
  g : (getSub st i).phase = .reqG → ∀ n, a ≠ .okSeq n
  b : ∀ k, (getSub st i).phase = .reqB k → a ≠ .ok ∧ a ≠ .cache
  m : ∀ n, a = .mis n → ∀ k, (getSub st i).phase ≠ .reqE k ∧ (getSub st i).phase ≠ .reqB k

theorem Plain.of_phase {st : St} {i : Nat} {a : Ans} (hG : (getSub st i).phase ≠ .reqG)
    (hE : ∀ k, (getSub st i).phase ≠ .reqE k) (hB : ∀ k, (getSub st i).phase ≠ .reqB k) : Plain st i a :=
  ⟨fun h => absurd h hG, fun k h => absurd h (hB k), fun _ _ k => ⟨hE k, hB k⟩⟩

theorem Plain.believedAfter {st : St} {i : Nat} {a : Ans} (h : Plain st i a) :
    believedAfter st (.ans i a) = st.seq := by
  simp only [Lumina.Proofs.TxSeq.believedAfter]
  split
  · exact absurd rfl (h.g ‹_› _)
  · exact absurd rfl (h.b _ ‹_›).1
  · exact absurd rfl (h.b _ ‹_›).2
  · exact absurd ‹_› (h.m _ rfl _).1
  · exact absurd ‹_› (h.m _ rfl _).2
  · rfl

def waitingLock : Phase → Bool
  | .waitLock => true
  | .waitRollback _ => true
  | _ => false

def preAccept : Phase → Bool
  | .idle | .waitChain | .reqL | .waitAcct | .reqG | .waitLock | .reqP | .reqE _ | .reqB _ => true
  | _ => false

/-- `st'` differs from `st` at most in the mutex (holder and queue), in the chain-state cell, and in the queue and
    `busy` flag of the account cell -/
structure Same (st' st : St) : Prop where
  subs : st'.subs = st.subs
  events : st'.events = st.events
  txs : st'.txs = st.txs
  seq : st'.seq = st.seq
  ready : st'.acct.ready = st.acct.ready

theorem Same.rfl {st : St} : Same st st := ⟨_root_.rfl, _root_.rfl, _root_.rfl, _root_.rfl, _root_.rfl⟩

/-- a state of the walk: the model state and the waiters already taken out of the chain-state / account cell by its
    initialiser but not yet entered -/
structure WS where
  st : St
  cw : List Nat
  aw : List Nat

/-- How submission `i` comes to be in no queue, as the code sees it; the Bool says that `i` is thereby known to be
    before acceptance (from the phase the answer was dispatched on, or because it waited for a cell or, not to roll
    back, for the mutex). -/
inductive Take : WS → Nat → Bool → WS → Prop
  /-- it has a request pending at the node (or is idle, or done): it is in no queue -/
  | req {st cw aw i} (p0 : Phase) (hp : (getSub st i).phase = p0) (h1 : waitingLock p0 = false := by rfl)
      (h2 : p0 ≠ .waitChain := by simp) (h3 : p0 ≠ .waitAcct := by simp) :
      Take ⟨st, cw, aw⟩ i (preAccept p0) ⟨st, cw, aw⟩
  /-- it is handed the mutex; `rb`: it waited to roll back -/
  | popL {st stm cw aw i q} (rb : Bool) : st.lockQ = i :: q →
      (if rb then ∃ c, (getSub st i).phase = .waitRollback c else ∀ c, (getSub st i).phase ≠ .waitRollback c) →
      Same stm st → stm.lockQ = q → stm.chain.waiters = st.chain.waiters → stm.acct.waiters = st.acct.waiters →
      Take ⟨st, cw, aw⟩ i (!rb) ⟨stm, cw, aw⟩
  /-- it is the next waiter of the chain-state cell -/
  | popC {st stm cw aw cw' i} :
      (∀ j, (st.chain.waiters ++ cw).count j = (stm.chain.waiters ++ cw').count j + if j = i then 1 else 0) →
      Same stm st → stm.lockQ = st.lockQ → stm.acct.waiters = st.acct.waiters → Take ⟨st, cw, aw⟩ i true ⟨stm, cw', aw⟩
  /-- it is the next waiter of the account cell -/
  | popA {st stm cw aw aw' i} :
      (∀ j, (st.acct.waiters ++ aw).count j = (stm.acct.waiters ++ aw').count j + if j = i then 1 else 0) →
      Same stm st → stm.lockQ = st.lockQ → stm.chain.waiters = st.chain.waiters → Take ⟨st, cw, aw⟩ i true ⟨stm, cw, aw'⟩

/-- `b'` is `stm`, up to `Same` (in the same update `enterChain` / `enterAcct` set the cell's `busy` flag, `enterLock`
    the mutex holder), with `i` appended to the queue in which phase `p` waits -/
structure Put (stm : St) (i : Nat) (p : Phase) (b' : St) : Prop extends Same b' stm where
  lq : b'.lockQ = if waitingLock p then stm.lockQ ++ [i] else stm.lockQ
  cq : b'.chain.waiters = if p = .waitChain then stm.chain.waiters ++ [i] else stm.chain.waiters
  aq : b'.acct.waiters = if p = .waitAcct then stm.acct.waiters ++ [i] else stm.acct.waiters

/-- `stm` is `st` up to the mutex holder and the cells' flags; the three queues are those of `st` -/
structure SameQ (stm st : St) : Prop extends Same stm st where
  lq : stm.lockQ = st.lockQ
  cq : stm.chain.waiters = st.chain.waiters
  aq : stm.acct.waiters = st.acct.waiters

theorem SameQ.rfl {st : St} : SameQ st st := ⟨.rfl, _root_.rfl, _root_.rfl, _root_.rfl⟩

/-- One move `Mv cs pre st i p st'` of submission `i` to phase `p`.  With `cs = true` the moves of the critical section
    and of the confirmation loop are allowed (the account is known); the moves to a phase before acceptance, and
    signing, need `pre = true`. -/
inductive Mv : Bool → Bool → St → Nat → Phase → St → Prop
  | early {cs st} (i p) : p = .waitChain ∨ p = .reqL ∨ p = .waitAcct ∨ p = .reqG → Mv cs true st i p (setPhase st i p)
  | lock {st} (i p) : p = .waitLock ∨ p = .reqP → Mv true true st i p (setPhase st i p)
  | sign {st} (i gas fee) (mk : Nat → Phase) : mk = .reqB ∨ mk = .reqE →
      Mv true true st i (mk (signTx st i gas fee).2) (setPhase (signTx st i gas fee).1 i (mk (signTx st i gas fee).2))
  | fin {cs pre st} (i r) : (∀ c, r ≠ .rejected c) → Mv cs pre st i (.done r) (finish st i r)
  | rej {pre st} (i c) : (getSub st i).phase = .reqT → isWrongSequence c = true →
      Mv true pre st i (.done (.rejected c)) (finish st i (.rejected c))
  | roll {pre st} (i c) :
      (getSub st i).phase = .reqT ∧ isWrongSequence c = false ∨ (getSub st i).phase = .waitRollback c →
      Mv true pre st i (.done (.rejected c)) (finish { st with seq := (getSub st i).accSeq } i (.rejected c))
  | post {pre st} (i p) : (getSub st i).phase = .reqT ∨ (∃ nf, (getSub st i).phase = .reqRB nf) →
      (p = .reqT ∨ (∃ nf, p = .reqRB nf) ∨ ∃ c, p = .waitRollback c ∧ isWrongSequence c = false) →
      Mv true pre st i p (setPhase st i p)

/-- The walk of a step, `Reach cs a b`: the client gets from `a` to `b`; in each `step` a submission leaves the queues,
    joins the one it will wait in, and moves.  `cs` is the `cs` of `Mv` (the account is known); `enter` raises it. -/
inductive Reach : Bool → WS → WS → Prop
  | refl {cs a} : Reach cs a a
  /-- the mutex holder, the cells' flags change; waiters go from a cell's queue to the pending list -/
  | frame {cs a b cw aw b' cw' aw'} : Reach cs a ⟨b, cw, aw⟩ → Same b' b → b'.lockQ = b.lockQ →
      (∀ j, (b'.chain.waiters ++ cw').count j = (b.chain.waiters ++ cw).count j) →
      (∀ j, (b'.acct.waiters ++ aw').count j = (b.acct.waiters ++ aw).count j) → Reach cs a ⟨b', cw', aw'⟩
  /-- (the move stands before `Put` so that `b'` is read off the model's term and not unified with `stm`) -/
  | step {cs a s stm cw' aw' i pre p b' c} : Reach cs a s → Take s i pre ⟨stm, cw', aw'⟩ → Mv cs pre b' i p c →
      Put stm i p b' → Reach cs a ⟨c, cw', aw'⟩
  /-- `lock_account` found the account known -/
  | enter {cs a b c} : Reach cs a b → b.st.acct.ready = true → Reach true b c → Reach cs a c

theorem Same.trans {a b c : St} (h : Same a b) (k : Same b c) : Same a c :=
  ⟨h.subs.trans k.subs, h.events.trans k.events, h.txs.trans k.txs, h.seq.trans k.seq, h.ready.trans k.ready⟩

theorem Take.same {s i pre s'} (t : Take s i pre s') : Same s'.st s.st := by
  cases t with
  | req => exact .rfl
  | popL _ _ _ f => exact f
  | popC _ f => exact f
  | popA _ f => exact f

/-- **What does not read the queues is kept along a walk** if it respects `Same` and every move keeps it.  `G cs` is
    what the moves that `cs` allows may assume (for `X`: the account is known; for `Inv`, `PB`: nothing); `enter` gives it
    where the walk found the account known. -/
theorem Reach.keeps {Q : St → Prop} {G : Bool → Prop} (congr : ∀ {st st'}, Same st' st → Q st → Q st')
    (mv : ∀ {cs pre st i p st'}, G cs → Mv cs pre st i p st' → Q st → Q st')
    (enter : ∀ {st}, st.acct.ready = true → Q st → G true) {cs a b} (r : Reach cs a b) (hg : G cs) (h : Q a.st) :
    Q b.st := by
  induction r with
  | refl => exact h
  | frame _ f _ _ _ ih => exact congr f (ih hg h)
  | step _ t m u ih => exact mv hg m (congr (u.toSame.trans t.same) (ih hg h))
  | enter _ hr _ ih1 ih2 => exact ih2 (enter hr (ih1 hg h)) (ih1 hg h)

/-- a request is pending at the node that is only made once the account is known (inside the critical section, or in
    the confirmation loop after it) -/
def knowsAcct : Phase → Bool
  | .reqP | .reqE _ | .reqB _ | .reqT | .reqRB _ => true
  | _ => false

/-- what an accepted broadcast assigns: the submission is in the confirmation phase with its accepted transaction
    recorded; the mutex is then released -/
def acceptBase (st : St) (i k : Nat) : St :=
  setSub st i { getSub st i with phase := .reqT, acc := some k, accSeq := (st.txs.getD k ⟨0, 0, 0, 0⟩).seq }

/-- What the input `op` itself assigns before the client moves, `Assign st op b aw`.  An answer: nothing, or the account's
    sequence (the account is then known; `aw`: its waiters, taken out of the cell), or the accepted transaction, or the
    node's expected sequence.  A start: the fresh record of an idle submission, or nothing.  `b` is the state the walk
    starts from. -/
inductive Assign (st : St) : Op → St → List Nat → Prop
  | plain {i a} : Plain st i a → Assign st (.ans i a) st []
  | acct {i a} (n : Nat) : (getSub st i).phase = .reqG → a = .okSeq n →
      Assign st (.ans i a) { st with seq := n, acct := { ready := true, busy := false, waiters := [] } } st.acct.waiters
  | accept {i a} (k : Nat) : (getSub st i).phase = .reqB k → a = .ok ∨ a = .cache →
      Assign st (.ans i a) (acceptBase { st with seq := st.seq + 1 } i k) []
  | resync {i a} (n k : Nat) : (getSub st i).phase = .reqE k ∨ (getSub st i).phase = .reqB k → a = .mis n →
      Assign st (.ans i a) { st with seq := n } []
  | start {i gl gp} : (getSub st i).phase = .idle → Assign st (.start i gl gp) (setSub st i { gl := gl, gp := gp }) []
  | skip {i gl gp} : (getSub st i).phase ≠ .idle → Assign st (.start i gl gp) st []

theorem Assign.seq {st op b aw} (h : Assign st op b aw) : b.seq = believedAfter st op := by
  cases h with
  | plain h => exact h.believedAfter.symm
  | acct n hp ha => subst ha; simp [believedAfter, hp]
  | accept k hp ha => rcases ha with rfl | rfl <;> simp [believedAfter, hp, acceptBase, setSub]
  | resync n k hp ha => subst ha; rcases hp with hp | hp <;> simp [believedAfter, hp]
  | start => rfl
  | skip => rfl

theorem Assign.events {st op b aw} (h : Assign st op b aw) : b.events = st.events := by
  cases h <;> rfl

/-- a phase that waits in no queue: nothing to join (`stm'` may differ from `stm` in the mutex holder and the cells'
    flags) -/
theorem Put.id {stm stm' : St} {i : Nat} {p : Phase} (h1 : waitingLock p = false := by rfl) (h2 : p ≠ .waitChain := by simp)
    (h3 : p ≠ .waitAcct := by simp) (f : SameQ stm' stm := by exact .rfl) : Put stm i p stm' :=
  ⟨f.toSame, by rw [h1]; exact f.lq, by rw [if_neg h2]; exact f.cq, by rw [if_neg h3]; exact f.aq⟩

theorem reach_csLoop {a s i stm stm' cw aw} (h : Reach true a s) (t : Take s i true ⟨stm, cw, aw⟩)
    (f : SameQ stm' stm := by exact .rfl) : Reach true a ⟨csLoop stm' i, cw, aw⟩ := by
  unfold csLoop
  simp only []
  split
  · exact h.step t (.sign i _ _ .reqB (.inl rfl)) (.id (f := f))
  · exact h.step t (.lock i _ (.inr rfl)) (.id (f := f))
  · exact h.step t (.sign i 0 1 .reqE (.inr rfl)) (.id (f := f))

theorem reach_release {a st cw aw} (h : Reach true a ⟨st, cw, aw⟩) : Reach true a ⟨release st, cw, aw⟩ :=
  releaseLock_ind (Q := fun st => Reach true a ⟨st, cw, aw⟩)
    (fun _ h => h.frame ⟨rfl, rfl, rfl, rfl, rfl⟩ rfl (fun _ => rfl) (fun _ => rfl))
    (fun st j q c h hq hc =>
      h.step (.popL (stm := { st with lockHeld := some j, lockQ := q }) true hq ⟨c, hc⟩ ⟨rfl, rfl, rfl, rfl, rfl⟩ rfl rfl rfl)
        (.roll (st := { st with lockHeld := some j, lockQ := q }) j c (.inr hc)) .id)
    (fun st j q h hq hnr =>
      reach_csLoop h (.popL (stm := { st with lockHeld := some j, lockQ := q }) false hq hnr ⟨rfl, rfl, rfl, rfl, rfl⟩ rfl rfl rfl))
    _ _ h

theorem reach_failCS {a s i pre stm cw aw} (h : Reach true a s) (t : Take s i pre ⟨stm, cw, aw⟩) (r : Res)
    (hr : ∀ c, r ≠ .rejected c) : Reach true a ⟨failCS stm i r, cw, aw⟩ :=
  reach_release (h.step t (.fin i r hr) .id)

theorem reach_enterLock {a s i stm cw aw} (h : Reach true a s) (t : Take s i true ⟨stm, cw, aw⟩) :
    Reach true a ⟨enterLock stm i, cw, aw⟩ := by
  unfold enterLock
  split
  · exact reach_csLoop h t ⟨⟨rfl, rfl, rfl, rfl, rfl⟩, rfl, rfl, rfl⟩
  · exact h.step t (.lock i _ (.inl rfl)) ⟨⟨rfl, rfl, rfl, rfl, rfl⟩, rfl, rfl, rfl⟩

theorem reach_enterAcct {cs a s i stm cw aw} (h : Reach cs a s) (t : Take s i true ⟨stm, cw, aw⟩) :
    Reach cs a ⟨enterAcct stm i, cw, aw⟩ := by
  unfold enterAcct
  split
  · rename_i hr
    exact h.enter (t.same.ready ▸ hr) (reach_enterLock .refl t)
  · split
    · exact h.step t (.early i _ (.inr (.inr (.inl rfl)))) ⟨⟨rfl, rfl, rfl, rfl, rfl⟩, rfl, rfl, rfl⟩
    · exact h.step t (.early i _ (.inr (.inr (.inr rfl)))) ⟨⟨rfl, rfl, rfl, rfl, rfl⟩, rfl, rfl, rfl⟩

theorem reach_enterChain {cs a s i stm cw aw} (h : Reach cs a s) (t : Take s i true ⟨stm, cw, aw⟩) :
    Reach cs a ⟨enterChain stm i, cw, aw⟩ := by
  unfold enterChain
  split
  · exact reach_enterAcct h t
  · split
    · exact h.step t (.early i _ (.inl rfl)) ⟨⟨rfl, rfl, rfl, rfl, rfl⟩, rfl, rfl, rfl⟩
    · exact h.step t (.early i _ (.inr (.inl rfl))) ⟨⟨rfl, rfl, rfl, rfl, rfl⟩, rfl, rfl, rfl⟩

theorem count_pop (w : Nat) (q r : List Nat) (j : Nat) :
    (q ++ w :: r).count j = (q ++ r).count j + if j = w then 1 else 0 := by
  simp only [List.count_append, List.count_cons, beq_iff_eq, eq_comm (a := w)]; omega

theorem reach_foldAcct {cs a aw} (ws : List Nat) {st : St} (h : Reach cs a ⟨st, ws, aw⟩) :
    Reach cs a ⟨ws.foldl enterAcct st, [], aw⟩ := by
  induction ws generalizing st with
  | nil => exact h
  | cons w ws ih => exact ih (reach_enterAcct h (.popC (count_pop w _ ws) .rfl rfl rfl))

theorem reach_foldLock {a cw} (ws : List Nat) {st : St} (h : Reach true a ⟨st, cw, ws⟩) :
    Reach true a ⟨ws.foldl enterLock st, cw, []⟩ := by
  induction ws generalizing st with
  | nil => exact h
  | cons w ws ih => exact ih (reach_enterLock h (.popA (count_pop w _ ws) .rfl rfl rfl))

theorem reach_ansL {st} (i : Nat) (x : Ans) (hp : (getSub st i).phase = .reqL) :
    Reach false ⟨st, [], []⟩ ⟨ansL st i x, [], []⟩ := by
  unfold ansL
  split
  · exact reach_foldAcct _ (reach_enterAcct
      (Reach.refl.frame (b' := { st with chain := { ready := true, busy := false, waiters := [] } }) (cw' := st.chain.waiters)
        ⟨rfl, rfl, rfl, rfl, rfl⟩ rfl (fun _ => by simp) (fun _ => rfl))
      (.req .reqL hp))
  · simp only []
    have hf : Reach false ⟨st, [], []⟩ _ := Reach.refl.step (.req .reqL hp) (.fin i .tonic (by simp)) .id
    split
    · exact hf.frame ⟨rfl, rfl, rfl, rfl, rfl⟩ rfl (fun _ => rfl) (fun _ => rfl)
    · rename_i w ws hw
      exact hf.step (.popC (stm := { finish st i .tonic with chain := { (finish st i .tonic).chain with waiters := ws } })
        (cw' := []) (fun j => by rw [show (finish st i .tonic).chain.waiters = w :: ws from hw]; exact count_pop w [] _ j)
        ⟨rfl, rfl, rfl, rfl, rfl⟩ rfl rfl) (.early _ _ (.inr (.inl rfl))) .id

/-- the account query answered: with the account's sequence the initialiser and then every waiter enters the critical
    section or queues for the mutex; otherwise the next waiter becomes the initialiser -/
theorem reach_ansG {st} (i : Nat) (x : Ans) (hp : (getSub st i).phase = .reqG) :
    ∃ b aw, Assign st (.ans i x) b aw ∧ Reach false ⟨b, [], aw⟩ ⟨ansG st i x, [], []⟩ := by
  unfold ansG
  split
  · exact ⟨_, _, .acct _ hp rfl, Reach.refl.enter rfl (reach_foldLock _ (reach_enterLock .refl (.req .reqG hp)))⟩
  · rename_i hx
    refine ⟨_, _, .plain ⟨fun _ n e => hx n e, by simp [hp], by simp [hp]⟩, ?_⟩
    simp only []
    have hf : Reach false ⟨st, [], []⟩ _ := Reach.refl.step (.req .reqG hp) (.fin i .tonic (by simp)) .id
    split
    · exact hf.frame ⟨rfl, rfl, rfl, rfl, rfl⟩ rfl (fun _ => rfl) (fun _ => rfl)
    · rename_i w ws hw
      exact hf.step (.popA (stm := { finish st i .tonic with acct := { (finish st i .tonic).acct with waiters := ws } })
        (aw' := []) (fun j => by rw [show (finish st i .tonic).acct.waiters = w :: ws from hw]; exact count_pop w [] _ j)
        ⟨rfl, rfl, rfl, rfl, rfl⟩ rfl rfl) (.early _ _ (.inr (.inr (.inr rfl)))) .id

theorem reach_ansP {st} (i : Nat) (x : Ans) (hp : (getSub st i).phase = .reqP) :
    Reach true ⟨st, [], []⟩ ⟨ansP st i x, [], []⟩ := by
  have t : Take ⟨st, [], []⟩ i true ⟨st, [], []⟩ := .req .reqP hp
  unfold ansP
  split
  · exact Reach.refl.step t (.sign i _ _ .reqB (.inl rfl)) .id
  · exact reach_failCS .refl t _ (by simp)

theorem reach_ansE {st} (i k : Nat) (x : Ans) (hp : (getSub st i).phase = .reqE k) :
    ∃ b aw, Assign st (.ans i x) b aw ∧ Reach true ⟨b, [], aw⟩ ⟨ansE st i x, [], []⟩ := by
  have t : Take ⟨st, [], []⟩ i true ⟨st, [], []⟩ := .req (.reqE k) hp
  have pl : (∀ n, x ≠ .mis n) → Plain st i x := fun hx => ⟨by simp [hp], by simp [hp], fun n e => absurd e (hx n)⟩
  unfold ansE
  split
  · exact ⟨_, _, .plain (pl (by simp)), Reach.refl.step t (.sign i _ _ .reqB (.inl rfl)) .id⟩
  · exact ⟨_, _, .resync _ k (.inl hp) rfl, reach_csLoop .refl (.req (.reqE k) hp)⟩
  · exact ⟨_, _, .plain (pl (by simp)), reach_failCS .refl t _ (by simp)⟩
  · exact ⟨_, _, .plain (pl ‹_›), reach_failCS .refl t _ (by simp)⟩

theorem reach_ansB {st} (i k : Nat) (x : Ans) (hp : (getSub st i).phase = .reqB k) :
    ∃ b aw, Assign st (.ans i x) b aw ∧ Reach true ⟨b, [], aw⟩ ⟨ansB st i k x, [], []⟩ := by
  have t : Take ⟨st, [], []⟩ i true ⟨st, [], []⟩ := .req (.reqB k) hp
  have pl : x ≠ .ok → x ≠ .cache → (∀ n, x ≠ .mis n) → Plain st i x := fun h1 h2 hx =>
    ⟨by simp [hp], fun _ _ => ⟨h1, h2⟩, fun n e => absurd e (hx n)⟩
  unfold ansB
  split
  · exact ⟨_, _, .accept k hp (.inl rfl), reach_release .refl⟩
  · exact ⟨_, _, .accept k hp (.inr rfl), reach_release .refl⟩
  · exact ⟨_, _, .resync _ k (.inr hp) rfl, reach_csLoop .refl (.req (.reqB k) hp)⟩
  · exact ⟨_, _, .plain (pl (by simp) (by simp) (by simp)), reach_failCS .refl t _ (by simp)⟩
  · exact ⟨_, _, .plain (pl (by simp) (by simp) (by simp)), reach_failCS .refl t _ (by simp)⟩
  · exact ⟨_, _, .plain (pl ‹_› ‹_› ‹_›), reach_failCS .refl t _ (by simp)⟩

theorem reach_ansT {st} (i : Nat) (x : Ans) (hp : (getSub st i).phase = .reqT) :
    Reach true ⟨st, [], []⟩ ⟨ansT st i x, [], []⟩ := by
  have t : Take ⟨st, [], []⟩ i false ⟨st, [], []⟩ := .req .reqT hp
  unfold ansT
  split
  · exact .refl
  · exact Reach.refl.step t (.fin i _ (by intro c hc; split at hc <;> cases hc)) .id
  · split
    · exact Reach.refl.step t (.rej i _ hp ‹_›) .id
    · rename_i c hw
      have hw' : isWrongSequence c = false := by simpa using hw
      split
      · exact Reach.refl.step t (.roll i c (.inl ⟨hp, hw'⟩)) .id
      · exact Reach.refl.step t (.post i _ (.inl hp) (.inr (.inr ⟨c, rfl, hw'⟩))) ⟨⟨rfl, rfl, rfl, rfl, rfl⟩, rfl, rfl, rfl⟩
  · exact Reach.refl.step t (.post i _ (.inl hp) (.inr (.inl ⟨_, rfl⟩))) .id
  · exact Reach.refl.step t (.post i _ (.inl hp) (.inr (.inl ⟨_, rfl⟩))) .id
  · exact Reach.refl.step t (.fin i _ (by simp)) .id

theorem reach_ansRB {st} (i : Nat) (nf : Bool) (x : Ans)
    (hp : (getSub st i).phase = .reqRB nf) : Reach true ⟨st, [], []⟩ ⟨ansRB st i nf x, [], []⟩ := by
  have t : Take ⟨st, [], []⟩ i false ⟨st, [], []⟩ := .req (.reqRB nf) hp
  unfold ansRB
  split
  · exact Reach.refl.step t (.post i _ (.inr ⟨nf, hp⟩) (.inl rfl)) .id
  · exact Reach.refl.step t (.fin i _ (by intro c hc; split at hc <;> cases hc)) .id

theorem answer_reach (st : St) (i : Nat) (a : Ans) :
    ∃ b aw, Assign st (.ans i a) b aw ∧ Reach (knowsAcct (getSub st i).phase) ⟨b, [], aw⟩ ⟨answer st i a, [], []⟩ := by
  unfold answer
  split
  · rename_i hp
    rw [hp]; exact ⟨_, _, .plain (.of_phase (by simp [hp]) (by simp [hp]) (by simp [hp])), reach_ansL i a hp⟩
  · rename_i hp
    rw [hp]; exact reach_ansG i a hp
  · rename_i hp
    rw [hp]; exact ⟨_, _, .plain (.of_phase (by simp [hp]) (by simp [hp]) (by simp [hp])), reach_ansP i a hp⟩
  · rename_i k hp
    rw [hp]; exact reach_ansE i k a hp
  · rename_i k hp
    rw [hp]; exact reach_ansB i k a hp
  · rename_i hp
    rw [hp]; exact ⟨_, _, .plain (.of_phase (by simp [hp]) (by simp [hp]) (by simp [hp])), reach_ansT i a hp⟩
  · rename_i nf hp
    rw [hp]; exact ⟨_, _, .plain (.of_phase (by simp [hp]) (by simp [hp]) (by simp [hp])), reach_ansRB i nf a hp⟩
  · exact ⟨_, _, .plain (.of_phase ‹_› ‹_› ‹_›), .refl⟩

theorem Assign.ofAns (st : St) (i : Nat) (a : Ans) : ∃ b aw, Assign st (.ans i a) b aw :=
  let ⟨b, aw, h, _⟩ := answer_reach st i a; ⟨b, aw, h⟩

/-- the moves that need the account known are open to a step from the start if it answers such a request -/
def stepCS (st : St) : Op → Bool
  | .ans i _ => knowsAcct (getSub st i).phase
  | .start _ _ _ => false

/-- **a step is an assignment and a walk**, from any state -/
theorem step_reach (st : St) (op : Op) :
    ∃ b aw, Assign { st with events := [] } op b aw ∧ Reach (stepCS st op) ⟨b, [], aw⟩ ⟨step st op, [], []⟩ := by
  cases op with
  | ans i a => exact answer_reach { st with events := [] } i a
  | start i gl gp =>
    simp only [step]
    split
    · rename_i hp
      exact ⟨_, _, .start hp, reach_enterChain .refl (.req .idle (by simp))⟩
    · rename_i hp
      exact ⟨_, _, .skip hp, .refl⟩

/-- replay of the events of one step against the believed sequence `b`: a signature must carry
    `b`; a rejection that is not about the sequence rolls `b` back to the rejected transaction's
    sequence `g sub` -/
def replay (g : Nat → Nat) : Nat → List Event → Option Nat
  | b, [] => some b
  | b, .sign _ _ tx :: r => if tx.seq = b then replay g b r else none
  | b, .finished i res :: r =>
    replay g (match res with
      | .rejected c => if isWrongSequence c then b else g i
      | _ => b) r

theorem replay_append (g : Nat → Nat) (b : Nat) (es fs : List Event) :
    replay g b (es ++ fs) = (replay g b es).bind (fun b' => replay g b' fs) := by
  induction es generalizing b with
  | nil => simp [replay]
  | cons e es ih =>
    cases e with
    | sign i k tx =>
      simp only [List.cons_append, replay]
      split <;> simp [ih]
    | finished i r => simp only [List.cons_append, replay, ih]

/-- the events so far replay to the current believed sequence, `g` is the table of the
    sequences of the accepted transactions, and a rollback is only ever queued for a rejection that
    is not about the sequence -/
def Inv (g : Nat → Nat) (b0 : Nat) (st : St) : Prop :=
  (∀ j, (getSub st j).accSeq = g j) ∧ replay g b0 st.events = some st.seq ∧ NoWrong st

theorem Inv.congr {g b0} {st st' : St} (h : Inv g b0 st) (hs : st'.subs = st.subs)
    (he : st'.events = st.events) (hq : st'.seq = st.seq) : Inv g b0 st' :=
  ⟨fun j => by rw [getSub_congr hs]; exact h.1 j, by rw [he, hq]; exact h.2.1, h.2.2.congr hs⟩

theorem replay_snoc {g : Nat → Nat} {b0 b : Nat} {es : List Event} (h : replay g b0 es = some b) (e : Event) :
    replay g b0 (es ++ [e]) = replay g b [e] := by
  rw [replay_append, h]
  rfl

theorem Inv.place {g b0} {st st' : St} (h : Inv g b0 st) {i : Nat} {s : Sub} (hs : st'.subs = setSubL st.subs i s)
    (ha : s.accSeq = (getSub st i).accSeq) (hp : ∀ c, s.phase = .waitRollback c → isWrongSequence c = false)
    (hr : replay g b0 st'.events = some st'.seq) : Inv g b0 st' := by
  have hg := getSub_of_subs hs
  refine ⟨fun j => ?_, hr, fun j c => ?_⟩
  · rw [hg]
    split
    · rename_i e; rw [ha, ← e]; exact h.1 j
    · exact h.1 j
  · rw [hg]
    split
    · exact hp c
    · exact h.2.2 j c

theorem inv_setPhase {g b0} {st : St} (h : Inv g b0 st) (i : Nat) (p : Phase)
    (hp : ∀ c, p = .waitRollback c → isWrongSequence c = false) :
    Inv g b0 (setPhase st i p) :=
  h.place rfl rfl hp h.2.1

theorem inv_finish {g b0} {st : St} (h : Inv g b0 st) (i : Nat) (r : Res) {sq : Nat}
    (hsq : replay g st.seq [.finished i r] = some sq) : Inv g b0 (finish { st with seq := sq } i r) :=
  h.place rfl rfl (by simp) ((replay_snoc h.2.1 _).trans hsq)

theorem inv_init {st : St} (hw : NoWrong st) (he : st.events = []) :
    Inv (fun j => (getSub st j).accSeq) st.seq st :=
  ⟨fun _ => rfl, by simp [he, replay], hw⟩

theorem Inv.mv {g b0 cs pre i p} {st st' : St} (h : Inv g b0 st) (m : Mv cs pre st i p st') : Inv g b0 st' := by
  cases m with
  | early i p hp => exact inv_setPhase h i p (by rcases hp with rfl | rfl | rfl | rfl <;> simp)
  | lock i p hp => exact inv_setPhase h i p (by rcases hp with rfl | rfl <;> simp)
  | sign i gas fee mk hp =>
    obtain ⟨T, K, hs, _⟩ := signTx_shape st i gas fee
    rw [hs]
    exact h.place rfl rfl (by rcases hp with rfl | rfl <;> simp) ((replay_snoc h.2.1 _).trans (if_pos rfl))
  | fin i r hr => exact inv_finish h i r (by cases r <;> first | rfl | exact absurd rfl (hr _))
  | rej i c _ hw => exact inv_finish h i _ (congrArg some (if_pos hw))
  | roll i c hc =>
    have hw : isWrongSequence c = false := by rcases hc with ⟨_, hw⟩ | hc; exact hw; exact h.2.2 i c hc
    exact inv_finish h i _ (congrArg some ((if_neg (by simp [hw])).trans (h.1 i).symm))
  | post i p _ hp =>
    refine inv_setPhase h i p ?_
    rcases hp with rfl | ⟨_, rfl⟩ | ⟨c, rfl, hw⟩
    · simp
    · simp
    · intro c' e; cases e; exact hw

theorem Inv.reach {g b0 cs} {a b : WS} (r : Reach cs a b) (h : Inv g b0 a.st) : Inv g b0 b.st :=
  r.keeps (G := fun _ => True) (fun f h => h.congr f.subs f.events f.seq) (fun _ m h => h.mv m) (fun _ _ => trivial)
    trivial h

theorem NoWrong.setSub {st : St} (hw : NoWrong st) (i : Nat) (s : Sub) (hs : ∀ c, s.phase ≠ .waitRollback c) :
    NoWrong (setSub st i s) := fun j c => by
  rw [getSub_setSub]
  split
  · exact fun e => absurd e (hs c)
  · exact hw j c

theorem Assign.noWrong {st op b aw} (h : Assign st op b aw) (hw : NoWrong st) : NoWrong b := by
  cases h with
  | accept k => exact NoWrong.setSub (hw.congr rfl) _ _ (by simp)
  | start => exact hw.setSub _ _ (by simp)
  | _ => exact hw.congr rfl

/-- **one step replays**: starting from the believed sequence given by the answer rules, every
    signature of the step carries the believed sequence of its moment and the step ends with the
    model's believed sequence -/
theorem inv_step (st : St) (op : Op) (hw : NoWrong st) :
    ∃ g, Inv g (believedAfter st op) (step st op) := by
  obtain ⟨b, aw, hb, r⟩ := step_reach st op
  have hs : b.seq = believedAfter st op := hb.seq
  exact ⟨_, Inv.reach r (hs ▸ inv_init (hb.noWrong (hw.congr rfl)) hb.events)⟩

/-- The structural invariant.  `lq`/`cq`/`aq`: a submission is in the mutex queue / a `OnceCell` queue exactly when its
    phase waits there, and at most once; `cw`, `aw` are waiters already taken out of the chain-state / account cell by
    its initialiser but not yet entered (both `[]` between steps).  `an`: no accepted transaction before the broadcast is
    accepted.  `sg`/`lk`: whoever signed in this step satisfies `P`, and so does every submission that may still sign. -/
structure W (P : Nat → Prop) (st : St) (cw aw : List Nat) : Prop where
  lq : ∀ j, st.lockQ.count j = if waitingLock (getSub st j).phase then 1 else 0
  cq : ∀ j, (st.chain.waiters ++ cw).count j = if (getSub st j).phase = .waitChain then 1 else 0
  aq : ∀ j, (st.acct.waiters ++ aw).count j = if (getSub st j).phase = .waitAcct then 1 else 0
  an : ∀ j, preAccept (getSub st j).phase = true → (getSub st j).acc = none
  sg : ∀ j k tx, Event.sign j k tx ∈ st.events → P j
  lk : ∀ j, (getSub st j).acc = none → P j

theorem W.congr {P st cw aw} (h : W P st cw aw) {st' : St} {cw' aw' : List Nat} (hs : st'.subs = st.subs)
    (he : st'.events = st.events) (hl : st'.lockQ = st.lockQ)
    (hc : ∀ j, (st'.chain.waiters ++ cw').count j = (st.chain.waiters ++ cw).count j)
    (ha : ∀ j, (st'.acct.waiters ++ aw').count j = (st.acct.waiters ++ aw).count j) : W P st' cw' aw' := by
  have hg := getSub_congr hs
  exact ⟨fun j => by rw [hl, hg]; exact h.lq j, fun j => by rw [hc, hg]; exact h.cq j,
    fun j => by rw [ha, hg]; exact h.aq j, fun j => by rw [hg]; exact h.an j,
    fun j k tx hm => h.sg j k tx (by rwa [he] at hm), fun j => by rw [hg]; exact h.lk j⟩

/-- `stm` has the submission table and the events of `st`; submission `i` is in none of its queues; every other
    submission occurs in them as often as in those of `st` (`cw`, `aw` → `cw'`, `aw'`: the waiters taken out of a
    `OnceCell` queue and not placed again yet) -/
structure Frame (st stm : St) (i : Nat) (cw aw cw' aw' : List Nat) : Prop where
  subs : stm.subs = st.subs
  events : stm.events = st.events
  hL : ∀ j, j ≠ i → stm.lockQ.count j = st.lockQ.count j
  hLi : stm.lockQ.count i = 0
  hC : ∀ j, j ≠ i → (stm.chain.waiters ++ cw').count j = (st.chain.waiters ++ cw).count j
  hCi : (stm.chain.waiters ++ cw').count i = 0
  hA : ∀ j, j ≠ i → (stm.acct.waiters ++ aw').count j = (st.acct.waiters ++ aw).count j
  hAi : (stm.acct.waiters ++ aw').count i = 0

theorem Frame.refl_free {P st cw aw} (h : W P st cw aw) (i : Nat)
    (h1 : waitingLock (getSub st i).phase = false) (h2 : (getSub st i).phase ≠ .waitChain)
    (h3 : (getSub st i).phase ≠ .waitAcct) : Frame st st i cw aw cw aw :=
  ⟨rfl, rfl, fun _ _ => rfl, by simpa [h1] using h.lq i, fun _ _ => rfl, by simpa [h2] using h.cq i,
   fun _ _ => rfl, by simpa [h3] using h.aq i⟩

/-- a submission with a pending node request is in no queue -/
theorem W.frameReq {P st cw aw} (h : W P st cw aw) {i : Nat} {p : Phase} (hp : (getSub st i).phase = p)
    (h1 : waitingLock p = false := by rfl) (h2 : p ≠ .waitChain := by simp) (h3 : p ≠ .waitAcct := by simp) :
    Frame st st i cw aw cw aw :=
  Frame.refl_free h i (hp ▸ h1) (hp ▸ h2) (hp ▸ h3)

theorem Frame.congr {st stm i cw aw cw' aw'} (f : Frame st stm i cw aw cw' aw') (stm' : St)
    (hs : stm'.subs = stm.subs) (he : stm'.events = stm.events) (hl : stm'.lockQ = stm.lockQ)
    (hc : stm'.chain.waiters = stm.chain.waiters) (ha : stm'.acct.waiters = stm.acct.waiters) :
    Frame st stm' i cw aw cw' aw' :=
  ⟨hs.trans f.subs, he.trans f.events, hl ▸ f.hL, hl ▸ f.hLi, hc ▸ f.hC, hc ▸ f.hCi, ha ▸ f.hA, ha ▸ f.hAi⟩

theorem count_enq (c : Prop) [Decidable c] (q : List Nat) (i j : Nat) :
    (if c then q ++ [i] else q).count j = q.count j + if c ∧ j = i then 1 else 0 := by
  by_cases hc : c <;> by_cases hj : j = i <;> simp [hc, hj, List.count_append, List.count_singleton]
  exact fun e => hj e.symm

/-- submission `i`, in no queue of the frame state `stm`, gets the record `s'` and joins the queue its new
    phase waits in; what is signed on the way is signed for `i` -/
theorem W.place {P st cw aw} (h : W P st cw aw) {stm : St} {i : Nat} {cw' aw' : List Nat}
    (f : Frame st stm i cw aw cw' aw') (s' : Sub) {st' : St}
    (hsubs : st'.subs = setSubL stm.subs i s')
    (hL : st'.lockQ = if waitingLock s'.phase then stm.lockQ ++ [i] else stm.lockQ)
    (hC : st'.chain.waiters = if s'.phase = .waitChain then stm.chain.waiters ++ [i] else stm.chain.waiters)
    (hA : st'.acct.waiters = if s'.phase = .waitAcct then stm.acct.waiters ++ [i] else stm.acct.waiters)
    (hacc : preAccept s'.phase = true → s'.acc = none) (hlk : s'.acc = none → P i)
    (hE : ∀ j k tx, Event.sign j k tx ∈ st'.events → Event.sign j k tx ∈ stm.events ∨ (j = i ∧ P i)) :
    W P st' cw' aw' := by
  have hget := getSub_of_subs (f.subs ▸ hsubs)
  have hC' := f.hC; have hCi := f.hCi; have hA' := f.hA; have hAi := f.hAi
  simp only [List.count_append] at hC' hCi hA' hAi
  refine ⟨fun j => ?_, fun j => ?_, fun j => ?_, fun j => ?_, fun j k tx hm => ?_, fun j => ?_⟩
  · rw [hget, hL, count_enq]
    by_cases hj : j = i
    · subst hj; rw [f.hLi]; simp
    · rw [f.hL j hj]; simpa [hj] using h.lq j
  · rw [hget, hC, List.count_append, count_enq]
    by_cases hj : j = i
    · subst hj; simp; omega
    · have h1 := h.cq j
      rw [List.count_append] at h1
      simp only [hj, and_false, ↓reduceIte, Nat.add_zero]
      rw [hC' j hj]; exact h1
  · rw [hget, hA, List.count_append, count_enq]
    by_cases hj : j = i
    · subst hj; simp; omega
    · have h1 := h.aq j
      rw [List.count_append] at h1
      simp only [hj, and_false, ↓reduceIte, Nat.add_zero]
      rw [hA' j hj]; exact h1
  · rw [hget]; split
    · exact hacc
    · exact h.an j
  · rcases hE j k tx hm with h1 | ⟨hji, h2⟩
    · exact h.sg j k tx (f.events ▸ h1)
    · exact hji ▸ h2
  · rw [hget]; split
    · rename_i hj; exact hj ▸ hlk
    · exact h.lk j

/-- leaving a queue: where the occurrences `c` in a queue say who waits there (a queue clause of `W`) and `c'` is `c`
    less one occurrence of `w`, then `w` waited there, is not in what is left, and the others occur as before -/
theorem pop_exact {c c' : Nat → Nat} {p : Nat → Prop} [DecidablePred p] {w : Nat} (h : ∀ j, c j = if p j then 1 else 0)
    (hcnt : ∀ j, c j = c' j + if j = w then 1 else 0) : p w ∧ c' w = 0 ∧ ∀ j, j ≠ w → c' j = c j := by
  have hw := h w
  rw [hcnt w, if_pos rfl] at hw
  refine ⟨Decidable.by_contra fun e => ?_, ?_, fun j hj => by rw [hcnt j, if_neg hj]; rfl⟩
  · rw [if_neg e] at hw; omega
  · split at hw <;> omega

theorem W.accepted {P} {st : St} (h : W P st [] []) (i k : Nat) (hp : (getSub st i).phase = .reqB k) :
    W P (acceptBase { st with seq := st.seq + 1 } i k) [] [] :=
  h.place (stm := { st with seq := st.seq + 1 }) ((h.frameReq hp).congr _ rfl rfl rfl rfl rfl) _ rfl rfl rfl rfl
    (fun hpre => by cases hpre) (fun hn => by cases hn) (fun _ _ _ hm => .inl hm)

/-- all that `W` has to know of a move: the record of `i` gets the phase, the queues stay, signatures are by `i` -/
structure Shape (pre : Bool) (st : St) (i : Nat) (p : Phase) (st' : St) : Prop where
  subs : st'.subs = setSubL st.subs i { getSub st i with phase := p }
  lq : st'.lockQ = st.lockQ
  cq : st'.chain.waiters = st.chain.waiters
  aq : st'.acct.waiters = st.acct.waiters
  pa : preAccept p = true → pre = true
  sg : ∀ j k tx, Event.sign j k tx ∈ st'.events → Event.sign j k tx ∈ st.events ∨ (j = i ∧ pre = true)

theorem Shape.setPhase {pre : Bool} (st : St) (i : Nat) (p : Phase) (hp : preAccept p = true → pre = true) :
    Shape pre st i p (setPhase st i p) :=
  ⟨rfl, rfl, rfl, rfl, hp, fun _ _ _ hm => .inl hm⟩

theorem Shape.finish {pre : Bool} (st : St) (sq i : Nat) (r : Res) :
    Shape pre st i (.done r) (finish { st with seq := sq } i r) := by
  refine ⟨rfl, rfl, rfl, rfl, fun h => (by cases h), fun j k tx hm => ?_⟩
  simp only [Lumina.Model.TxSeq.finish, emit, Lumina.Model.TxSeq.setPhase, setSub, List.mem_append, List.mem_singleton,
    reduceCtorEq, or_false] at hm
  exact .inl hm

theorem Mv.shape {cs pre st i p st'} (m : Mv cs pre st i p st') : Shape pre st i p st' := by
  cases m with
  | early i p h => exact .setPhase st i p (fun _ => rfl)
  | lock i p h => exact .setPhase st i p (fun _ => rfl)
  | sign i gas fee mk h =>
    obtain ⟨T, K, hs, _⟩ := signTx_shape st i gas fee
    rw [hs]
    refine ⟨rfl, rfl, rfl, rfl, fun _ => rfl, fun j k tx hm => ?_⟩
    simp only [Lumina.Model.TxSeq.setPhase, setSub, List.mem_append, List.mem_singleton] at hm
    exact hm.imp id (fun e => by cases e; exact ⟨rfl, rfl⟩)
  | fin i r h => exact .finish st st.seq i r
  | rej i c h1 h2 => exact .finish st st.seq i _
  | roll i c h => exact .finish st _ i _
  | post i p h1 h2 =>
    exact .setPhase st i p (fun hp => by rcases h2 with rfl | ⟨_, rfl⟩ | ⟨_, rfl, _⟩ <;> cases hp)

theorem W.take {P st cw aw} (h : W P st cw aw) {i pre stm cw' aw'} (t : Take ⟨st, cw, aw⟩ i pre ⟨stm, cw', aw'⟩) :
    Frame st stm i cw aw cw' aw' ∧ (pre = true → (getSub st i).acc = none) := by
  cases t with
  | req p0 hp h1 h2 h3 => exact ⟨h.frameReq hp h1 h2 h3, fun hpre => h.an i (hp ▸ hpre)⟩
  | @popL _ _ _ _ _ q rb hq hrb f hl hc ha =>
    obtain ⟨hw, h0, hne⟩ := pop_exact (c' := q.count) h.lq (fun j => by rw [hq]; exact count_pop i [] q j)
    have nq : ∀ {p : Phase}, (getSub st i).phase = p → waitingLock p = true := fun e => e ▸ hw
    refine ⟨⟨f.subs, f.events, hl ▸ hne, hl ▸ h0, fun _ _ => by rw [hc], ?_, fun _ _ => by rw [ha], ?_⟩, fun hpre => ?_⟩
    · have := h.cq i
      rwa [if_neg (fun e => by cases nq e), ← hc] at this
    · have := h.aq i
      rwa [if_neg (fun e => by cases nq e), ← ha] at this
    · cases rb with
      | true => cases hpre
      | false =>
        refine h.an i ?_
        cases hp : (getSub st i).phase <;> first | rfl | exact absurd hp (hrb _) | cases nq hp
  | popC hcnt f hl ha =>
    obtain ⟨hph, h0, hne⟩ := pop_exact h.cq hcnt
    exact ⟨⟨f.subs, f.events, fun _ _ => by rw [hl], by rw [hl]; simpa [hph, waitingLock] using h.lq i, hne, h0,
      fun _ _ => by rw [ha], by rw [ha]; simpa [hph] using h.aq i⟩, fun _ => h.an i (by rw [hph]; rfl)⟩
  | popA hcnt f hl hc =>
    obtain ⟨hph, h0, hne⟩ := pop_exact h.aq hcnt
    exact ⟨⟨f.subs, f.events, fun _ _ => by rw [hl], by rw [hl]; simpa [hph, waitingLock] using h.lq i,
      fun _ _ => by rw [hc], by rw [hc]; simpa [hph] using h.cq i, hne, h0⟩, fun _ => h.an i (by rw [hph]; rfl)⟩

/-- **a step of the walk keeps `W`**: the submission was in no queue (`W.take`), gets the new phase and joins the queue
    that phase waits in (`W.place`) -/
theorem W.step {P st cw aw} (h : W P st cw aw) {cs i pre stm cw' aw' p b' c}
    (t : Take ⟨st, cw, aw⟩ i pre ⟨stm, cw', aw'⟩) (u : Put stm i p b') (m : Mv cs pre b' i p c) : W P c cw' aw' := by
  obtain ⟨f, hacc⟩ := h.take t
  have s := m.shape
  have hg := getSub_congr u.subs i
  refine h.place f { getSub stm i with phase := p } (by rw [s.subs, u.subs, hg]) (by rw [s.lq, u.lq]) (by rw [s.cq, u.cq])
    (by rw [s.aq, u.aq]) (fun hp => by simpa [getSub_congr f.subs] using hacc (s.pa hp))
    (fun ha => h.lk i (by simpa [getSub_congr f.subs] using ha)) (fun j k tx hm => ?_)
  rcases s.sg j k tx hm with h1 | ⟨h1, h2⟩
  · exact .inl (u.events ▸ h1)
  · exact .inr ⟨h1, h.lk i (hacc h2)⟩

theorem W.reach {P cs a b} (r : Reach cs a b) (h : W P a.st a.cw a.aw) : W P b.st b.cw b.aw := by
  induction r with
  | refl => exact h
  | frame _ f hl hc ha ih => exact (ih h).congr f.subs f.events hl hc ha
  | step _ t m u ih => exact (ih h).step t u m
  | enter _ _ _ ih1 ih2 => exact ih2 (ih1 h)

/-- the structural invariant of reachable states -/
def WF (st : St) : Prop := W (fun _ => True) st [] []

theorem W.weaken {P st cw aw} (h : W P st cw aw) : W (fun _ => True) st cw aw :=
  ⟨h.lq, h.cq, h.aq, h.an, fun _ _ _ _ => trivial, fun _ _ => trivial⟩

theorem wf_init : WF {} := by
  refine ⟨?_, ?_, ?_, ?_, ?_, ?_⟩ <;> intro j <;> simp [getSub, List.lookup, waitingLock]

/-- while nothing is signed yet the signer predicate may be chosen anew -/
theorem W.rebase {P Q st cw aw} (h : W P st cw aw) (he : st.events = [])
    (hq : ∀ j, (getSub st j).acc = none → Q j) : W Q st cw aw :=
  ⟨h.lq, h.cq, h.aq, h.an, fun _ _ _ hm => (by rw [he] at hm; cases hm), hq⟩

theorem W.start {P Q st cw aw} (h : W P st cw aw) (hq : ∀ j, (getSub st j).acc = none → Q j) :
    W Q { st with events := [] } cw aw :=
  ⟨h.lq, h.cq, h.aq, h.an, fun _ _ _ hm => (by cases hm), hq⟩

theorem W.onAssign {P} {st : St} (h : W P st [] []) {op b aw} (hb : Assign st op b aw) : W P b [] aw := by
  cases hb with
  | plain => exact h
  | acct n => exact h.congr rfl rfl rfl (fun _ => rfl) (fun j => by simp)
  | accept k hp => exact h.accepted _ k hp
  | resync n => exact h.congr rfl rfl rfl (fun _ => rfl) (fun _ => rfl)
  | @start i _ _ hp =>
    exact h.place (h.frameReq hp) _ rfl rfl rfl rfl (fun _ => rfl) (fun _ => h.lk i (h.an i (by rw [hp]; rfl)))
      (fun _ _ _ hm => .inl hm)
  | skip => exact h

/-- one step from a well-formed state: well-formed again, and every signature of the step was made
    for a submission that had no accepted broadcast before the step -/
theorem w_step {st : St} (h : WF st) (op : Op) : W (fun j => (getSub st j).acc = none) (step st op) [] [] := by
  obtain ⟨b, aw, hb, r⟩ := step_reach st op
  exact W.reach r ((h.start (Q := fun j => (getSub st j).acc = none) (fun _ hn => hn)).onAssign hb)

theorem wf_run (ops : List Op) : WF (run {} ops) :=
  ops.foldlRecOn _ wf_init fun _ h op _ => (w_step h op).weaken

/-- id of the last transaction signed for submission `j` among the events -/
def lastSign (j : Nat) : List Event → Option Nat
  | [] => none
  | .sign i k _ :: r => match lastSign j r with
    | some k' => some k'
    | none => if i = j then some k else none
  | .finished _ _ :: r => lastSign j r

theorem lastSign_snoc (j : Nat) (e : Event) (es : List Event) :
    lastSign j (es ++ [e]) = match e with
      | .sign i k _ => if i = j then some k else lastSign j es
      | .finished _ _ => lastSign j es := by
  induction es with
  | nil => cases e <;> simp [lastSign]
  | cons e' es ih =>
    cases e' with
    | sign i' k' tx' =>
      simp only [List.cons_append, lastSign, ih]
      cases e with
      | sign i k tx => by_cases h : i = j <;> simp [h]
      | finished i r => rfl
    | finished i' r' => simpa [lastSign] using ih

def isTxReq (p : Phase) (k : Nat) : Prop := p = .reqB k ∨ p = .reqE k

/-- a submission whose pending request carries transaction `k` (broadcast or simulation inside
    the critical section) either signed `k` last in this step, or has signed nothing in this step
    and had the same request pending before it -/
def PB (st0 st : St) : Prop :=
  ∀ j k, isTxReq (getSub st j).phase k →
    lastSign j st.events = some k ∨
    (lastSign j st.events = none ∧ (getSub st0 j).phase = (getSub st j).phase)

theorem pb_init (st : St) (he : st.events = []) : PB st st := by
  intro j k _; right; simp [he, lastSign]

theorem PB.congr {st0 st st' : St} (h : PB st0 st) (hs : st'.subs = st.subs) (he : st'.events = st.events) :
    PB st0 st' := by
  intro j k hp
  rw [getSub_congr hs] at hp ⊢; rw [he]; exact h j k hp

theorem noTx {p : Phase} (h : ∀ k, p ≠ .reqB k ∧ p ≠ .reqE k) : ∀ k, ¬ isTxReq p k := by
  intro k hk; rcases hk with hk | hk
  · exact (h k).1 hk
  · exact (h k).2 hk

theorem PB.place {st0 st st' : St} (h : PB st0 st) {i : Nat} {s : Sub} (hs : st'.subs = setSubL st.subs i s)
    (hi : ∀ k, isTxReq s.phase k → lastSign i st'.events = some k)
    (ho : ∀ j, j ≠ i → lastSign j st'.events = lastSign j st.events) : PB st0 st' := by
  intro j k hj
  rw [getSub_of_subs hs] at hj ⊢
  split at hj
  · rename_i e; subst e; exact .inl (hi k hj)
  · rename_i e; rw [if_neg e, ho j e]; exact h j k hj

theorem PB.setSub {st0 st : St} (h : PB st0 st) (i : Nat) (s : Sub) (hp : ∀ k, ¬ isTxReq s.phase k) :
    PB st0 (setSub st i s) :=
  h.place rfl (fun k hk => absurd hk (hp k)) (fun _ _ => rfl)

theorem PB.fin {st0 st : St} (h : PB st0 st) (i : Nat) (r : Res) {sq : Nat} : PB st0 (finish { st with seq := sq } i r) :=
  h.place rfl (fun k hk => absurd hk (noTx (by simp) k)) (fun _ _ => lastSign_snoc ..)

theorem PB.mv {st0 cs pre i p} {st st' : St} (h : PB st0 st) (m : Mv cs pre st i p st') : PB st0 st' := by
  cases m with
  | early i p hp => exact h.setSub i _ (noTx (by rcases hp with rfl | rfl | rfl | rfl <;> simp))
  | lock i p hp => exact h.setSub i _ (noTx (by rcases hp with rfl | rfl <;> simp))
  | sign i gas fee mk hp =>
    obtain ⟨T, K, hs, _⟩ := signTx_shape st i gas fee
    rw [hs]
    refine h.place rfl (fun k hk => ?_) (fun j e => (lastSign_snoc ..).trans (if_neg (Ne.symm e)))
    rw [show k = K by rcases hp with rfl | rfl <;> rcases hk with hk | hk <;> cases hk <;> rfl]
    exact (lastSign_snoc ..).trans (if_pos rfl)
  | fin i r _ => exact h.fin i r
  | rej i c _ _ => exact h.fin i _
  | roll i c _ => exact h.fin i _
  | post i p _ hp =>
    exact h.setSub i _ (noTx (by rcases hp with rfl | ⟨_, rfl⟩ | ⟨_, rfl, _⟩ <;> simp))

theorem PB.reach {st0 cs} {a b : WS} (r : Reach cs a b) (h : PB st0 a.st) : PB st0 b.st :=
  r.keeps (G := fun _ => True) (fun f h => h.congr f.subs f.events) (fun _ m h => h.mv m) (fun _ _ => trivial) trivial h

theorem PB.onAssign {st0 st : St} (h : PB st0 st) {op b aw} (hb : Assign st op b aw) : PB st0 b := by
  cases hb with
  | accept k => exact PB.setSub (h.congr rfl rfl) _ _ (noTx (by simp))
  | start => exact h.setSub _ _ (noTx (by simp))
  | _ => exact h.congr rfl rfl

/-- **what is pending at the node inside the critical section is what was just signed**: `PB` holds between the
    two ends of any step, from any state -/
theorem pb_step (st : St) (op : Op) : PB st (step st op) := by
  obtain ⟨b, aw, hb, r⟩ := step_reach st op
  exact PB.reach r (PB.onAssign (st := { st with events := [] }) (fun j k _ => .inr ⟨rfl, rfl⟩) hb)

theorem isPrefixOf_append_of_le (pat l r : List Char) (h : pat.length ≤ l.length) :
    pat.isPrefixOf (l ++ r) = pat.isPrefixOf l := by
  induction pat generalizing l with
  | nil => simp
  | cons c pat ih =>
    cases l with
    | nil => simp at h
    | cons d l =>
      simp only [List.cons_append, List.isPrefixOf]
      rw [ih l (by simpa using h)]

theorem splitOnce_first (pat pre rest : List Char) (hne : pat ≠ [])
    (h : ∀ k < pre.length, pat.isPrefixOf (pre.drop k ++ pat) = false) :
    splitOnce pat (pre ++ pat ++ rest) = some (pre, rest) := by
  induction pre with
  | nil =>
    cases pat with
    | nil => exact absurd rfl hne
    | cons c t =>
      simp only [List.nil_append, List.cons_append, splitOnce]
      have : (c :: t).isPrefixOf (c :: (t ++ rest)) = true := by simp
      rw [this]
      simp
  | cons d pre ih =>
    have h0 := h 0 (by simp)
    simp only [List.drop_zero] at h0
    simp only [List.cons_append, splitOnce]
    have hlen : pat.length ≤ (d :: pre ++ pat).length := by simp; omega
    have := isPrefixOf_append_of_le pat (d :: pre ++ pat) rest hlen
    simp only [List.cons_append, List.append_assoc] at this h0 ⊢
    rw [this, h0]
    have ih' := ih (fun k hk => by
      have := h (k + 1) (by simpa using hk)
      simpa using this)
    simp only [List.append_assoc] at ih'
    simp [ih']

def isDigit (c : Char) : Bool := '0' ≤ c && c ≤ '9'

theorem digitsVal_eq (ds : List Char) (acc : Nat) (h : ∀ c ∈ ds, isDigit c = true) :
    digitsVal ds acc = some (ds.foldl (fun a c => a * 10 + (c.toNat - 48)) acc) := by
  induction ds generalizing acc with
  | nil => rfl
  | cons c ds ih =>
    simp only [List.mem_cons, forall_eq_or_imp] at h
    have hc : '0' ≤ c ∧ c ≤ '9' := by simpa [isDigit] using h.1
    simp only [digitsVal, hc, and_self, ↓reduceIte, List.foldl_cons]
    exact ih _ h.2

theorem splitOnce_comma (ds post : List Char) (h : ∀ c ∈ ds, isDigit c = true) :
    splitOnce [','] (ds ++ ',' :: post) = some (ds, post) := by
  induction ds with
  | nil => simp [splitOnce, List.isPrefixOf]
  | cons c ds ih =>
    simp only [List.mem_cons, forall_eq_or_imp] at h
    have hc : c ≠ ',' := by
      intro e; subst e; have := h.1; simp [isDigit] at this
    simp only [List.cons_append, splitOnce, List.isPrefixOf]
    have : (',' == c) = false := by simp; exact fun e => hc e.symm
    simp [this, ih h.2]

theorem stripPlus_id (ds : List Char) (h : ∀ c ∈ ds, isDigit c = true) : stripPlus ds = ds := by
  cases ds with
  | nil => rfl
  | cons c t =>
    have hc : c ≠ '+' := by
      intro e; subst e; have := h '+' (by simp); simp [isDigit] at this
    simp [stripPlus, hc]


end Lumina.Proofs.TxSeq


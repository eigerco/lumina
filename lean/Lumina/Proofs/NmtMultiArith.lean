/-
  Arithmetic of the nmt-rs range proofs: how many siblings the verifier's recursion takes on each side of the range
  (`nLeft`, `nRight`), and `compute_tree_size`, which works on the binary digits of the last index.

  * left: `nLeft_popcount`, the recursion takes `popcount(start)` siblings.
  * `treeSizeOf e t = (e / 2^t + 1) · 2^t`: the candidate sizes `compute_tree_size` runs through; `computeTreeSize_char`
    (a result is a candidate with the requested number of zero bits below `t`) and `computeTreeSize_fwd` (the loop
    SUCCEEDS whenever some `t` has the requested number of zero bits and the candidate stays below `u32::MAX`).
  * right, **the one place where the digits of the index meet the `next_smaller_po2` splits of the tree**: `nRight_bits`.
    In a tree of `n` leaves the zero bit `t'` of `r` has a right sibling exactly while the candidate `treeSizeOf r t'` is
    still inside the tree; so `r` has `zerosLow r t` right siblings for the `t` whose candidate is the least one that
    covers `n` (`Least`).  That candidate is in general NOT `n` (6 leaves, `r = 0`: three right siblings, candidate 8),
    but the tree of that size splits like the real one on the way to `r` (`Compat`).  `nRight_perfect`,
    `computeTreeSize_nRight` (the derived size is a fixed point: `Least.self`) and `nRight_compat` (the honest prover's
    count leads to a compatible size: `exists_least`) are its instances.
-/
import Lumina.Proofs.Nmt

namespace Lumina.Proofs.NmtRange
open Lumina.Util Lumina.Model.Nmt Lumina.Proofs.Nmt

/-- number of right siblings the recursion takes for last index `e` (relative) in a subtree of `size` leaves.  The first
    argument is the verifier's fuel, so that `NmtRange.frontier_child` can be an induction on it; the value does not depend on it
    once `size ≤ f` (`NmtMulti.nRight_fuel`, `nLeft_fuel`) -/
def nRight : Nat → Nat → Nat → Nat
  | 0, _, _ => 0
  | f + 1, e, size =>
    if size ≤ 1 then 0
    else if e ≥ nextSmallerPo2 size then nRight f (e - nextSmallerPo2 size) (size - nextSmallerPo2 size)
    else 1 + nRight f e (nextSmallerPo2 size)

/-- number of left siblings for first index `s` (relative) -/
def nLeft : Nat → Nat → Nat → Nat
  | 0, _, _ => 0
  | f + 1, s, size =>
    if size ≤ 1 then 0
    else if s ≥ nextSmallerPo2 size then 1 + nLeft f (s - nextSmallerPo2 size) (size - nextSmallerPo2 size)
    else nLeft f s (nextSmallerPo2 size)

theorem nRight_succ {f e size : Nat} (h : ¬ size ≤ 1) : nRight (f + 1) e size =
    if e ≥ nextSmallerPo2 size then nRight f (e - nextSmallerPo2 size) (size - nextSmallerPo2 size)
    else 1 + nRight f e (nextSmallerPo2 size) := by
  rw [nRight, if_neg h]

theorem nLeft_succ {f s size : Nat} (h : ¬ size ≤ 1) : nLeft (f + 1) s size =
    if s ≥ nextSmallerPo2 size then 1 + nLeft f (s - nextSmallerPo2 size) (size - nextSmallerPo2 size)
    else nLeft f s (nextSmallerPo2 size) := by
  rw [nLeft, if_neg h]

theorem nRight_one (f e : Nat) : nRight f e 1 = 0 := by cases f <;> simp [nRight]
theorem nLeft_one (f s : Nat) : nLeft f s 1 = 0 := by cases f <;> simp [nLeft]

theorem nRight_last : ∀ (f m : Nat), nRight f (2 ^ m - 1) (2 ^ m) = 0 := by
  intro f
  induction f with
  | zero => intro m; rfl
  | succ f ih =>
    intro m
    cases m with
    | zero => simp [nRight]
    | succ m =>
      unfold nRight
      have h2 := two_le_two_pow_succ m
      have hn : ¬ (2 ^ (m + 1) ≤ 1) := by omega
      simp only [hn, ↓reduceIte, nextSmallerPo2_pow]
      have hge : 2 ^ (m + 1) - 1 ≥ 2 ^ m := by omega
      simp only [hge, ↓reduceIte]
      have e1 : 2 ^ (m + 1) - 1 - 2 ^ m = 2 ^ m - 1 := by omega
      have e2 : 2 ^ (m + 1) - 2 ^ m = 2 ^ m := by omega
      rw [e1, e2]; exact ih m

theorem popcountAux_fuel_irrel : ∀ (fuel fuel' n : Nat), n ≤ fuel → n ≤ fuel' → popcountAux fuel n = popcountAux fuel' n := by
  intro fuel
  induction fuel with
  | zero =>
    intro fuel' n h _
    have : n = 0 := by omega
    subst this
    cases fuel' <;> simp [popcountAux]
  | succ f ih =>
    intro fuel' n h h'
    by_cases hn : n = 0
    · subst hn; cases fuel' <;> simp [popcountAux]
    · obtain ⟨f', rfl⟩ : ∃ f', fuel' = f' + 1 := ⟨fuel' - 1, by omega⟩
      unfold popcountAux
      simp only [hn, ↓reduceIte]
      rw [ih f' (n / 2) (by omega) (by omega)]

theorem popcountAux_fuel (fuel n : Nat) (h : n ≤ fuel) : popcountAux fuel n = popcountAux n n :=
  popcountAux_fuel_irrel fuel n n h (Nat.le_refl _)

theorem cnls_rec {n : Nat} (hn : n ≠ 0) :
    computeNumLeftSiblings n = n % 2 + computeNumLeftSiblings (n / 2) := by
  unfold computeNumLeftSiblings
  obtain ⟨n', rfl⟩ : ∃ n', n = n' + 1 := ⟨n - 1, by omega⟩
  conv => lhs; unfold popcountAux
  simp only [hn, ↓reduceIte]
  rw [popcountAux_fuel n' ((n' + 1) / 2) (by omega)]

theorem cnls_zero : computeNumLeftSiblings 0 = 0 := rfl

theorem cnls_add_pow : ∀ (m r : Nat), r < 2 ^ m → computeNumLeftSiblings (2 ^ m + r) = 1 + computeNumLeftSiblings r := by
  intro m
  induction m with
  | zero =>
    intro r hr
    have : r = 0 := by simpa using hr
    subst this
    rw [cnls_rec (by decide)]
  | succ m ih =>
    intro r hr
    rw [cnls_rec (by omega)]
    have e1 : (2 ^ (m + 1) + r) % 2 = r % 2 := by omega
    have e2 : (2 ^ (m + 1) + r) / 2 = 2 ^ m + r / 2 := by omega
    rw [e1, e2, ih (r / 2) (by omega)]
    by_cases hr0 : r = 0
    · subst hr0; simp [cnls_zero]
    · rw [cnls_rec hr0]; omega

theorem nLeft_popcount : ∀ (fuel size s : Nat), size ≤ fuel → s < size → nLeft fuel s size = computeNumLeftSiblings s := by
  intro fuel
  induction fuel with
  | zero => intro size s h1 h2; omega
  | succ f ih =>
    intro size s hf hs
    unfold nLeft
    by_cases h1 : size ≤ 1
    · have : s = 0 := by omega
      subst this; simp [h1, cnls_zero]
    · simp only [h1, ↓reduceIte]
      obtain ⟨m, hm, hmlt, hmle⟩ := nextSmallerPo2_spec size (by omega)
      rw [hm]
      by_cases hge : s ≥ 2 ^ m
      · simp only [hge, ↓reduceIte]
        rw [ih (size - 2 ^ m) (s - 2 ^ m) (by omega) (by omega)]
        have : s = 2 ^ m + (s - 2 ^ m) := by omega
        conv => rhs; rw [this]
        rw [cnls_add_pow m (s - 2 ^ m) (by omega)]
      · simp only [hge, ↓reduceIte]
        exact ih (2 ^ m) s (by omega) (by omega)

/-- `zerosLow` counts from the low end by definition; this peels bit `t`, the highest of `t + 1` -/
theorem zerosLow_succ_high : ∀ (t e : Nat), zerosLow e (t + 1) = zerosLow e t + (if (e / 2 ^ t) % 2 = 0 then 1 else 0) := by
  intro t
  induction t with
  | zero => intro e; simp [zerosLow]
  | succ t ih =>
    intro e
    conv => lhs; unfold zerosLow
    rw [ih (e / 2)]
    conv => rhs; unfold zerosLow
    have : e / 2 / 2 ^ t = e / 2 ^ (t + 1) := by
      rw [Nat.div_div_eq_div_mul, Nat.pow_succ, Nat.mul_comm]
    rw [this]; omega

end Lumina.Proofs.NmtRange

namespace Lumina.Proofs.NmtMulti
open Lumina.Util Lumina.Model.Nmt Lumina.Proofs.Nmt Lumina.Proofs.NmtRange

/-- candidate tree size after filling the low `t` bits of the last index `e` -/
def treeSizeOf (e t : Nat) : Nat := (e / 2 ^ t + 1) * 2 ^ t

theorem treeSizeOf_zero (e : Nat) : treeSizeOf e 0 = e + 1 := by simp [treeSizeOf]

theorem ts_even (h P : Nat) : (h + 1) * (P * 2) = (2 * h + 1) * P + P := by
  have e1 : (h + 1) * (P * 2) = 2 * (h * P) + 2 * P := by
    rw [Nat.add_mul, Nat.one_mul, ← Nat.mul_assoc, Nat.mul_comm (h * P) 2, Nat.mul_comm P 2]
  have e2 : (2 * h + 1) * P = 2 * (h * P) + P := by rw [Nat.add_mul, Nat.mul_assoc, Nat.one_mul]
  rw [e1, e2]; omega

theorem ts_odd (h P : Nat) : (h + 1) * (P * 2) = (2 * h + 1 + 1) * P := by
  have e1 : (h + 1) * (P * 2) = 2 * (h * P) + 2 * P := by
    rw [Nat.add_mul, Nat.one_mul, ← Nat.mul_assoc, Nat.mul_comm (h * P) 2, Nat.mul_comm P 2]
  have e2 : (2 * h + 1 + 1) * P = 2 * (h * P) + P + P := by
    rw [Nat.add_mul, Nat.add_mul, Nat.mul_assoc, Nat.one_mul]
  rw [e1, e2]; omega

theorem treeSizeOf_succ (e t : Nat) :
    treeSizeOf e (t + 1) = treeSizeOf e t + (if (e / 2 ^ t) % 2 = 0 then 2 ^ t else 0) := by
  unfold treeSizeOf
  rw [div_pow_succ, Nat.pow_succ]
  generalize e / 2 ^ t = q
  generalize 2 ^ t = P
  by_cases h : q % 2 = 0
  · simp only [h, ↓reduceIte]
    have hq : q = 2 * (q / 2) := by omega
    rw [ts_even, ← hq]
  · simp only [h, ↓reduceIte, Nat.add_zero]
    have hq : q = 2 * (q / 2) + 1 := by omega
    rw [ts_odd, ← hq]

theorem treeSizeOf_mono (e : Nat) : ∀ (d t : Nat), treeSizeOf e t ≤ treeSizeOf e (t + d) := by
  intro d
  induction d with
  | zero => intro t; exact Nat.le_refl _
  | succ d ih =>
    intro t
    have h1 := ih t
    have h2 := treeSizeOf_succ e (t + d)
    have : t + (d + 1) = t + d + 1 := by omega
    rw [this, h2]; omega

theorem zerosLow_mono (e : Nat) : ∀ (d t : Nat), zerosLow e t ≤ zerosLow e (t + d) := by
  intro d
  induction d with
  | zero => intro t; exact Nat.le_refl _
  | succ d ih =>
    intro t
    have h1 := ih t
    have : t + (d + 1) = t + d + 1 := by omega
    rw [this, zerosLow_succ_high]; omega

/-- the bits in between are ones, which do not move the candidate -/
theorem treeSizeOf_eq_of_zeros (e : Nat) : ∀ (d t : Nat), zerosLow e (t + d) = zerosLow e t →
    treeSizeOf e (t + d) = treeSizeOf e t := by
  intro d
  induction d with
  | zero => intro t _; rfl
  | succ d ih =>
    intro t h
    have e1 : t + (d + 1) = t + 1 + d := by omega
    rw [e1] at h ⊢
    have hm := zerosLow_mono e d (t + 1)
    have hs := zerosLow_succ_high t e
    have hbit : ¬ ((e / 2 ^ t) % 2 = 0) := by
      intro hb; rw [if_pos hb] at hs; omega
    rw [if_neg hbit] at hs
    rw [ih (t + 1) (by omega), treeSizeOf_succ, if_neg hbit]; rfl

theorem treeSizeOf_eq_of_zeros' (e a b : Nat) (h : zerosLow e a = zerosLow e b) : treeSizeOf e a = treeSizeOf e b := by
  rcases Nat.le_total a b with hab | hab
  · obtain ⟨d, rfl⟩ : ∃ d, b = a + d := ⟨b - a, by omega⟩
    exact (treeSizeOf_eq_of_zeros e d a h.symm).symm
  · obtain ⟨d, rfl⟩ : ∃ d, a = b + d := ⟨a - b, by omega⟩
    exact treeSizeOf_eq_of_zeros e d b h

theorem two_pow_le_treeSizeOf (e t : Nat) : 2 ^ t ≤ treeSizeOf e t := by
  unfold treeSizeOf
  have : 1 * 2 ^ t ≤ (e / 2 ^ t + 1) * 2 ^ t := Nat.mul_le_mul_right _ (Nat.le_add_left 1 _)
  omega

theorem lt_treeSizeOf (e t : Nat) : e < treeSizeOf e t := by
  have := treeSizeOf_mono e t 0
  rw [treeSizeOf_zero, Nat.zero_add] at this; omega

theorem treeSizeOf_le {e a b : Nat} (h : a ≤ b) : treeSizeOf e a ≤ treeSizeOf e b := by
  obtain ⟨d, rfl⟩ : ∃ d, b = a + d := ⟨b - a, by omega⟩
  exact treeSizeOf_mono e d a

theorem treeSizeOf_of_lt {e t : Nat} (h : e < 2 ^ t) : treeSizeOf e t = 2 ^ t := by
  unfold treeSizeOf; rw [Nat.div_eq_of_lt h]; omega

theorem le_of_treeSizeOf_le {e t j : Nat} (h : treeSizeOf e t ≤ 2 ^ j) : t ≤ j :=
  (Nat.pow_le_pow_iff_right (a := 2) (by omega)).mp (Nat.le_trans (two_pow_le_treeSizeOf e t) h)

/-- the index `compute_tree_size` holds after `t` rounds: `e` with its low `t` bits set -/
theorem treeSizeOf_pred (e t : Nat) : treeSizeOf e t - 1 = e / 2 ^ t * 2 ^ t + (2 ^ t - 1) := by
  have : 1 ≤ 2 ^ t := Nat.one_le_two_pow
  unfold treeSizeOf; rw [Nat.add_mul]; omega

/-- the loop of `compute_tree_size` succeeds: started at bit `t0` with `rem` zero bits still to fill, when some
    `t0 + d` has exactly that many more zero bits and its candidate size is at most `u32::MAX` -/
theorem computeTreeSizeAux_fwd (e : Nat) : ∀ (d t0 rem fuel : Nat),
    zerosLow e (t0 + d) = zerosLow e t0 + rem → treeSizeOf e (t0 + d) ≤ U32_MAX → d < fuel →
    ∃ t2, computeTreeSizeAux fuel rem (treeSizeOf e t0 - 1) (2 ^ t0) = .ok (treeSizeOf e t2) ∧
      zerosLow e t2 = zerosLow e t0 + rem := by
  intro d
  induction d with
  | zero =>
    intro t0 rem fuel hz _ hf
    obtain ⟨f, rfl⟩ : ∃ f, fuel = f + 1 := ⟨fuel - 1, by omega⟩
    have hr : rem = 0 := by simp at hz; omega
    subst hr
    have := two_pow_le_treeSizeOf e t0
    have : 1 ≤ 2 ^ t0 := Nat.one_le_two_pow
    exact ⟨t0, by rw [computeTreeSizeAux_zero]; congr 1; omega, rfl⟩
  | succ d ih =>
    intro t0 rem fuel hz hT hf
    obtain ⟨f, rfl⟩ : ∃ f, fuel = f + 1 := ⟨fuel - 1, by omega⟩
    have hpt : 1 ≤ 2 ^ t0 := Nat.one_le_two_pow
    have hge := two_pow_le_treeSizeOf e t0
    by_cases hr : rem = 0
    · subst hr
      exact ⟨t0, by rw [computeTreeSizeAux_zero]; congr 1; omega, rfl⟩
    · have e1 : t0 + (d + 1) = t0 + 1 + d := by omega
      rw [e1] at hz hT
      -- 2^(t0+1) ≤ candidate ≤ u32::MAX: the mask does not wrap, the index stays below u32::MAX
      have hmono := treeSizeOf_mono e d (t0 + 1)
      have hge1 := two_pow_le_treeSizeOf e (t0 + 1)
      have ht : t0 ≤ 62 := by
        have : 2 ^ (t0 + 1) < 2 ^ 64 := by simp [U32_MAX] at hT; omega
        have := (Nat.pow_lt_pow_iff_right (by omega)).mp this
        omega
      have hzs := zerosLow_succ_high t0 e
      rw [treeSizeOf_pred, computeTreeSizeAux_step hr ht, ← div_pow_succ, ← treeSizeOf_pred, if_neg (by omega)]
      obtain ⟨t2, h1, h2⟩ := ih (t0 + 1) (if e / 2 ^ t0 % 2 = 0 then rem - 1 else rem) f
        (by split <;> simp_all <;> omega) hT (by omega)
      exact ⟨t2, h1, by rw [h2, hzs]; split <;> omega⟩

theorem computeTreeSize_fwd {c e t : Nat} (hz : zerosLow e t = c) (hT : treeSizeOf e t ≤ U32_MAX) (ht : t < 70) :
    computeTreeSize c e = .ok (treeSizeOf e t) := by
  obtain ⟨t2, h1, h2⟩ := computeTreeSizeAux_fwd e t 0 c (c + 70) (by simpa [zerosLow] using hz)
    (by simpa using hT) (by omega)
  unfold computeTreeSize
  have h0 : treeSizeOf e 0 - 1 = e := by rw [treeSizeOf_zero]; omega
  rw [h0] at h1
  simp only [Nat.pow_zero] at h1
  rw [h1]
  congr 1
  apply treeSizeOf_eq_of_zeros'
  simp [zerosLow] at h2
  omega

theorem zerosLow_add_pow : ∀ (t m x : Nat), t ≤ m → zerosLow (2 ^ m + x) t = zerosLow x t := by
  intro t
  induction t with
  | zero => intro m x _; rfl
  | succ t ih =>
    intro m x htm
    obtain ⟨m, rfl⟩ : ∃ m', m = m' + 1 := ⟨m - 1, by omega⟩
    unfold zerosLow
    have e1 : (2 ^ (m + 1) + x) % 2 = x % 2 := by omega
    have e2 : (2 ^ (m + 1) + x) / 2 = 2 ^ m + x / 2 := by omega
    rw [e1, e2, ih m (x / 2) (by omega)]

theorem treeSizeOf_add_pow {t m : Nat} (htm : t ≤ m) (x : Nat) : treeSizeOf (2 ^ m + x) t = 2 ^ m + treeSizeOf x t := by
  obtain ⟨u, rfl⟩ : ∃ u, m = t + u := ⟨m - t, by omega⟩
  unfold treeSizeOf
  have hdiv : (2 ^ (t + u) + x) / 2 ^ t = 2 ^ u + x / 2 ^ t := by
    rw [Nat.pow_add, Nat.mul_comm, Nat.add_comm, Nat.add_mul_div_right _ _ (Nat.two_pow_pos t), Nat.add_comm]
  rw [hdiv, Nat.add_assoc, Nat.add_mul, ← Nat.pow_add, Nat.add_comm u t]

theorem treeSizeOf_right {m x : Nat} (hx : x < 2 ^ m) : treeSizeOf (2 ^ m + x) m = 2 ^ (m + 1) := by
  rw [treeSizeOf_add_pow (Nat.le_refl m), treeSizeOf_of_lt hx, Nat.pow_succ]; omega

/-- the verifier's tree of `size` leaves splits like the real tree of `n` leaves on the way to (relative) leaf `r` -/
inductive Compat : Nat → Nat → Nat → Prop where
  | refl (n r : Nat) : Compat n n r
  | left {n size r : Nat} : 2 ≤ n → n ≤ size → nextSmallerPo2 size = nextSmallerPo2 n → r < nextSmallerPo2 n →
      Compat n size r
  | right {n size r : Nat} : 2 ≤ n → nextSmallerPo2 size = nextSmallerPo2 n → nextSmallerPo2 n ≤ r →
      Compat (n - nextSmallerPo2 n) (size - nextSmallerPo2 n) (r - nextSmallerPo2 n) → Compat n size r

theorem Compat.le {n size r : Nat} (h : Compat n size r) : n ≤ size := by
  induction h with
  | refl => exact Nat.le_refl _
  | left _ h _ _ => exact h
  | @right n size r h2 hs _ _ ih =>
    obtain ⟨m, hm, hlt, _⟩ := nextSmallerPo2_spec n h2
    omega

theorem Compat.split {n size r : Nat} (h : Compat n size r) : nextSmallerPo2 size = nextSmallerPo2 n := by
  cases h with
  | refl => rfl
  | left _ _ h3 _ => exact h3
  | right _ h3 _ _ => exact h3

theorem Compat.child_right {n size r : Nat} (h : Compat n size r) (hr : nextSmallerPo2 n ≤ r) :
    Compat (n - nextSmallerPo2 n) (size - nextSmallerPo2 n) (r - nextSmallerPo2 n) := by
  cases h with
  | refl => exact .refl _ _
  | left _ _ _ h4 => omega
  | right _ _ _ h4 => exact h4

theorem nRight_fuel : ∀ (f f' e size : Nat), size ≤ f → size ≤ f' → nRight f e size = nRight f' e size := by
  intro f
  induction f with
  | zero =>
    intro f' e size h _
    have : size = 0 := by omega
    subst this
    cases f' <;> simp [nRight]
  | succ f ih =>
    intro f' e size h h'
    by_cases h1 : size ≤ 1
    · cases f' <;> simp [nRight, h1]
    · obtain ⟨g, rfl⟩ : ∃ g, f' = g + 1 := ⟨f' - 1, by omega⟩
      obtain ⟨hp, hlt⟩ := nextSmallerPo2_pos_lt (n := size) (by omega)
      unfold nRight
      simp only [h1, ↓reduceIte]
      rw [ih g _ _ (by omega) (by omega), ih g e _ (by omega) (by omega)]

theorem nLeft_fuel : ∀ (f f' s size : Nat), size ≤ f → size ≤ f' → nLeft f s size = nLeft f' s size := by
  intro f
  induction f with
  | zero =>
    intro f' s size h _
    have : size = 0 := by omega
    subst this
    cases f' <;> simp [nLeft]
  | succ f ih =>
    intro f' s size h h'
    by_cases h1 : size ≤ 1
    · cases f' <;> simp [nLeft, h1]
    · obtain ⟨g, rfl⟩ : ∃ g, f' = g + 1 := ⟨f' - 1, by omega⟩
      obtain ⟨hp, hlt⟩ := nextSmallerPo2_pos_lt (n := size) (by omega)
      unfold nLeft
      simp only [h1, ↓reduceIte]
      rw [ih g _ _ (by omega) (by omega), ih g s _ (by omega) (by omega)]

/-- `nRight` at an inner node, with the fuel each child needs -/
theorem nRight_node {n r : Nat} (h2 : 2 ≤ n) :
    nRight n r n = if r ≥ nextSmallerPo2 n then nRight (n - nextSmallerPo2 n) (r - nextSmallerPo2 n) (n - nextSmallerPo2 n)
      else 1 + nRight (nextSmallerPo2 n) r (nextSmallerPo2 n) := by
  obtain ⟨hp, hlt⟩ := nextSmallerPo2_pos_lt h2
  obtain ⟨f, rfl⟩ : ∃ f, n = f + 1 := ⟨n - 1, by omega⟩
  rw [nRight, if_neg (by omega), nRight_fuel f (f + 1 - nextSmallerPo2 (f + 1)) _ _ (by omega) (Nat.le_refl _),
    nRight_fuel f (nextSmallerPo2 (f + 1)) r _ (by omega) (Nat.le_refl _)]

/-- the candidate of `t` is the least one that covers `n` leaves -/
def Least (n r t : Nat) : Prop :=
  n ≤ treeSizeOf r t ∧ ∀ j, n ≤ treeSizeOf r j → treeSizeOf r t ≤ treeSizeOf r j

theorem Least.self (e t : Nat) : Least (treeSizeOf e t) e t := ⟨Nat.le_refl _, fun _ h => h⟩

theorem exists_least (n r : Nat) : ∃ t, Least n r t := by
  have : ∀ d, n ≤ treeSizeOf r d → ∃ t, n ≤ treeSizeOf r t ∧ ∀ j < t, treeSizeOf r j < n := by
    intro d
    induction d with
    | zero => intro h; exact ⟨0, h, fun _ h => absurd h (Nat.not_lt_zero _)⟩
    | succ d ih =>
      intro h
      by_cases hd : n ≤ treeSizeOf r d
      · exact ih hd
      · refine ⟨d + 1, h, fun j hj => ?_⟩
        have := treeSizeOf_le (e := r) (show j ≤ d by omega); omega
  obtain ⟨t, hn, hl⟩ := this n (Nat.le_trans (Nat.le_of_lt Nat.lt_two_pow_self) (two_pow_le_treeSizeOf r n))
  exact ⟨t, hn, fun j hj => treeSizeOf_le (Nat.le_of_not_lt fun h => by have := hl j h; omega)⟩

/-- in the right child the candidates are those of the whole tree, shifted by the split -/
theorem Least.right {n m x t : Nat} (htm : t ≤ m) (h : Least n (2 ^ m + x) t) : Least (n - 2 ^ m) x t := by
  have hT := treeSizeOf_add_pow htm x
  refine ⟨by have := h.1; omega, fun j hj => ?_⟩
  by_cases htj : t ≤ j
  · exact treeSizeOf_le htj
  · have := treeSizeOf_add_pow (show j ≤ m by omega) x
    have := h.2 j; omega

/-- a leaf right of the split `2^m` of `n` has bit `m` set, so bit `m` is not filled: the least candidate is that of some
    `t ≤ m` (a `t = m + 1` has the candidate and the zero bits of `m`) -/
theorem Least.right_le {n m x t : Nat} (hx : x < 2 ^ m) (hle : n ≤ 2 ^ (m + 1)) (h : Least n (2 ^ m + x) t) :
    ∃ t' ≤ m, Least n (2 ^ m + x) t' ∧ zerosLow (2 ^ m + x) t = zerosLow (2 ^ m + x) t' ∧
      treeSizeOf (2 ^ m + x) t = treeSizeOf (2 ^ m + x) t' := by
  by_cases htm : t ≤ m
  · exact ⟨t, htm, h, rfl, rfl⟩
  · have hpow : 2 ^ (m + 1) = 2 * 2 ^ m := by rw [Nat.pow_succ]; omega
    have hTm := treeSizeOf_right hx
    have := le_of_treeSizeOf_le (hTm ▸ h.2 m (by omega))
    obtain rfl : t = m + 1 := by omega
    have hbit : ¬ ((2 ^ m + x) / 2 ^ m % 2 = 0) := by
      rw [Nat.div_eq_of_lt_le (k := 1) (by omega) (by omega)]; omega
    have e1 := zerosLow_succ_high m (2 ^ m + x)
    have e2 := treeSizeOf_succ (2 ^ m + x) m
    simp only [if_neg hbit, Nat.add_zero] at e1 e2
    exact ⟨m, Nat.le_refl _, ⟨by omega, fun j hj => e2 ▸ h.2 j hj⟩, e1, e2⟩

/-- a leaf left of the split `2^m` of `n`: the least candidate that covers `n` is `2^(m+1)`, that of `t = m + 1` -/
theorem Least.left {n m r t : Nat} (hr : r < 2 ^ m) (hlt : 2 ^ m < n) (hle : n ≤ 2 ^ (m + 1)) (h : Least n r t) :
    t = m + 1 := by
  have hTm := treeSizeOf_of_lt hr
  have hTm1 : treeSizeOf r (m + 1) = 2 ^ (m + 1) := treeSizeOf_of_lt (by omega)
  have : m < t := Nat.lt_of_not_le fun hc => by
    have := treeSizeOf_le (e := r) hc
    have := h.1; omega
  have := le_of_treeSizeOf_le (hTm1 ▸ h.2 (m + 1) (by omega))
  omega

/-- **right siblings are zero bits**: in a tree of `n` leaves, leaf `r` has as many right siblings as it has zero bits
    below the `t` whose candidate is the least one covering `n`, and the tree of that candidate size is compatible with
    the real one.  At the split `2^m` of `n`: a leaf in the right child keeps its low digits and its candidates, shifted
    by `2^m`; a leaf in the (perfect) left child has bit `m` zero, one right sibling for it, and the candidate `2^(m+1)`. -/
theorem nRight_bits : ∀ (f n r t : Nat), n ≤ f → r < n → Least n r t →
    nRight f r n = zerosLow r t ∧ Compat n (treeSizeOf r t) r := by
  intro f
  induction f with
  | zero => intro n r t h1 h2; omega
  | succ f ih =>
    intro n r t hf hr ht
    by_cases h1 : n ≤ 1
    · obtain rfl : n = 1 := by omega
      obtain rfl : r = 0 := by omega
      have := le_of_treeSizeOf_le (j := 0) (treeSizeOf_zero 0 ▸ ht.2 0 (by rw [treeSizeOf_zero]; omega))
      obtain rfl : t = 0 := by omega
      exact ⟨nRight_one _ _, Compat.refl _ _⟩
    · obtain ⟨m, hm, hlt, hle⟩ := nextSmallerPo2_spec n (by omega)
      rw [nRight_succ h1, hm]
      by_cases hge : r ≥ 2 ^ m
      · obtain ⟨x, rfl⟩ : ∃ x, r = 2 ^ m + x := ⟨r - 2 ^ m, by omega⟩
        obtain ⟨t, htm, ht, hz, hT⟩ := ht.right_le (by omega) hle
        rw [if_pos hge, Nat.add_sub_cancel_left, hz, hT]
        obtain ⟨hz, hc⟩ := ih (n - 2 ^ m) x t (by omega) (by omega) (ht.right htm)
        have hT := treeSizeOf_add_pow htm x
        have hTle := treeSizeOf_right (show x < 2 ^ m by omega) ▸ treeSizeOf_le (e := 2 ^ m + x) htm
        have hsz : nextSmallerPo2 (treeSizeOf (2 ^ m + x) t) = 2 ^ m :=
          nextSmallerPo2_unique (by have := ht.1; omega) (by omega)
        refine ⟨by rw [hz, zerosLow_add_pow t m x htm], Compat.right (by omega) (by rw [hsz, hm]) (by rw [hm]; exact hge) ?_⟩
        rw [hm, hT, Nat.add_sub_cancel_left, Nat.add_sub_cancel_left]; exact hc
      · have hrl : r < 2 ^ m := by omega
        obtain rfl := ht.left hrl hlt hle
        rw [if_neg hge, (ih (2 ^ m) r m (by omega) hrl (treeSizeOf_of_lt hrl ▸ Least.self r m)).1, zerosLow_succ_high,
          Nat.div_eq_of_lt hrl, treeSizeOf_of_lt (show r < 2 ^ (m + 1) by omega)]
        exact ⟨by simp; omega, Compat.left (by omega) hle (by rw [nextSmallerPo2_pow, hm]) (by rw [hm]; exact hrl)⟩

/-- **the derived size is compatible with the real tree**: in a real tree of `n` leaves, for the last index `r`, some
    bit position `t` has exactly as many zero bits below it as `r` has right siblings; the candidate size of that `t`
    is compatible with `n`, and is at most every power of two that is at least `n` -/
theorem nRight_compat : ∀ (n r : Nat), r < n →
    ∃ t, zerosLow r t = nRight n r n ∧ Compat n (treeSizeOf r t) r ∧ ∀ j, n ≤ 2 ^ j → treeSizeOf r t ≤ 2 ^ j := by
  intro n r hr
  obtain ⟨t, ht⟩ := exists_least n r
  obtain ⟨h1, h2⟩ := nRight_bits n n r t (Nat.le_refl _) hr ht
  refine ⟨t, h1.symm, h2, fun j hj => ?_⟩
  rw [← treeSizeOf_of_lt (show r < 2 ^ j by omega)]
  exact ht.2 j (by rw [treeSizeOf_of_lt (show r < 2 ^ j by omega)]; exact hj)

end Lumina.Proofs.NmtMulti

namespace Lumina.Proofs.NmtRange
open Lumina.Util Lumina.Model.Nmt Lumina.Proofs.Nmt Lumina.Proofs.NmtMulti

theorem nRight_perfect (t fuel r : Nat) (hf : 2 ^ t ≤ fuel) (hr : r < 2 ^ t) : nRight fuel r (2 ^ t) = zerosLow r t :=
  (nRight_bits fuel _ r t hf hr (treeSizeOf_of_lt hr ▸ Least.self r t)).1

/-- the loop of `compute_tree_size` on an index `e ≤ u32::MAX` whose low `t` bits have been set: the result is
    `(e / 2^t' + 1) · 2^t'` for the `t'` at which the requested number of zero bits of `e` has been filled.  The bit
    position stays below 32: with all 32 low bits set the index is `u32::MAX`, where the loop fails. -/
theorem computeTreeSizeAux_char {e : Nat} (he : e ≤ U32_MAX) : ∀ (fuel t rem T : Nat), t ≤ 31 →
    computeTreeSizeAux fuel rem (e / 2 ^ t * 2 ^ t + (2 ^ t - 1)) (2 ^ t) = .ok T →
    ∃ t', T = treeSizeOf e t' ∧ zerosLow e t' = zerosLow e t + rem := by
  intro fuel
  induction fuel with
  | zero => intro t rem T _ h; simp [computeTreeSizeAux] at h
  | succ f ih =>
    intro t rem T ht h
    have hpt : 1 ≤ 2 ^ t := Nat.one_le_two_pow
    by_cases hr : rem = 0
    · subst hr
      rw [computeTreeSizeAux_zero, Except.ok.injEq] at h
      refine ⟨t, ?_, rfl⟩
      rw [← h, treeSizeOf, Nat.add_mul]; omega
    · rw [computeTreeSizeAux_step hr (by omega), ← div_pow_succ] at h
      split at h
      · cases h
      · rename_i hu
        have ht' : t + 1 ≤ 31 := by
          apply Decidable.byContradiction
          intro hc
          obtain rfl : t = 31 := by omega
          apply hu
          rw [Nat.div_eq_of_lt (by simp [U32_MAX] at he; omega)]
          rfl
        obtain ⟨t', hT, hz⟩ := ih (t + 1) _ T ht' h
        refine ⟨t', hT, ?_⟩
        rw [hz, zerosLow_succ_high]
        split
        · omega
        · omega

theorem computeTreeSize_char {c e T : Nat} (he : e ≤ U32_MAX) (h : computeTreeSize c e = .ok T) :
    ∃ t, T = treeSizeOf e t ∧ zerosLow e t = c := by
  unfold computeTreeSize at h
  have := computeTreeSizeAux_char he (c + 70) 0 c T (by omega) (by simpa using h)
  simpa [zerosLow] using this

/-- `compute_tree_size` is correct: in the tree of the size it returns, the last proven leaf has exactly the given number
    of right siblings -/
theorem computeTreeSize_nRight {c e T : Nat} (he : e ≤ U32_MAX) (h : computeTreeSize c e = .ok T) : nRight T e T = c := by
  obtain ⟨t, rfl, rfl⟩ := computeTreeSize_char he h
  exact (nRight_bits _ _ e t (Nat.le_refl _) (lt_treeSizeOf e t) (Least.self e t)).1

end Lumina.Proofs.NmtRange

namespace Lumina.Proofs.Nmt
open Lumina.Util Lumina.Model.Nmt Lumina.Proofs.NmtMulti

/-- `compute_tree_size` for a single-leaf proof with `j` siblings at an index inside a perfect `2^j`-leaf tree -/
theorem computeTreeSize_perfect {j idx : Nat} (hj : j ≤ 31) (hi : idx < 2 ^ j) :
    computeTreeSize (j - computeNumLeftSiblings idx) idx = .ok (2 ^ j) := by
  have hpz := popcount_zeros j idx idx hi (Nat.le_refl _)
  have hz : zerosLow idx j = j - computeNumLeftSiblings idx := by unfold computeNumLeftSiblings; omega
  have hT := treeSizeOf_of_lt hi
  have h31 : (2 : Nat) ^ j ≤ 2 ^ 31 := Nat.pow_le_pow_right (by omega) hj
  have := computeTreeSize_fwd hz (by rw [hT]; simp [U32_MAX]; omega) (by omega)
  rwa [hT] at this

end Lumina.Proofs.Nmt

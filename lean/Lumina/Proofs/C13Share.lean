/-
  The share-proof part of C13.  `ShareProof::verify` is taken apart once: what it accepts (`shareVerify_ok_iff`), its first
  loop (`sharesNeeded_spec`), one turn of its second loop (`rangeLoop_cons_ok`), and that it never aborts on decoded input
  (`shareVerify_ne_panic`).  `slicesBound_of_loop` reads the spec's `slicesBound` off the second loop, given a binding fact
  per share group.
-/
import Lumina.Proofs.C13
import Lumina.Model.ShareProof
import Lumina.Proofs.DecodersMain

namespace Lumina.Proofs.C13
open Lumina.Util Lumina.Model.Merkle Lumina.Proofs.Merkle
open Lumina.Spec.C13
open Lumina.Model.ShareProof (ShareProof sharesNeeded rangeLoop verifyWith)
open Lumina.Model.Nmt (NsProof NsHash)

variable {D : Type}

def nobsOf (p : NsProof) : NProofObs := { start := p.start, end_ := p.end_, isAbsence := p.isAbsence }

def shareObsOf (sp : ShareProof D) : ShareProofObs D :=
  { data := sp.data, ns := sp.namespaceId, sproofs := sp.shareProofs.map nobsOf, row := rowObsOf sp.rowProof }

def shareResOf : Lumina.Model.ShareProof.Outcome → Res
  | .ok => .ok
  | .err _ => .err
  | .panic => .panic

/-- the first loop fails only with a verification error (the sum is checked in `u64`, /repo 292f2b8); it succeeds only
    on presence proofs with non-empty ranges, and returns the sum -/
theorem sharesNeeded_spec : ∀ (ps : List NsProof) (acc : Nat),
    match sharesNeeded acc ps with
    | .error o => ∃ e, o = .err e
    | .ok n => (ps.map nobsOf).all (fun p => !p.isAbsence && decide (p.start < p.end_)) = true ∧
        n = acc + ((ps.map nobsOf).map (fun p => p.end_ - p.start)).sum
  | [], acc => ⟨rfl, rfl⟩
  | p :: ps, acc => by
    have ih := sharesNeeded_spec ps (acc + (p.end_ - p.start))
    rw [sharesNeeded]
    by_cases h1 : p.isAbsence = true
    · rw [if_pos h1]; exact ⟨_, rfl⟩
    by_cases h2 : p.end_ ≤ p.start
    · rw [if_neg h1, if_pos h2]; exact ⟨_, rfl⟩
    by_cases h3 : Lumina.Model.ShareProof.u64Max < acc + (p.end_ - p.start)
    · rw [if_neg h1, if_neg h2, if_pos h3]; exact ⟨_, rfl⟩
    rw [if_neg h1, if_neg h2, if_neg h3]
    generalize sharesNeeded (acc + (p.end_ - p.start)) ps = r at ih ⊢
    cases r with
    | error o => exact ih
    | ok n =>
      simp only [List.map_cons, List.all_cons, List.sum_cons, nobsOf, Bool.and_eq_true, Bool.not_eq_true',
        decide_eq_true_eq]
      exact ⟨⟨⟨by simpa using h1, by omega⟩, ih.1⟩, by rw [ih.2, Nat.add_assoc]⟩

theorem sharesNeeded_ok (ps : List NsProof) (acc n : Nat) (h : sharesNeeded acc ps = .ok n) :
    (ps.map nobsOf).all (fun p => !p.isAbsence && decide (p.start < p.end_)) = true ∧
    n = acc + ((ps.map nobsOf).map (fun p => p.end_ - p.start)).sum := by
  have := sharesNeeded_spec ps acc
  rwa [h] at this

theorem sharesNeeded_error (ps : List NsProof) (acc : Nat) {o : Lumina.Model.ShareProof.Outcome}
    (h : sharesNeeded acc ps = .error o) : ∃ e, o = .err e := by
  have := sharesNeeded_spec ps acc
  rwa [h] at this

theorem rangeLoop_cons_ok {h : Lumina.Model.Nmt.HashFn} {ns : Bytes} {data : List Bytes} {p : NsProof}
    {ps : List NsProof} {r : Bytes} {rs : List Bytes} :
    rangeLoop h ns data (p :: ps) (r :: rs) = .ok ↔
      p.end_ - p.start ≤ data.length ∧ ∃ root, NsHash.ofBytes? r = some root ∧
        Lumina.Model.Decoders.safeVerifyRange h p root (data.take (p.end_ - p.start)) ns = .ok () ∧
        rangeLoop h ns (data.drop (p.end_ - p.start)) ps rs = .ok := by
  rw [rangeLoop]
  by_cases hlen : data.length < p.end_ - p.start
  · rw [if_pos hlen]; exact ⟨nofun, fun h => absurd h.1 (Nat.not_le_of_lt hlen)⟩
  rw [if_neg hlen]
  cases hr : NsHash.ofBytes? r with
  | none => exact ⟨nofun, fun ⟨_, _, h, _⟩ => nomatch h⟩
  | some root =>
    refine ⟨fun hl => ⟨Nat.le_of_not_lt hlen, root, rfl, ?_⟩, fun ⟨_, _, h, hv, hl⟩ => by cases h; simp only [hv, hl]⟩
    dsimp only at hl
    split at hl
    · cases hl
    · cases hl
    · exact ⟨‹_›, hl⟩

/-- the hypotheses are what the caller and the Rust types give: as many shares as the ranges need (checked before the
    loop), row roots of type `NamespacedHash` (90 bytes), `u32` range bounds -/
theorem rangeLoop_ne_panic (h : Lumina.Model.Nmt.HashFn) (ns : Bytes) :
    ∀ (nps : List NsProof) (rs : List Bytes) (data : List Bytes),
      ((nps.map nobsOf).map (fun p => p.end_ - p.start)).sum ≤ data.length →
      (∀ r ∈ rs, r.length = 90) → (∀ p ∈ nps, Lumina.Proofs.Decoders.U32 p) →
      rangeLoop h ns data nps rs ≠ .panic := by
  intro nps
  induction nps with
  | nil => intro rs data _ _ _; simp [rangeLoop]
  | cons np nps ih =>
    intro rs data hsum hr hu
    cases rs with
    | nil => simp [rangeLoop]
    | cons r rs =>
      simp only [List.map_cons, List.sum_cons, nobsOf] at hsum
      simp only [rangeLoop]
      have hlen : ¬ data.length < np.end_ - np.start := by omega
      simp only [hlen, ↓reduceIte]
      have hr90 : r.length = 90 := hr r (by simp)
      have hof : ∃ root, NsHash.ofBytes? r = some root := by
        unfold NsHash.ofBytes?
        simp [hr90, Lumina.Model.Nmt.NAMESPACED_HASH_SIZE, Lumina.Model.Nmt.NS_SIZE, Lumina.Model.Nmt.HASH_LEN]
      obtain ⟨root, hroot⟩ := hof
      simp only [hroot]
      have hnp := Lumina.Proofs.Decoders.safeVerifyRange_ne_panic h np (hu np (by simp)) root
        (data.take (np.end_ - np.start)) ns
      cases hv : Lumina.Model.Decoders.safeVerifyRange h np root (data.take (np.end_ - np.start)) ns with
      | error e =>
        cases e <;> first | (exact absurd hv hnp) | simp
      | ok u =>
        simp only
        apply ih rs (data.drop (np.end_ - np.start))
        · simp only [List.length_drop] at hsum ⊢; omega
        · exact fun r' hr' => hr r' (by simp [hr'])
        · exact fun p hp => hu p (by simp [hp])

/-- `ShareProof::verify` accepts exactly when there is one range proof per proven row root, the first loop returns
    the number of shares, the row proof is accepted and every share group verifies against its row root -/
theorem shareVerify_ok_iff [DecidableEq D] (H : HashFns D) (h : Lumina.Model.Nmt.HashFn) (sp : ShareProof D)
    (rt : Option D) :
    Lumina.Model.ShareProof.verify H h sp rt = .ok ↔
      sp.shareProofs.length = sp.rowProof.rowRoots.length ∧ sharesNeeded 0 sp.shareProofs = .ok sp.data.length ∧
      Lumina.Model.RowProof.verify H sp.rowProof rt = .ok ∧
      rangeLoop h sp.namespaceId sp.data sp.shareProofs sp.rowProof.rowRoots = .ok := by
  unfold Lumina.Model.ShareProof.verify verifyWith
  by_cases h1 : sp.shareProofs.length = sp.rowProof.rowRoots.length
  · rw [if_neg (not_not_intro h1)]
    cases hs : sharesNeeded 0 sp.shareProofs with
    | error o =>
      obtain ⟨e, rfl⟩ := sharesNeeded_error _ _ hs
      simp
    | ok needed =>
      simp only
      by_cases h2 : needed = sp.data.length
      · rw [if_neg (not_not_intro h2)]
        cases hr : Lumina.Model.RowProof.verify H sp.rowProof rt with
        | ok => simp [h1, h2]
        | err e => simp
        | panic => simp
      · simp [h2]
  · simp [h1]

/-- … and never aborts on a proof as the wire decoding delivers it (`total: i64`, `NamespacedHash` row roots,
    `u32` range bounds) -/
theorem shareVerify_ne_panic [DecidableEq D] (H : HashFns D) (h : Lumina.Model.Nmt.HashFn) (sp : ShareProof D)
    (rt : Option D) (hb : ∀ p ∈ sp.rowProof.proofs, p.total ≤ usizeHalf)
    (hr90 : ∀ r ∈ sp.rowProof.rowRoots, r.length = 90) (hu32 : ∀ p ∈ sp.shareProofs, Lumina.Proofs.Decoders.U32 p) :
    Lumina.Model.ShareProof.verify H h sp rt ≠ .panic := by
  unfold Lumina.Model.ShareProof.verify verifyWith
  split
  · nofun
  · cases hs : sharesNeeded 0 sp.shareProofs with
    | error o => obtain ⟨e, rfl⟩ := sharesNeeded_error _ _ hs; nofun
    | ok needed =>
      simp only
      by_cases h2 : needed = sp.data.length
      · rw [if_neg (not_not_intro h2)]
        cases hr : Lumina.Model.RowProof.verify H sp.rowProof rt with
        | panic => exact absurd hr (rowVerify_ne_panic H _ rt hb)
        | err e => nofun
        | ok =>
          have := (sharesNeeded_ok _ 0 needed hs).2
          exact rangeLoop_ne_panic h _ _ _ _ (by omega) hr90 hu32
      · rw [if_pos h2]; nofun

/-- composite binding hypothesis for share groups (see `Props/C13.lean`): `all` are the NMT roots of
    the axes of the square `sq`, and a range proof accepted against such a root for a range inside
    the axis proves exactly the shares of that range, under their committed namespace. -/
def NmtBinds (h : Lumina.Model.Nmt.HashFn) (w : Nat) (sq all : List Bytes) : Prop :=
  ∀ (idx : Nat) (r : Bytes) (root : NsHash) (p : NsProof) (raws : List Bytes) (ns : Bytes),
    all[idx]? = some r → NsHash.ofBytes? r = some root →
    Lumina.Model.Nmt.verifyRange h p root raws ns = .ok () → p.end_ ≤ w →
    raws = ((axisShares w sq idx).drop p.start).take (p.end_ - p.start) ∧
      nsAllAt w idx ns p.start raws = true

/-- the range-proof loop of `ShareProof::verify` yields the spec's `slicesBound`, given for every group a binding fact
    for its range proof.  Where that fact comes from is left to an invariant `P` of the loop state (remaining shares,
    remaining proofs): `NmtBinds` needs none, the derived binding of `NmtMultiShare.lean` threads the hashed inputs. -/
theorem slicesBound_of_loop [DecidableEq D] (H : HashFns D) (h : Lumina.Model.Nmt.HashFn) (w : Nat)
    (sq all : List Bytes) (ns : Bytes) (P : List Bytes → List NsProof → Prop)
    (hstep : ∀ data np nps, P data (np :: nps) → P (data.drop (np.end_ - np.start)) nps ∧
      ∀ idx r root, all[idx]? = some r → NsHash.ofBytes? r = some root →
        Lumina.Model.Nmt.verifyRange h np root (data.take (np.end_ - np.start)) ns = .ok () → np.end_ ≤ w →
        data.take (np.end_ - np.start) = ((axisShares w sq idx).drop np.start).take (np.end_ - np.start) ∧
          nsAllAt w idx ns np.start (data.take (np.end_ - np.start)) = true) :
    ∀ (nps : List NsProof) (rs : List Bytes) (mps : List (Proof D)) (data : List Bytes), P data nps →
      rangeLoop h ns data nps rs = .ok →
      bindsAll H all rs (mps.map obsOf) = true → (∀ p ∈ mps, p.total = all.length) →
      nps.length = rs.length → rs.length = mps.length →
      slicesBound w sq ns data (nps.map nobsOf) (mps.map obsOf) = true := by
  intro nps
  induction nps with
  | nil => intro rs mps data _ _ _ _ _ _; simp [slicesBound]
  | cons np nps ih =>
    intro rs mps data hP hl hb ht h1 h2
    obtain ⟨hP', hbind⟩ := hstep data np nps hP
    cases rs with
    | nil => simp at h1
    | cons r rs =>
      cases mps with
      | nil => simp at h2
      | cons mp mps =>
        obtain ⟨-, root, hr, hv, hl⟩ := rangeLoop_cons_ok.mp hl
        simp only [List.map_cons, bindsAll, Bool.and_eq_true] at hb
        obtain ⟨hb1, hb2⟩ := hb
        have htot : mp.total = all.length := ht mp (by simp)
        have hidx : all[mp.index]? = some r := by
          simp only [obsOf, htot, beq_self_eq_true, Bool.not_true, Bool.false_or, Bool.and_eq_true,
            beq_iff_eq] at hb1
          exact hb1.1.2
        simp only [List.map_cons, slicesBound, Bool.and_eq_true, Bool.or_eq_true, Bool.not_eq_true',
          decide_eq_false_iff_not, beq_iff_eq, nobsOf, obsOf]
        refine ⟨?_, ih rs mps _ hP' hl hb2 (fun p hp => ht p (by simp [hp])) (by simpa using h1) (by simpa using h2)⟩
        by_cases hw : np.end_ ≤ w
        · right
          unfold Lumina.Model.Decoders.safeVerifyRange at hv
          split at hv
          · cases hv
          · exact hbind mp.index r root hidx hr hv hw
        · exact .inl hw

theorem slicesBound_of_ok [DecidableEq D] (H : HashFns D) (h : Lumina.Model.Nmt.HashFn) (w : Nat)
    (sq all : List Bytes) (hn : NmtBinds h w sq all) (ns : Bytes) :
    ∀ (nps : List NsProof) (rs : List Bytes) (mps : List (Proof D)) (data : List Bytes),
      rangeLoop h ns data nps rs = .ok →
      bindsAll H all rs (mps.map obsOf) = true → (∀ p ∈ mps, p.total = all.length) →
      nps.length = rs.length → rs.length = mps.length →
      slicesBound w sq ns data (nps.map nobsOf) (mps.map obsOf) = true :=
  fun nps rs mps data => slicesBound_of_loop H h w sq all ns (fun _ _ => True)
    (fun _ np _ _ => ⟨trivial, fun idx r root hi hr hv hw => hn idx r root np _ ns hi hr hv hw⟩) nps rs mps data trivial

end Lumina.Proofs.C13

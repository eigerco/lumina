/-
  Multi-leaf range proofs: completeness of `ExtendedDataSquare::get_namespace_data` (C06).

  `getNamespaceData_complete`: on a square with a DAH (`Dah.ofEds` succeeded, i.e. every axis is namespace-ordered),
  shares of at least 29 bytes and width ≤ 65535 (`square_width: u16`), `get_namespace_data` never fails and
  `NamespaceData::verify` accepts what it returns.  No hypothesis on the hash.
-/
import Lumina.Proofs.NmtMultiNs
import Lumina.Proofs.NsData

namespace Lumina.Proofs.NmtMulti
open Lumina.Util Lumina.Model.Nmt Lumina.Model.Eds Lumina.Model.NsData
open Lumina.Proofs.Nmt Lumina.Proofs.NmtRange Lumina.Proofs.Eds Lumina.Proofs.Sample Lumina.Proofs.NsData

/-- one covered row: the proof is produced and `RowNamespaceData::verify` accepts the row's scan -/
theorem row_complete {H : HashFn} {e : Eds} {dah : Dah} (hd : Dah.ofEds H e = .ok dah)
    (hsz : ∀ sh ∈ e.shares, NS_SIZE ≤ sh.data.length) (hw : e.width ≤ 65535) {ns : Bytes} (hns : ns.length = NS_SIZE)
    {row : Nat} (hrow : row < e.width) (hc : dah.rowContains? H row ns = some true) :
    ∃ shares hs proof, e.axis? .row row = some shares ∧ pushLeaves H (shares.map Share.leaf) = some hs ∧
      getNamespaceProof H true (shares.map Share.leaf) ns = .ok proof ∧
      rowVerify H ⟨proof, scanRow ns shares⟩ ns row dah = .ok () := by
  obtain ⟨shares, root, hroot?, T⟩ := dah_axisTree hd .row hrow
  have hroot? : dah.rowRoot? row = some root := hroot?
  have hlen : shares.length ≤ 2 ^ 31 := by rw [T.length]; omega
  rw [dah_rowContains?_eq H hroot? ns, Option.some.injEq] at hc
  obtain ⟨proof, hgp, habs, hv⟩ := getNamespaceProof_verifies hlen T.sorted (T.nsLength hsz) T.root hc hns
  refine ⟨shares, _, proof, T.axis, T.push, hgp, ?_⟩
  have hscan : scanRow ns shares = shares.filter (fun sh => sh.ns == ns) := scanRow_eq_filter ns shares T.sorted
  unfold rowVerify
  simp only [hscan, hroot?, hv]
  have : ((shares.filter (fun sh => sh.ns == ns)).isEmpty && !proof.isAbsence ||
      !(shares.filter (fun sh => sh.ns == ns)).isEmpty && proof.isAbsence) = false := by
    rw [habs]; cases proof.isAbsence <;> rfl
  simp [this]

theorem getNamespaceDataAux_complete {H : HashFn} {e : Eds} {dah : Dah} (hd : Dah.ofEds H e = .ok dah)
    (hsz : ∀ sh ∈ e.shares, NS_SIZE ≤ sh.data.length) (hw : e.width ≤ 65535) {ns : Bytes} (hns : ns.length = NS_SIZE) :
    ∀ (l : List Nat), (∀ r ∈ l, r < e.width) →
      ∃ rows, getNamespaceDataAux H e ns dah l = .ok rows ∧
        (rows.map Prod.snd).length = (l.filter (fun r => (dah.rowContains? H r ns).getD false)).length ∧
        verifyRows H ns dah (rows.map Prod.snd) (l.filter (fun r => (dah.rowContains? H r ns).getD false)) = .ok () := by
  intro l
  induction l with
  | nil => intro _; exact ⟨[], rfl, rfl, rfl⟩
  | cons r t ih =>
    intro hl
    obtain ⟨more, hmore, hlen, hver⟩ := ih (fun x hx => hl x (by simp [hx]))
    have hr : r < e.width := hl r (by simp)
    obtain ⟨_, root, hroot?, _⟩ := dah_axisTree (H := H) hd .row hr
    have hrc := dah_rowContains?_eq H hroot? ns
    unfold getNamespaceDataAux
    by_cases hc : root.contains H ns = true
    · rw [hc] at hrc
      obtain ⟨shares, hs, proof, hax, hpush, hgp, hrv⟩ := row_complete hd hsz hw hns hr hrc
      simp only [hrc, hax, hpush, hgp, hmore]
      refine ⟨_, rfl, ?_, ?_⟩
      · simp only [List.map_cons, List.length_cons, List.filter_cons, hrc, Option.getD_some, ↓reduceIte, hlen]
      · simp only [List.map_cons, List.filter_cons, hrc, Option.getD_some, ↓reduceIte]
        unfold verifyRows
        rw [hrv]
        exact hver
    · have hc' : root.contains H ns = false := by simpa using hc
      rw [hc'] at hrc
      simp only [hrc]
      refine ⟨more, hmore, ?_, ?_⟩
      · simp only [List.filter_cons, hrc, Option.getD_some, Bool.false_eq_true, ↓reduceIte, hlen]
      · simp only [List.filter_cons, hrc, Option.getD_some, Bool.false_eq_true, ↓reduceIte]
        exact hver

/-- **`get_namespace_data` never fails and its output verifies** -/
theorem getNamespaceData_complete {H : HashFn} {e : Eds} {dah : Dah} (hd : Dah.ofEds H e = .ok dah)
    (hsz : ∀ sh ∈ e.shares, NS_SIZE ≤ sh.data.length) (hw : e.width ≤ 65535) {ns : Bytes} (hns : ns.length = NS_SIZE) :
    ∃ rows, getNamespaceData H e ns dah = .ok rows ∧ verify H (rows.map Prod.snd) ns dah = .ok () := by
  obtain ⟨rows, hget, hlen, hver⟩ := getNamespaceDataAux_complete hd hsz hw hns (List.range e.width)
    (fun r hr => List.mem_range.mp hr)
  refine ⟨rows, hget, ?_⟩
  obtain ⟨hrl, _, _, _⟩ := dah_ofEds_roots hd
  have hfl : (List.filter (fun r => (dah.rowContains? H r ns).getD false) (List.range e.width)).length ≤ e.width := by
    have := List.length_filter_le (fun r => (dah.rowContains? H r ns).getD false) (List.range e.width)
    simpa using this
  unfold Lumina.Model.NsData.verify
  have c1 : ¬ ((rows.map Prod.snd).length > U16_MAX) := by rw [hlen]; simp [U16_MAX]; omega
  have c2 : ¬ (dah.rowRoots.length > U16_MAX) := by rw [hrl]; simp [U16_MAX]; omega
  rw [if_neg c1, if_neg c2]
  simp only [hrl]
  rw [if_neg (by rw [hlen]; simp)]
  exact hver

end Lumina.Proofs.NmtMulti

/-
  C45 (ABCI proof chains): the loop of `ProofChain::verify_membership` accepts only chains that are
  `linked` in the sense of `Spec/C45` (`verifyLoop_sound`), the model's parsers agree with the spec's
  (`tryFromOps_eq`, `parseU64_decimal`), hence a balance reported for a non-empty value is `backed`
  (`getVerifiedBalance_backed`); `backed_links` spells `backed` out for the tamper-rejection theorems.
-/
import Lumina.Model.AbciProofs
import Lumina.Spec.C45

namespace Lumina.Proofs.AbciProofs
open Lumina.Util Lumina.Model.AbciProofs
open Lumina.Spec.C45 (linked nextRoots candidates opsOf decimal backed)

theorem drop_eq_cons_of_getElem? {α : Type} {l : List α} {i : Nat} {a : α} (h : l[i]? = some a) :
    l.drop i = a :: l.drop (i + 1) := by
  obtain ⟨hi, rfl⟩ := List.getElem?_eq_some_iff.mp h
  exact List.drop_eq_getElem_cons hi

theorem drop_eq_nil_of_getElem? {α : Type} {l : List α} {i : Nat} (h : l[i]? = none) :
    l.drop i = [] :=
  List.drop_eq_nil_of_le (List.getElem?_eq_none_iff.mp h)

theorem linked_nil {vm : VM} {root leaf : Bytes} {chain : List CommitmentOp} :
    linked vm root chain [] leaf = true ↔ chain = [] := by
  cases chain with
  | nil => exact ⟨fun _ => rfl, fun _ => rfl⟩
  | cons op ops => exact ⟨nofun, nofun⟩

theorem linked_cons {vm : VM} {root leaf k : Bytes} {ks : List Bytes} {chain : List CommitmentOp} :
    linked vm root chain (k :: ks) leaf = true ↔
      ∃ op ops r, chain = op :: ops ∧ op.key = k ∧ r ∈ nextRoots root ops ∧
        vm op.proof op.spec r k leaf = true ∧ linked vm root ops ks r = true := by
  cases chain with
  | nil => exact ⟨nofun, fun ⟨_, _, _, h, _⟩ => nomatch h⟩
  | cons op ops =>
    -- the body is written out: unfolding `linked` by name makes Lean generate its equation
    -- lemmas, by far the slowest step here
    show (op.key == k && (nextRoots root ops).any fun r =>
      vm op.proof op.spec r k leaf && linked vm root ops ks r) = true ↔ _
    simp [and_assoc]

theorem findExist_mem (key : Bytes) (es : List BatchEntry) (e : ExistenceProof)
    (h : findExist key es = some e) :
    e.value ∈ es.filterMap (fun | .exist e => some e.value | .other => none) := by
  induction es with
  | nil => simp [findExist] at h
  | cons x es ih =>
    cases x with
    | exist e' =>
      simp only [findExist] at h
      split at h
      · cases h; simp
      · simp [ih h]
    | other =>
      simp only [findExist] at h
      simp [ih h]

theorem getExistenceProof_mem (op : CommitmentOp) (key : Bytes) (e : ExistenceProof)
    (h : getExistenceProof op key = some e) : e.value ∈ candidates op.proof := by
  unfold getExistenceProof at h
  unfold candidates
  cases hp : op.proof with
  | exist e' => simp [hp] at h; simp [h]
  | batch es => simp only [hp] at h; exact findExist_mem key es e h
  | other => simp [hp] at h

theorem verifyLoop_sound (vm : VM) (chain : ProofChain) (root : Bytes) (keys : List Bytes)
    (leaf : Bytes) (idx : Nat) (h : verifyLoop vm chain root keys leaf idx = .ok ()) :
    linked vm root (chain.drop idx) keys leaf = true := by
  induction keys generalizing leaf idx with
  | nil =>
    unfold verifyLoop at h
    split at h
    · split at h <;> cases h
    · rename_i hnone
      exact linked_nil.mpr (drop_eq_nil_of_getElem? (by simpa using hnone))
  | cons key keys ih =>
    unfold verifyLoop at h
    split at h; · cases h
    rename_i proof hg
    split at h; · cases h
    rename_i hkey
    split at h; · cases h
    simp only at h
    split at h; · cases h
    rename_i cr hcr
    split at h; · cases h
    rename_i hvm
    obtain rfl : key = proof.key := Decidable.not_not.mp hkey
    -- `cr` is what the next operation commits to for this key, or the trusted root at the end
    have hroot : cr ∈ nextRoots root (chain.drop (idx + 1)) := by
      split at hcr
      · rename_i nxt hn
        rw [drop_eq_cons_of_getElem? hn]
        split at hcr <;> cases hcr
        exact getExistenceProof_mem nxt _ _ ‹_›
      · rename_i hn
        rw [drop_eq_nil_of_getElem? hn]
        split at hcr <;> cases hcr
        exact List.mem_singleton.mpr rfl
    exact linked_cons.mpr ⟨proof, _, cr, drop_eq_cons_of_getElem? hg, rfl,
      hroot, by simpa using hvm, ih _ _ h⟩

theorem tryFromOps_eq (ops : List RawOp) (chain : ProofChain) (h : tryFromOps ops = .ok chain) :
    opsOf ops = some chain := by
  induction ops generalizing chain with
  | nil => cases h; rfl
  | cons op rest ih =>
    unfold tryFromOps at h
    split at h; · cases h
    rename_i c hc
    split at h; · cases h
    rename_i cs hr
    cases h
    unfold CommitmentOp.tryFrom at hc
    unfold opsOf
    cases ht : op.type <;> cases hd : op.data <;> simp_all

theorem digitsToNat_eq (ds : List UInt8) (acc n : Nat) (h : digitsToNat ds acc = some n) :
    ds.all (fun c => decide (48 ≤ c.toNat) && decide (c.toNat ≤ 57)) = true ∧
    ds.foldl (fun acc c => acc * 10 + (c.toNat - 48)) acc = n := by
  induction ds generalizing acc with
  | nil => simp [digitsToNat] at h; simp [h]
  | cons c ds ih =>
    unfold digitsToNat at h
    split at h
    · rename_i hc
      have := ih _ h
      simp [hc, this]
    · simp at h

theorem parseU64_decimal (bs : Bytes) (n : Nat) (h : parseU64 bs = some n) : decimal bs = some n := by
  have key : ∀ ds : List UInt8,
      (if ds.isEmpty then none else match digitsToNat ds 0 with
        | some n => if n ≤ U64_MAX then some n else none
        | none => none) = some n →
      (if (ds.isEmpty || !ds.all (fun c => decide (48 ≤ c.toNat) && decide (c.toNat ≤ 57))) = true then none
        else some (ds.foldl (fun acc c => acc * 10 + (c.toNat - 48)) 0)) = some n := by
    intro ds h
    split at h
    · simp at h
    · rename_i hne
      cases hd : digitsToNat ds 0 with
      | none => simp [hd] at h
      | some m =>
        simp only [hd] at h
        split at h
        · cases h
          obtain ⟨h1, h2⟩ := digitsToNat_eq ds 0 n hd
          simp only [Bool.not_eq_true] at hne
          simp [hne, h1, h2]
        · simp at h
  unfold parseU64 at h
  unfold decimal
  exact key _ h

theorem bankKey_eq (addr : Bytes) : Lumina.Spec.C45.bankKey addr = bankKey addr := by
  unfold Lumina.Spec.C45.bankKey bankKey
  rw [show Lumina.Spec.C45.ascii "utia" = BOND_DENOM by decide]

theorem bank_eq : Lumina.Spec.C45.bank = BANK := by decide

theorem backed_links (vm : VM) (addr appHash : Bytes) (r : AbciResponse) (n : Nat)
    (h : Lumina.Spec.C45.backed vm addr appHash (some r) n = true) :
    ∃ op0 op1 r0, opsOf (r.proofOps.getD []) = some [op0, op1] ∧ op0.key = bankKey addr ∧ op1.key = BANK ∧
      r0 ∈ candidates op1.proof ∧ vm op0.proof op0.spec r0 (bankKey addr) r.value = true ∧
      vm op1.proof op1.spec appHash BANK r0 = true ∧ decimal r.value = some n := by
  simp only [backed, Bool.and_eq_true, beq_iff_eq] at h
  obtain ⟨⟨-, hch⟩, hdec⟩ := h
  split at hch
  · rename_i chain hops
    rw [bankKey_eq, bank_eq] at hch
    obtain ⟨op0, _, r0, rfl, hk0, hr0, hv0, hl⟩ := linked_cons.mp (Bool.and_eq_true _ _ ▸ hch).2
    obtain ⟨op1, _, r1, rfl, hk1, hr1, hv1, hl⟩ := linked_cons.mp hl
    obtain rfl := linked_nil.mp hl
    obtain rfl := List.mem_singleton.mp hr1
    exact ⟨op0, op1, r0, hops, hk0, hk1, hr0, hv0, hv1, hdec⟩
  · cases hch

/-- the way every tamper-rejection statement is proved: no amount can have been reported -/
theorem obs_eq_err {o : Lumina.Spec.C45.Obs} (h : ∀ n, o ≠ .ok n) : o = .err := by
  cases o with
  | err => rfl
  | ok n => exact absurd rfl (h n)

theorem getVerifiedBalance_backed (vm : VM) (addr appHash : Bytes) (r : AbciResponse) (n : Nat)
    (hne : r.value ≠ []) (h : getVerifiedBalance vm addr appHash (some r) = .ok (.ok n)) :
    backed vm addr appHash (some r) n = true := by
  unfold getVerifiedBalance at h
  simp only at h
  split at h; · cases h
  rename_i hcode
  split at h; · exact absurd (List.isEmpty_iff.mp ‹_›) hne
  split at h; · cases h
  rename_i chain hch
  split at h <;> try cases h
  rename_i hvm
  split at h <;> cases h
  rename_i hp
  unfold ProofChain.tryFrom at hch
  split at hch; · cases hch
  have hlinked : linked vm appHash chain _ _ = true := verifyLoop_sound vm chain appHash _ _ 0 hvm
  obtain ⟨_, _, _, rfl, -⟩ := linked_cons.mp hlinked
  simp [backed, Decidable.not_not.mp hcode, tryFromOps_eq _ _ hch, bankKey_eq, bank_eq, hlinked,
    parseU64_decimal _ _ hp]

end Lumina.Proofs.AbciProofs

/-
  C07 soundness: `validate` (fixed code) never accepts a proof against an axis that is a codeword.
-/
import Lumina.Proofs.Befp
import Lumina.Proofs.EdsBind

namespace Lumina.Proofs.BefpSound
open Lumina.Util Lumina.Model.Nmt Lumina.Model.Eds Lumina.Model.EdsCode Lumina.Model.Befp
open Lumina.Model.Decoders (Befp ShareWithProof)
open Lumina.Proofs.Nmt Lumina.Proofs.Eds Lumina.Proofs.EdsCode Lumina.Proofs.EdsExtend Lumina.Proofs.EdsLinear
open Lumina.Proofs.Befp Lumina.Proofs.NmtOrder
open Lumina.Spec.C08 (erase)

/-- the shares of axis `(ax, i)` of an accepted square -/
def axisData (e : Eds) (X : List Bytes) (ax : Axis) (i : Nat) : List Bytes := (lineCells e.width X ax i).map Share.data

theorem axisData_length (e : Eds) (X : List Bytes) (ax : Axis) (i : Nat) : (axisData e X ax i).length = e.width := by
  rw [axisData, List.length_map, lineCells_length]

theorem rebuilt_eq_erase : ∀ (shares : List (Option ShareWithProof)) (cw : List Bytes), shares.length = cw.length →
    (∀ m s, shares[m]? = some (some s) → s.share = cw.getD m []) →
    rebuiltOf shares = erase (shares.map Option.isSome) cw
  | [], [], _, _ => rfl
  | [], _ :: _, hl, _ => by cases hl
  | _ :: _, [], hl, _ => by cases hl
  | o :: t, c :: cw, hl, h => by
    have ih := rebuilt_eq_erase t cw (Nat.succ.inj hl) (fun m s hm => h (m + 1) s hm)
    unfold rebuiltOf erase at ih ⊢
    rw [List.map_cons, List.map_cons, List.zipWith_cons_cons, ih]
    cases o with
    | none => rfl
    | some s => exact congrArg (· :: _) (h 0 s rfl)

/-- **Soundness core.**  Against the DAH of a square accepted by `new`, a proof whose indicated axis is a codeword
    (that the decoder recovers from any half) never validates — whatever shares, proofs, positions, namespaces,
    proof axes, height and index it carries.  Hash: 32-byte output and no collision among the byte strings actually hashed —
    by `Dah.ofEds` for the committed square (`edsInputs`) and by the verification of this proof's share proofs
    (`befpInputs`). -/
theorem validate_rejects_codeword {H : HashFn} (C : Codec) {ver : Nat} {X : List Bytes} {e : Eds}
    (hn : NewOK ver X e) {dah : Dah} (hd : Dah.ofEds H e = .ok dah) (p : Befp) (hwf : BefpWF p) (hh : Nat)
    (hk : HashOKOn H (fun y => y ∈ edsInputs H e ++ befpInputs H p.shares))
    (hcw : p.index < e.width → IsCodeword C.enc (e.width / 2) (axisData e X p.axis p.index) ∧
      RecOK C (e.width / 2) (axisData e X p.axis p.index)) :
    validate H C p hh dah ≠ .ok () := by
  intro hv
  obtain ⟨_, _, hidx, hslen, hcount, hcap, hvs, hce⟩ := validate_ok_iff.mp hv
  rw [(dah_ofEds_roots hd).1] at hidx hslen hcount hcap hce
  obtain ⟨hcodeword, hrec⟩ := hcw hidx
  have hcwl := axisData_length e X p.axis p.index
  -- every present share is the committed share of its position: the rebuilt axis is the committed one, erased
  have hbound := verifyShares_sound hk hn (fun y hy => List.mem_append_left _ hy) hd hidx p.shares 0 (by omega) hwf
    (fun y hy => List.mem_append_right _ hy) hvs
  rw [rebuilt_eq_erase p.shares _ (hslen.trans hcwl.symm) (by
    intro m s hm
    have hmw : m < e.width := by have := (List.getElem?_eq_some_iff.mp hm).1; omega
    rw [hbound m s hm, Nat.zero_add, axisData, lineCells_data_getD _ _ _ hmw]
    rfl)] at hce
  -- the codec gives the committed axis back
  have hsz : ∀ s ∈ axisData e X p.axis p.index, s.length = SHARE_SIZE := by
    intro s hs
    obtain ⟨sh, hsh, rfl⟩ := List.mem_map.mp hs
    exact (hn.cells p.index hidx p.axis sh hsh).size
  obtain ⟨r1, r2, r3⟩ := reencode_codeword (C := C) (mask := p.shares.map Option.isSome) (by have := hn.two_le; omega) (by have := hn.half; omega)
    hcodeword hsz hrec (by rw [List.length_map, hslen, hcwl]) (by rw [List.filter_map, List.length_map]; exact hcount)
  obtain ⟨o, ho, hroots⟩ := checkEncoding_ok_iff.mp hce _ r1 r2
  -- the rebuilt tree is the committed tree, so the roots agree and the proof is rejected
  have hreb : rebuildLeaves Flags.fixed H (e.width / 2) p.index (axisData e X p.axis p.index) 0 (List.replicate NS_SIZE 0) =
      .ok (some ((lineCells e.width X p.axis p.index).map (Share.leafHash H))) := by
    have hopt : optAll ((lineCells e.width X p.axis p.index).map fun c => some c.ns) = some ((lineCells e.width X p.axis p.index).map Share.ns) :=
      optAll_eq_some_iff.mpr (List.map_map ..).symm
    rw [axisData, rebuildLeaves_eq _ _ _ _ _ ((lineCells e.width X p.axis p.index).map fun c => some c.ns), hopt, Option.bind_some, (pushOrderOk_iff _ _).mpr ⟨hn.sorted p.index hidx p.axis, ?_⟩,
      if_pos rfl, Lumina.Proofs.EdsBind.zipWith_leafHash]
    · intro x hx
      obtain ⟨c, hc, rfl⟩ := List.mem_map.mp hx
      exact zeros_le_ns (hn.cells p.index hidx p.axis c hc).size
    · rw [lineCells, List.length_map, List.length_map, List.length_range, ← List.range_eq_range', List.map_map, List.map_map,
        List.map_map, List.zipWith_map_right, List.zipWith_self]
      exact List.map_congr_left fun m hm => leafNs_cell hn p.axis hidx (List.mem_range.mp hm)
  obtain ⟨r, hroot, _, hr2⟩ := hn.dahRoot hd p.axis hidx
  rw [r3, hreb] at ho
  obtain ⟨expected, root, h1, h2, hne⟩ := hroots _ (Except.ok.inj ho).symm
  rw [hroot] at h1
  rw [hr2] at h2
  cases h1
  cases h2
  exact hne rfl

end Lumina.Proofs.BefpSound

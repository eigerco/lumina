/-
  Header-ex wire framing (C30).  The varint decoder is taken apart once, against the textbook base-128 reading
  (`decodeAux_spec`, with `specAux` = `specDelimiter` from byte number `count` on); the round trip
  (`decode_encode_varint`: the encoder writes the textbook digits) and stability under more input are then facts
  about `specAux`, which has no accumulator.  Message round trips (`decode_encode_request`,
  `decode_encode_response`); parsers that are `Stable` under more input, hence fail on a strict prefix of what they
  consume (`Stable.take_none`), so a cut frame sequence reads as its complete frames (`parseFrames_wire_take`,
  `readResponses_take`); `read_up_to` leaves a prefix of the stream (`readUpToAux_eq`).
-/
import Lumina.Model.Framing
import Mathlib.Tactic.Ring
import Lumina.Spec.C30

namespace Lumina.Proofs.Framing
open Lumina.Util Lumina.Model.Framing Lumina.Spec.C30

theorem pow7_succ (c : Nat) : 2 ^ (7 * (c + 1)) = 128 * 2 ^ (7 * c) := by
  rw [Nat.mul_succ, Nat.pow_add]; omega

theorem split128 (v P : Nat) : v % 128 * P + v / 128 * (128 * P) = v * P := by
  rw [← Nat.mul_assoc, ← Nat.add_mul, Nat.add_comm, Nat.mul_comm _ 128, Nat.div_add_mod]

/-- `specDelimiter` for a varint whose first byte is byte number `count` of the encoding -/
def specAux (count : Nat) (s : Bytes) : Option (Nat × Nat) :=
  let pre := s.takeWhile (fun b => b.toNat ≥ 128)
  if count + pre.length ≥ 10 then none
  else match s[pre.length]? with
    | none => none
    | some last =>
      if count + pre.length = 9 ∧ last.toNat ≥ 2 then none
      else some ((pre.map (fun (b : UInt8) => b.toNat % 128) ++ [last.toNat]).foldr (fun d acc => d + 128 * acc) 0,
                 pre.length + 1)

theorem specAux_zero (s : Bytes) : specAux 0 s = specDelimiter s := by
  simp only [specAux, specDelimiter, Nat.zero_add]
  rfl

theorem specAux_last (c : Nat) (b : UInt8) (rest : Bytes) (hb : b.toNat < 128) (hc : c ≤ 9) :
    specAux c (b :: rest) = if c = 9 ∧ b.toNat ≥ 2 then none else some (b.toNat, 1) := by
  have htw : (b :: rest).takeWhile (fun b => b.toNat ≥ 128) = [] := by
    rw [List.takeWhile_cons, if_neg (by simpa using hb)]
  unfold specAux
  rw [htw, if_neg (by rw [List.length_nil]; omega)]
  rfl

theorem specAux_more (c : Nat) (b : UInt8) (rest : Bytes) (hb : ¬ b.toNat < 128) :
    specAux c (b :: rest) = (specAux (c + 1) rest).map (fun p => (b.toNat % 128 + 128 * p.1, p.2 + 1)) := by
  have htw : (b :: rest).takeWhile (fun b => b.toNat ≥ 128) = b :: rest.takeWhile (fun b => b.toNat ≥ 128) := by
    rw [List.takeWhile_cons, if_pos (by simpa using hb)]
  simp only [specAux, htw, List.length_cons, List.getElem?_cons_succ, List.map_cons, List.cons_append,
    List.foldr_cons, Nat.add_right_comm c 1, ← Nat.add_assoc]
  generalize rest.takeWhile (fun b => b.toNat ≥ 128) = P
  by_cases h10 : c + P.length + 1 ≥ 10
  · simp only [h10, ↓reduceIte, Option.map_none]
  · simp only [h10, ↓reduceIte]
    cases rest[P.length]? with
    | none => rfl
    | some last => dsimp only; split <;> rfl

/-- the model's varint decoder is the textbook definition -/
theorem decodeAux_spec : ∀ (s : Bytes) (count acc : Nat), count ≤ 9 →
    decodeVarintAux count acc s = (specAux count s).map (fun p => (acc + 2 ^ (7 * count) * p.1, s.drop p.2))
  | [], count, acc, _ => by rw [show specAux count [] = none from ite_self _]; rfl
  | b :: rest, count, acc, hc => by
    unfold decodeVarintAux
    by_cases hb : b.toNat < 128
    · rw [specAux_last count b rest hb hc, if_pos hb]
      split
      · rfl
      · rw [Nat.mul_comm]; rfl
    · rw [specAux_more count b rest hb, if_neg hb, Option.map_map]
      by_cases hc9 : count ≥ 9
      · have : specAux (count + 1) rest = none := if_pos (by omega)
        rw [if_pos hc9, this]; rfl
      · rw [if_neg hc9, decodeAux_spec rest (count + 1) _ (by omega)]
        congr 1
        funext p
        have hm : b.toNat % 128 = b.toNat - 128 := by have := UInt8.toNat_lt b; omega
        simp only [Function.comp, List.drop_succ_cons, pow7_succ, hm]
        rw [Nat.mul_add, Nat.add_assoc, Nat.mul_comm (b.toNat - 128), Nat.mul_left_comm, Nat.mul_assoc]

theorem decodeVarint_eq (s : Bytes) :
    decodeVarint s = (specAux 0 s).map (fun p => (p.1, s.drop p.2)) := by
  rw [decodeVarint, decodeAux_spec s 0 0 (Nat.zero_le _)]
  simp

theorem specAux_encodeLoop (fuel : Nat) : ∀ (count v : Nat) (rest : Bytes),
    count + fuel = 10 → 1 ≤ fuel → v * 2 ^ (7 * count) < 2 ^ 64 →
    specAux count (encodeVarintLoop fuel v ++ rest) = some (v, (encodeVarintLoop fuel v).length) := by
  induction fuel with
  | zero => intro _ _ _ _ h; omega
  | succ n ih =>
    intro c v rest hc _ hv
    -- the tenth byte carries bit 63 only
    have h9 : c = 9 → v < 2 := by rintro rfl; omega
    unfold encodeVarintLoop
    split
    · have hb : (UInt8.ofNat v).toNat = v := UInt8.toNat_ofNat_of_lt' (Nat.lt_trans ‹_› (by decide))
      rw [List.singleton_append, specAux_last c _ rest (by omega) (by omega), hb,
        if_neg fun h => Nat.not_le_of_lt (h9 h.1) h.2]
      rfl
    · have hb : (UInt8.ofNat (v % 128 + 128)).toNat = v % 128 + 128 :=
        UInt8.toNat_ofNat_of_lt' (Nat.add_lt_add_right (Nat.mod_lt v (by decide)) 128)
      have hv' : v / 128 * 2 ^ (7 * (c + 1)) < 2 ^ 64 := by
        have := split128 v (2 ^ (7 * c))
        rw [pow7_succ]; omega
      rw [List.cons_append, specAux_more c _ _ (by omega), ih _ _ _ (by omega) (by omega) hv', hb,
        Option.map_some, Nat.add_mod_right, Nat.mod_mod, Nat.mod_add_div]
      rfl

theorem decode_encode_varint (v : Nat) (hv : v < 2 ^ 64) (rest : Bytes) :
    decodeVarint (encodeVarint v ++ rest) = some (v, rest) := by
  rw [decodeVarint_eq, encodeVarint, specAux_encodeLoop 10 0 v rest rfl (by decide) (by simpa using hv),
    Option.map_some, List.drop_left]

/-- a successful parse is unchanged by more input behind it -/
def Stable {β} (p : Bytes → Option (β × Bytes)) : Prop :=
  ∀ buf t x r, p buf = some (x, r) → p (buf ++ t) = some (x, r ++ t)

/-- such a parser fails on every strict prefix of an input it consumes completely: had it succeeded
    on the prefix, it would leave the cut-off bytes over on the whole -/
theorem Stable.take_none {β} {p : Bytes → Option (β × Bytes)} (hp : Stable p) {w : Bytes} {x : β}
    (h : p w = some (x, [])) {k : Nat} (hk : k < w.length) : p (w.take k) = none := by
  cases hq : p (w.take k) with
  | none => rfl
  | some y =>
    have h' := hp _ (w.drop k) y.1 y.2 hq
    rw [List.take_append_drop, h] at h'
    have := List.drop_eq_nil_iff.mp
      (List.append_eq_nil_iff.mp (congrArg (·.2) (Option.some.inj h')).symm).2
    omega

/-- the textbook decoder looks at the continuation bytes and the one after them, no further -/
theorem specAux_append (c : Nat) (s t : Bytes) {p : Nat × Nat} (h : specAux c s = some p) :
    specAux c (s ++ t) = some p ∧ p.2 ≤ s.length := by
  unfold specAux at h ⊢
  dsimp only at h ⊢
  cases hl : s[(s.takeWhile fun b => b.toNat ≥ 128).length]? with
  | none => simp [hl] at h
  | some last =>
    have hlt := (List.getElem?_eq_some_iff.mp hl).1
    rw [List.takeWhile_append, if_neg (Nat.ne_of_lt hlt), List.getElem?_append_left hlt]
    refine ⟨h, ?_⟩
    rw [hl] at h
    obtain ⟨_, h⟩ := Option.ite_none_left_eq_some.mp h
    obtain ⟨_, h⟩ := Option.ite_none_left_eq_some.mp h
    cases h
    exact hlt

theorem decodeVarint_stable : Stable decodeVarint := by
  intro s t v r h
  rw [decodeVarint_eq] at h ⊢
  obtain ⟨p, hp, he⟩ := Option.map_eq_some_iff.mp h
  cases he
  obtain ⟨h1, h2⟩ := specAux_append 0 s t hp
  rw [h1, Option.map_some, List.drop_append_of_le_length h2]

theorem decodeVarint_encode_take (v k : Nat) (hv : v < 2 ^ 64) (hk : k < (encodeVarint v).length) :
    decodeVarint ((encodeVarint v).take k) = none :=
  decodeVarint_stable.take_none (by simpa using decode_encode_varint v hv []) hk

theorem encodeVarint_length_pos (v : Nat) : 0 < (encodeVarint v).length := by
  unfold encodeVarint encodeVarintLoop
  split <;> exact Nat.succ_pos _

theorem encodeLoop_length_le (fuel v : Nat) : (encodeVarintLoop fuel v).length ≤ fuel := by
  induction fuel generalizing v with
  | zero => exact Nat.le_refl _
  | succ n ih =>
    unfold encodeVarintLoop
    split
    · exact Nat.succ_le_succ (Nat.zero_le _)
    · exact Nat.succ_le_succ (ih _)

theorem encodeVarint_length_le (v : Nat) : (encodeVarint v).length ≤ 10 := encodeLoop_length_le 10 v

theorem parseDelimiter_eq (buf : Bytes) : parseDelimiter buf = decodeVarint buf := by
  cases buf <;> rfl

theorem lengthDelimited_length (body : Bytes) :
    (lengthDelimited body).length = (encodeVarint body.length).length + body.length :=
  List.length_append

theorem lengthDelimited_length_pos (body : Bytes) : 0 < (lengthDelimited body).length := by
  have := encodeVarint_length_pos body.length
  rw [lengthDelimited_length]; omega

theorem parseFrame_frame {α} (dec : Bytes → Option α) (body rest : Bytes) (hl : body.length < 2 ^ 64) :
    parseFrame dec (lengthDelimited body ++ rest) = (dec body).map (fun m => (m, rest)) := by
  unfold parseFrame
  rw [parseDelimiter_eq, lengthDelimited, List.append_assoc, decode_encode_varint _ hl]
  have : ¬ (body ++ rest).length < body.length := by rw [List.length_append]; omega
  simp only [this, ↓reduceIte, List.take_left', List.drop_left']
  cases dec body <;> rfl

theorem parseDelimiter_stable : Stable parseDelimiter :=
  (funext parseDelimiter_eq : parseDelimiter = decodeVarint) ▸ decodeVarint_stable

theorem parseFrame_stable {α} (dec : Bytes → Option α) : Stable (parseFrame dec) := by
  intro buf t m r h
  unfold parseFrame at h ⊢
  cases hd : parseDelimiter buf with
  | none => simp [hd] at h
  | some p =>
    rw [hd] at h
    rw [parseDelimiter_stable buf t p.1 p.2 hd]
    dsimp only at h ⊢
    split at h
    · cases h
    · rename_i hl
      have hl := Nat.le_of_not_lt hl
      rw [if_neg (by rw [List.length_append]; omega), List.take_append_of_le_length hl,
        List.drop_append_of_le_length hl]
      cases hm : dec (p.2.take p.1) with
      | none => simp [hm] at h
      | some m' => simp only [hm, Option.some.injEq, Prod.mk.injEq] at h ⊢; exact ⟨h.1, by rw [h.2]⟩

theorem parseFrame_frame_take {α} (dec : Bytes → Option α) (body : Bytes) (k : Nat) {m : α}
    (hl : body.length < 2 ^ 64) (hd : dec body = some m) (hk : k < (lengthDelimited body).length) :
    parseFrame dec ((lengthDelimited body).take k) = none :=
  (parseFrame_stable dec).take_none
    (by rw [← List.append_nil (lengthDelimited body), parseFrame_frame dec body [] hl, hd]; rfl) hk

def wireOf {α} (enc : α → Bytes) (rs : List α) : Bytes :=
  (rs.map (fun r => lengthDelimited (enc r))).flatten

theorem wireOf_cons {α} (enc : α → Bytes) (r : α) (rs : List α) :
    wireOf enc (r :: rs) = lengthDelimited (enc r) ++ wireOf enc rs := rfl

theorem wireOf_nil {α} (enc : α → Bytes) : wireOf enc ([] : List α) = [] := rfl

theorem writeResponses_eq (rs : List HeaderResponse) : writeResponses rs = wireOf encodeResponse rs := rfl

def frameLens {α} (enc : α → Bytes) (rs : List α) : List Nat :=
  rs.map (fun r => (lengthDelimited (enc r)).length)

theorem wireOf_length {α} (enc : α → Bytes) (rs : List α) :
    (wireOf enc rs).length = (frameLens enc rs).sum := by
  induction rs with
  | nil => rfl
  | cons r rs ih => rw [wireOf_cons, List.length_append, ih]; rfl

theorem completeCount_lt {α} (enc : α → Bytes) : ∀ (rs : List α) (k : Nat), k < (wireOf enc rs).length →
    completeCount (frameLens enc rs) k < rs.length
  | [], k, hk => absurd hk (Nat.not_lt_zero k)
  | r :: rs, k, hk => by
    rw [wireOf_cons, List.length_append] at hk
    simp only [frameLens, List.map_cons, completeCount, List.length_cons]
    split
    · have := completeCount_lt enc rs (k - (lengthDelimited (enc r)).length) (by omega)
      simp only [frameLens] at this
      omega
    · omega

theorem parseFrame_nil {α} (dec : Bytes → Option α) : parseFrame dec [] = none := rfl

theorem parseFrames_of_none {α} (dec : Bytes → Option α) (fuel : Nat) (buf : Bytes)
    (h : parseFrame dec buf = none) : parseFrames dec fuel buf = [] := by
  cases fuel with
  | zero => rfl
  | succ n => simp only [parseFrames, h]

/-- reading the first `k` bytes of a frame sequence yields exactly the frames that are complete
    within them, as counted from the frame lengths: each complete frame is peeled off, and the cut
    one (if any) does not parse -/
theorem parseFrames_wire_take {α} (enc : α → Bytes) (dec : Bytes → Option α) :
    ∀ (rs : List α) (k fuel : Nat), (∀ r ∈ rs, dec (enc r) = some r ∧ (enc r).length < 2 ^ 64) →
    ((wireOf enc rs).take k).length ≤ fuel →
    parseFrames dec fuel ((wireOf enc rs).take k) = rs.take (completeCount (frameLens enc rs) k)
  | [], k, fuel, _, _ => by
    rw [wireOf_nil, List.take_nil, parseFrames_of_none dec fuel [] (parseFrame_nil dec)]; rfl
  | r :: rs, k, fuel, hv, hf => by
    have hr := hv r List.mem_cons_self
    have hpos := lengthDelimited_length_pos (enc r)
    rw [wireOf_cons, List.take_append] at hf ⊢
    simp only [frameLens, List.map_cons, completeCount]
    by_cases hk : (lengthDelimited (enc r)).length ≤ k
    · rw [if_pos hk, List.take_of_length_le hk] at *
      rw [List.length_append] at hf
      cases fuel with
      | zero => omega
      | succ n =>
        simp only [parseFrames, parseFrame_frame dec (enc r) _ hr.2, hr.1, Option.map_some]
        rw [parseFrames_wire_take enc dec rs _ n (fun x hx => hv x (List.mem_cons_of_mem _ hx)) (by omega),
          Nat.add_comm 1, List.take_succ_cons]
        rfl
    · rw [if_neg hk, Nat.sub_eq_zero_of_le (Nat.le_of_not_le hk), List.take_zero, List.append_nil,
        parseFrames_of_none dec fuel _ (parseFrame_frame_take dec (enc r) k hr.2 hr.1 (Nat.lt_of_not_le hk))]
      rfl

theorem completeCount_sum : ∀ ls : List Nat, completeCount ls ls.sum = ls.length
  | [] => rfl
  | l :: ls => by
    rw [List.sum_cons, completeCount, if_pos (Nat.le_add_right _ _), Nat.add_sub_cancel_left,
      completeCount_sum ls, List.length_cons, Nat.add_comm]

theorem completeCount_wire {α} (enc : α → Bytes) (rs : List α) :
    completeCount (frameLens enc rs) (wireOf enc rs).length = rs.length := by
  rw [wireOf_length, completeCount_sum, frameLens, List.length_map]

/-- `read_response` once `read_up_to` has left the first `m` bytes of a written frame sequence in
    the buffer: exactly the complete frames, an error when there is none (`m` may be the whole
    length: then all frames are complete, and the empty sequence reads as an error) -/
theorem readResponsesOf_take {α} (enc : α → Bytes) (dec : Bytes → Option α) (rs : List α) (m : Nat)
    (hv : ∀ r ∈ rs, dec (enc r) = some r ∧ (enc r).length < 2 ^ 64)
    (limit : Nat) (data : Bytes) (cuts : List Nat)
    (hbuf : readUpTo limit data cuts = (wireOf enc rs).take m) :
    readResponsesOf dec limit data cuts =
      if completeCount (frameLens enc rs) m = 0 then none
      else some (rs.take (completeCount (frameLens enc rs) m)) := by
  unfold readResponsesOf
  simp only [hbuf, parseFrames_wire_take enc dec rs m _ hv (Nat.le_refl _), List.isEmpty_iff,
    List.take_eq_nil_iff]
  cases rs with
  | nil => rfl
  | cons r rs => simp only [reduceCtorEq, or_false]

/-- whatever the chunking, the buffer is a prefix of the stream, at most `limit` long; with positive
    chunk sizes it is all the free space can hold -/
theorem readUpToAux_eq (limit : Nat) : ∀ (cuts : List Nat) (acc data : Bytes),
    ∃ k, k ≤ limit - acc.length ∧ readUpToAux limit acc data cuts = acc ++ data.take k ∧
      ((∀ c ∈ cuts, 0 < c) → data.take k = data.take (limit - acc.length))
  | [], acc, data => ⟨limit - acc.length, Nat.le_refl _, rfl, fun _ => rfl⟩
  | c :: cs, acc, data => by
    have h1 : min c (min (limit - acc.length) data.length) ≤ limit - acc.length :=
      Nat.le_trans (Nat.min_le_right _ _) (Nat.min_le_left _ _)
    have h2 : min c (min (limit - acc.length) data.length) ≤ data.length :=
      Nat.le_trans (Nat.min_le_right _ _) (Nat.min_le_right _ _)
    have h0 : 0 < c → min c (min (limit - acc.length) data.length) = 0 →
        limit - acc.length = 0 ∨ data.length = 0 := by omega
    unfold readUpToAux
    dsimp only
    generalize min c (min (limit - acc.length) data.length) = n at *
    split
    · rename_i h
      exact ⟨0, Nat.zero_le _, (List.append_nil acc).symm, fun _ => by rw [h, Nat.sub_self]⟩
    split
    · rename_i hn
      refine ⟨0, Nat.zero_le _, (List.append_nil acc).symm, fun hpos => ?_⟩
      rcases h0 (hpos c List.mem_cons_self) hn with h | h
      · rw [h]
      · rw [List.eq_nil_of_length_eq_zero h, List.take_nil, List.take_nil]
    obtain ⟨k, hk, he, hp⟩ := readUpToAux_eq limit cs (acc ++ data.take n) (data.drop n)
    rw [List.length_append, List.length_take, Nat.min_eq_left h2, Nat.sub_add_eq] at hk hp
    refine ⟨n + k, Nat.add_le_of_le_sub' h1 hk, by rw [he, List.append_assoc, List.take_add], fun hpos => ?_⟩
    -- `take (n + m) = take n ++ take m ∘ drop n`, with `n` the chunk and `n + m` the free space
    rw [List.take_add, hp fun x hx => hpos x (List.mem_cons_of_mem _ hx), ← List.take_add,
      Nat.add_sub_cancel' h1]

theorem readUpTo_prefix (limit : Nat) (data : Bytes) (cuts : List Nat) :
    ∃ k, k ≤ limit ∧ readUpTo limit data cuts = data.take k :=
  let ⟨k, hk, he, _⟩ := readUpToAux_eq limit cuts [] data
  ⟨k, hk, he⟩

theorem ite_some_eq {α} {c : Prop} [Decidable c] {a b : α} {x : Option α}
    (h : (if c then some a else x) = some b) : c ∧ a = b ∨ ¬ c ∧ x = some b := by
  split at h
  · exact .inl ⟨‹_›, Option.some.inj h⟩
  · exact .inr ⟨‹_›, h⟩

/-- when `read_up_to` survives a failing `read` call, that call was never made: the buffer is
    the one the failure-free reader yields -/
theorem readUpToFailAux_some (limit fail : Nat) : ∀ (cuts : List Nat) (i : Nat) (acc data buf : Bytes),
    readUpToFailAux limit fail i acc data cuts = some buf → buf = readUpToAux limit acc data cuts
  | [], i, acc, data, buf, h => by
    have ht : data.take (min (limit - acc.length) data.length) = data.take (limit - acc.length) :=
      List.take_eq_take_iff.mpr (by omega)
    unfold readUpToFailAux at h
    unfold readUpToAux
    dsimp only at h
    rw [ht] at h
    rcases ite_some_eq h with ⟨hl, rfl⟩ | ⟨_, h⟩
    · rw [hl, Nat.sub_self, List.take_zero, List.append_nil]
    obtain ⟨_, h⟩ := Option.ite_none_left_eq_some.mp h
    rcases ite_some_eq h with ⟨hn, rfl⟩ | ⟨_, h⟩
    · rw [← ht, hn, List.take_zero, List.append_nil]
    -- from here on a buffer that is returned at all is the whole of what could be read
    rcases ite_some_eq h with ⟨_, rfl⟩ | ⟨_, h⟩
    · rfl
    exact (Option.some.inj (Option.ite_none_left_eq_some.mp h).2).symm
  | c :: cs, i, acc, data, buf, h => by
    unfold readUpToFailAux at h
    unfold readUpToAux
    dsimp only at h ⊢
    rcases ite_some_eq h with ⟨hl, rfl⟩ | ⟨hl, h⟩
    · rw [if_pos hl]
    obtain ⟨_, h⟩ := Option.ite_none_left_eq_some.mp h
    rcases ite_some_eq h with ⟨hn, rfl⟩ | ⟨hn, h⟩
    · rw [if_neg hl, if_pos hn]
    · rw [if_neg hl, if_neg hn]; exact readUpToFailAux_some limit fail cs _ _ _ _ h

/-- so whatever is computed from the buffer is, over the failing reader, an error or unchanged -/
theorem readUpToFail_bind {β} (f : Bytes → Option β) (limit : Nat) (data : Bytes) (cuts : List Nat) (fail : Nat) :
    (readUpToFail limit data cuts fail).bind f = none ∨
    (readUpToFail limit data cuts fail).bind f = f (readUpTo limit data cuts) := by
  cases h : readUpToFail limit data cuts fail with
  | none => exact .inl rfl
  | some buf => exact .inr (congrArg f (readUpToFailAux_some limit fail cuts 0 [] data buf h))

def ValidReq (r : HeaderRequest) : Prop :=
  r.amount < 2 ^ 64 ∧
  match r.data with
  | .none => True
  | .origin o => o < 2 ^ 64
  | .hash h => h.length < 2 ^ 63

def ValidResp (r : HeaderResponse) : Prop :=
  r.body.length < 2 ^ 63 ∧ -2147483648 ≤ r.status ∧ r.status < 2147483648

theorem decodeKey_small (k : Nat) (hk : k < 128) (hwt : k % 8 ≤ 5) (htag : 1 ≤ k / 8) (rest : Bytes) :
    decodeKey (encodeVarint k ++ rest) = some (k / 8, k % 8, rest) := by
  unfold decodeKey
  rw [decode_encode_varint k (by omega)]
  have h1 : ¬ k > 4294967295 := by omega
  have h2 : ¬ k % 8 > 5 := by omega
  have h3 : k % 4294967296 = k := by omega
  have h4 : ¬ k / 8 < 1 := by omega
  simp only [h1, h2, h3, h4, ↓reduceIte]

theorem mergeVarint_encode (v : Nat) (hv : v < 2 ^ 64) (rest : Bytes) :
    mergeVarint 0 (encodeVarint v ++ rest) = some (v, rest) := by
  simp [mergeVarint, decode_encode_varint v hv]

theorem mergeBytes_encode (b rest : Bytes) (hb : b.length < 2 ^ 64) :
    mergeBytes 2 (encodeVarint b.length ++ (b ++ rest)) = some (b, rest) := by
  simp [mergeBytes, decode_encode_varint b.length hb]

/-- `Message::merge` turns `buf` into `r`, starting from `m`, given at least one unit of fuel per
    byte; in this form the statement for a buffer follows from the one for its tail -/
def Decodes {α} (f : α → Nat → Nat → Bytes → Option (α × Bytes)) (m : α) (buf : Bytes) (r : α) : Prop :=
  ∀ fuel, buf.length ≤ fuel → mergeLoop f fuel m buf = some r

theorem Decodes.nil {α} (f : α → Nat → Nat → Bytes → Option (α × Bytes)) (m : α) : Decodes f m [] m := by
  intro fuel _; cases fuel <;> rfl

theorem Decodes.field {α} {f : α → Nat → Nat → Bytes → Option (α × Bytes)} {m m' r : α}
    (key : Nat) (payload : Bytes) {rest : Bytes} (hk : key < 128) (hwt : key % 8 ≤ 5) (htag : 1 ≤ key / 8)
    (hm : f m (key / 8) (key % 8) (payload ++ rest) = some (m', rest)) (h : Decodes f m' rest r) :
    Decodes f m (encodeVarint key ++ (payload ++ rest)) r := by
  intro fuel hf
  have hpos := encodeVarint_length_pos key
  have hkey := decodeKey_small key hk hwt htag (payload ++ rest)
  simp only [List.length_append] at hf
  obtain ⟨b, bs, hb⟩ := List.exists_cons_of_length_pos
    (l := encodeVarint key ++ (payload ++ rest)) (by rw [List.length_append]; omega)
  cases fuel with
  | zero => omega
  | succ n =>
    rw [hb] at hkey ⊢
    simp only [mergeLoop, hkey, hm]
    exact h n (by omega)

theorem i32_roundtrip (s : Int) (h1 : -2147483648 ≤ s) (h2 : s < 2147483648) :
    u64ToI32 (i32ToU64 s) = s ∧ i32ToU64 s < 2 ^ 64 := by
  unfold u64ToI32 i32ToU64
  dsimp only
  constructor
  · split <;> split <;> omega
  · split <;> omega

variable {q r : HeaderRequest} {p s : HeaderResponse} {rest : Bytes}

theorem req_amount (v : Nat) (hv : v < 2 ^ 64) (h : Decodes mergeFieldRequest { q with amount := v } rest r) :
    Decodes mergeFieldRequest q (encodeVarintField 24 v ++ rest) r := by
  rw [encodeVarintField, List.append_assoc]
  exact .field 24 _ (by omega) (by omega) (by omega) (by simp [mergeFieldRequest, mergeVarint_encode v hv]) h

theorem req_origin (v : Nat) (hv : v < 2 ^ 64) (h : Decodes mergeFieldRequest { q with data := .origin v } rest r) :
    Decodes mergeFieldRequest q (encodeVarintField 8 v ++ rest) r := by
  rw [encodeVarintField, List.append_assoc]
  exact .field 8 _ (by omega) (by omega) (by omega) (by simp [mergeFieldRequest, mergeVarint_encode v hv]) h

theorem req_hash (b : Bytes) (hb : b.length < 2 ^ 64) (h : Decodes mergeFieldRequest { q with data := .hash b } rest r) :
    Decodes mergeFieldRequest q (encodeBytesField 18 b ++ rest) r := by
  rw [encodeBytesField, List.append_assoc, List.append_assoc, ← List.append_assoc (encodeVarint b.length)]
  exact .field 18 _ (by omega) (by omega) (by omega)
    (by simp [mergeFieldRequest, mergeBytes_encode b rest hb]) h

theorem resp_body (b : Bytes) (hb : b.length < 2 ^ 64) (h : Decodes mergeFieldResponse { p with body := b } rest s) :
    Decodes mergeFieldResponse p (encodeBytesField 10 b ++ rest) s := by
  rw [encodeBytesField, List.append_assoc, List.append_assoc, ← List.append_assoc (encodeVarint b.length)]
  exact .field 10 _ (by omega) (by omega) (by omega)
    (by simp [mergeFieldResponse, mergeBytes_encode b rest hb]) h

theorem resp_status (v : Nat) (hv : v < 2 ^ 64)
    (h : Decodes mergeFieldResponse { p with status := u64ToI32 v } rest s) :
    Decodes mergeFieldResponse p (encodeVarintField 16 v ++ rest) s := by
  rw [encodeVarintField, List.append_assoc]
  exact .field 16 _ (by omega) (by omega) (by omega) (by simp [mergeFieldResponse, mergeVarint_encode v hv]) h

/-- `HeaderRequest::decode(encode(r)) = r` -/
theorem decode_encode_request (r : HeaderRequest) (hv : ValidReq r) :
    decodeRequest (encodeRequest r) = some r := by
  obtain ⟨amount, data⟩ := r
  obtain ⟨ha, hd⟩ := hv
  -- the optional `amount` field, after whatever `data` has been read
  have hA : ∀ d, Decodes mergeFieldRequest ⟨0, d⟩ (if amount ≠ 0 then encodeVarintField 24 amount else [])
      ⟨amount, d⟩ := by
    intro d
    by_cases h0 : amount = 0
    · rw [h0, if_neg (fun h => h rfl)]; exact .nil _ _
    · rw [if_pos h0]; simpa using req_amount (rest := []) amount ha (.nil _ _)
  refine (?_ : Decodes mergeFieldRequest ⟨0, .none⟩ (encodeRequest ⟨amount, data⟩) ⟨amount, data⟩) _ (Nat.le_refl _)
  unfold encodeRequest
  cases data with
  | none => exact hA _
  | origin o => exact req_origin o hd (hA _)
  | hash h => exact req_hash h (Nat.lt_trans hd (by decide)) (hA _)

/-- `HeaderResponse::decode(encode(r)) = r` -/
theorem decode_encode_response (r : HeaderResponse) (hv : ValidResp r) :
    decodeResponse (encodeResponse r) = some r := by
  obtain ⟨body, status⟩ := r
  obtain ⟨hb, hs1, hs2⟩ := hv
  obtain ⟨hrt, hlt⟩ := i32_roundtrip status hs1 hs2
  have hS : ∀ b, Decodes mergeFieldResponse ⟨b, 0⟩
      (if status ≠ 0 then encodeVarintField 16 (i32ToU64 status) else []) ⟨b, status⟩ := by
    intro b
    by_cases h0 : status = 0
    · rw [h0, if_neg (fun h => h rfl)]; exact .nil _ _
    · rw [if_pos h0]; simpa [hrt] using resp_status (p := ⟨b, 0⟩) (rest := []) (i32ToU64 status) hlt (.nil _ _)
  refine (?_ : Decodes mergeFieldResponse ⟨[], 0⟩ (encodeResponse ⟨body, status⟩) ⟨body, status⟩) _ (Nat.le_refl _)
  unfold encodeResponse
  by_cases hb0 : body = []
  · rw [hb0, if_neg (fun h => h rfl)]; exact hS _
  · rw [if_pos hb0]; exact resp_body body (Nat.lt_trans hb (by decide)) (hS _)

theorem varintField_length_le (k v : Nat) : (encodeVarintField k v).length ≤ 20 := by
  have := encodeVarint_length_le k
  have := encodeVarint_length_le v
  rw [encodeVarintField, List.length_append]; omega

theorem bytesField_length_le (k : Nat) (b : Bytes) : (encodeBytesField k b).length ≤ 20 + b.length := by
  have := encodeVarint_length_le k
  have := encodeVarint_length_le b.length
  rw [encodeBytesField, List.length_append, List.length_append]; omega

theorem ite_nil_length_le (c : Prop) [Decidable c] (l : Bytes) : (if c then l else []).length ≤ l.length := by
  split
  · exact Nat.le_refl _
  · exact Nat.zero_le _

theorem encodeRequest_length (r : HeaderRequest) (hv : ValidReq r) : (encodeRequest r).length < 2 ^ 64 := by
  obtain ⟨amount, data⟩ := r
  obtain ⟨_, hd⟩ := hv
  have := ite_nil_length_le (amount ≠ 0) (encodeVarintField 24 amount)
  have := varintField_length_le 24 amount
  rw [encodeRequest, List.length_append]
  cases data with
  | none => dsimp only [List.length_nil]; omega
  | origin o => have := varintField_length_le 8 o; dsimp only; omega
  | hash h => have := bytesField_length_le 18 h; dsimp only at hd ⊢; omega

theorem encodeResponse_length (r : HeaderResponse) (hv : ValidResp r) : (encodeResponse r).length < 2 ^ 64 := by
  obtain ⟨body, status⟩ := r
  obtain ⟨hb, _, _⟩ := hv
  have := ite_nil_length_le (status ≠ 0) (encodeVarintField 16 (i32ToU64 status))
  have := varintField_length_le 16 (i32ToU64 status)
  have := ite_nil_length_le (body ≠ []) (encodeBytesField 10 body)
  have := bytesField_length_le 10 body
  rw [encodeResponse, List.length_append]
  dsimp only at hb ⊢
  omega

theorem readResponses_take (rs : List HeaderResponse) (hv : ∀ r ∈ rs, ValidResp r) (m : Nat)
    (limit : Nat) (data : Bytes) (cuts : List Nat)
    (hbuf : readUpTo limit data cuts = (writeResponses rs).take m) :
    readResponses limit data cuts =
      if completeCount (frameLens encodeResponse rs) m = 0 then none
      else some (rs.take (completeCount (frameLens encodeResponse rs) m)) :=
  readResponsesOf_take encodeResponse decodeResponse rs m
    (fun r hr => ⟨decode_encode_response r (hv r hr), encodeResponse_length r (hv r hr)⟩) limit data cuts hbuf

theorem specTruncatedExact_self {α} [DecidableEq α] (lens : List Nat) (rs : List α) (cut : Nat) :
    specTruncatedExact lens rs cut
      (if completeCount lens cut = 0 then .err else .ok (rs.take (completeCount lens cut))) = true := by
  simp [specTruncatedExact]

theorem specTruncatedWeak_of_lt {α} [DecidableEq α] (rs : List α) (j : Nat) (hj : j < rs.length) :
    specTruncatedWeak rs (if j = 0 then .err else .ok (rs.take j)) = true := by
  split
  · rfl
  · have : min j rs.length = j := Nat.min_eq_left (Nat.le_of_lt hj)
    simp [specTruncatedWeak, List.length_take, this, hj]
    omega

theorem parseDelimiter_eq_spec (s : Bytes) :
    parseDelimiter s = (specDelimiter s).map (fun p => (p.1, s.drop p.2)) := by
  rw [parseDelimiter_eq, decodeVarint_eq, specAux_zero]

theorem wellDelimited_of_parse (s rest : Bytes) (len : Nat)
    (h : parseDelimiter s = some (len, rest)) (hl : len ≤ rest.length) : wellDelimited s = true := by
  rw [parseDelimiter_eq_spec] at h
  unfold wellDelimited
  cases hs : specDelimiter s with
  | none => simp [hs] at h
  | some p =>
    obtain ⟨v, u⟩ := p
    simp only [hs, Option.map_some, Option.some.injEq, Prod.mk.injEq] at h
    have hu := (specAux_append 0 s [] ((specAux_zero s).trans hs)).2
    simp only [decide_eq_true_eq]
    obtain ⟨h1, h2⟩ := h
    subst h1
    rw [← h2, List.length_drop] at hl
    omega

theorem wellDelimited_of_parseFrame {α} (dec : Bytes → Option α) (buf : Bytes)
    (h : (parseFrame dec buf).isSome = true) : wellDelimited buf = true := by
  unfold parseFrame at h
  cases hp : parseDelimiter buf with
  | none => simp [hp] at h
  | some p =>
    simp only [hp] at h
    by_cases hl : p.2.length < p.1
    · simp [hl] at h
    · exact wellDelimited_of_parse buf p.2 p.1 hp (Nat.le_of_not_lt hl)

/-- whatever `read_up_to` left in the buffer is a prefix of the stream: if its first frame parses,
    the stream begins with a well-delimited frame -/
theorem wellDelimited_of_read {α} (dec : Bytes → Option α) (limit : Nat) (data : Bytes) (cuts : List Nat)
    (h : (parseFrame dec (readUpTo limit data cuts)).isSome = true) : wellDelimited data = true := by
  obtain ⟨k, _, he⟩ := readUpTo_prefix limit data cuts
  rw [he] at h
  obtain ⟨x, hx⟩ := Option.isSome_iff_exists.mp h
  apply wellDelimited_of_parseFrame dec
  rw [← List.take_append_drop k data, parseFrame_stable dec _ (data.drop k) x.1 x.2 hx]
  rfl

end Lumina.Proofs.Framing

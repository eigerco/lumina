/-
  When `ExtendedDataSquare::new` returns `Ok(e)`: exactly when `NewOK` holds (`edsNew_ok_iff`; each loop of `new` and the
  closure `check_share` are read as an equivalence too; `fromOds_ok_iff` for `from_ods`), and that
  `DataAvailabilityHeader::from_eds` cannot fail on such a square (no `expect` failure, no nmt-rs panic).
-/
import Lumina.Proofs.NmtOrder
import Lumina.Proofs.Eds
import Lumina.Proofs.Util
import Lumina.Model.EdsCode

namespace Lumina.Proofs.EdsCode
open Lumina.Util Lumina.Model.Nmt Lumina.Model.Eds Lumina.Model.EdsCode
open Lumina.Proofs.Nmt Lumina.Proofs.NmtOrder Lumina.Proofs.Eds

theorem isPow2Aux_pow : ∀ (fuel n : Nat), isPow2Aux fuel n = true → ∃ k, n = 2 ^ k
  | 0, _, h => by simp [isPow2Aux] at h
  | fuel + 1, n, h => by
    simp only [isPow2Aux] at h
    split at h
    · rename_i h1; exact ⟨0, by simpa using h1⟩
    · split at h
      · cases h
      · rename_i h1 h2
        obtain ⟨k, hk⟩ := isPow2Aux_pow fuel (n / 2) h
        refine ⟨k + 1, ?_⟩
        rw [Nat.pow_succ, ← hk]
        omega

theorem isPow2_pow {n : Nat} (h : isPow2 n = true) : ∃ k, n = 2 ^ k := isPow2Aux_pow n n h

theorem sqrtAux_sq (w : Nat) : ∀ m, w ≤ m → sqrtAux (w * w) m = w
  | 0, h => by have : w = 0 := by omega
               subst this; rfl
  | m + 1, h => by
    simp only [sqrtAux]
    by_cases hle : (m + 1) * (m + 1) ≤ w * w
    · simp only [hle, ↓reduceIte]
      have : ¬ w < m + 1 := by
        intro hlt
        have := Nat.mul_lt_mul'' hlt hlt
        omega
      omega
    · simp only [hle, ↓reduceIte]
      have : w ≤ m := by
        have : ¬ m + 1 ≤ w := fun h' => hle (Nat.mul_le_mul h' h')
        omega
      exact sqrtAux_sq w m this

theorem isqrt_sq (w : Nat) : isqrt (w * w) = w := sqrtAux_sq w (w * w) (Nat.le_mul_self w)

theorem isPow2Aux_two_pow : ∀ (j fuel : Nat), j < fuel → isPow2Aux fuel (2 ^ j) = true
  | 0, fuel + 1, _ => by simp [isPow2Aux]
  | j + 1, fuel + 1, h => by
    have hp := Nat.two_pow_pos j
    have h1 : ¬ 2 ^ (j + 1) = 1 := by rw [Nat.pow_succ]; omega
    have h2 : ¬ (2 ^ (j + 1) = 0 ∨ 2 ^ (j + 1) % 2 = 1) := by rw [Nat.pow_succ]; omega
    have h3 : 2 ^ (j + 1) / 2 = 2 ^ j := by rw [Nat.pow_succ]; omega
    simp only [isPow2Aux, h1, h2, ↓reduceIte, h3]
    exact isPow2Aux_two_pow j fuel (by omega)

theorem isPow2_two_pow (j : Nat) : isPow2 (2 ^ j) = true :=
  isPow2Aux_two_pow j (2 ^ j) Nat.lt_two_pow_self

theorem getD_map_range {α} (f : Nat → α) {n i : Nat} (hi : i < n) (d : α) : ((List.range n).map f).getD i d = f i := by
  simp [List.getD_eq_getElem?_getD, hi]

/-! ## row-major squares: coordinates `(r, c)` ↔ index `r * w + c` -/

theorem idx_lt {n w r c : Nat} (hr : r < n) (hc : c < w) : r * w + c < n * w :=
  calc r * w + c < r * w + w := by omega
    _ = (r + 1) * w := (Nat.succ_mul r w).symm
    _ ≤ n * w := Nat.mul_le_mul_right w hr

theorem idx_divmod {n w i : Nat} (hi : i < n * w) : i / w < n ∧ i % w < w ∧ i / w * w + i % w = i :=
  have hw : 0 < w := Nat.pos_of_ne_zero (by rintro rfl; simp at hi)
  ⟨Nat.div_lt_of_lt_mul (by rwa [Nat.mul_comm] at hi), Nat.mod_lt i hw, by rw [Nat.mul_comm]; exact Nat.div_add_mod i w⟩

theorem idx_coord {n w i : Nat} (hi : i < n * w) : ∃ r c, r < n ∧ c < w ∧ i = r * w + c :=
  let ⟨hr, hc, h⟩ := idx_divmod hi
  ⟨_, _, hr, hc, h.symm⟩

theorem ext_getD {α} {a b : List α} {len : Nat} (d : α) (ha : a.length = len) (hb : b.length = len)
    (h : ∀ i, i < len → a.getD i d = b.getD i d) : a = b := by
  apply List.ext_getElem (by omega)
  intro i h1 h2
  simpa [List.getD_eq_getElem?_getD, List.getElem?_eq_getElem h1, List.getElem?_eq_getElem h2] using h i (by omega)

theorem sq_ext {α} {n w : Nat} {a b : List α} (d : α) (ha : a.length = n * w) (hb : b.length = n * w)
    (h : ∀ r c, r < n → c < w → a.getD (r * w + c) d = b.getD (r * w + c) d) : a = b :=
  ext_getD d ha hb fun i hi => by obtain ⟨r, c, hr, hc, rfl⟩ := idx_coord hi; exact h r c hr hc

theorem forall_mem_sq {α} {n w : Nat} {sq : List α} (hl : sq.length = n * w) (d : α) {P : α → Prop} :
    (∀ s ∈ sq, P s) ↔ ∀ r c, r < n → c < w → P (sq.getD (r * w + c) d) := by
  constructor
  · exact fun h r c hr hc => h _ (Util.getD_mem (hl ▸ idx_lt hr hc))
  · intro h s hs
    obtain ⟨i, hi, rfl⟩ := List.getElem_of_mem hs
    obtain ⟨r, c, hr, hc, rfl⟩ := idx_coord (hl ▸ hi)
    have := h r c hr hc
    rwa [List.getD_eq_getElem?_getD, List.getElem?_eq_getElem hi] at this

theorem grid_length {α} (f : Nat → Nat → α) (w n : Nat) :
    (((List.range n).map (fun r => (List.range w).map (f r))).flatten).length = n * w := by
  rw [List.length_flatten]
  simp [List.map_map, Function.comp_def, List.map_const', List.sum_replicate_nat]

theorem grid_getElem? {α} (f : Nat → Nat → α) (w : Nat) : ∀ (n r c : Nat), r < n → c < w →
    (((List.range n).map (fun r => (List.range w).map (f r))).flatten)[r * w + c]? = some (f r c) := by
  intro n
  induction n with
  | zero => intro r c h; omega
  | succ n ih =>
    intro r c hr hc
    rw [List.range_succ, List.map_append, List.flatten_append]
    by_cases hrn : r < n
    · rw [List.getElem?_append_left (by rw [grid_length]; exact idx_lt hrn hc)]
      exact ih r c hrn hc
    · obtain rfl : r = n := by omega
      rw [List.getElem?_append_right (by rw [grid_length]; omega), grid_length]
      simp [hc]

theorem grid_getD {α} (f : Nat → Nat → α) {w n r c : Nat} (hr : r < n) (hc : c < w) (d : α) :
    (((List.range n).map (fun r => (List.range w).map (f r))).flatten).getD (r * w + c) d = f r c := by
  rw [List.getD_eq_getElem?_getD, grid_getElem? f w n r c hr hc]; rfl

theorem square_eq_grid {k : Nat} {sq : List Bytes} (hl : sq.length = k * k) :
    ((List.range k).map (fun r => (List.range k).map (fun c => sq.getD (r * k + c) []))).flatten = sq :=
  sq_ext [] (grid_length _ _ _) hl fun _ _ hr hc => grid_getD _ hr hc _

/-- the share `check_share(row, col, ..)` builds: the raw bytes at the flattened index, parity flag from the quadrant -/
def cell (w : Nat) (shares : List Bytes) (r c : Nat) : Share :=
  ⟨shares.getD (r * w + c) [], !isOdsSquare r c w⟩

/-- what `check_share` demands of a share (`checkShare_ok_iff`) -/
structure CellOK (ver : Nat) (sh : Share) : Prop where
  size : sh.data.length = SHARE_SIZE
  ns : sh.isParity = false → ∃ n, Lumina.Model.Namespace.fromRaw (sh.data.take NS_SIZE) = .ok n
  version : shareValidate ver sh = .ok ()

theorem shareFromRaw_ok_iff {d : Bytes} {s : Share} : shareFromRaw d = .ok s ↔
    s = ⟨d, false⟩ ∧ d.length = SHARE_SIZE ∧ ∃ n, Lumina.Model.Namespace.fromRaw (d.take NS_SIZE) = .ok n := by
  unfold shareFromRaw
  rw [Util.guard_ok_iff]
  cases Lumina.Model.Namespace.fromRaw (d.take NS_SIZE) <;> simp [eq_comm, and_comm]

theorem shareParity_ok_iff {d : Bytes} {s : Share} : shareParity d = .ok s ↔ s = ⟨d, true⟩ ∧ d.length = SHARE_SIZE := by
  unfold shareParity
  rw [Util.guard_ok_iff]
  simp [eq_comm, and_comm]

theorem checkShare_ok_iff {ver w : Nat} {X : List Bytes} {r c : Nat} {prev : Option Bytes} {sh : Share} :
    checkShare ver w X r c prev = .ok sh ↔
      sh = cell w X r c ∧ CellOK ver sh ∧ ∀ p, prev = some p → leB p sh.ns = true := by
  -- what `Share::from_raw` / `Share::parity` return on the bytes of the cell
  have hmk : ∀ s, (if isOdsSquare r c w then shareFromRaw (X.getD (r * w + c) []) else shareParity (X.getD (r * w + c) [])) = .ok s ↔
      s = cell w X r c ∧ s.data.length = SHARE_SIZE ∧
        (s.isParity = false → ∃ n, Lumina.Model.Namespace.fromRaw (s.data.take NS_SIZE) = .ok n) := by
    intro s
    unfold cell
    cases isOdsSquare r c w
    · simp only [Bool.false_eq_true, ↓reduceIte, shareParity_ok_iff, Bool.not_false]
      constructor
      · rintro ⟨rfl, h⟩; exact ⟨rfl, h, fun hp => by cases hp⟩
      · rintro ⟨rfl, h, _⟩; exact ⟨rfl, h⟩
    · simp only [↓reduceIte, shareFromRaw_ok_iff, Bool.not_true]
      constructor
      · rintro ⟨rfl, h, hn⟩; exact ⟨rfl, h, fun _ => hn⟩
      · rintro ⟨rfl, h, hn⟩; exact ⟨rfl, h, hn rfl⟩
  unfold checkShare
  simp only
  cases h1 : (if isOdsSquare r c w then shareFromRaw (X.getD (r * w + c) []) else shareParity (X.getD (r * w + c) [])) with
  | error er =>
    refine ⟨(by intro h; cases h), ?_⟩
    rintro ⟨rfl, ok, _⟩
    have := (hmk _).mpr ⟨rfl, ok.size, ok.ns⟩
    rw [h1] at this; cases this
  | ok s =>
    obtain ⟨rfl, hsz, hns⟩ := (hmk s).mp h1
    simp only
    cases hv : shareValidate ver (cell w X r c) with
    | error er =>
      refine ⟨(by intro h; cases h), ?_⟩
      rintro ⟨rfl, ok, _⟩
      have := ok.version; rw [hv] at this; cases this
    | ok u =>
      cases prev with
      | none =>
        simp only [Except.ok.injEq]
        exact ⟨fun h => h ▸ ⟨rfl, ⟨hsz, hns, hv⟩, nofun⟩, fun h => h.1.symm⟩
      | some p =>
        simp only [leB, Option.some.injEq, forall_eq', Bool.not_eq_true']
        by_cases hlt : ltB (cell w X r c).ns p = true
        · simp only [hlt, ↓reduceIte]
          exact ⟨nofun, fun ⟨h, _, h'⟩ => by rw [h, hlt] at h'; cases h'⟩
        · simp only [hlt, Bool.false_eq_true, ↓reduceIte, Except.ok.injEq]
          exact ⟨fun h => h ▸ ⟨rfl, ⟨hsz, hns, hv⟩, by simpa using hlt⟩, fun h => h.1.symm⟩

theorem checkLine_ok_iff {ver w : Nat} {X : List Bytes} : ∀ {coords : List (Nat × Nat)} {prev : Option Bytes} {l : List Share},
    checkLine ver w X coords prev = .ok l ↔
      l = coords.map (fun p => cell w X p.1 p.2) ∧ (∀ sh ∈ l, CellOK ver sh) ∧
      (prev.toList ++ l.map Share.ns).Pairwise (fun a b => leB a b = true)
  | [], prev, l => by
    simp only [checkLine, Except.ok.injEq, List.map_nil, @eq_comm _ [] l]
    exact ⟨fun h => by subst h; cases prev <;> simp, fun h => h.1⟩
  | (r, c) :: rest, prev, l => by
    have ih := fun {l'} => checkLine_ok_iff (ver := ver) (w := w) (X := X) (coords := rest)
      (prev := some (cell w X r c).ns) (l := l')
    simp only [checkLine, List.map_cons]
    constructor
    · intro h
      cases hcs : checkShare ver w X r c prev with
      | error er => simp [hcs] at h
      | ok sh =>
        obtain ⟨rfl, ok1, ord1⟩ := checkShare_ok_iff.mp hcs
        simp only [hcs] at h
        cases hrest : checkLine ver w X rest (some (cell w X r c).ns) with
        | error e => simp [hrest] at h
        | ok l' =>
          simp only [hrest, Except.ok.injEq] at h
          subst h
          obtain ⟨rfl, ok2, pw2⟩ := ih.mp hrest
          refine ⟨rfl, List.forall_mem_cons.mpr ⟨ok1, ok2⟩, ?_⟩
          cases prev with
          | none => exact pw2
          | some p =>
            have hp := ord1 p rfl
            refine List.pairwise_cons.mpr ⟨fun x hx => ?_, pw2⟩
            rcases List.mem_cons.mp hx with rfl | hx
            · exact hp
            · exact Lumina.Proofs.Nmt.leB_trans hp ((List.pairwise_cons.mp pw2).1 x hx)
    · rintro ⟨rfl, ok, pw⟩
      obtain ⟨ok1, ok2⟩ := List.forall_mem_cons.mp ok
      have pw2 : ((cell w X r c).ns :: (rest.map (fun p => cell w X p.1 p.2)).map Share.ns).Pairwise
          (fun a b => leB a b = true) := by
        cases prev with
        | none => exact pw
        | some p => exact (List.pairwise_cons.mp pw).2
      have h1 : checkShare ver w X r c prev = .ok (cell w X r c) :=
        checkShare_ok_iff.mpr ⟨rfl, ok1, fun p hp => by subst hp; exact (List.pairwise_cons.mp pw).1 _ (by simp)⟩
      simp only [h1, ih.mpr ⟨rfl, ok2, pw2⟩]

/-- the shares of line `i` of direction `ax` -/
def lineCells (w : Nat) (shares : List Bytes) (ax : Axis) (i : Nat) : List Share :=
  (List.range w).map (fun j => cell w shares (axisCoord ax i j).1 (axisCoord ax i j).2)

theorem axisCoord_lt (ax : Axis) {w i j : Nat} (hi : i < w) (hj : j < w) :
    (axisCoord ax i j).1 < w ∧ (axisCoord ax i j).2 < w := by
  cases ax
  · exact ⟨hi, hj⟩
  · exact ⟨hj, hi⟩

theorem cell_ns (w : Nat) (X : List Bytes) (r c : Nat) :
    (cell w X r c).ns = if r < w / 2 ∧ c < w / 2 then (X.getD (r * w + c) []).take NS_SIZE else parityNs := by
  simp only [cell, Share.ns, isOdsSquare]
  by_cases h1 : r < w / 2 <;> by_cases h2 : c < w / 2 <;> simp [h1, h2]

theorem lineCells_length (w : Nat) (X : List Bytes) (ax : Axis) (i : Nat) : (lineCells w X ax i).length = w := by
  simp [lineCells]

theorem lineCells_data_getD {w : Nat} (X : List Bytes) (ax : Axis) (i : Nat) {j : Nat} (hj : j < w) :
    ((lineCells w X ax i).map Share.data).getD j [] = X.getD ((axisCoord ax i j).1 * w + (axisCoord ax i j).2) [] := by
  rw [lineCells, List.map_map, getD_map_range _ hj]; rfl

theorem lineCells_ns_getD {w : Nat} (X : List Bytes) (ax : Axis) (i : Nat) {j : Nat} (hj : j < w) :
    ((lineCells w X ax i).map Share.ns).getD j [] = (cell w X (axisCoord ax i j).1 (axisCoord ax i j).2).ns := by
  rw [lineCells, List.map_map, getD_map_range _ hj]; rfl

theorem checkLines_ok_iff {ver w : Nat} {X : List Bytes} {ax : Axis} : ∀ {idxs : List Nat} {sq : List Share},
    checkLines ver w X ax idxs = .ok sq ↔
      sq = (idxs.map (lineCells w X ax)).flatten ∧
      ∀ i ∈ idxs, (∀ sh ∈ lineCells w X ax i, CellOK ver sh) ∧
        ((lineCells w X ax i).map Share.ns).Pairwise (fun a b => leB a b = true)
  | [], sq => by simp [checkLines, @eq_comm _ [] sq]
  | i :: rest, sq => by
    have hline : ∀ {l}, checkLine ver w X ((List.range w).map (fun j => axisCoord ax i j)) none = .ok l ↔
        l = lineCells w X ax i ∧ (∀ sh ∈ l, CellOK ver sh) ∧ (l.map Share.ns).Pairwise (fun a b => leB a b = true) := by
      intro l
      rw [checkLine_ok_iff, List.map_map]
      rfl
    have ih := fun {sq'} => checkLines_ok_iff (ver := ver) (w := w) (X := X) (ax := ax) (idxs := rest) (sq := sq')
    simp only [checkLines, List.map_cons, List.flatten_cons, List.forall_mem_cons]
    constructor
    · intro h
      cases hl : checkLine ver w X ((List.range w).map (fun j => axisCoord ax i j)) none with
      | error e => simp [hl] at h
      | ok l =>
        cases hr : checkLines ver w X ax rest with
        | error e => simp [hl, hr] at h
        | ok ls =>
          simp only [hl, hr, Except.ok.injEq] at h
          subst h
          obtain ⟨rfl, ok1, pw1⟩ := hline.mp hl
          obtain ⟨rfl, all2⟩ := ih.mp hr
          exact ⟨rfl, ⟨ok1, pw1⟩, all2⟩
    · rintro ⟨rfl, ⟨ok1, pw1⟩, all2⟩
      simp only [hline.mpr ⟨rfl, ok1, pw1⟩, ih.mpr ⟨rfl, all2⟩]

/-- what `ExtendedDataSquare::new(shares, _, app_version) = Ok(e)` says (`edsNew_ok_iff`).  Which guard of `new` gives which
    field: `sq` is `w * w == len` for `w = sqrt(len)`; `pow` is `count_ones() == 1` with `1 ≤ k` from the minimum of 2 × 2 shares
    and `k ≤ 15` from `w ≤ u16::MAX`; `maxw` is the upper bound on the length; `cells` is `check_share` at every coordinate and
    `sorted` its `prev_ns` comparison, in both loops (`ax`); `grid` is the vector the row loop collects. -/
structure NewOK (ver : Nat) (shares : List Bytes) (e : Eds) : Prop where
  sq : e.width * e.width = shares.length
  pow : ∃ k, 1 ≤ k ∧ k ≤ 15 ∧ e.width = 2 ^ k
  maxw : e.width ≤ maxExtendedSquareWidth ver
  grid : e.shares = ((List.range e.width).map (lineCells e.width shares .row)).flatten
  cells : ∀ i, i < e.width → ∀ ax, ∀ sh ∈ lineCells e.width shares ax i, CellOK ver sh
  sorted : ∀ i, i < e.width → ∀ ax, ((lineCells e.width shares ax i).map Share.ns).Pairwise (fun a b => leB a b = true)

theorem NewOK.shareAt {ver : Nat} {shares : List Bytes} {e : Eds} (h : NewOK ver shares e) {r c : Nat}
    (hr : r < e.width) (hc : c < e.width) : e.share? r c = some (cell e.width shares r c) := by
  unfold Eds.share?
  rw [h.grid]
  exact grid_getElem? (fun r c => cell e.width shares r c) e.width e.width r c hr hc

theorem NewOK.length {ver : Nat} {shares : List Bytes} {e : Eds} (h : NewOK ver shares e) :
    e.shares.length = e.width * e.width := by
  rw [h.grid]
  exact grid_length (fun r c => cell e.width shares r c) e.width e.width

theorem NewOK.two_le {ver : Nat} {shares : List Bytes} {e : Eds} (h : NewOK ver shares e) : 2 ≤ e.width := by
  obtain ⟨k, hk1, _, hk⟩ := h.pow
  rw [hk]
  exact Nat.pow_le_pow_right (n := 2) (by omega) hk1

/-- **`ExtendedDataSquare::new` returns `Ok(e)` exactly when `NewOK` holds** -/
theorem edsNew_ok_iff {ver : Nat} {X : List Bytes} {e : Eds} : edsNew ver X = .ok e ↔ NewOK ver X e := by
  -- the guards of `new` in the code's order, then its two loops (columns first, result discarded; then rows)
  have walk : edsNew ver X = .ok e ↔
      4 ≤ X.length ∧ X.length ≤ maxExtendedSquareWidth ver * maxExtendedSquareWidth ver ∧
      isqrt X.length * isqrt X.length = X.length ∧ isqrt X.length ≤ 65535 ∧ isPow2 (isqrt X.length) = true ∧
      (∃ cs, checkLines ver (isqrt X.length) X .col (List.range (isqrt X.length)) = .ok cs) ∧
      isqrt X.length = e.width ∧ checkLines ver (isqrt X.length) X .row (List.range (isqrt X.length)) = .ok e.shares := by
    unfold edsNew
    simp only [Util.guard_ok_iff, MIN_EXTENDED_SQUARE_WIDTH, Nat.not_lt, ne_eq, Decidable.not_not, gt_iff_lt, Bool.not_eq_true',
      Bool.not_eq_false]
    cases checkLines ver (isqrt X.length) X .col (List.range (isqrt X.length)) with
    | error er => simp
    | ok cs =>
      cases checkLines ver (isqrt X.length) X .row (List.range (isqrt X.length)) with
      | error er => simp
      | ok sq =>
        cases e with
        | mk w sh => simp only [Except.ok.injEq, Eds.mk.injEq, exists_eq', true_and, Nat.reduceMul]
  rw [walk]
  constructor
  · rintro ⟨hmin, hmax, hsq, hu16, hp2, ⟨cs, hc⟩, hw, hr⟩
    rw [hw] at hsq hu16 hp2 hc hr
    obtain ⟨k, hk⟩ := isPow2_pow hp2
    obtain ⟨_, colsOK⟩ := checkLines_ok_iff.mp hc
    obtain ⟨er, rowsOK⟩ := checkLines_ok_iff.mp hr
    have hw2 : 2 ≤ e.width := Nat.mul_self_le_mul_self_iff.mp (by omega)
    refine ⟨hsq, ⟨k, ?_, ?_, hk⟩, Nat.mul_self_le_mul_self_iff.mp (by omega), er, ?_, ?_⟩
    · cases k with
      | zero => simp at hk; omega
      | succ k => omega
    · have : ¬ 16 ≤ k := fun h16 => by
        have : (2:Nat) ^ 16 ≤ 2 ^ k := Nat.pow_le_pow_right (by omega) h16
        omega
      omega
    · intro i hi ax sh hsh
      cases ax with
      | row => exact (rowsOK i (List.mem_range.mpr hi)).1 sh hsh
      | col => exact (colsOK i (List.mem_range.mpr hi)).1 sh hsh
    · intro i hi ax
      cases ax with
      | row => exact (rowsOK i (List.mem_range.mpr hi)).2
      | col => exact (colsOK i (List.mem_range.mpr hi)).2
  · intro h
    obtain ⟨k, _, hk15, hk⟩ := h.pow
    have hisq : isqrt X.length = e.width := by rw [← h.sq]; exact isqrt_sq _
    have hlines : ∀ ax, ∀ i ∈ List.range e.width, (∀ sh ∈ lineCells e.width X ax i, CellOK ver sh) ∧
        ((lineCells e.width X ax i).map Share.ns).Pairwise (fun a b => leB a b = true) :=
      fun ax i hi => ⟨h.cells i (List.mem_range.mp hi) ax, h.sorted i (List.mem_range.mp hi) ax⟩
    rw [hisq]
    refine ⟨?_, ?_, h.sq, ?_, hk ▸ isPow2_two_pow k, ⟨_, checkLines_ok_iff.mpr ⟨rfl, hlines .col⟩⟩,
      rfl, checkLines_ok_iff.mpr ⟨h.grid, hlines .row⟩⟩
    · rw [← h.sq]; exact Nat.mul_le_mul h.two_le h.two_le
    · rw [← h.sq]; exact Nat.mul_le_mul h.maxw h.maxw
    · have := Nat.pow_le_pow_right (n := 2) (by omega) hk15; omega

theorem NewOK.half {ver : Nat} {shares : List Bytes} {e : Eds} (h : NewOK ver shares e) : 2 * (e.width / 2) = e.width := by
  obtain ⟨k, hk1, _, hk⟩ := h.pow
  obtain ⟨j, rfl⟩ : ∃ j, k = j + 1 := ⟨k - 1, by omega⟩
  rw [hk, Nat.pow_succ]
  omega

theorem NewOK.cellOK {ver : Nat} {shares : List Bytes} {e : Eds} (h : NewOK ver shares e) {r c : Nat}
    (hr : r < e.width) (hc : c < e.width) : CellOK ver (cell e.width shares r c) :=
  h.cells r hr .row _ (List.mem_map.mpr ⟨c, List.mem_range.mpr hc, rfl⟩)

theorem NewOK.mem_shares {ver : Nat} {shares : List Bytes} {e : Eds} (h : NewOK ver shares e) {sh : Share}
    (hs : sh ∈ e.shares) : CellOK ver sh := by
  rw [h.grid] at hs
  obtain ⟨l, hl, hs⟩ := List.mem_flatten.mp hs
  obtain ⟨i, hi, rfl⟩ := List.mem_map.mp hl
  exact h.cells i (List.mem_range.mp hi) .row sh hs

theorem NewOK.data {ver : Nat} {shares : List Bytes} {e : Eds} (h : NewOK ver shares e) :
    e.shares.map Share.data = shares := by
  rw [h.grid, List.map_flatten, List.map_map]
  refine Eq.trans ?_ (square_eq_grid h.sq.symm)
  congr 1
  apply List.map_congr_left
  intro r _
  simp [lineCells, cell, axisCoord, List.map_map, Function.comp_def]

theorem NewOK.raw_size {ver : Nat} {shares : List Bytes} {e : Eds} (h : NewOK ver shares e) :
    ∀ s ∈ shares, s.length = SHARE_SIZE := by
  intro s hs
  rw [← h.data] at hs
  obtain ⟨sh, hsh, rfl⟩ := List.mem_map.mp hs
  exact (h.mem_shares hsh).size

/-- `new` returns the input square itself, each share flagged by its quadrant -/
theorem NewOK.eq_ofRaw {ver : Nat} {shares : List Bytes} {e : Eds} (h : NewOK ver shares e) :
    e = Eds.ofRaw e.width shares := by
  have hl := h.length
  have hs := h.sq
  cases e with
  | mk w sh =>
    simp only [Eds.ofRaw, Eds.mk.injEq, true_and] at hl hs ⊢
    apply List.ext_getElem?
    intro i
    by_cases hi : i < w * w
    · obtain ⟨hr, hc, hdm⟩ := idx_divmod hi
      have h1 := h.shareAt hr hc
      simp only [Eds.share?, hdm] at h1
      rw [h1]
      simp [cell, hdm, show i < shares.length by omega]
    · rw [List.getElem?_eq_none (by omega), List.getElem?_eq_none (by simp [List.length_zipWith]; omega)]

theorem NewOK.axis {ver : Nat} {shares : List Bytes} {e : Eds} (h : NewOK ver shares e) (ax : Axis) {i : Nat}
    (hi : i < e.width) : e.axis? ax i = some (lineCells e.width shares ax i) := by
  unfold Eds.axis? lineCells
  rw [optAll_eq_some_iff, List.map_map]
  apply List.map_congr_left
  intro j hj
  have hj' := List.mem_range.mp hj
  cases ax with
  | row => exact h.shareAt hi hj'
  | col => exact h.shareAt hj' hi

/-- no namespace of a 512-byte share is below the 29 zero bytes `push_leaf` starts from -/
theorem zeros_le_ns {sh : Share} (h : sh.data.length = SHARE_SIZE) : leB (List.replicate NS_SIZE 0) sh.ns = true := by
  unfold leB
  rw [not_ltB_zeros NS_SIZE sh.ns (Nat.le_of_eq (Sample.share_ns_length (by rw [h]; decide)).symm)]
  rfl

/-- the NMT of every row and column of an accepted square builds (`push_leaf` order check passes) -/
theorem NewOK.leafHashes {ver : Nat} {shares : List Bytes} {e : Eds} (h : NewOK ver shares e) (H : HashFn) (ax : Axis)
    {i : Nat} (hi : i < e.width) :
    e.axisLeafHashes H ax i = .ok ((lineCells e.width shares ax i).map (Share.leafHash H)) := by
  have hpw := h.sorted i hi ax
  have hcells := h.cells i hi ax
  have hfst : ((lineCells e.width shares ax i).map Share.leaf).map Prod.fst = (lineCells e.width shares ax i).map Share.ns := by
    simp [List.map_map, Function.comp_def, Share.leaf]
  have hpush : pushLeaves H ((lineCells e.width shares ax i).map Share.leaf) =
      some ((lineCells e.width shares ax i).map (Share.leafHash H)) := by
    unfold pushLeaves
    rw [hfst, (pushOrderOk_iff _ _).mpr ⟨hpw, ?_⟩]
    · simp [List.map_map, Function.comp_def, Share.leaf, Share.leafHash]
    · intro x hx
      obtain ⟨sh, hsh, rfl⟩ := List.mem_map.mp hx
      exact zeros_le_ns (hcells sh hsh).size
  simp only [Eds.axisLeafHashes, h.axis ax hi, hpush]

/-- … and its root is computed without the `hash_nodes` panic -/
theorem NewOK.axisRoot {ver : Nat} {shares : List Bytes} {e : Eds} (h : NewOK ver shares e) (H : HashFn) (ax : Axis)
    {i : Nat} (hi : i < e.width) : ∃ r, e.axisRoot H ax i = .ok r ∧
      computeRoot H true ((lineCells e.width shares ax i).map (Share.leafHash H)) = .ok r := by
  have hne : lineCells e.width shares ax i ≠ [] :=
    List.ne_nil_of_length_pos (by rw [lineCells_length]; have := h.two_le; omega)
  obtain ⟨r, hr⟩ : ∃ r, computeRoot H true ((lineCells e.width shares ax i).map (Share.leafHash H)) = .ok r :=
    computeRoot_leaves H true hne (h.sorted i hi ax)
  exact ⟨r, by simp only [Eds.axisRoot, h.leafHashes H ax hi, hr], hr⟩

theorem NewOK.dahRoot {ver : Nat} {shares : List Bytes} {e : Eds} (h : NewOK ver shares e) {H : HashFn} {dah : Dah}
    (hd : Dah.ofEds H e = .ok dah) (ax : Axis) {i : Nat} (hi : i < e.width) :
    ∃ r, dah.root? ax i = some r ∧ e.axisRoot H ax i = .ok r ∧
      computeRoot H true ((lineCells e.width shares ax i).map (Share.leafHash H)) = .ok r := by
  obtain ⟨r, hr, hc⟩ := h.axisRoot H ax hi
  exact ⟨r, (dah_root?_iff hd).2 ⟨hi, hr⟩, hr, hc⟩

/-- **`DataAvailabilityHeader::from_eds` cannot panic on a square accepted by `new`.** -/
theorem NewOK.dah_total {ver : Nat} {shares : List Bytes} {e : Eds} (h : NewOK ver shares e) (H : HashFn) :
    ∃ dah, Dah.ofEds H e = .ok dah := by
  have all : ∀ ax, ∃ rs, exceptAll ((List.range e.width).map (fun i => e.axisRoot H ax i)) = .ok rs := fun ax =>
    exceptAll_all_ok _ (by
      intro x hx
      obtain ⟨i, hi, rfl⟩ := List.mem_map.mp hx
      exact (h.axisRoot H ax (List.mem_range.mp hi)).imp fun _ hr => hr.1)
  obtain ⟨rs, hrs⟩ := all .row
  obtain ⟨cs, hcs⟩ := all .col
  exact ⟨⟨rs, cs⟩, by simp [Dah.ofEds, Eds.rowRoot, Eds.colRoot, hrs, hcs]⟩

theorem fromOds_ok_iff {enc : List Bytes → List Bytes} {ver : Nat} {ods : List Bytes} {e : Eds} :
    fromOds enc ver ods = .ok e ↔
      isqrt ods.length * isqrt ods.length = ods.length ∧ fromOdsLeopardErr enc (isqrt ods.length) ods = false ∧
        NewOK ver (extendRaw enc (isqrt ods.length) ods) e := by
  unfold fromOds
  simp only [Util.guard_ok_iff, ne_eq, Decidable.not_not, Bool.not_eq_true, edsNew_ok_iff]

theorem NewOK.width_eq {ver : Nat} {shares : List Bytes} {e : Eds} (h : NewOK ver shares e) {k : Nat}
    (hl : shares.length = 2 * k * (2 * k)) : e.width = 2 * k :=
  Nat.mul_self_inj.mp (by rw [h.sq, hl])

end Lumina.Proofs.EdsCode

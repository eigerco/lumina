/-
  C16: shape of the RFC-6962 tree that `check_range_proof_inner` walks —
  the split point `next_smaller_po2`, the number of right siblings of a leaf (`rsib`), and the
  correctness of nmt-rs `compute_tree_size`: the tree size it reconstructs from the number of
  right siblings has exactly that many right siblings for the last proven leaf.
-/
import Lumina.Proofs.NmtRange

namespace Lumina.Proofs.Decoders
open Lumina.Util Lumina.Model.Nmt
open Lumina.Proofs.Nmt (nextSmallerPo2_spec)

theorem nsp2_bounds (n : Nat) (h : 2 ≤ n) : 1 ≤ nextSmallerPo2 n ∧ nextSmallerPo2 n < n ∧ n ≤ 2 * nextSmallerPo2 n := by
  obtain ⟨m, h1, h2, h3⟩ := nextSmallerPo2_spec n h
  rw [h1]
  refine ⟨Nat.one_le_two_pow, h2, ?_⟩
  rw [Nat.pow_succ] at h3; omega

/-- number of right siblings of leaf `i` in the RFC-6962 tree with `n` leaves (the recursion of
    `check_range_proof_inner`) -/
def rsib (n i : Nat) : Nat :=
  if h : n ≤ 1 then 0
  else
    if nextSmallerPo2 n ≤ i then rsib (n - nextSmallerPo2 n) (i - nextSmallerPo2 n)
    else 1 + rsib (nextSmallerPo2 n) i
termination_by n
decreasing_by
  · have := nsp2_bounds n (by omega); omega
  · have := nsp2_bounds n (by omega); omega

theorem rsib_le_one (n i : Nat) (h : n ≤ 1) : rsib n i = 0 := by
  rw [rsib]; simp [h]

theorem rsib_unfold (n i : Nat) (h : 2 ≤ n) :
    rsib n i = if nextSmallerPo2 n ≤ i then rsib (n - nextSmallerPo2 n) (i - nextSmallerPo2 n)
               else 1 + rsib (nextSmallerPo2 n) i := by
  rw [rsib]
  have : ¬ n ≤ 1 := by omega
  simp [this]

theorem rsib_last : ∀ n, 1 ≤ n → rsib n (n - 1) = 0 := by
  intro n
  induction n using Nat.strongRecOn with
  | _ n ih =>
    intro h
    by_cases h1 : n ≤ 1
    · exact rsib_le_one _ _ h1
    · have hb := nsp2_bounds n (by omega)
      rw [rsib_unfold n _ (by omega)]
      have : nextSmallerPo2 n ≤ n - 1 := by omega
      simp only [this, ↓reduceIte]
      have e : n - 1 - nextSmallerPo2 n = (n - nextSmallerPo2 n) - 1 := by omega
      rw [e]
      exact ih _ (by omega) (by omega)

open Lumina.Proofs.NmtRange (nRight nRight_succ) in
/-- `rsib` is the recursion `Proofs/NmtMultiArith` counts with fuel -/
theorem rsib_eq_nRight : ∀ fuel n i, n ≤ fuel → rsib n i = nRight fuel i n := by
  intro fuel
  induction fuel with
  | zero => intro n i h; rw [rsib_le_one n i (by omega)]; rfl
  | succ f ih =>
    intro n i h
    by_cases h1 : n ≤ 1
    · rw [rsib_le_one n i h1, nRight, if_pos h1]
    · have hb := nsp2_bounds n (by omega)
      rw [rsib_unfold n i (by omega), nRight_succ h1]
      split
      · exact ih _ _ (by omega)
      · rw [ih _ _ (by omega)]

theorem computeTreeSize_rsib {nr e T : Nat} (he : e < 2 ^ 32) (h : computeTreeSize nr e = .ok T) :
    rsib T e = nr := by
  rw [rsib_eq_nRight _ _ e (Nat.le_refl _)]
  exact Lumina.Proofs.NmtRange.computeTreeSize_nRight (by unfold U32_MAX; omega) h

end Lumina.Proofs.Decoders

/-
  What `ExtendedHeader::validate` (Model/HeaderVerify.lean) checks, one named fact per check, and
  through which parts of a header each check reads it.  Used by Props/C01.lean.
-/
import Lumina.Proofs.Commit
import Lumina.Model.HeaderVerifyBridge

namespace Lumina.Proofs.HeaderValidate
open Lumina.Model.Commit Lumina.Model.HeaderVerify Lumina.Proofs.Commit

theorem eq_decide_iff (b : Bool) (p : Prop) [Decidable p] : b = decide p ↔ (b = true ↔ p) := by
  cases b <;> simp

/-- one step of a `validate_basic`: `if check fails then some error else rest` -/
theorem ite_some_eq_none {α : Type} {p : Prop} [Decidable p] {e : α} {r : Option α} :
    (if p then some e else r) = none ↔ ¬p ∧ r = none := by
  split <;> simp [*]

theorem headerValidateBasic_none (c : Consts) (h : HeaderF) :
    headerValidateBasic c h = none ↔
      h.versionBlock = c.blockProtocol ∧ h.chainId.length ≤ c.maxChainIdLen ∧ h.height ≠ 0 ∧
      (h.lastBlockId.isSome = true ↔ h.height ≠ c.genesisHeight) := by
  simp only [headerValidateBasic, ite_some_eq_none, ne_eq, Decidable.not_not, gt_iff_lt, Nat.not_lt,
    and_true]
  cases h.lastBlockId <;> simp

theorem commitValidateBasic_none {S : Type} (c : Consts) (cm : CommitF S) :
    commitValidateBasic c cm = none ↔
      (c.genesisHeight ≤ cm.height → cm.blockId.isZero = false ∧ cm.sigs.isEmpty = false ∧
        cm.sigs.all (fun e => commitSigValidateBasic e.toCSig) = true) := by
  simp only [commitValidateBasic, ite_some_eq_none, ite_eq_right_iff, ite_eq_left_iff, reduceCtorEq,
    imp_false, Bool.not_eq_true, Bool.not_eq_false, ge_iff_le]

theorem valSetValidateBasicE_none (s : SetK) :
    valSetValidateBasicE s = none ↔ s.vals.isEmpty = false ∧ s.hasProposer = true := by
  simp only [valSetValidateBasicE, ite_some_eq_none, Bool.not_eq_true, Bool.not_eq_true',
    Bool.not_eq_false, and_true]

theorem dahValidateBasic_none (minW maxW : Nat) (d : DahF) :
    dahValidateBasic minW maxW d = none ↔
      d.cols.length = d.rows.length ∧ minW ≤ d.rows.length ∧ d.rows.length ≤ maxW := by
  simp only [dahValidateBasic, ite_some_eq_none, ne_eq, Decidable.not_not, gt_iff_lt, Nat.not_lt,
    and_true]

theorem commitOut_ok (o : Outcome) : commitOut o = .ok ↔ o = .ok := by
  cases o <;> simp [commitOut]

variable {S : Type} {P : Prims S} {c : Consts} {eh : ExtHeader S}

/-- one early exit of `validate`; peeling the checks off one by one is much faster than
    `split` on the whole function -/
theorem ite_err_ok {p : Prop} [Decidable p] {e : ValErr} {r : ValOut}
    (h : (if p then .err e else r) = .ok) : ¬p ∧ r = .ok := by
  split at h
  · cases h
  · exact ⟨‹_›, h⟩

/-- every check of `validate`, in the order `ExtendedHeader::validate` makes them -/
structure Accepted (P : Prims S) (c : Consts) (eh : ExtHeader S) : Prop where
  headerBasic : headerValidateBasic c eh.header = none
  commitBasic : commitValidateBasic c eh.commit = none
  valsetBasic : valSetValidateBasicE eh.valset = none
  valsetHash : P.hValset eh.valset.hashed = eh.header.validatorsHash
  dahHash : P.hDah (eh.dah.rows ++ eh.dah.cols) = eh.header.dataHash.getD none
  commitHeight : eh.commit.height = eh.header.height
  blockHash : eh.commit.blockId.hash = P.hHeader eh.header.canon
  light : verifyCommitLight (sigOracle P eh) c.lightNum c.lightDen eh.valset.toValSet
    eh.header.height eh.commit.height (eh.commit.sigs.map EntryF.toCSig) = .ok
  width : ∃ maxW, c.maxExtWidth? eh.header.versionApp = some maxW ∧
    dahValidateBasic c.minExtWidth maxW eh.dah = none

theorem validate_ok_iff (P : Prims S) (c : Consts) (eh : ExtHeader S) :
    validate P c eh = .ok ↔ Accepted P c eh := by
  constructor
  · intro h
    unfold validate at h
    cases h1 : headerValidateBasic c eh.header with
    | some e => simp only [h1] at h; cases h
    | none =>
    cases h2 : commitValidateBasic c eh.commit with
    | some e => simp only [h1, h2] at h; cases h
    | none =>
    cases h3 : valSetValidateBasicE eh.valset with
    | some e => simp only [h1, h2, h3] at h; cases h
    | none =>
    simp only [h1, h2, h3] at h
    obtain ⟨h4, h⟩ := ite_err_ok h
    obtain ⟨h5, h⟩ := ite_err_ok h
    obtain ⟨h6, h⟩ := ite_err_ok h
    obtain ⟨h7, h⟩ := ite_err_ok h
    split at h
    · rename_i hl
      split at h; · cases h
      rename_i maxW hw
      split at h; · cases h
      rename_i hd
      exact ⟨h1, h2, h3, Decidable.not_not.mp h4, Decidable.not_not.mp h5, Decidable.not_not.mp h6,
        Decidable.not_not.mp h7, (commitOut_ok _).mp hl, maxW, hw, hd⟩
    · rename_i hne
      exact absurd h hne
  · intro a
    obtain ⟨maxW, hw, hd⟩ := a.width
    have hl := a.light
    rw [a.commitHeight] at hl
    simp only [validate, a.headerBasic, a.commitBasic, a.valsetBasic, a.valsetHash, a.dahHash,
      a.commitHeight, a.blockHash, hl, commitOut, hw, hd, ne_eq, not_true_eq_false, ↓reduceIte]

theorem Accepted.dah_square (a : Accepted P c eh) : eh.dah.cols.length = eh.dah.rows.length := by
  obtain ⟨w, _, hw⟩ := a.width
  exact ((dahValidateBasic_none _ w _).mp hw).1

/-- `hDah` is applied to `rows ++ cols`: for square DAHs that loses nothing -/
theorem dah_eq_of_append {d d' : DahF} (hd : d.cols.length = d.rows.length)
    (hd' : d'.cols.length = d'.rows.length) (h : d'.rows ++ d'.cols = d.rows ++ d.cols) : d' = d := by
  have hlen := congrArg List.length h
  simp only [List.length_append] at hlen
  obtain ⟨hrows, hcols⟩ := List.append_inj h (by omega)
  cases d; cases d'
  simp_all

theorem sigOracle_eq_true {i j : Nat} (h : sigOracle P eh i j = true) :
    ∃ v e s, eh.valset.vals[i]? = some v ∧ eh.commit.sigs[j]? = some e ∧ e.sig = some s ∧
      P.sigValid v.pk (voteMsg eh e) s = true := by
  unfold sigOracle at h
  split at h
  · rename_i v e hv he
    split at h
    · rename_i s hs
      exact ⟨v, e, s, hv, he, hs, h⟩
    · cases h
  · cases h

theorem consumed_entry_valid {k : Nat} {e : EntryF S} (a : Accepted P c eh)
    (he : eh.commit.sigs[k]? = some e) (hflag : e.flag = .commit)
    (hpre : commitPow (eh.valset.toValSet.vals.take k) ((eh.commit.sigs.map EntryF.toCSig).take k) ≤
      c.lightNum * eh.valset.total / c.lightDen) :
    ∃ v s, eh.valset.vals[k]? = some v ∧ e.sig = some s ∧ P.sigValid v.pk (voteMsg eh e) s = true := by
  obtain ⟨hlen, -, -, -, hloop⟩ := verifyCommitLight_ok_iff.mp a.light
  obtain ⟨hk, hget⟩ := List.getElem?_eq_some_iff.mp he
  have hk' : k < (eh.commit.sigs.map EntryF.toCSig).length := by simpa using hk
  obtain ⟨_, hok⟩ := lightLoop_ok_consumed _ _ _ 0 0 _ k hk' hloop (hlen ▸ hk')
    (by simp [hget, EntryF.toCSig, hflag]) (by rw [Nat.zero_add]; exact hpre)
  rw [Nat.zero_add] at hok
  obtain ⟨v, e₁, s, hv, he₁, hs, hval⟩ := sigOracle_eq_true hok
  cases he.symm.trans he₁
  exact ⟨v, s, hv, hs, hval⟩

theorem consumed_pair_valid {eh' : ExtHeader S} {k : Nat} {e e' : EntryF S}
    (a : Accepted P c eh) (a' : Accepted P c eh') (hvals : eh'.valset = eh.valset)
    (he : eh.commit.sigs[k]? = some e) (he' : eh'.commit.sigs[k]? = some e')
    (hflag : e.flag = .commit) (hflag' : e'.flag = .commit)
    (hpre : commitPow (eh.valset.toValSet.vals.take k) ((eh.commit.sigs.map EntryF.toCSig).take k) ≤
      c.lightNum * eh.valset.total / c.lightDen)
    (hpre' : commitPow (eh'.valset.toValSet.vals.take k) ((eh'.commit.sigs.map EntryF.toCSig).take k) ≤
      c.lightNum * eh'.valset.total / c.lightDen) :
    ∃ (v : ValK) (s s' : S), e.sig = some s ∧ e'.sig = some s' ∧
      P.sigValid v.pk (voteMsg eh e) s = true ∧ P.sigValid v.pk (voteMsg eh' e') s' = true := by
  obtain ⟨v, s, hv, hs, hval⟩ := consumed_entry_valid a he hflag hpre
  obtain ⟨v', s', hv', hs', hval'⟩ := consumed_entry_valid a' he' hflag' hpre'
  obtain rfl : v' = v := Option.some.inj ((hvals ▸ hv').symm.trans hv)
  exact ⟨v', s, s', hs, hs', hval, hval'⟩

/-! ### `validate` reads a commit entry only through its flag, timestamp and signature

  The validator address of an entry reaches none of the checks: `commitSigValidateBasic` and the
  light loop look at flag and signature presence, the signature oracle at timestamp and signature. -/

theorem map_factor {α β γ : Type} (key : α → β) (g : β → γ) (l l' : List α)
    (h : l'.map key = l.map key) : l'.map (fun a => g (key a)) = l.map (fun a => g (key a)) := by
  have := congrArg (List.map g) h
  simpa [List.map_map, Function.comp_def] using this

theorem verifyCommitLight_congr (ok : Nat → Nat → Bool) (n d : Nat) (vs : ValSet) (h ch : Nat)
    {ss ss' : List CSig}
    (hss : ss'.map (fun a => (a.flag, a.hasSig)) = ss.map (fun a => (a.flag, a.hasSig))) :
    verifyCommitLight ok n d vs h ch ss' = verifyCommitLight ok n d vs h ch ss := by
  have hlen : ss'.length = ss.length := by simpa using congrArg List.length hss
  have hloop := fun needed => lightLoop_congr ok needed vs.vals 0 0 ss ss' hss
  simp only [verifyCommitLight, hlen, hloop]

section entries
variable {sigs sigs' : List (EntryF S)}
  (h : sigs'.map (fun e => (e.flag, e.ts, e.sig)) = sigs.map (fun e => (e.flag, e.ts, e.sig)))
include h

theorem commitValidateBasic_congr (c : Consts) (cm : CommitF S) :
    commitValidateBasic c { cm with sigs := sigs' } = commitValidateBasic c { cm with sigs := sigs } := by
  have hemp : sigs'.isEmpty = sigs.isEmpty := by simpa using congrArg List.isEmpty h
  have hall := congrArg (List.all · id) (map_factor _
    (fun k : Flag × Int × Option S =>
      commitSigValidateBasic { flag := k.1, addr := [], hasSig := k.2.2.isSome }) _ _ h)
  simp only [List.all_map] at hall
  have hall : sigs'.all (fun e => commitSigValidateBasic e.toCSig) =
      sigs.all (fun e => commitSigValidateBasic e.toCSig) := hall
  simp only [commitValidateBasic, hemp, hall]

theorem toCSig_view_congr :
    (sigs'.map EntryF.toCSig).map (fun a => (a.flag, a.hasSig)) =
      (sigs.map EntryF.toCSig).map (fun a => (a.flag, a.hasSig)) := by
  simpa [List.map_map, Function.comp_def, EntryF.toCSig] using
    map_factor _ (fun k : Flag × Int × Option S => (k.1, k.2.2.isSome)) _ _ h

theorem sigOracle_congr (P : Prims S) (eh : ExtHeader S) :
    sigOracle P { eh with commit := { eh.commit with sigs := sigs' } } =
      sigOracle P { eh with commit := { eh.commit with sigs := sigs } } := by
  funext i j
  have hj := congrArg (·[j]?) h
  simp only [List.getElem?_map] at hj
  simp only [sigOracle]
  cases hs' : sigs'[j]? with
  | none =>
    cases hs : sigs[j]? with
    | none => rfl
    | some e => rw [hs', hs] at hj; cases hj
  | some e' =>
    cases hs : sigs[j]? with
    | none => rw [hs', hs] at hj; cases hj
    | some e =>
      simp only [hs', hs, Option.map_some, Option.some.injEq, Prod.mk.injEq] at hj
      cases eh.valset.vals[i]? with
      | none => rfl
      | some v => simp only [voteMsg, hj.2.1, hj.2.2]

theorem validate_congr_entries (P : Prims S) (c : Consts) (eh : ExtHeader S) :
    validate P c { eh with commit := { eh.commit with sigs := sigs' } } =
      validate P c { eh with commit := { eh.commit with sigs := sigs } } := by
  simp only [validate, commitValidateBasic_congr h c eh.commit, sigOracle_congr h P eh,
    verifyCommitLight_congr _ _ _ _ _ _ (toCSig_view_congr h)]

end entries

theorem tallied_flag {k : Nat} {e : EntryF S}
    (ht : Lumina.Spec.C01.tallied (toView P eh) k = true) (he : eh.commit.sigs[k]? = some e) :
    e.flag = .commit := by
  unfold Lumina.Spec.C01.tallied at ht
  simp only [Bool.and_eq_true] at ht
  have h := ht.1.1
  simp only [Lumina.Spec.C03.entry, Lumina.Spec.C01.c03Input, toView, List.getD_eq_getElem?_getD,
    List.getElem?_map, he, Option.map_some, Option.getD_some, toEntry, EntryF.toCSig] at h
  exact of_decide_eq_true h

end Lumina.Proofs.HeaderValidate

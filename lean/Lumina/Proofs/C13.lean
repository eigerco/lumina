/-
  Bridge between the RFC-6962 definitions of `Spec/C13.lean` (largest power of two below n by
  doubling, MTH, PATH with fuel) and the model (`next_power_of_two()/2` via `log2`, well-founded
  `root`, `auntsOf`), plus the per-proof soundness/completeness statements of `MerkleProof::verify`,
  what `RowProof::verify` accepts (`rowVerify_ok_iff`, `bindsAll_of_ok`) and `row_proof` (`rowProof_ok`: for `s ≤ e < |rows|`
  it is built, its row roots are `rows[s..=e]` themselves, and `RowProof::verify` accepts it against the DAH hash).
-/
import Lumina.Proofs.Merkle
import Lumina.Proofs.Nmt
import Lumina.Model.RowProof
import Lumina.Spec.C13

namespace Lumina.Proofs.C13
open Lumina.Util Lumina.Model.Merkle Lumina.Proofs.Merkle
open Lumina.Spec.C13

variable {D : Type}

theorem log2_unique (n j : Nat) (h1 : 2 ^ j < n) (h2 : n ≤ 2 ^ (j + 1)) : (n - 1).log2 = j :=
  have := Nat.two_pow_pos j
  (Nat.log2_eq_iff (by omega)).mpr ⟨by omega, by omega⟩

open Lumina.Model.Nmt (nextPowerOfTwoAux) in
/-- the RFC's loop is the doubling loop of `next_power_of_two`, one step ahead and halved at the end -/
theorem pow2BelowGo_eq_aux (n : Nat) : ∀ (f p : Nat), pow2BelowGo n f p = nextPowerOfTwoAux n f (2 * p) / 2
  | 0, p => by simp [pow2BelowGo, nextPowerOfTwoAux]
  | f + 1, p => by
    simp only [pow2BelowGo, nextPowerOfTwoAux, pow2BelowGo_eq_aux n f]
    by_cases h : 2 * p < n
    · rw [if_pos h, if_neg (by omega)]
    · rw [if_neg h, if_pos (by omega)]; omega

theorem pow2BelowGo_eq (n f j : Nat) (h1 : 2 ^ j < n) (h2 : n ≤ 2 ^ (j + 1 + f)) :
    pow2BelowGo n f (2 ^ j) = 2 ^ (n - 1).log2 := by
  obtain ⟨b, e, hb1, hb2⟩ := Lumina.Proofs.Nmt.npo2_aux n f (j + 1) h2 (.inr (by simpa using h1))
  rw [pow2BelowGo_eq_aux, ← Nat.pow_succ', e]
  cases b with
  | zero => have := Nat.two_pow_pos j; simp at hb1; omega
  | succ m =>
    rw [log2_unique n m (by simpa using hb2) hb1, Nat.pow_succ, Nat.mul_div_cancel _ Nat.zero_lt_two]

/-- the doubling definition of the RFC and `next_power_of_two() / 2` agree (n ≥ 2) -/
theorem largestPow2Below_eq (n : Nat) (h : 2 ≤ n) : largestPow2Below n = splitPoint n := by
  rw [splitPoint_eq n h]
  unfold largestPow2Below
  have := pow2BelowGo_eq n n 0 (by simp; omega) (by
    have : n < 2 ^ n := Nat.lt_two_pow_self
    have e : 2 ^ (0 + 1 + n) = 2 * 2 ^ n := by rw [Nat.add_comm, Nat.pow_add]; omega
    omega)
  simpa using this

theorem mth_eq_root (H : HashFns D) : ∀ (f : Nat) (l : List Bytes), l.length ≤ f → mth H f l = root H l := by
  intro f
  induction f with
  | zero =>
    intro l hl
    have : l = [] := List.eq_nil_of_length_eq_zero (by omega)
    subst this
    simp [mth, root_nil]
  | succ f ih =>
    intro l hl
    match l, hl with
    | [], _ => simp [mth, root_nil]
    | [x], _ => simp [mth, root_singleton]
    | a :: b :: rest, hl =>
      have h2 : 2 ≤ (a :: b :: rest).length := by simp
      have hk1 := splitPoint_lt _ h2
      have hk0 := splitPoint_pos _ h2
      rw [root_split H _ h2]
      simp only [mth]
      rw [largestPow2Below_eq _ h2]
      rw [ih _ (by simp only [List.length_take]; omega), ih _ (by simp only [List.length_drop]; omega)]

theorem treeRoot_eq_root (H : HashFns D) (l : List Bytes) : treeRoot H l = root H l :=
  mth_eq_root H l.length l (Nat.le_refl _)

theorem path_eq_auntsOf (H : HashFns D) : ∀ (f m : Nat) (l : List Bytes), l.length ≤ f →
    path H f m l = auntsOf H m l := by
  intro f
  induction f with
  | zero =>
    intro m l hl
    have : l = [] := List.eq_nil_of_length_eq_zero (by omega)
    subst this
    simp [path, auntsOf_short]
  | succ f ih =>
    intro m l hl
    by_cases h2 : 2 ≤ l.length
    · have hk1 := splitPoint_lt _ h2
      have hk0 := splitPoint_pos _ h2
      have ht : (l.take (splitPoint l.length)).length ≤ f := by simp only [List.length_take]; omega
      have hd : (l.drop (splitPoint l.length)).length ≤ f := by simp only [List.length_drop]; omega
      rw [auntsOf_split H m l h2]
      simp only [path]
      rw [if_neg (by omega), largestPow2Below_eq _ h2]
      rw [ih _ _ ht, ih _ _ hd, mth_eq_root H f _ ht, mth_eq_root H f _ hd]
    · rw [auntsOf_short H m l (by omega)]
      simp only [path]
      rw [if_pos (by omega)]

theorem auditPath_eq (H : HashFns D) (m : Nat) (l : List Bytes) : auditPath H m l = auntsOf H m l :=
  path_eq_auntsOf H l.length m l (Nat.le_refl _)

def obsOf (p : Proof D) : ProofObs D :=
  { index := p.index, total := p.total, leafHash := p.leafHash, aunts := p.aunts }

def resOf : Outcome → Res
  | .ok => .ok
  | .err _ => .err
  | .panic => .panic

theorem verify_ok_iff [DecidableEq D] (H : HashFns D) (p : Proof D) (leaf : Bytes) (rt : D) :
    p.verify H leaf rt = .ok ↔
      (H.leaf leaf = p.leafHash ∧ p.index < p.total ∧ p.total ≤ usizeHalf ∧
        subtreeRootRev H p.index p.total (H.leaf leaf) p.aunts.reverse = .ok rt) := by
  unfold Proof.verify subtreeRootFromAunts
  simp only
  by_cases h1 : H.leaf leaf = p.leafHash
  · by_cases h2 : p.total ≤ p.index
    · simp [h1, h2]; intro a; omega
    · by_cases h3 : usizeHalf < p.total
      · simp [h1, h2, h3]; intro _ b; omega
      · simp only [ne_eq, h1, not_true_eq_false, ↓reduceIte, h2, h3, true_and]
        cases hs : subtreeRootRev H p.index p.total p.leafHash p.aunts.reverse with
        | error e => simp
        | ok r =>
          by_cases h4 : r = rt
          · simp [h4]; omega
          · simp [h4]
  · simp [h1]

/-- soundness in the model's own terms: position binding, leaf binding, uniqueness of the aunts -/
theorem verify_sound [DecidableEq D] (H : HashFns D) (hinj : InnerInj H) (hleaf : LeafInj H)
    (L : List Bytes) (p : Proof D) (leaf : Bytes)
    (hv : p.verify H leaf (root H L) = .ok) (ht : p.total = L.length) :
    p.index < p.total ∧ L[p.index]? = some leaf ∧ p.aunts = auntsOf H p.index L := by
  obtain ⟨_, hlt, _, hs⟩ := (verify_ok_iff H p leaf (root H L)).1 hv
  rw [ht] at hs
  have hm : p.index < L.length := by omega
  obtain ⟨hd, hr⟩ := subtreeRootRev_sound H hinj p.aunts.reverse L p.index (H.leaf leaf) hm hs
  refine ⟨hlt, ?_, ?_⟩
  · have := hleaf _ _ hd
    rw [this, List.getD_eq_getElem?_getD, List.getElem?_eq_getElem hm]
    simp
  · have := congrArg List.reverse hr
    simpa using this

/-- completeness: the proof built by `MerkleProof::new` verifies -/
theorem new_verifies [DecidableEq D] (H : HashFns D) (L : List Bytes) (i : Nat) (hi : i < L.length)
    (hsz : L.length ≤ usizeHalf) :
    ∃ p, Proof.new H i L = .ok (p, root H L) ∧ p.index = i ∧ p.total = L.length ∧
      p.leafHash = H.leaf (L.getD i []) ∧ p.aunts = auntsOf H i L ∧
      p.verify H (L.getD i []) (root H L) = .ok := by
  unfold Proof.new
  rw [if_neg (by omega)]
  have he := hlca_eq H L.length L (Nat.le_refl _) 0 i []
  rw [if_pos (by omega)] at he
  simp only [List.nil_append, Nat.sub_zero] at he
  refine ⟨{ index := i, total := L.length, leafHash := H.leaf (L.getD i []), aunts := auntsOf H i L },
    ?_, rfl, rfl, rfl, rfl, ?_⟩
  · simp only [he]
  · rw [verify_ok_iff]
    exact ⟨rfl, hi, hsz, subtreeRootRev_auntsOf H L.length L (Nat.le_refl _) i hi⟩

open Lumina.Model.RowProof (RowProof verifyLoop rowProofLoop)

def rowObsOf (rp : RowProof D) : RowProofObs D :=
  { rowRoots := rp.rowRoots, proofs := rp.proofs.map obsOf, startRow := rp.startRow, endRow := rp.endRow }

def rowResOf : Lumina.Model.RowProof.Outcome → Res
  | .ok => .ok
  | .err _ => .err
  | .panic => .panic

/-- the per-proof verifier never aborts when `total ≤ 2^63` (what `TryFrom<RawMerkleProof>`
    guarantees: `total` is read from an `i64`) -/
theorem verify_ne_panic [DecidableEq D] (H : HashFns D) (p : Proof D) (leaf : Bytes) (rt : D)
    (hb : p.total ≤ usizeHalf) : p.verify H leaf rt ≠ .panic := by
  unfold Proof.verify
  simp only
  split
  · simp
  · split
    · simp
    · rw [if_neg (by omega)]
      split
      · simp
      · split <;> simp

theorem verifyLoop_ne_panic [DecidableEq D] (H : HashFns D) (rt : D) :
    ∀ (rs : List Bytes) (ps : List (Proof D)), (∀ p ∈ ps, p.total ≤ usizeHalf) →
      verifyLoop (fun p leaf r => p.verify H leaf r) rt rs ps ≠ .panic := by
  intro rs
  induction rs with
  | nil => intro ps _; cases ps <;> simp [verifyLoop]
  | cons r rs ih =>
    intro ps hb
    cases ps with
    | nil => simp [verifyLoop]
    | cons p ps =>
      simp only [verifyLoop]
      have hp := verify_ne_panic H p r rt (hb p (by simp))
      cases hv : p.verify H r rt with
      | ok => exact ih ps (fun q hq => hb q (by simp [hq]))
      | err e => simp
      | panic => exact absurd hv hp

theorem verifyLoop_ok_iff [DecidableEq D] (H : HashFns D) (rt : D) :
    ∀ (rs : List Bytes) (ps : List (Proof D)),
      verifyLoop (fun p leaf r => p.verify H leaf r) rt rs ps = .ok ↔
      ∀ x ∈ rs.zip ps, x.2.verify H x.1 rt = .ok := by
  intro rs
  induction rs with
  | nil => intro ps; cases ps <;> simp [verifyLoop]
  | cons r rs ih =>
    intro ps
    cases ps with
    | nil => simp [verifyLoop]
    | cons p ps =>
      simp only [verifyLoop, List.zip_cons_cons, List.forall_mem_cons, ← ih ps]
      cases p.verify H r rt <;> simp

theorem verifyLoop_ok [DecidableEq D] (H : HashFns D) (rt : D) :
    ∀ (rs : List Bytes) (ps : List (Proof D)),
      verifyLoop (fun p leaf r => p.verify H leaf r) rt rs ps = .ok →
      ∀ x ∈ rs.zip ps, x.2.verify H x.1 rt = .ok :=
  fun rs ps => (verifyLoop_ok_iff H rt rs ps).mp

theorem verifyLoop_all_ok [DecidableEq D] (H : HashFns D) (rt : D) :
    ∀ (rs : List Bytes) (ps : List (Proof D)),
      (∀ x ∈ rs.zip ps, x.2.verify H x.1 rt = .ok) →
      verifyLoop (fun p leaf r => p.verify H leaf r) rt rs ps = .ok :=
  fun rs ps => (verifyLoop_ok_iff H rt rs ps).mpr

/-- `RowProof::verify` accepts exactly when the three counts agree, a data root is given and every proof verifies
    its root against it -/
theorem rowVerify_ok_iff [DecidableEq D] (H : HashFns D) (rp : RowProof D) (rt : Option D) :
    Lumina.Model.RowProof.verify H rp rt = .ok ↔
      rp.rowRoots.length = rp.proofs.length ∧ rp.startRow ≤ rp.endRow ∧
      rp.endRow - rp.startRow + 1 = rp.proofs.length ∧
      ∃ r, rt = some r ∧ ∀ x ∈ rp.rowRoots.zip rp.proofs, x.2.verify H x.1 r = .ok := by
  unfold Lumina.Model.RowProof.verify
  constructor
  · intro h
    split at h; · cases h
    split at h; · cases h
    split at h; · cases h
    split at h; · cases h
    exact ⟨by omega, by omega, by omega, _, rfl, verifyLoop_ok H _ _ _ h⟩
  · rintro ⟨h1, h2, h3, r, rfl, h⟩
    rw [if_neg (by omega), if_neg (by omega), if_neg (by omega)]
    exact verifyLoop_all_ok H r _ _ h

/-- … and never aborts on proofs as the wire decoding delivers them -/
theorem rowVerify_ne_panic [DecidableEq D] (H : HashFns D) (rp : RowProof D) (rt : Option D)
    (hb : ∀ p ∈ rp.proofs, p.total ≤ usizeHalf) : Lumina.Model.RowProof.verify H rp rt ≠ .panic := by
  unfold Lumina.Model.RowProof.verify
  split; · nofun
  split; · nofun
  split; · nofun
  split; · nofun
  exact verifyLoop_ne_panic H _ _ _ hb

theorem bindsAll_of_ok [DecidableEq D] (H : HashFns D) (hinj : InnerInj H) (hleaf : LeafInj H)
    (all : List Bytes) :
    ∀ (rs : List Bytes) (ps : List (Proof D)),
      (∀ x ∈ rs.zip ps, x.2.verify H x.1 (root H all) = .ok) →
      bindsAll H all rs (ps.map obsOf) = true := by
  intro rs
  induction rs with
  | nil => intro ps _; cases ps <;> simp [bindsAll]
  | cons r rs ih =>
    intro ps h
    cases ps with
    | nil => simp [bindsAll]
    | cons p ps =>
      simp only [List.map_cons, bindsAll, Bool.and_eq_true]
      refine ⟨?_, ih ps (fun x hx => h x (by simp [hx]))⟩
      by_cases ht : p.total = all.length
      · obtain ⟨h1, h2, h3⟩ := verify_sound H hinj hleaf all p r (h (r, p) (by simp)) ht
        simp only [obsOf, auditPath_eq]
        simp [h2, h3, ht]
        omega
      · simp [obsOf, ht]

theorem rowProofLoop_ok [DecidableEq D] (H : HashFns D) (rows all : List Bytes) (hsz : all.length ≤ usizeHalf)
    (hpre : ∀ i, i < rows.length → all[i]? = rows[i]?) (hle : rows.length ≤ all.length) :
    ∀ (n s : Nat), s + n ≤ rows.length →
      ∃ ps, rowProofLoop H rows all (List.range' s n) = .ok (ps, (rows.drop s).take n) ∧ ps.length = n ∧
        pathsOk H all s ((rows.drop s).take n) (ps.map obsOf) = true ∧
        (∀ x ∈ ((rows.drop s).take n).zip ps, x.2.verify H x.1 (root H all) = .ok) := by
  intro n
  induction n with
  | zero =>
    intro s _
    exact ⟨[], by simp [rowProofLoop], rfl, by simp [pathsOk], by simp⟩
  | succ n ih =>
    intro s hs
    have hs1 : s < rows.length := by omega
    have hs2 : s < all.length := by omega
    obtain ⟨ps, hl, hpl, hpo, hv⟩ := ih (s + 1) (by omega)
    obtain ⟨p, hnew, hi, ht, hlh, hau, hver⟩ := new_verifies H all s hs2 hsz
    have hrow : rows[s]? = some (rows[s]) := List.getElem?_eq_getElem hs1
    have hall : all[s]? = some (rows[s]) := by rw [hpre s hs1, hrow]
    have hgd : all.getD s [] = rows[s] := by
      rw [List.getD_eq_getElem?_getD, hall]; rfl
    rw [List.drop_eq_getElem_cons hs1, List.take_succ_cons]
    refine ⟨p :: ps, ?_, by simp [hpl], ?_, ?_⟩
    · simp only [List.range'_succ, rowProofLoop, hnew, hrow, hl]
    · simp only [List.map_cons, pathsOk, Bool.and_eq_true, beq_iff_eq]
      simp only [obsOf, hi, ht, hau, hlh, hgd, auditPath_eq, hall, hpo, and_self]
    · intro x hx
      simp only [List.zip_cons_cons, List.mem_cons] at hx
      cases hx with
      | inl e => subst e; simp only; rw [← hgd]; exact hver
      | inr m => exact hv x m

theorem rowProofLoop_err (H : HashFns D) (rows all : List Bytes) :
    ∀ (n s : Nat), 0 < n → rows.length ≤ s + n - 1 →
      rowProofLoop H rows all (List.range' s n) = .error .indexOutOfRange := by
  intro n
  induction n with
  | zero => intro s h _; omega
  | succ n ih =>
    intro s _ h3
    simp only [List.range'_succ, rowProofLoop]
    cases hn : Proof.new H s all with
    | error e => rfl
    | ok pr =>
      obtain ⟨p, r⟩ := pr
      simp only
      cases hr : rows[s]? with
      | none => rfl
      | some row =>
        simp only
        have hs : s < rows.length := by
          rcases Nat.lt_or_ge s rows.length with h | h
          · exact h
          · rw [List.getElem?_eq_none h] at hr; cases hr
        rw [ih (s + 1) (by omega) (by omega)]

/-- `row_proof(s..=e)` with `s ≤ e < |rows|` is built, proves the rows `s..=e` themselves, each with its audit path in the
    tree over `rows ++ cols`, and `RowProof::verify` accepts it against the DAH hash -/
theorem rowProof_ok [DecidableEq D] (H : HashFns D) (rows cols : List Bytes) (s e : Nat)
    (hsz : (rows ++ cols).length ≤ usizeHalf) (hse : s ≤ e) (hin : e < rows.length) :
    ∃ rp, Lumina.Model.RowProof.rowProof H rows cols s e = .ok rp ∧ rp.startRow = s ∧ rp.endRow = e ∧
      rp.rowRoots = (rows.drop s).take (e + 1 - s) ∧
      pathsOk H (rows ++ cols) s rp.rowRoots (rp.proofs.map obsOf) = true ∧
      Lumina.Model.RowProof.verify H rp (some (Lumina.Model.RowProof.dahHash H rows cols)) = .ok := by
  obtain ⟨ps, hl, hpl, hpo, hv⟩ := rowProofLoop_ok H rows (rows ++ cols) hsz
    (fun i hi => List.getElem?_append_left hi) (List.length_append ▸ Nat.le_add_right _ _) (e + 1 - s) s (by omega)
  refine ⟨⟨_, ps, s, e⟩, by rw [Lumina.Model.RowProof.rowProof, hl], rfl, rfl, rfl, hpo, ?_⟩
  have hrl : ((rows.drop s).take (e + 1 - s)).length = e + 1 - s := by
    rw [List.length_take, List.length_drop]; omega
  exact (rowVerify_ok_iff H _ _).2 ⟨hrl.trans hpl.symm, hse, show e - s + 1 = ps.length by omega, _, rfl, hv⟩

end Lumina.Proofs.C13

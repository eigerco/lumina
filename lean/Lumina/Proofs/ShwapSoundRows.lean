/-
  C10 inherits the soundness of the three containers (C04 `sample_sound`, C05 `row_sound_eds`, C06 `row_nsdata_sound`)
  through the multihasher.  The glue: what an `Ok(hash)` of the macro body `hash_shwap_block!` means, step by step
  (`hashBlock_ok`); `Decoders`' transcription of each container's `verify` accepts only what the function C04–C06 are
  about accepts (`sampleVerify_bridge`, `rowVerify_bridge`, `rndVerify_bridge`; lumina's proof wrappers are transcribed
  twice and identified in `Proofs/DecodersBridge.lean`); what a decoded container guarantees, from the decoders' `_sat`
  lemmas; the byte strings hashed when an accepted block is verified (`rowBlockInputs`, `rndBlockInputs`), which the
  hash hypotheses of C10 are relative to.
-/
import Lumina.Proofs.ShwapSound
import Lumina.Proofs.ShwapHasher
import Lumina.Proofs.DecodersBridge
import Lumina.Proofs.Row
import Lumina.Proofs.NsData
import Lumina.Proofs.Namespace

namespace Lumina.Proofs.ShwapSoundRows
open Lumina.Util Lumina.Model.Nmt Lumina.Model.Eds Lumina.Model.ShwapId Lumina.Model.Decoders Lumina.Model.ShwapHasher
open Lumina.Proofs.Nmt Lumina.Proofs.Eds Lumina.Proofs.ShwapSound Lumina.Gen.C15 Lumina.Proofs.Decoders

theorem hashBlock_ok {Id C : Type} {K : Kind Id C} {db : Bytes → Option (Bytes × Bytes)} {store : Nat → Option Dah}
    {input h : Bytes} (hok : hashBlock K db store input = .ok h) :
    ∃ cidB cont cid id c dah, db input = some (cidB, cont) ∧ Cid.read cidB = some cid ∧ K.ofCid cid = .ok id ∧
      K.decode id cont = .ok c ∧ store (K.height id) = some dah ∧ K.verify c id dah = .ok () ∧
      h = mhBytes (K.toCid id) :=
  (Lumina.Proofs.ShwapHasher.hashBlock_spec K db store input).2 h hok

theorem sampleVerify_bridge {H : HashFn} {s : Lumina.Model.Sample.Sample} {row col : Nat} {dah : Dah}
    (h : sampleVerify H s row col dah = .ok ()) : Lumina.Model.Sample.verify H s row col dah = .ok () := by
  unfold sampleVerify sampleVerifyWith at h
  unfold Lumina.Model.Sample.verify
  split at h
  · rename_i rowRoot colRoot hr hc
    simp only [hr, hc, Lumina.Proofs.Decoders.luminaVerifyRange_eq]
    cases hp : s.proofType <;> simp only [hp] at h ⊢
    all_goals
      split at h; · cases h
      rename_i hst
      rw [if_neg hst, ofNmt_eq_ok.mp h]
  · cases h

theorem share_of_specVerify {e : Eds} {row col : Nat} {d : Bytes}
    (h : Lumina.Spec.C04.specVerify e.width (Lumina.Proofs.Sample.rawSquare e) row col d true = true) :
    ∃ sh, e.share? row col = some sh ∧ sh.data = d := by
  simp only [Lumina.Spec.C04.specVerify, Lumina.Spec.C04.shareAt, Bool.not_true, Bool.false_or, beq_iff_eq] at h
  split at h
  · unfold Lumina.Proofs.Sample.rawSquare at h
    rw [List.getElem?_map] at h
    unfold Eds.share?
    cases hs : e.shares[row * e.width + col]? with
    | none => rw [hs] at h; cases h
    | some sh => rw [hs] at h; exact ⟨sh, rfl, by simpa using h⟩
  · cases h

theorem rowFromRaw_sizes {c : Codec} {i : Nat} {raw : RawRow} {r : Lumina.Model.Decoders.Row}
    (h : rowFromRaw c i raw = .ok r) : ∀ sh ∈ r, sh.data.length = SHARE_SIZE := fun sh hsh =>
  let ⟨_, hd⟩ := (rowFromRaw_sat c i raw).of_ok h sh hsh
  share_size hd

theorem rowVerify_bridge {H : HashFn} {r : Lumina.Model.Decoders.Row} {i : Nat} {dah : Dah}
    (h : rowVerify H r i dah = .ok ()) : Lumina.Model.Row.verify H ⟨r⟩ i dah = .ok () := by
  unfold rowVerify at h
  unfold Lumina.Model.Row.verify
  split at h; · cases h
  rename_i hs hp
  split at h; · cases h
  rename_i root hr
  obtain ⟨t, hc, h⟩ := bind_eq_ok.mp h
  split at h; · cases h
  rename_i hne
  simp only [hp, hr, ofNmt_eq_ok.mp hc, if_neg hne]

theorem proofFromRaw_ok {rp : RawProof} {q : NsProof} (h : proofFromRaw rp = .ok q) :
    Lumina.Proofs.NsData.ProofOK q := by
  have ho := proofFromRaw_eq_ok.mp h
  obtain ⟨_, hs, he, hl⟩ := ofRaw_eq_some ho
  have hu := ofRaw_u32 ho
  exact ⟨ofRaw_WF ho, fun l e => ofBytes?_WF (hl l e), by unfold U32_MAX; omega, by unfold U32_MAX; have := hu.2; omega⟩

/-- a decoded row-namespace-data container: the proof meets `ProofOK` (sizes the Rust types guarantee) -/
theorem rndFromRaw_proofOK {ns : Bytes} {raw : RawRnd} {d : Rnd} (h : rndFromRaw ns raw = .ok d) :
    Lumina.Proofs.NsData.ProofOK d.proof :=
  let ⟨_, _, hq⟩ := (rndFromRaw_sat ns raw).of_ok h
  proofFromRaw_ok hq

theorem rndVerify_bridge {H : HashFn} {d : Rnd} {ns : Bytes} {row : Nat} {dah : Dah}
    (h : rndVerify H d ns row dah = .ok ()) :
    Lumina.Model.NsData.rowVerify H ⟨d.proof, d.shares⟩ ns row dah = .ok () := by
  unfold rndVerify rndVerifyWith at h
  unfold Lumina.Model.NsData.rowVerify
  split at h; · cases h
  rename_i hw
  split at h; · cases h
  rename_i root hr
  simp only [if_neg hw, hr, Lumina.Proofs.Decoders.luminaVerifyCompleteNamespace_eq, ofNmt_eq_ok.mp h]

theorem rndId_ns_length {cid : Cid} {id : RowNamespaceDataId} (h : RowNamespaceDataId.ofCid cid = .ok id) :
    id.ns.length = NS_SIZE := by
  have hd := ofCid_ok h
  unfold RowNamespaceDataId.decode at hd
  split at hd; · cases hd
  split at hd; · cases hd
  split at hd; · cases hd
  rename_i n hn
  cases hd
  obtain ⟨hv, rfl⟩ := Lumina.Proofs.Namespace.fromRaw_ok_iff.mp hn
  exact Lumina.Proofs.Namespace.validRaw_length hv

/-- the inputs the multihasher's `Row::verify` hashes for this block: the leaf and inner-node preimages of the row tree
    it rebuilds from the decoded shares (`[]` when the block does not decode to a row, in which case nothing is hashed) -/
def rowBlockInputs (H : HashFn) (P : Params) (input : Bytes) : List Bytes :=
  match P.decodeBlock input with
  | none => []
  | some (cidB, cont) =>
    match Cid.read cidB with
    | none => []
    | some cid =>
      match RowId.ofCid cid with
      | .error _ => []
      | .ok id =>
        match P.decodeRow cont with
        | none => []
        | some raw =>
          match rowFromRaw P.codec id.index raw with
          | .ok r => Lumina.Proofs.Row.rowInputs H r
          | _ => []

theorem rowBlockInputs_eq {H : HashFn} {P : Params} {input cidB cont : Bytes} {cid : Cid} {id : RowId} {raw : RawRow}
    {r : Lumina.Model.Decoders.Row} (h1 : P.decodeBlock input = some (cidB, cont)) (h2 : Cid.read cidB = some cid)
    (h3 : RowId.ofCid cid = .ok id) (h4 : P.decodeRow cont = some raw) (h5 : rowFromRaw P.codec id.index raw = .ok r) :
    rowBlockInputs H P input = Lumina.Proofs.Row.rowInputs H r := by
  simp only [rowBlockInputs, h1, h2, h3, h4, h5]

/-- the inputs the multihasher's `RowNamespaceData::verify` hashes for this block: the claimed leaves' preimages (under
    the namespace of the block's own CID) and the `hash_nodes` calls of the range-proof check (`[]` when the block does not
    decode to a row-namespace-data container) -/
def rndBlockInputs (H : HashFn) (P : Params) (input : Bytes) : List Bytes :=
  match P.decodeBlock input with
  | none => []
  | some (cidB, cont) =>
    match Cid.read cidB with
    | none => []
    | some cid =>
      match RowNamespaceDataId.ofCid cid with
      | .error _ => []
      | .ok id =>
        match P.decodeRnd cont with
        | none => []
        | some raw =>
          match rndFromRaw id.ns raw with
          | .ok d => Lumina.Proofs.NmtRange.vcnInputs H d.proof (d.shares.map Share.data) id.ns
          | _ => []

theorem rndBlockInputs_eq {H : HashFn} {P : Params} {input cidB cont : Bytes} {cid : Cid} {id : RowNamespaceDataId}
    {raw : RawRnd} {d : Rnd} (h1 : P.decodeBlock input = some (cidB, cont)) (h2 : Cid.read cidB = some cid)
    (h3 : RowNamespaceDataId.ofCid cid = .ok id) (h4 : P.decodeRnd cont = some raw) (h5 : rndFromRaw id.ns raw = .ok d) :
    rndBlockInputs H P input = Lumina.Proofs.NmtRange.vcnInputs H d.proof (d.shares.map Share.data) id.ns := by
  simp only [rndBlockInputs, h1, h2, h3, h4, h5]

end Lumina.Proofs.ShwapSoundRows

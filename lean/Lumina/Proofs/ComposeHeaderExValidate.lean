/-
  Composition of C28 with C01.

  The header-ex client model (`Model/HeaderExClient.lean`) takes the result of
  `ExtendedHeader::decode_and_validate(body)` as an oracle: `Resp.decoded = some hdr` iff it
  succeeds.  `ExtendedHeader::validate` is modelled in `Model/HeaderVerify.lean` (characterised
  by `Props.C01.validate_ok_iff`).  Here the oracle bit is COMPUTED from that model:

    * `WireResp`: a response as it arrives — status code + what `ExtendedHeader::decode` made of
      the body (`none` = undecodable; the decoding layer itself is property C46);
    * `Abs`: the abstraction from the concrete header to the record the client looks at afterwards
      (height, hash, identity), tied to the concrete header by its height;
    * `respOf`: `decoded := some (abs eh)` iff the body decoded to `eh` and `validate eh = Ok`.
-/
import Lumina.Proofs.HeaderExClient
import Lumina.Props.C01

namespace Lumina.Proofs.ComposeHeaderExValidate
open Lumina.Model.HeaderExClient Lumina.Proofs.HeaderExClient
open Lumina.Model.HeaderVerify (ExtHeader Prims Consts validate)

/-- a header-ex response as it arrives -/
structure WireResp (S : Type) where
  /-- raw `status_code` -/
  status : Int
  /-- `ExtendedHeader::decode(body)`, before validation -/
  body : Option (ExtHeader S)

/-- what the client model keeps of a concrete header -/
structure Abs (S : Type) where
  f : ExtHeader S → Hdr
  height_eq : ∀ eh, (f eh).height = eh.header.height

/-- the oracle bit of the client model, computed with the C01 model of `validate` -/
def respOf {S : Type} (P : Prims S) (c : Consts) (A : Abs S) (w : WireResp S) : Resp :=
  { status := w.status,
    decoded := match w.body with
      | some eh => if validate P c eh = .ok then some (A.f eh) else none
      | none => none }

/-- every entry the client may pick from (`validated`) comes from a response with status OK whose
    body decoded to a header that PASSES `validate` -/
theorem validated_from_valid {S : Type} (P : Prims S) (c : Consts) (A : Abs S) (ws : List (WireResp S))
    (x : Hdr) (hx : x ∈ validated (ws.map (respOf P c A))) :
    ∃ w ∈ ws, ∃ eh, w.status = 1 ∧ w.body = some eh ∧ A.f eh = x ∧ validate P c eh = .ok := by
  obtain ⟨r, hr, hst, hd⟩ := mem_validated.mp hx
  obtain ⟨w, hw, rfl⟩ := List.mem_map.mp hr
  cases hb : w.body with
  | none => simp only [respOf, hb, reduceCtorEq] at hd
  | some eh =>
    simp only [respOf, hb] at hd
    split at hd
    · exact ⟨w, hw, eh, hst, hb, Option.some.inj hd, ‹_›⟩
    · cases hd

end Lumina.Proofs.ComposeHeaderExValidate

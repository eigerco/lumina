/-
  Lemmas about the `HeaderSession` model (used by Props/C26 and Props/C27).

  The central invariant `Inv`: the heights still in `toFetch`, the heights of the outstanding
  tasks and the heights of the received headers together form exactly the requested range,
  each height once (stated by counting: `count x (heights s) = count x (range' start len)`).
-/
import Lumina.Model.Session
import Lumina.Proofs.InsertSort

namespace Lumina.Proofs.Session
open Lumina.Model.Session Lumina.Proofs.InsertSort

variable {α : Type}

def fetchHeights : Option Range → List Nat
  | none => []
  | some r => List.range' r.1 (rangeLen r)

def taskHeights (t : Req) : List Nat := List.range' t.1 t.2

def heights (ht : α → Nat) (s : State α) : List Nat :=
  fetchHeights s.toFetch ++ (s.tasks.flatMap taskHeights ++ s.responses.flatten.map ht)

theorem count_heights (ht : α → Nat) (s : State α) (x : Nat) :
    (heights ht s).count x =
      (fetchHeights s.toFetch).count x + ((s.tasks.flatMap taskHeights).count x
        + (s.responses.flatten.map ht).count x) := by
  simp only [heights, List.count_append]

theorem count_tasks_erase (ts : List Req) (t : Req) (ht : t ∈ ts) (x : Nat) :
    (ts.flatMap taskHeights).count x
      = (taskHeights t).count x + ((ts.erase t).flatMap taskHeights).count x := by
  have hp := (List.perm_cons_erase ht).flatMap_right taskHeights
  rw [hp.count_eq x, List.flatMap_cons, List.count_append]

theorem length_erase_add_one {ts : List Req} {t : Req} (h : t ∈ ts) :
    (ts.erase t).length + 1 = ts.length := by
  have := List.length_erase_of_mem h
  have := List.length_pos_of_mem h
  omega

theorem count_heights_sendRequest (ht : α → Nat) (s : State α) (h a x : Nat) :
    (heights ht (sendRequest s h a)).count x = (heights ht s).count x + (List.range' h a).count x := by
  simp only [count_heights, sendRequest, List.flatMap_append, List.flatMap_cons, List.flatMap_nil,
    List.append_nil, List.count_append, taskHeights]
  omega

theorem rangeLen_pos {r : Range} (h : r.1 ≤ r.2) : rangeLen r = r.2 - r.1 + 1 := if_pos h

theorem rangeLen_add (a d : Nat) : rangeLen (a, a + d) = d + 1 := by
  simp [rangeLen]

def batchReq : Option Range → List Req
  | none => []
  | some b => [(b.1, rangeLen b)]

theorem flatMap_batchReq (b : Option Range) : (batchReq b).flatMap taskHeights = fetchHeights b := by
  cases b <;> simp [batchReq, fetchHeights, taskHeights]

theorem sum_batchReq (b : Option Range) : ((batchReq b).map (·.2)).sum = (fetchHeights b).length := by
  cases b <;> simp [batchReq, fetchHeights]

/-- the batch is cut off the top of `toFetch`, so the heights split as a list -/
theorem takeNextBatch_spec (tf : Option Range) (limit : Nat) (hl : 1 ≤ limit)
    (hne : ∀ r, tf = some r → r.1 ≤ r.2) :
    fetchHeights tf
      = fetchHeights (takeNextBatch tf limit).1 ++ fetchHeights (takeNextBatch tf limit).2 ∧
    (∀ r', (takeNextBatch tf limit).1 = some r' →
      r'.1 ≤ r'.2 ∧ tf ≠ none ∧ (batchReq (takeNextBatch tf limit).2).length = 1) ∧
    (∀ t ∈ batchReq (takeNextBatch tf limit).2, 1 ≤ t.2 ∧ t.2 ≤ limit) := by
  -- with `limit = l + 1`, `r = (a, a + d)` and, when something stays, `d = e + (l + 1)`, no
  -- truncated subtraction is left (`omega` is slow on them)
  obtain ⟨l, rfl⟩ := Nat.exists_eq_add_of_le' hl
  unfold takeNextBatch
  rw [if_neg (Nat.succ_ne_zero l)]
  cases tf with
  | none => simp [fetchHeights, batchReq]
  | some r =>
    obtain ⟨a, b⟩ := r
    obtain ⟨d, rfl⟩ := Nat.exists_eq_add_of_le (show a ≤ b from hne _ rfl)
    dsimp only
    rw [rangeLen_add]
    by_cases hle : d + 1 ≤ l + 1
    · rw [if_pos hle]
      simp only [fetchHeights, batchReq, rangeLen_add, List.nil_append, reduceCtorEq, false_imp_iff,
        implies_true, List.forall_mem_singleton, true_and]
      exact ⟨Nat.le_add_left .., hle⟩
    · rw [if_neg hle]
      obtain ⟨e, rfl⟩ := Nat.exists_eq_add_of_le' (Nat.lt_succ_iff.mp (Nat.not_le.mp hle))
      have e1 : a + (e + (l + 1)) - (l + 1) = a + e := by rw [← Nat.add_assoc, Nat.add_sub_cancel]
      have e3 : a + (e + (l + 1)) = a + e + 1 + l := by
        rw [← Nat.add_assoc, Nat.add_comm l 1, ← Nat.add_assoc]
      have e2 : a + (e + (l + 1)) - (l + 1 - 1) = a + e + 1 := by
        rw [Nat.add_one_sub_one, e3, Nat.add_sub_cancel]
      have h2 : rangeLen (a + e + 1, a + (e + (l + 1))) = l + 1 := by rw [e3]; exact rangeLen_add _ _
      simp only [e1, e2, fetchHeights, batchReq, h2, rangeLen_add, Option.some.injEq,
        List.forall_mem_singleton, List.length_singleton]
      refine ⟨?_, ?_, Nat.le_add_left .., Nat.le_refl _⟩
      · rw [Nat.add_assoc a e 1, List.range'_append_1, Nat.add_right_comm e (l + 1) 1]
      · rintro _ rfl; simp

theorem sendNextRequest_eq (s : State α) :
    sendNextRequest s =
      { s with toFetch := (takeNextBatch s.toFetch s.batchSize).1,
               tasks := s.tasks ++ batchReq (takeNextBatch s.toFetch s.batchSize).2 } := by
  unfold sendNextRequest
  rcases takeNextBatch s.toFetch s.batchSize with ⟨tf, _ | b⟩
  · simp [batchReq]
  · rfl

theorem sendNextRequest_responses (s : State α) : (sendNextRequest s).responses = s.responses := by
  rw [sendNextRequest_eq]

theorem count_heights_sendNextRequest (ht : α → Nat) (s : State α) (h1 : 1 ≤ s.batchSize)
    (hne : ∀ r, s.toFetch = some r → r.1 ≤ r.2) (x : Nat) :
    (heights ht (sendNextRequest s)).count x = (heights ht s).count x := by
  rw [sendNextRequest_eq, count_heights, count_heights, (takeNextBatch_spec _ _ h1 hne).1]
  simp only [List.flatMap_append, flatMap_batchReq, List.count_append]
  omega

/-- `M` bounds the batch size (`MAX_AMOUNT_PER_REQ`) -/
structure Inv (ht : α → Nat) (M : Nat) (r : Range) (s : State α) : Prop where
  running : s.status = .running
  count : ∀ x, (heights ht s).count x = (List.range' r.1 (rangeLen r)).count x
  amt : ∀ t ∈ s.tasks, 1 ≤ t.2 ∧ t.2 ≤ M
  spans : ∀ sp ∈ s.responses, sp ≠ [] ∧ ∃ h, sp.map ht = List.range' h sp.length
  bs : 1 ≤ s.batchSize ∧ s.batchSize ≤ M
  fetch : ∀ tf, s.toFetch = some tf → tf.1 ≤ tf.2

/-- while something is left to fetch all `n` task slots are in use -/
def Full (n : Nat) (s : State α) : Prop := ∀ tf, s.toFetch = some tf → s.tasks.length = n

variable {ht : α → Nat} {M n : Nat} {r : Range} {s : State α}

theorem Inv.perm (h : Inv ht M r s) : (heights ht s).Perm (List.range' r.1 (rangeLen r)) :=
  List.perm_iff_count.mpr h.count

theorem Full.toFetch_none (hf : Full n s) (hn : 0 < n) (h0 : s.tasks = []) : s.toFetch = none := by
  cases h : s.toFetch with
  | none => rfl
  | some tf => have := hf tf h; rw [h0] at this; simp at this; omega

theorem inv_sendNextRequest (h : Inv ht M r s) : Inv ht M r (sendNextRequest s) := by
  obtain ⟨_, hrest, hbatch⟩ := takeNextBatch_spec s.toFetch s.batchSize h.bs.1 h.fetch
  refine ⟨?_, fun x => ?_, ?_, ?_, ?_, ?_⟩
  · rw [sendNextRequest_eq]; exact h.running
  · rw [count_heights_sendNextRequest ht s h.bs.1 h.fetch]; exact h.count x
  · rw [sendNextRequest_eq]
    refine List.forall_mem_append.mpr ⟨h.amt, fun t ht => ?_⟩
    have := hbatch t ht
    have := h.bs.2
    omega
  · rw [sendNextRequest_responses]; exact h.spans
  · rw [sendNextRequest_eq]; exact h.bs
  · rw [sendNextRequest_eq]; exact fun tf htf => (hrest tf htf).1

theorem full_sendNextRequest (n : Nat) (s : State α) (h1 : 1 ≤ s.batchSize)
    (hne : ∀ r, s.toFetch = some r → r.1 ≤ r.2)
    (hf : ∀ tf, s.toFetch = some tf → s.tasks.length + 1 = n) : Full n (sendNextRequest s) := by
  obtain ⟨_, hrest, _⟩ := takeNextBatch_spec s.toFetch s.batchSize h1 hne
  rw [sendNextRequest_eq]
  intro tf htf
  obtain ⟨_, hsome, hlen⟩ := hrest tf htf
  obtain ⟨r0, hr0⟩ := Option.ne_none_iff_exists'.mp hsome
  simp only [List.length_append, hlen, hf r0 hr0]

theorem sendNextRequest_none (s : State α) (h : s.toFetch = none) :
    (sendNextRequest s).toFetch = none := by
  rw [sendNextRequest_eq, h]
  unfold takeNextBatch
  split <;> rfl

theorem inv_repeat (h : Inv ht M r s) (h0 : s.tasks = []) (n : Nat) :
    Inv ht M r (Nat.repeat sendNextRequest n s) ∧ Full n (Nat.repeat sendNextRequest n s) := by
  induction n with
  | zero => exact ⟨h, fun tf _ => by simp [Nat.repeat, h0]⟩
  | succ n ih =>
    exact ⟨inv_sendNextRequest ih.1, full_sendNextRequest _ _ ih.1.bs.1 ih.1.fetch
      (fun tf htf => by rw [ih.2 tf htf])⟩

theorem clamp_bounds (x lo hi : Nat) (h : lo ≤ hi) : lo ≤ clamp x lo hi ∧ clamp x lo hi ≤ hi := by
  unfold clamp
  split
  · omega
  · split <;> omega

theorem lenPanics_false {r : Range} (hr : 1 ≤ r.1 ∧ r.1 ≤ r.2 ∧ r.2 ≤ U64_MAX) : lenPanics r = false := by
  simp only [lenPanics, Bool.and_eq_false_imp, decide_eq_true_eq, decide_eq_false_iff_not]
  omega

theorem inv_new (ht : α → Nat) (c : Cfg) (r : Range) (hc : 1 ≤ c.minAmount ∧ c.minAmount ≤ c.maxAmount)
    (hr : 1 ≤ r.1 ∧ r.1 ≤ r.2 ∧ r.2 ≤ U64_MAX) :
    Inv ht c.maxAmount r (new c r : State α) := by
  have hb := clamp_bounds (divCeil (rangeLen r) c.maxConcurrent) c.minAmount c.maxAmount hc.2
  refine ⟨if_neg (by simp [lenPanics_false hr]), fun x => ?_, nofun, nofun, ?_, ?_⟩
  · simp [heights, new, fetchHeights]
  · simp only [new, batchSize]; omega
  · rintro tf ⟨⟩; exact hr.2.1

theorem init_eq (c : Cfg) (r : Range) (hr : 1 ≤ r.1 ∧ r.1 ≤ r.2 ∧ r.2 ≤ U64_MAX) :
    (init c r : State α) = Nat.repeat sendNextRequest c.maxConcurrent (new c r) := by
  simp [init, new, lenPanics_false hr]

theorem inv_init (ht : α → Nat) (c : Cfg) (r : Range) (hc : 1 ≤ c.minAmount ∧ c.minAmount ≤ c.maxAmount)
    (hr : 1 ≤ r.1 ∧ r.1 ≤ r.2 ∧ r.2 ≤ U64_MAX) :
    Inv ht c.maxAmount r (init c r : State α) ∧ Full c.maxConcurrent (init c r : State α) := by
  rw [init_eq c r hr]
  exact inv_repeat (inv_new ht c r hc hr) rfl c.maxConcurrent

theorem init_responses (c : Cfg) (r : Range) : (init c r : State α).responses = [] := by
  have : ∀ n, (Nat.repeat sendNextRequest n (new c r : State α)).responses = [] := by
    intro n
    induction n with
    | zero => rfl
    | succ n ih => exact (sendNextRequest_responses _).trans ih
  simp only [init]
  split
  · exact this _
  · rfl

/-- the schedule's side of the bargain: the event answers an outstanding request with a prefix
    of the requested headers (`ok`), or with a header-ex error (`err`) -/
def AdmissibleEv (ht : α → Nat) (s : State α) : Ev α → Prop
  | .ok h a hs => (h, a) ∈ s.tasks ∧ hs.length ≤ a ∧ hs.map ht = List.range' h hs.length
  | .err h a => (h, a) ∈ s.tasks
  | .fatal _ _ => False

/-- every outstanding request lies inside the requested range (so below `u64::MAX`) -/
theorem task_in_range (h : Inv ht M r s) {t : Req} (hm : t ∈ s.tasks) :
    r.1 ≤ t.1 ∧ t.1 + t.2 ≤ r.2 + 1 := by
  have ha := h.amt t hm
  have key : ∀ y ∈ taskHeights t, r.1 ≤ y ∧ y < r.1 + rangeLen r := fun y hy =>
    List.mem_range'_1.mp (h.perm.mem_iff.mp
      (List.mem_append_right _ (List.mem_append_left _ (List.mem_flatMap.mpr ⟨t, hm, hy⟩))))
  have k1 := key t.1 (List.mem_range'_1.mpr (by omega))
  have k2 := key (t.1 + t.2 - 1) (List.mem_range'_1.mpr (by omega))
  by_cases hle : r.1 ≤ r.2
  · rw [rangeLen_pos hle] at k2; omega
  · rw [rangeLen, if_neg hle] at k1; omega

theorem received_outside_task (h : Inv ht M r s) {q : Req} (hq : q ∈ s.tasks) {x : Nat}
    (hx : x ∈ s.responses.flatten.map ht) : x < q.1 ∨ q.1 + q.2 ≤ x := by
  have hnd : (heights ht s).Nodup := h.perm.nodup_iff.mpr List.nodup_range'
  have hdis := (List.nodup_append.mp (List.nodup_append.mp hnd).2.1).2.2
  have : x ∉ taskHeights q := fun hxq => hdis x (List.mem_flatMap.mpr ⟨q, hq, hxq⟩) x hx rfl
  rw [taskHeights, List.mem_range'_1] at this
  omega

/-- what `step` does with `Ok(hs)` for task `t` before it decides which request to issue next -/
def answered (s : State α) (t : Req) (hs : List α) : State α :=
  { s with tasks := s.tasks.erase t,
           responses := if 0 < hs.length then s.responses ++ [hs] else s.responses }

theorem step_ok (s : State α) (h a : Nat) (hs : List α) (hr : s.status = .running)
    (hm : (h, a) ∈ s.tasks) :
    step s (.ok h a hs) =
      if hs.length < a then
        if U64_MAX < h + hs.length then { answered s (h, a) hs with status := .panicked }
        else sendRequest (answered s (h, a) hs) (h + hs.length) (a - hs.length)
      else sendNextRequest (answered s (h, a) hs) := by
  unfold step answered
  rw [if_pos ⟨hr, hm⟩]
  by_cases h0 : 0 < hs.length <;> simp only [h0, ↓reduceIte] <;> rfl

/-- a header-ex error acts as an `Ok` with no headers -/
theorem step_err (s : State α) (h a : Nat) (hr : s.status = .running) (hm : (h, a) ∈ s.tasks) :
    step s (.err h a) = sendRequest (answered s (h, a) []) h a := by
  unfold step
  rw [if_pos ⟨hr, hm⟩]
  rfl

theorem step_fatal (s : State α) (h a : Nat) (hr : s.status = .running) (hm : (h, a) ∈ s.tasks) :
    (step s (.fatal h a)).status = .failed := by
  unfold step
  rw [if_pos ⟨hr, hm⟩]

theorem answered_flatten (s : State α) (t : Req) (hs : List α) :
    (answered s t hs).responses.flatten = s.responses.flatten ++ hs := by
  cases hs <;> simp [answered]

theorem count_heights_answered (ht : α → Nat) (hs : List α) {t : Req} (hm : t ∈ s.tasks) (x : Nat) :
    (heights ht (answered s t hs)).count x + (taskHeights t).count x
      = (heights ht s).count x + (hs.map ht).count x := by
  rw [count_heights, count_heights, answered_flatten, count_tasks_erase _ t hm, List.map_append,
    List.count_append]
  simp only [answered]
  omega

theorem spans_answered (h : Inv ht M r s) (t : Req) {hs : List α} {k : Nat}
    (hpre : hs.map ht = List.range' k hs.length) :
    ∀ sp ∈ (answered s t hs).responses, sp ≠ [] ∧ ∃ h, sp.map ht = List.range' h sp.length := by
  intro sp hsp
  simp only [answered] at hsp
  split at hsp
  · rcases List.mem_append.mp hsp with hsp | hsp
    · exact h.spans sp hsp
    · obtain rfl := List.mem_singleton.mp hsp
      exact ⟨List.ne_nil_of_length_pos ‹_›, k, hpre⟩
  · exact h.spans sp hsp

theorem inv_reschedule (h : Inv ht M r s) (hf : Full n s) {k a : Nat} {hs : List α}
    (hm : (k, a) ∈ s.tasks) (hlt : hs.length < a) (hpre : hs.map ht = List.range' k hs.length) :
    Inv ht M r (sendRequest (answered s (k, a) hs) (k + hs.length) (a - hs.length)) ∧
    Full n (sendRequest (answered s (k, a) hs) (k + hs.length) (a - hs.length)) := by
  have hamt := h.amt _ hm
  refine ⟨⟨h.running, fun x => ?_, ?_, spans_answered h (k, a) hpre, h.bs, h.fetch⟩, fun tf htf => ?_⟩
  · have h1 := count_heights_answered ht hs hm x
    have h2 := congrArg (List.count x) (List.range'_append_1 (s := k) (m := hs.length) (n := a - hs.length))
    rw [List.count_append, Nat.add_sub_cancel' (Nat.le_of_lt hlt)] at h2
    rw [count_heights_sendRequest, ← h.count x]
    simp only [taskHeights, hpre] at h1
    omega
  · refine List.forall_mem_append.mpr ⟨fun t ht => h.amt t (List.mem_of_mem_erase ht), ?_⟩
    simp only [List.forall_mem_singleton]
    omega
  · simp only [sendRequest, answered, List.length_append, List.length_singleton,
      length_erase_add_one hm]
    exact hf tf htf

theorem inv_answered (h : Inv ht M r s) {k : Nat} {hs : List α} (hm : (k, hs.length) ∈ s.tasks)
    (hpre : hs.map ht = List.range' k hs.length) : Inv ht M r (answered s (k, hs.length) hs) := by
  refine ⟨h.running, fun x => ?_, fun t ht => h.amt t (List.mem_of_mem_erase ht),
    spans_answered h (k, hs.length) hpre, h.bs, h.fetch⟩
  have h1 := count_heights_answered ht hs hm x
  rw [← h.count x]
  simp only [taskHeights, hpre] at h1
  omega

theorem inv_step (hr : r.2 ≤ U64_MAX) (ev : Ev α)
    (h : Inv ht M r s) (hf : Full n s) (hadm : AdmissibleEv ht s ev) :
    Inv ht M r (step s ev) ∧ Full n (step s ev) := by
  cases ev with
  | fatal k a => exact hadm.elim
  | err k a =>
    rw [step_err s k a h.running hadm]
    exact inv_reschedule h hf (hs := []) hadm (h.amt _ hadm).1 rfl
  | ok k a hs =>
    obtain ⟨hm, hlen, hpre⟩ := hadm
    have hin := task_in_range h hm
    rw [step_ok s k a hs h.running hm]
    by_cases hk : hs.length < a
    · rw [if_pos hk, if_neg (by simp only at hin; omega)]
      exact inv_reschedule h hf hm hk hpre
    · rw [if_neg hk]
      obtain rfl : hs.length = a := Nat.le_antisymm hlen (Nat.not_lt.mp hk)
      have hmid := inv_answered h hm hpre
      refine ⟨inv_sendNextRequest hmid, full_sendNextRequest n _ hmid.bs.1 hmid.fetch fun tf htf => ?_⟩
      rw [← hf tf htf]
      exact length_erase_add_one hm

theorem step_ok_flatten (s : State α) (h a : Nat) (hs : List α) (hr : s.status = .running)
    (hm : (h, a) ∈ s.tasks) :
    (step s (.ok h a hs)).responses.flatten = s.responses.flatten ++ hs := by
  rw [step_ok s h a hs hr hm]
  by_cases hk : hs.length < a
  · rw [if_pos hk]
    split <;> exact answered_flatten s (h, a) hs
  · rw [if_neg hk, sendNextRequest_responses]; exact answered_flatten s (h, a) hs

theorem run_of_not_running (evs : List (Ev α)) (h : s.status ≠ .running) : run s evs = s := by
  induction evs with
  | nil => rfl
  | cons ev evs ih => rwa [run, List.foldl_cons, show step s ev = s by simp [step, h]]

/-- admissibility of a whole schedule, checked against the evolving state -/
def Admissible (ht : α → Nat) : State α → List (Ev α) → Prop
  | _, [] => True
  | s, ev :: evs => AdmissibleEv ht s ev ∧ Admissible ht (step s ev) evs

theorem inv_run (hr : r.2 ≤ U64_MAX) (evs : List (Ev α)) :
    ∀ (s : State α), Inv ht M r s → Full n s → Admissible ht s evs →
      Inv ht M r (run s evs) ∧ Full n (run s evs) := by
  induction evs with
  | nil => intro s h hf _; exact ⟨h, hf⟩
  | cons ev evs ih =>
    intro s h hf hadm
    obtain ⟨h1, h2⟩ := inv_step hr ev h hf hadm.1
    exact ih (step s ev) h1 h2 hadm.2

theorem inv_run_init (ht : α → Nat) (c : Cfg) (hc : 1 ≤ c.minAmount ∧ c.minAmount ≤ c.maxAmount)
    (r : Range) (hr : 1 ≤ r.1 ∧ r.1 ≤ r.2 ∧ r.2 ≤ U64_MAX) (evs : List (Ev α))
    (hadm : Admissible ht (init c r) evs) :
    Inv ht c.maxAmount r (run (init c r) evs) ∧ Full c.maxConcurrent (run (init c r) evs) :=
  have h0 := inv_init ht c r hc hr
  inv_run hr.2.2 evs _ h0.1 h0.2 hadm

def SpanLt (ht : α → Nat) (a b : List α) : Prop := ∀ x ∈ a, ∀ y ∈ b, ht x < ht y

theorem spanKey_mem (ht : α → Nat) {sp : List α} (hne : sp ≠ []) : ∃ x ∈ sp, ht x = spanKey ht sp := by
  cases sp with
  | nil => exact absurd rfl hne
  | cons x xs => exact ⟨x, List.mem_cons_self, rfl⟩

theorem spanKey_of_contig {sp : List α} {h : Nat} (hne : sp ≠ [])
    (hc : sp.map ht = List.range' h sp.length) : spanKey ht sp = h := by
  cases sp with
  | nil => exact absurd rfl hne
  | cons x xs => exact (List.cons.inj hc).1

theorem mem_contig {sp : List α} {h : Nat} (hc : sp.map ht = List.range' h sp.length)
    {x : α} (hx : x ∈ sp) : h ≤ ht x ∧ ht x < h + sp.length :=
  List.mem_range'_1.mp (hc ▸ List.mem_map_of_mem hx)

/-- two contiguous spans without a common height lie in the order of their keys: the key of `b`
    is a height of `b`, so it is not inside `a`'s interval, so it is above it -/
theorem spanLt_of_key_le {a b : List α} {ka kb : Nat} (hane : a ≠ []) (hbne : b ≠ [])
    (ha : a.map ht = List.range' ka a.length) (hb : b.map ht = List.range' kb b.length)
    (hle : spanKey ht a ≤ spanKey ht b) (hdisj : ∀ x ∈ a, ∀ y ∈ b, ht x ≠ ht y) : SpanLt ht a b := by
  obtain ⟨b0, hb0, hkb⟩ := spanKey_mem ht hbne
  rw [spanKey_of_contig hane ha, spanKey_of_contig hbne hb] at hle
  rw [spanKey_of_contig hbne hb] at hkb
  intro x hx y hy
  have hxa := mem_contig ha hx
  have hyb := mem_contig hb hy
  have : ¬ kb < ka + a.length := fun hin => by
    have : kb ∈ a.map ht := ha ▸ List.mem_range'_1.mpr ⟨hle, hin⟩
    obtain ⟨z, hz, hzk⟩ := List.mem_map.mp this
    exact hdisj z hz b0 hb0 (hzk.trans hkb.symm)
  omega

theorem insertSpan_isInsert (ht : α → Nat) :
    IsInsert (fun a b => spanKey ht a ≤ spanKey ht b) Never (insertSpan ht) :=
  ⟨fun _ => rfl, fun _ _ _ => rfl⟩

theorem sortSpans_eq (ht : α → Nat) : ∀ l, sortSpans ht l = l.foldr (insertSpan ht) []
  | [] => rfl
  | x :: xs => congrArg (insertSpan ht x) (sortSpans_eq ht xs)

theorem sortSpans_perm (ht : α → Nat) (l : List (List α)) : (sortSpans ht l).Perm l :=
  sortSpans_eq ht l ▸ (insertSpan_isInsert ht).foldr_perm l

theorem sortSpans_sorted (ht : α → Nat) (l : List (List α)) :
    (sortSpans ht l).Pairwise (fun a b => spanKey ht a ≤ spanKey ht b) :=
  sortSpans_eq ht l ▸ (insertSpan_isInsert ht).foldr_sorted (fun _ _ h => h)
    (fun _ _ h _ => Nat.le_of_not_le h) (fun _ _ _ => Nat.le_trans) l

/-- the final sort + flatten yields the range, ascending -/
theorem result_eq (h : Inv ht M r s) (hf : Full n s) (hn : 0 < n) (hdone : s.tasks = []) :
    (result ht s).map ht = List.range' r.1 (rangeLen r) := by
  have hsort := sortSpans_perm ht s.responses
  -- counting: the flattened heights are a permutation of the range
  have hperm : ((result ht s).map ht).Perm (List.range' r.1 (rangeLen r)) := by
    have := h.perm
    rw [heights, hdone, hf.toFetch_none hn hdone] at this
    exact ((hsort.flatten).map ht).trans this
  have hspans : ∀ sp ∈ sortSpans ht s.responses,
      sp ≠ [] ∧ ∃ k, sp.map ht = List.range' k sp.length :=
    fun sp hsp => h.spans sp (hsort.mem_iff.mp hsp)
  have hnodup : (((sortSpans ht s.responses).flatten).map ht).Nodup :=
    hperm.nodup_iff.mpr List.nodup_range'
  rw [List.Nodup, List.pairwise_map, List.pairwise_flatten] at hnodup
  refine List.Perm.eq_of_pairwise (le := (· < ·)) (by intro a b _ _ h1 h2; omega) ?_
    List.pairwise_lt_range' hperm
  show (((sortSpans ht s.responses).flatten).map ht).Pairwise (· < ·)
  rw [List.pairwise_map, List.pairwise_flatten]
  refine ⟨fun sp hsp => ?_, ((sortSpans_sorted ht _).and hnodup.2).imp_of_mem ?_⟩
  · obtain ⟨_, k, hk⟩ := hspans sp hsp
    exact List.pairwise_map.mp (hk ▸ List.pairwise_lt_range')
  · intro a b ha hb ⟨hle, hne⟩
    obtain ⟨hane, ka, hka⟩ := hspans a ha
    obtain ⟨hbne, kb, hkb⟩ := hspans b hb
    exact spanLt_of_key_le hane hbne hka hkb hle hne

theorem result_perm (ht : α → Nat) (s : State α) : (result ht s).Perm s.responses.flatten :=
  (sortSpans_perm ht _).flatten

instance (ht : α → Nat) [DecidableEq α] (s : State α) (ev : Ev α) : Decidable (AdmissibleEv ht s ev) := by
  cases ev <;> simp only [AdmissibleEv] <;> infer_instance

instance instDecidableAdmissible (ht : α → Nat) [DecidableEq α] :
    (s : State α) → (evs : List (Ev α)) → Decidable (Admissible ht s evs)
  | _, [] => isTrue trivial
  | s, ev :: evs =>
    have := instDecidableAdmissible ht (step s ev) evs
    inferInstanceAs (Decidable (AdmissibleEv ht s ev ∧ Admissible ht (step s ev) evs))

/-- number of heights not yet received -/
def remaining (s : State α) : Nat :=
  (fetchHeights s.toFetch).length + (s.tasks.map (·.2)).sum

theorem sum_erase (ts : List Req) (t : Req) (h : t ∈ ts) :
    (ts.map (·.2)).sum = t.2 + ((ts.erase t).map (·.2)).sum := by
  have := ((List.perm_cons_erase h).map (·.2)).sum_nat
  simpa using this

theorem remaining_sendNextRequest (s : State α) (h1 : 1 ≤ s.batchSize)
    (hne : ∀ r, s.toFetch = some r → r.1 ≤ r.2) :
    remaining (sendNextRequest s) = remaining s := by
  have hlen := congrArg List.length (takeNextBatch_spec s.toFetch s.batchSize h1 hne).1
  rw [List.length_append] at hlen
  rw [sendNextRequest_eq]
  simp only [remaining, List.map_append, List.sum_append, sum_batchReq]
  omega

theorem inv_length (h : Inv ht M r s) : s.responses.flatten.length + remaining s = rangeLen r := by
  have hlen := h.perm.length_eq
  simp only [heights, List.length_append, List.length_map, List.length_range', List.length_flatMap,
    taskHeights] at hlen
  simp only [remaining]
  omega

theorem tasks_nil_iff_remaining (h : Inv ht M r s) (hf : Full n s) (hn : 0 < n) :
    s.tasks = [] ↔ remaining s = 0 := by
  constructor
  · intro h0; simp [remaining, h0, hf.toFetch_none hn h0, fetchHeights]
  · intro h0
    refine List.eq_nil_iff_forall_not_mem.mpr fun t ht => ?_
    have := sum_erase _ t ht
    have := (h.amt t ht).1
    simp only [remaining] at h0
    omega

theorem finished_iff_tasks (hr : s.status = .running) : finished s = true ↔ s.tasks = [] := by
  simp [finished, hr]

end Lumina.Proofs.Session

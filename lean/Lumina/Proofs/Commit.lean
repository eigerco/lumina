/-
  Light and trusting commit verification (C03, used by C01 and C02).

  Both loops of the model are one `tally` over a list of `Step`s.  What the u64 arithmetic and
  the early exit do is proved once (`tally_bound`, `tally_append`); per loop only the steps are
  analysed (`lightSteps`, `trustSteps`); of the three facts C01 needs about single entries of the
  light loop, `lightLoop_congr` is read off the steps, `lightLoop_ok_consumed` and
  `lightLoop_ok_exists` are inductions over the loop itself.  Hypotheses about the entries "at
  positions `idx`, `idx + 1`, …" (`LightValid`, `VotersIn`, `ValidIn`) quantify over
  `ss.zipIdx idx`, so that the step from `s :: ss` to `ss` is `List.forall_mem_cons`.  `light_ok_iff`,
  `trusting_prefix` and `trusting_ok_iff` read the entry points on well-formed input in the vocabulary of Spec/C03.
-/
import Lumina.Model.CommitBridge

namespace Lumina.Proofs.Commit
open Lumina.Model.Commit Lumina.Spec.C03

/-- `t > ⌊n·T / d⌋  ⇔  d·t > n·T`: exceeding the floored threshold IS exceeding the fraction -/
theorem needed_strict (t n T d : Nat) (hd : 0 < d) : n * T / d < t ↔ n * T < d * t := by
  rw [Nat.div_lt_iff_lt_mul hd, Nat.mul_comm t d]

/-- the shapes of the spec's "accepted only if" and "exactly when" checkers -/
theorem imp_spec {A P : Prop} [Decidable A] [Decidable P] (h : A → P) : (!decide A || decide P) = true := by
  by_cases hA : A <;> simp [hA, h]

theorem iff_spec {w : Bool} {A P : Prop} [Decidable A] [Decidable P] (h : w = true → (A ↔ P)) :
    (!w || (decide A == decide P)) = true := by
  cases w <;> simp_all

theorem votingPowerNeeded_ok_iff {n d T x : Nat} :
    votingPowerNeeded n d T = .ok x ↔ 0 < d ∧ n * T < U64_LIMIT ∧ x = n * T / d := by
  unfold votingPowerNeeded
  split
  · simp; omega
  split
  · simp; omega
  · simp only [Except.ok.injEq]; omega

/-- both entry points compute the threshold first and pass its errors through -/
theorem viaNeeded_ok_iff {n d T : Nat} {loop : Nat → Outcome} :
    (match votingPowerNeeded n d T with
      | .error e => Outcome.err e
      | .ok needed => loop needed) = .ok ↔
      0 < d ∧ n * T < U64_LIMIT ∧ loop (n * T / d) = .ok := by
  cases hv : votingPowerNeeded n d T with
  | error e =>
    simp only [reduceCtorEq, false_iff]
    intro h
    have := votingPowerNeeded_ok_iff.mpr ⟨h.1, h.2.1, rfl⟩
    rw [hv] at this
    cases this
  | ok needed =>
    obtain ⟨hd, hT, rfl⟩ := votingPowerNeeded_ok_iff.mp hv
    simp [hd, hT]

theorem viaNeeded_ne_panic {n d T : Nat} {loop : Nat → Outcome} (h : ∀ needed, loop needed ≠ .panic) :
    (match votingPowerNeeded n d T with
      | .error e => Outcome.err e
      | .ok needed => loop needed) ≠ .panic := by
  split
  · simp
  · exact h _

theorem verifyCommitLightTrusting_ok_iff {ok : Nat → Nat → Bool} {n d : Nat} {vs : ValSet} {sigs : List CSig} :
    verifyCommitLightTrusting ok n d vs sigs = .ok ↔
      0 < d ∧ n * vs.total < U64_LIMIT ∧ trustLoop ok (n * vs.total / d) vs.vals 0 [] 0 sigs = .ok :=
  viaNeeded_ok_iff

theorem verifyCommitLight_ok_iff {ok : Nat → Nat → Bool} {n d : Nat} {vs : ValSet} {h ch : Nat} {sigs : List CSig} :
    verifyCommitLight ok n d vs h ch sigs = .ok ↔
      vs.vals.length = sigs.length ∧ h = ch ∧ 0 < d ∧ n * vs.total < U64_LIMIT ∧
        lightLoop ok (n * vs.total / d) 0 0 vs.vals sigs = .ok := by
  unfold verifyCommitLight
  split
  · simp [*]
  split
  · simp [*]
  · refine viaNeeded_ok_iff.trans ?_; simp_all

/-- what tendermint's `Set::new` establishes, in the form the tallies need: `8 * (i64::MAX / 8) < 2^64` -/
theorem wf_elim {vs : ValSet} (h : vs.wf = true) :
    vs.total = sumPowers vs.vals ∧ 8 * vs.total < U64_LIMIT := by
  simp only [ValSet.wf, Bool.and_eq_true, beq_iff_eq, decide_eq_true_eq] at h
  simp only [MAX_TOTAL_VOTING_POWER] at h
  simp only [U64_LIMIT]
  omega

inductive Step where
  | skip
  | fail (e : Err)
  | vote (p : Nat)

/-- each commit entry is skipped, ends verification with an error, or casts a vote; the tally
    panics when the u64 sum overflows and accepts as soon as it exceeds `needed` -/
def tally (needed : Nat) : Nat → List Step → Outcome
  | t, [] => .err (.notEnough t needed)
  | t, .skip :: l => tally needed t l
  | _, .fail e :: _ => .err e
  | t, .vote p :: l =>
    if t + p ≥ U64_LIMIT then .panic
    else if t + p > needed then .ok
    else tally needed (t + p) l

def votes : List Step → Nat
  | [] => 0
  | .vote p :: l => p + votes l
  | _ :: l => votes l

/-- soundness and overflow-freedom of every tally: whatever bounds the votes bounds the verdict -/
theorem tally_bound (needed B : Nat) (l : List Step) (t : Nat) (h : t + votes l ≤ B) :
    (tally needed t l = .ok → needed < B) ∧ (B < U64_LIMIT → tally needed t l ≠ .panic) := by
  fun_induction tally needed t l <;> simp_all [votes, Nat.add_assoc] <;> omega

theorem tally_append (needed : Nat) (l₂ l₁ : List Step) (t : Nat)
    (hf : ∀ e, Step.fail e ∉ l₁) (hb : t + votes l₁ < U64_LIMIT) (ht : t ≤ needed) :
    tally needed t (l₁ ++ l₂) =
      if needed < t + votes l₁ then .ok else tally needed (t + votes l₁) l₂ := by
  induction l₁ generalizing t with
  | nil => exact (if_neg (by simpa [votes] using ht)).symm
  | cons s l₁ ih =>
    have ih' := fun t => ih t fun e he => hf e (List.mem_cons_of_mem _ he)
    cases s with
    | skip => exact ih' t hb ht
    | fail e => exact absurd (List.mem_cons_self ..) (hf e)
    | vote p =>
      simp only [votes, ← Nat.add_assoc] at hb ⊢
      simp only [List.cons_append, tally]
      rw [if_neg (by omega)]
      by_cases hgt : t + p > needed
      · rw [if_pos hgt, if_pos (by omega)]
      · rw [if_neg hgt, ih' (t + p) hb (by omega)]

theorem sumBelow_succ_shift (n : Nat) (f : Nat → Nat) :
    sumBelow (n + 1) f = f 0 + sumBelow n (fun i => f (i + 1)) := by
  unfold sumBelow
  rw [List.range_succ_eq_map]
  simp [List.map_map, Function.comp_def]

theorem sumBelow_succ_last (n : Nat) (f : Nat → Nat) : sumBelow (n + 1) f = sumBelow n f + f n := by
  unfold sumBelow
  rw [List.range_succ]
  simp

theorem sumBelow_zero (n : Nat) : sumBelow n (fun _ => 0) = 0 := by
  induction n with
  | zero => simp [sumBelow]
  | succ n ih => rw [sumBelow_succ_shift, ih]

theorem sumBelow_congr (n : Nat) (f g : Nat → Nat) (h : ∀ i, i < n → f i = g i) :
    sumBelow n f = sumBelow n g := by
  unfold sumBelow
  congr 1
  apply List.map_congr_left
  intro i hi
  exact h i (List.mem_range.mp hi)

theorem sumBelow_mono (n : Nat) (f g : Nat → Nat) (h : ∀ i, i < n → f i ≤ g i) :
    sumBelow n f ≤ sumBelow n g := by
  induction n with
  | zero => simp [sumBelow]
  | succ n ih =>
    rw [sumBelow_succ_last, sumBelow_succ_last]
    have h1 := ih (fun i hi => h i (by omega))
    have h2 := h n (by omega)
    omega

theorem sumBelow_insert (f : Nat → Nat) (S : List Nat) (vi : Nat) (hvi : vi ∉ S) (n : Nat) :
    sumBelow n (fun i => if i ∈ vi :: S then f i else 0) =
      (if vi < n then f vi else 0) + sumBelow n (fun i => if i ∈ S then f i else 0) := by
  induction n with
  | zero => simp [sumBelow]
  | succ n ih =>
    rw [sumBelow_succ_last, sumBelow_succ_last, ih]
    by_cases hn : n = vi
    · subst hn
      simp [hvi]
      omega
    · have h1 : (n ∈ vi :: S) ↔ n ∈ S := by simp [hn]
      have h2 : (vi < n + 1) ↔ vi < n := by omega
      simp only [h1, h2]
      omega

theorem sumBelow_getD (l : List Nat) : sumBelow l.length (fun i => l.getD i 0) = l.sum := by
  induction l with
  | nil => simp [sumBelow]
  | cons a l ih =>
    rw [List.length_cons, sumBelow_succ_shift]
    simp only [List.getD_cons_zero, List.getD_cons_succ, ih, List.sum_cons]

/-- power of the index-aligned validators whose entry is a commit vote with a signature that verifies -/
def validPow (ok : Nat → Nat → Bool) : Nat → List Validator → List CSig → Nat
  | _, [], _ => 0
  | _, _ :: _, [] => 0
  | idx, v :: vs, s :: ss =>
    (if s.flag = .commit ∧ s.hasSig = true ∧ ok idx idx = true then v.power else 0)
      + validPow ok (idx + 1) vs ss

/-- power of the commit-flag entries -/
def commitPow : List Validator → List CSig → Nat
  | [], _ => 0
  | _ :: _, [] => 0
  | v :: vs, s :: ss => (if s.flag = .commit then v.power else 0) + commitPow vs ss

def lightStep (ok : Nat → Nat → Bool) (idx : Nat) (v : Validator) (s : CSig) : Step :=
  if s.flag = .commit then
    if s.hasSig = false then .fail .noSignature
    else if ok idx idx = false then .fail .sigInvalid
    else .vote v.power
  else .skip

def lightSteps (ok : Nat → Nat → Bool) : Nat → List Validator → List CSig → List Step
  | _, [], _ => []
  | _, _ :: _, [] => []
  | idx, v :: vs, s :: ss => lightStep ok idx v s :: lightSteps ok (idx + 1) vs ss

theorem lightLoop_eq (ok : Nat → Nat → Bool) (needed idx t : Nat) (vs : List Validator) (ss : List CSig) :
    lightLoop ok needed idx t vs ss = tally needed t (lightSteps ok idx vs ss) := by
  fun_induction lightLoop ok needed idx t vs ss <;> simp_all [lightSteps, lightStep, tally]
  rw [if_neg (by omega), if_neg (by omega)]

theorem votes_lightSteps (ok : Nat → Nat → Bool) (idx : Nat) (vs : List Validator) (ss : List CSig) :
    votes (lightSteps ok idx vs ss) = validPow ok idx vs ss := by
  fun_induction validPow ok idx vs ss <;> simp only [lightSteps, votes, lightStep]
  rename_i idx v vs s ss ih
  rw [← ih]
  by_cases hc : s.flag = .commit <;> cases hs : s.hasSig <;> cases ho : ok idx idx <;> simp [hc, votes]

theorem commitPow_le_sum (vs : List Validator) (ss : List CSig) : commitPow vs ss ≤ sumPowers vs := by
  fun_induction commitPow vs ss <;> simp_all [sumPowers] <;> split <;> omega

theorem validPow_le_commitPow (ok : Nat → Nat → Bool) (idx : Nat) (vs : List Validator) (ss : List CSig) :
    validPow ok idx vs ss ≤ commitPow vs ss := by
  fun_induction validPow ok idx vs ss <;> simp only [commitPow, Nat.le_refl]
  split <;> split <;> simp_all <;> omega

theorem lightLoop_bound (ok : Nat → Nat → Bool) (needed idx t : Nat) (vs : List Validator) (ss : List CSig) :
    (lightLoop ok needed idx t vs ss = .ok → needed < t + validPow ok idx vs ss) ∧
    (t + commitPow vs ss < U64_LIMIT → lightLoop ok needed idx t vs ss ≠ .panic) := by
  rw [lightLoop_eq]
  have h := votes_lightSteps ok idx vs ss
  have hle := validPow_le_commitPow ok idx vs ss
  exact ⟨(tally_bound needed _ _ t (by omega)).1, (tally_bound needed _ _ t (by omega)).2⟩

/-- on a set as tendermint builds it the u64 tally of light verification cannot overflow: the
    commit power is at most the set's total, and `8 * total < 2^64` -/
theorem verifyCommitLight_ne_panic (ok : Nat → Nat → Bool) (n d : Nat) (vs : ValSet) (h ch : Nat) (sigs : List CSig)
    (hwf : vs.wf = true) : verifyCommitLight ok n d vs h ch sigs ≠ .panic := by
  have := wf_elim hwf
  have := commitPow_le_sum vs.vals sigs
  unfold verifyCommitLight
  split; · simp
  split; · simp
  exact viaNeeded_ne_panic fun _ => (lightLoop_bound ok _ 0 0 vs.vals sigs).2 (by omega)

/-- every block-commit entry of `ss` (at positions `idx`, `idx + 1`, …) has a signature that verifies
    under the validator at its own position -/
def LightValid (ok : Nat → Nat → Bool) (idx : Nat) (ss : List CSig) : Prop :=
  ∀ p ∈ ss.zipIdx idx, p.1.flag = .commit → p.1.hasSig = true ∧ ok p.2 p.2 = true

theorem lightSteps_valid (ok : Nat → Nat → Bool) (idx : Nat) (vs : List Validator) (ss : List CSig)
    (h : LightValid ok idx ss) :
    (∀ e, Step.fail e ∉ lightSteps ok idx vs ss) ∧ validPow ok idx vs ss = commitPow vs ss := by
  fun_induction lightSteps ok idx vs ss
  case case3 idx v vs s ss ih =>
    obtain ⟨hs, h⟩ := List.forall_mem_cons.mp h
    by_cases hc : s.flag = .commit
    · have hs : s.hasSig = true ∧ ok idx idx = true := hs hc
      simp [lightStep, validPow, commitPow, hc, hs, ih h]
    · simp [lightStep, validPow, commitPow, hc, ih h]
  all_goals simp [validPow, commitPow]

theorem lightLoop_exact (ok : Nat → Nat → Bool) (needed idx t : Nat) (vs : List Validator) (ss : List CSig)
    (h : LightValid ok idx ss) (hb : t + commitPow vs ss < U64_LIMIT) (ht : t ≤ needed) :
    lightLoop ok needed idx t vs ss =
      if needed < t + commitPow vs ss then .ok else .err (.notEnough (t + commitPow vs ss) needed) := by
  obtain ⟨hf, hc⟩ := lightSteps_valid ok idx vs ss h
  rw [← hc, ← votes_lightSteps] at hb ⊢
  have := tally_append needed [] _ t hf hb ht
  rwa [List.append_nil, ← lightLoop_eq] at this

theorem validPow_eq (ok : Nat → Nat → Bool) (vs : List Validator) :
    ∀ (k : Nat) (ss : List CSig),
    validPow ok k vs ss = sumBelow vs.length (fun i =>
      if (((ss.map toEntry).getD i noVote).isCommit && ((ss.map toEntry).getD i noVote).hasSig
          && ok (k + i) (k + i)) = true
      then (vs.map (·.power)).getD i 0 else 0) := by
  induction vs with
  | nil => intro k ss; simp [validPow, sumBelow]
  | cons v vs ih =>
    intro k ss
    cases ss with
    | nil => simp [validPow, noVote, sumBelow_zero]
    | cons s ss =>
      rw [List.length_cons, sumBelow_succ_shift]
      have ih' := ih (k + 1) ss
      simp only [Nat.add_assoc, Nat.add_comm 1] at ih'
      simp only [validPow, ih', List.map_cons, List.getD_cons_zero, List.getD_cons_succ, Nat.add_zero, toEntry]
      congr 1
      by_cases hc : s.flag = .commit <;> simp [hc]

theorem validPowerLight_eq (ok : Nat → Nat → Bool) (vs : ValSet) (h ch : Nat) (sigs : List CSig) :
    validPowerLight (specInput vs h ch sigs) ok = validPow ok 0 vs.vals sigs := by
  rw [validPow_eq]
  simp [validPowerLight, signedLight, specInput, entry, power]

theorem commitPow_eq (vs : List Validator) :
    ∀ (ss : List CSig),
    commitPow vs ss = sumBelow vs.length (fun i =>
      if ((ss.map toEntry).getD i noVote).isCommit = true then (vs.map (·.power)).getD i 0 else 0) := by
  induction vs with
  | nil => intro ss; simp [commitPow, sumBelow]
  | cons v vs ih =>
    intro ss
    cases ss with
    | nil => simp [commitPow, noVote, sumBelow_zero]
    | cons s ss =>
      rw [List.length_cons, sumBelow_succ_shift]
      simp only [commitPow, ih ss, List.map_cons, List.getD_cons_zero, List.getD_cons_succ, toEntry]
      congr 1
      by_cases hc : s.flag = .commit <;> simp [hc]

theorem signingPower_eq (vs : ValSet) (h ch : Nat) (sigs : List CSig) :
    signingPower (specInput vs h ch sigs) = commitPow vs.vals sigs := by
  rw [commitPow_eq]
  simp [signingPower, specInput, entry, power]

theorem total_eq (vs : ValSet) (h ch : Nat) (sigs : List CSig) :
    total (specInput vs h ch sigs) = sumPowers vs.vals := by
  simp [total, specInput, sumPowers]

theorem lightLoop_ok_consumed (ok : Nat → Nat → Bool) (needed : Nat) (vs : List Validator) :
    ∀ (idx t : Nat) (ss : List CSig) (k : Nat) (hk : k < ss.length),
      lightLoop ok needed idx t vs ss = .ok → k < vs.length → ss[k].flag = .commit →
      t + commitPow (vs.take k) (ss.take k) ≤ needed →
      ss[k].hasSig = true ∧ ok (idx + k) (idx + k) = true := by
  intro idx t ss
  fun_induction lightLoop ok needed idx t vs ss <;> intro k hk hacc hkv hflag hpre
  case case1 => simp at hkv
  case case2 => simp at hk
  case case3 | case4 | case5 => cases hacc
  case case6 =>
    cases k with
    | zero => simp_all
    | succ k => simp [commitPow, *] at hpre; omega
  case case7 ih | case8 ih =>
    cases k with
    | zero => simp_all
    | succ k =>
      have := ih k (by simpa using hk) hacc (by simpa using hkv) (by simpa using hflag)
        (by simp [commitPow, *] at hpre; omega)
      simpa [Nat.add_assoc, Nat.add_comm 1] using this

/-- an accepted commit has a first block-commit entry (nothing tallied before it) -/
theorem lightLoop_ok_exists (ok : Nat → Nat → Bool) (needed : Nat) (vs : List Validator) :
    ∀ (idx t : Nat) (ss : List CSig), lightLoop ok needed idx t vs ss = .ok →
      ∃ (k : Nat) (hk : k < ss.length), k < vs.length ∧ ss[k].flag = .commit ∧
        commitPow (vs.take k) (ss.take k) = 0 := by
  intro idx t ss
  fun_induction lightLoop ok needed idx t vs ss <;> intro hacc
  case case1 | case2 | case3 | case4 | case5 => cases hacc
  case case6 | case7 => exact ⟨0, by simp, by simp, by simpa, by simp [commitPow]⟩
  case case8 hc ih =>
    obtain ⟨k, hk, hkv, hflag, hpre⟩ := ih hacc
    exact ⟨k + 1, by simpa using hk, by simpa using hkv, by simpa using hflag, by simp [commitPow, hc, hpre]⟩

theorem lightLoop_congr (ok : Nat → Nat → Bool) (needed : Nat) (vs : List Validator) (idx t : Nat)
    (ss ss' : List CSig) (h : ss'.map (fun a => (a.flag, a.hasSig)) = ss.map (fun a => (a.flag, a.hasSig))) :
    lightLoop ok needed idx t vs ss' = lightLoop ok needed idx t vs ss := by
  rw [lightLoop_eq, lightLoop_eq]
  congr 1
  fun_induction lightSteps ok idx vs ss generalizing ss' <;> cases ss' <;> simp_all [lightSteps, lightStep]

theorem commitPow_take_eq (vs : List Validator) (ss : List CSig) (k : Nat)
    (hkv : k ≤ vs.length) :
    commitPow (vs.take k) (ss.take k) = sumBelow k (fun i =>
      if ((ss.map toEntry).getD i noVote).isCommit = true then (vs.map (·.power)).getD i 0 else 0) := by
  rw [commitPow_eq]
  have hl : (vs.take k).length = k := by simp [hkv]
  rw [hl]
  apply sumBelow_congr
  intro i hi
  simp [List.getD_eq_getElem?_getD, hi]

/-- `find_validator` returns the FIRST validator with that address -/
theorem findValidatorFrom_iff (a : Addr) (vals : List Validator) :
    ∀ (k vi : Nat) (v : Validator), findValidatorFrom a k vals = some (vi, v) ↔
      ∃ i, vi = k + i ∧ vals[i]? = some v ∧ v.addr = a ∧
        ∀ m, m < i → ∀ w, vals[m]? = some w → w.addr ≠ a := by
  induction vals with
  | nil => simp [findValidatorFrom]
  | cons x xs ih =>
    intro k vi v
    rw [findValidatorFrom]
    by_cases hx : x.addr = a
    · rw [if_pos hx]
      constructor
      · intro h
        cases h
        exact ⟨0, rfl, rfl, hx, nofun⟩
      · rintro ⟨i, rfl, hv, -, hmin⟩
        cases i with
        | zero => cases hv; rfl
        | succ i => exact absurd hx (hmin 0 (by omega) x rfl)
    · rw [if_neg hx, ih]
      constructor
      · rintro ⟨i, rfl, hv, ha, hmin⟩
        refine ⟨i + 1, by omega, hv, ha, fun m hm w hw => ?_⟩
        cases m with
        | zero => cases hw; exact hx
        | succ m => exact hmin m (by omega) w hw
      · rintro ⟨i, rfl, hv, ha, hmin⟩
        cases i with
        | zero => cases hv; exact absurd ha hx
        | succ i => exact ⟨i, by omega, hv, ha, fun m hm w hw => hmin (m + 1) (by omega) w hw⟩

theorem findValidator_some (vals : List Validator) (a : Addr) (vi : Nat) (v : Validator)
    (h : findValidator vals a = some (vi, v)) : vals[vi]? = some v ∧ v.addr = a := by
  obtain ⟨i, rfl, hv, ha, -⟩ := (findValidatorFrom_iff a vals 0 vi v).mp h
  rw [Nat.zero_add]
  exact ⟨hv, ha⟩

theorem findValidatorFrom_isSome (a : Addr) (vals : List Validator) :
    ∀ k, a ∈ vals.map (·.addr) → ∃ vi v, findValidatorFrom a k vals = some (vi, v) := by
  induction vals with
  | nil => intro k h; simp at h
  | cons x xs ih =>
    intro k h
    rw [findValidatorFrom]
    by_cases hx : x.addr = a
    · exact ⟨k, x, by rw [if_pos hx]⟩
    · rw [if_neg hx]
      apply ih (k + 1)
      simp only [List.map_cons, List.mem_cons] at h
      rcases h with h | h
      · exact absurd h.symm hx
      · exact h

/-- power of the validators whose index is in `S` -/
def seenSum (vals : List Validator) (S : List Nat) : Nat :=
  sumBelow vals.length (fun i => if i ∈ S then (vals.map (·.power)).getD i 0 else 0)

theorem seenSum_cons (vals : List Validator) (S : List Nat) (vi : Nat) (v : Validator)
    (hvi : vi ∉ S) (hv : vals[vi]? = some v) :
    seenSum vals (vi :: S) = v.power + seenSum vals S := by
  unfold seenSum
  rw [sumBelow_insert _ S vi hvi]
  rcases List.getElem?_eq_some_iff.mp hv with ⟨hlt, hget⟩
  simp [hlt, hget]

theorem seenSum_le (vals : List Validator) (S : List Nat) (P : Nat → Bool)
    (hP : ∀ i ∈ S, P i = true) :
    seenSum vals S ≤ sumBelow vals.length (fun i => if P i = true then (vals.map (·.power)).getD i 0 else 0) := by
  apply sumBelow_mono
  intro i _
  by_cases hi : i ∈ S
  · simp [hi, hP i hi]
  · simp [hi]

theorem sumBelow_powers (vals : List Validator) :
    sumBelow vals.length (fun i => (vals.map (·.power)).getD i 0) = sumPowers vals := by
  have := sumBelow_getD (vals.map (·.power))
  rwa [List.length_map] at this

theorem seenSum_le_sumPowers (vals : List Validator) (S : List Nat) : seenSum vals S ≤ sumPowers vals := by
  have := seenSum_le vals S (fun _ => true) (fun _ _ => rfl)
  simpa only [if_true, sumBelow_powers] using this

def trustSteps (ok : Nat → Nat → Bool) (vals : List Validator) : Nat → List Nat → List CSig → List Step
  | _, _, [] => []
  | idx, seen, s :: ss =>
    if s.flag = .commit then
      if s.hasSig = false then [.fail .noSignature]
      else match findValidator vals s.addr with
        | none => .skip :: trustSteps ok vals (idx + 1) seen ss
        | some (vi, v) =>
          if seen.contains vi then [.fail .doubleVote]
          else if ok vi idx = false then [.fail .sigInvalid]
          else .vote v.power :: trustSteps ok vals (idx + 1) (vi :: seen) ss
    else .skip :: trustSteps ok vals (idx + 1) seen ss

theorem trustLoop_eq (ok : Nat → Nat → Bool) (needed : Nat) (vals : List Validator) (idx : Nat)
    (seen : List Nat) (t : Nat) (ss : List CSig) :
    trustLoop ok needed vals idx seen t ss = tally needed t (trustSteps ok vals idx seen ss) := by
  fun_induction trustLoop ok needed vals idx seen t ss <;> simp_all [trustSteps, tally]
  rw [if_neg (by omega), if_neg (by omega)]

/-- every entry of `ss` (read at positions `idx`, `idx + 1`, …) whose signature verifies under the
    trusted validator it refers to has that validator in `P` -/
def VotersIn (ok : Nat → Nat → Bool) (vals : List Validator) (P : Nat → Bool) (idx : Nat)
    (ss : List CSig) : Prop :=
  ∀ p ∈ ss.zipIdx idx, p.1.flag = .commit → p.1.hasSig = true →
    ∀ vi v, findValidator vals p.1.addr = some (vi, v) → ok vi p.2 = true → P vi = true

theorem votes_trustSteps_le (ok : Nat → Nat → Bool) (vals : List Validator) (P : Nat → Bool)
    (idx : Nat) (seen : List Nat) (ss : List CSig)
    (hP : VotersIn ok vals P idx ss) (hseen : ∀ vi ∈ seen, P vi = true) :
    seenSum vals seen + votes (trustSteps ok vals idx seen ss) ≤
      sumBelow vals.length (fun i => if P i = true then (vals.map (·.power)).getD i 0 else 0) := by
  fun_induction trustSteps ok vals idx seen ss
  case case1 | case2 | case4 | case5 => exact seenSum_le vals _ P hseen
  case case3 ih | case7 ih => exact ih (List.forall_mem_cons.mp hP).2 hseen
  case case6 idx seen s ss hc hs vi v hf hcont hok ih =>
    obtain ⟨h0, hP⟩ := List.forall_mem_cons.mp hP
    have hvi : P vi = true := h0 hc (by simpa using hs) vi v hf (by simpa using hok)
    have := ih hP (by simpa [hvi] using hseen)
    rw [seenSum_cons vals seen vi v (by simpa using hcont) (findValidator_some vals _ vi v hf).1] at this
    simp only [votes]
    omega

theorem trustLoop_bound (ok : Nat → Nat → Bool) (needed : Nat) (vals : List Validator) (P : Nat → Bool)
    (idx : Nat) (seen : List Nat) (t : Nat) (ss : List CSig)
    (hP : VotersIn ok vals P idx ss) (hseen : ∀ vi ∈ seen, P vi = true) (ht : t ≤ seenSum vals seen) {B : Nat}
    (hB : sumBelow vals.length (fun i => if P i = true then (vals.map (·.power)).getD i 0 else 0) ≤ B) :
    (trustLoop ok needed vals idx seen t ss = .ok → needed < B) ∧
    (B < U64_LIMIT → trustLoop ok needed vals idx seen t ss ≠ .panic) := by
  rw [trustLoop_eq]
  have := votes_trustSteps_le ok vals P idx seen ss hP hseen
  exact tally_bound needed _ _ t (by omega)

/-- the trusted validator (index, info) a block-commit entry refers to -/
def ownerOf (vals : List Validator) (s : CSig) : Option (Nat × Validator) :=
  if s.flag = .commit then findValidator vals s.addr else none

theorem ownerOf_eq_some {vals : List Validator} {s : CSig} {p : Nat × Validator} :
    ownerOf vals s = some p ↔ s.flag = .commit ∧ findValidator vals s.addr = some p := by
  unfold ownerOf
  split <;> simp [*]

/-- indices of the trusted validators the block-commit entries refer to, in commit order -/
def owners (vals : List Validator) (ss : List CSig) : List Nat :=
  ss.filterMap fun s => (ownerOf vals s).map (·.1)

theorem owners_cons (vals : List Validator) (s : CSig) (ss : List CSig) :
    owners vals (s :: ss) =
      match ownerOf vals s with
      | some (vi, _) => vi :: owners vals ss
      | none => owners vals ss := by
  cases h : ownerOf vals s <;> simp [owners, h]

/-- every block-commit entry of `ss` (read at positions `idx`, `idx + 1`, …) has a signature, and it
    verifies under the trusted validator the entry refers to (if any) -/
def ValidIn (ok : Nat → Nat → Bool) (vals : List Validator) (idx : Nat) (ss : List CSig) : Prop :=
  ∀ p ∈ ss.zipIdx idx, p.1.flag = .commit →
    p.1.hasSig = true ∧ ∀ vi v, findValidator vals p.1.addr = some (vi, v) → ok vi p.2 = true

theorem trustSteps_append (ok : Nat → Nat → Bool) (vals : List Validator) (rest pre : List CSig)
    (idx : Nat) (seen : List Nat) (hv : ValidIn ok vals idx pre) (hnd : (owners vals pre ++ seen).Nodup) :
    trustSteps ok vals idx seen (pre ++ rest) =
      trustSteps ok vals idx seen pre ++
        trustSteps ok vals (idx + pre.length) ((owners vals pre).reverse ++ seen) rest ∧
    (∀ e, Step.fail e ∉ trustSteps ok vals idx seen pre) ∧
    seenSum vals seen + votes (trustSteps ok vals idx seen pre) =
      seenSum vals ((owners vals pre).reverse ++ seen) := by
  induction pre generalizing idx seen with
  | nil => simp [trustSteps, votes, owners]
  | cons s pre ih =>
    obtain ⟨hv0, hv2⟩ := List.forall_mem_cons.mp hv
    have hidx : idx + (s :: pre).length = idx + 1 + pre.length := by
      simp only [List.length_cons]; omega
    rw [hidx, List.cons_append]
    by_cases hc : s.flag = .commit
    · obtain ⟨hs, hok⟩ := hv0 hc
      dsimp only at hs hok
      cases hf : findValidator vals s.addr with
      | none =>
        have ho : ownerOf vals s = none := by simp [ownerOf, hc, hf]
        simp only [owners_cons, ho] at hnd ⊢
        simpa [trustSteps, hc, hs, hf, votes] using ih (idx + 1) seen hv2 hnd
      | some p =>
        obtain ⟨vi, v⟩ := p
        have ho : ownerOf vals s = some (vi, v) := by simp [ownerOf, hc, hf]
        simp only [owners_cons, ho, List.cons_append] at hnd ⊢
        have hok : ok vi idx = true := hok vi v hf
        have hnot : vi ∉ seen := fun h => (List.nodup_cons.mp hnd).1 (List.mem_append_right _ h)
        have ih' := ih (idx + 1) (vi :: seen) hv2 ((List.pairwise_middle Ne.symm).mpr hnd)
        rw [seenSum_cons vals seen vi v hnot (findValidator_some vals _ vi v hf).1] at ih'
        simpa [trustSteps, hc, hs, hf, hnot, hok, votes, Nat.add_assoc, Nat.add_left_comm] using ih'
    · have ho : ownerOf vals s = none := by simp [ownerOf, hc]
      simp only [owners_cons, ho] at hnd ⊢
      simpa [trustSteps, hc, votes] using ih (idx + 1) seen hv2 hnd

/-- the trusting loop over a prefix without double votes and with valid signatures: it
    accepts as soon as the tally exceeds the threshold, otherwise it arrives at the rest of the
    commit having tallied every trusted signer of the prefix exactly once.  The tally is the
    power of `seen` all along (`hts`), which is also what the spec's trusted signing power sums
    (`trustedSigningPower_eq`). -/
theorem trustLoop_prefix (ok : Nat → Nat → Bool) (needed : Nat) (vals : List Validator) (rest : List CSig)
    (pre : List CSig) (idx : Nat) (seen : List Nat) (t : Nat)
    (hv : ValidIn ok vals idx pre) (hnd : (owners vals pre ++ seen).Nodup) (hts : t = seenSum vals seen)
    (hb : seenSum vals ((owners vals pre).reverse ++ seen) < U64_LIMIT) (ht : t ≤ needed) :
    trustLoop ok needed vals idx seen t (pre ++ rest) =
      if needed < seenSum vals ((owners vals pre).reverse ++ seen) then .ok
      else trustLoop ok needed vals (idx + pre.length) ((owners vals pre).reverse ++ seen)
        (seenSum vals ((owners vals pre).reverse ++ seen)) rest := by
  obtain ⟨happ, hf, hvotes⟩ := trustSteps_append ok vals rest pre idx seen hv hnd
  rw [trustLoop_eq, trustLoop_eq, happ, ← hvotes, ← hts, tally_append needed _ _ t hf (by omega) ht]

/-- a block-commit entry (with a signature) of a trusted validator that was already tallied is
    answered with the "Double vote" ERROR — before its signature is even looked at -/
theorem trustLoop_double (ok : Nat → Nat → Bool) (needed : Nat) (vals : List Validator) (idx : Nat)
    (seen : List Nat) (t : Nat) (d : CSig) (rest : List CSig) (vi : Nat) (v : Validator)
    (hd : d.flag = .commit) (hsig : d.hasSig = true) (hf : findValidator vals d.addr = some (vi, v))
    (hm : vi ∈ seen) : trustLoop ok needed vals idx seen t (d :: rest) = .err .doubleVote := by
  rw [trustLoop, if_pos hd, if_neg (by simp [hsig]), hf]
  simp only
  rw [if_pos (by simpa using hm)]

theorem mem_owners (vals : List Validator) (i : Nat) (ss : List CSig) :
    i ∈ owners vals ss ↔
      ∃ s ∈ ss, s.flag = .commit ∧ ∃ v, findValidator vals s.addr = some (i, v) := by
  simp [owners, ownerOf_eq_some]

theorem isOwner_iff (vs : ValSet) (h ch : Nat) (sigs : List CSig) (i : Nat) (a : Addr) :
    isOwner (specInput vs h ch sigs) i a = true ↔ ∃ v, findValidator vs.vals a = some (i, v) := by
  unfold findValidator
  simp only [findValidatorFrom_iff, Nat.zero_add, exists_eq_left']
  simp only [isOwner, specInput, Bool.and_eq_true, beq_iff_eq, List.all_eq_true, List.mem_range,
    bne_iff_ne, ne_eq, List.getElem?_map, Option.map_eq_some_iff]
  constructor
  · rintro ⟨⟨v, hv, ha⟩, hmin⟩
    exact ⟨v, hv, ha, fun m hm w hw hwa => hmin m hm ⟨w, hw, hwa⟩⟩
  · rintro ⟨v, hv, ha, hmin⟩
    exact ⟨⟨v, hv, ha⟩, fun m hm ⟨w, hw, hwa⟩ => hmin m hm w hw hwa⟩

theorem signerTrusting_iff (vs : ValSet) (h ch : Nat) (sigs : List CSig) (i : Nat) :
    signerTrusting (specInput vs h ch sigs) i = true ↔ i ∈ owners vs.vals sigs := by
  rw [mem_owners]
  simp only [signerTrusting, List.any_eq_true, List.mem_range, Bool.and_eq_true]
  constructor
  · rintro ⟨j, hj, hc, ho⟩
    have hj' : j < sigs.length := by simpa [specInput] using hj
    have he : entry (specInput vs h ch sigs) j = toEntry sigs[j] := by
      simp [entry, specInput, hj']
    rw [he] at hc ho
    refine ⟨sigs[j], List.getElem_mem _, by simpa [toEntry] using hc, ?_⟩
    exact (isOwner_iff vs h ch sigs i _).mp ho
  · rintro ⟨s, hs, hc, ho⟩
    obtain ⟨j, hj, rfl⟩ := List.getElem_of_mem hs
    have he : entry (specInput vs h ch sigs) j = toEntry sigs[j] := by
      simp [entry, specInput, hj]
    refine ⟨j, by simpa [specInput] using hj, ?_, ?_⟩
    · rw [he]; simp [toEntry, hc]
    · rw [he]; exact (isOwner_iff vs h ch sigs i _).mpr ho

/-- the spec's trusted signing power is the power of the owners (in any order, counted once) -/
theorem trustedSigningPower_eq (vs : ValSet) (h ch : Nat) (sigs : List CSig) (S : List Nat)
    (hS : ∀ i, i ∈ S ↔ i ∈ owners vs.vals sigs) :
    trustedSigningPower (specInput vs h ch sigs) = seenSum vs.vals S := by
  unfold trustedSigningPower seenSum
  have hl : (specInput vs h ch sigs).powers.length = vs.vals.length := by simp [specInput]
  rw [hl]
  apply sumBelow_congr
  intro i _
  have hi : signerTrusting (specInput vs h ch sigs) i = true ↔ i ∈ S :=
    (signerTrusting_iff vs h ch sigs i).trans (hS i).symm
  by_cases hm : i ∈ S
  · rw [if_pos hm, if_pos (hi.mpr hm)]; simp [power, specInput]
  · rw [if_neg hm, if_neg (mt hi.mp hm)]

theorem noDoubleVote_pairwise (tr : List UInt8 → Bool) (es : List Entry) (h : noDoubleVote tr es = true) :
    es.Pairwise fun e e' => e.isCommit = true → tr e.addr = true → e'.isCommit = true → e'.addr ≠ e.addr := by
  induction es with
  | nil => exact .nil
  | cons e es ih =>
    simp only [noDoubleVote, Bool.and_eq_true] at h
    refine List.pairwise_cons.mpr ⟨fun e' he' hA hB hC => ?_, ih h.2⟩
    have h1 := h.1
    simp [hA, hB] at h1
    exact (h1 e' he').resolve_left (by simp [hC])

/-- the spec's "no trusted validator is duplicated" makes the owners pairwise distinct: two
    block-commit entries with the same owner carry the same (trusted) address -/
theorem owners_nodup (vals : List Validator) (ss : List CSig)
    (h : noDoubleVote (fun a => (vals.map (·.addr)).contains a) (ss.map toEntry) = true) :
    (owners vals ss).Nodup := by
  refine (List.pairwise_map.mp (noDoubleVote_pairwise _ _ h)).filterMap _ fun s s' hR i hi i' hi' heq => ?_
  subst heq
  simp only [Option.map_eq_some_iff, Prod.exists, exists_and_right, exists_eq_right, ownerOf_eq_some] at hi hi'
  obtain ⟨v, hc, hf⟩ := hi
  obtain ⟨v', hc', hf'⟩ := hi'
  obtain ⟨hv, ha⟩ := findValidator_some vals _ i v hf
  obtain ⟨hv', ha'⟩ := findValidator_some vals _ i v' hf'
  cases hv.symm.trans hv'
  refine hR (by simp [toEntry, hc]) ?_ (by simp [toEntry, hc']) (by simp [toEntry, ← ha, ← ha'])
  simp only [toEntry, List.contains_iff_mem, List.mem_map]
  exact ⟨v, List.mem_of_getElem? hv, ha⟩

theorem wellFormedLight_elim {ok : Nat → Nat → Bool} {vs : ValSet} {h ch : Nat} {sigs : List CSig}
    (hw : wellFormedLight (specInput vs h ch sigs) ok = true) :
    vs.vals.length = sigs.length ∧ h = ch ∧ LightValid ok 0 sigs := by
  simp only [wellFormedLight, Bool.and_eq_true, beq_iff_eq, List.all_eq_true, List.mem_range] at hw
  obtain ⟨⟨hh, hlen⟩, hall⟩ := hw
  refine ⟨by simpa [specInput] using hlen.symm, hh, fun p hp hc => ?_⟩
  obtain ⟨hlt, hp⟩ := List.getElem?_eq_some_iff.mp (List.mem_zipIdx_iff_getElem?.mp hp)
  simpa [specInput, entry, hlt, toEntry, hp, hc] using hall p.2 (by simpa [specInput] using hlt)

theorem wellFormedTrusting_elim {ok : Nat → Nat → Bool} {vs : ValSet} {sigs : List CSig}
    (hw : wellFormedTrusting (specInput vs 0 0 sigs) ok = true) :
    ValidIn ok vs.vals 0 sigs ∧ (owners vs.vals sigs).Nodup := by
  simp only [wellFormedTrusting, Bool.and_eq_true, List.all_eq_true, List.mem_range] at hw
  refine ⟨fun p hp hc => ?_, owners_nodup vs.vals sigs hw.2⟩
  have hp := List.mem_zipIdx_iff_getElem?.mp hp
  have := hw.1 p.2 (by simpa [specInput] using (List.getElem?_eq_some_iff.mp hp).1)
  simp only [specInput, entry, List.getD_eq_getElem?_getD, List.getElem?_map, hp,
    Option.map_some, Option.getD_some, toEntry, hc, decide_true, Bool.not_true, Bool.false_or,
    Bool.and_eq_true, List.all_eq_true, List.mem_range, List.length_map, Bool.or_eq_true,
    Bool.not_eq_true'] at this
  refine ⟨this.1, fun vi v hf => ?_⟩
  have hlt' : vi < vs.vals.length := (List.getElem?_eq_some_iff.mp (findValidator_some _ _ vi v hf).1).1
  have ho := (isOwner_iff vs 0 0 sigs vi p.1.addr).mpr ⟨v, hf⟩
  exact (this.2 vi hlt').resolve_left fun h => Bool.noConfusion (ho.symm.trans h)

theorem light_ok_iff (ok : Nat → Nat → Bool) (n d : Nat) (vs : ValSet) (h ch : Nat) (sigs : List CSig)
    (hwf : vs.wf = true) (hw : wellFormedLight (specInput vs h ch sigs) ok = true) :
    verifyCommitLight ok n d vs h ch sigs = .ok ↔
      0 < d ∧ n * vs.total < U64_LIMIT ∧ n * vs.total < d * signingPower (specInput vs h ch sigs) := by
  obtain ⟨hlen, hh, hav⟩ := wellFormedLight_elim hw
  obtain ⟨hT, hmax⟩ := wf_elim hwf
  have hcp := commitPow_le_sum vs.vals sigs
  rw [verifyCommitLight_ok_iff, signingPower_eq,
    lightLoop_exact ok _ 0 0 vs.vals sigs hav (by omega) (Nat.zero_le _),
    Nat.zero_add]
  constructor
  · rintro ⟨-, -, hd, hlim, hlt⟩
    refine ⟨hd, hlim, (needed_strict _ _ _ _ hd).mp ?_⟩
    split at hlt
    · assumption
    · cases hlt
  · rintro ⟨hd, hlim, hlt⟩
    exact ⟨hlen, hh, hd, hlim, by rw [if_pos ((needed_strict _ _ _ _ hd).mpr hlt)]⟩

/-- what "exactly when" (`rest = []`) and the double-vote theorem (`rest = d :: _`) of C03 share -/
theorem trusting_prefix (ok : Nat → Nat → Bool) (n d : Nat) (vs : ValSet) (pre rest : List CSig)
    (hwf : vs.wf = true) (hpre : wellFormedTrusting (specInput vs 0 0 pre) ok = true) :
    verifyCommitLightTrusting ok n d vs (pre ++ rest) =
      match votingPowerNeeded n d vs.total with
      | .error e => .err e
      | .ok needed =>
        if needed < trustedSigningPower (specInput vs 0 0 pre) then .ok
        else trustLoop ok needed vs.vals pre.length (owners vs.vals pre).reverse
          (trustedSigningPower (specInput vs 0 0 pre)) rest := by
  obtain ⟨hav, hnd⟩ := wellFormedTrusting_elim hpre
  obtain ⟨hT, hmax⟩ := wf_elim hwf
  have hle := seenSum_le_sumPowers vs.vals ((owners vs.vals pre).reverse ++ [])
  unfold verifyCommitLightTrusting
  cases votingPowerNeeded n d vs.total
  · rfl
  · simp only
    rw [trustLoop_prefix ok _ vs.vals rest pre 0 [] 0 hav (by simpa using hnd) (by simp [seenSum, sumBelow_zero])
        (by omega) (Nat.zero_le _),
      trustedSigningPower_eq vs 0 0 pre ((owners vs.vals pre).reverse ++ []) (by simp)]
    simp

theorem trusting_ok_iff (ok : Nat → Nat → Bool) (n d : Nat) (vs : ValSet) (sigs : List CSig)
    (hwf : vs.wf = true) (hw : wellFormedTrusting (specInput vs 0 0 sigs) ok = true) :
    verifyCommitLightTrusting ok n d vs sigs = .ok ↔
      0 < d ∧ n * vs.total < U64_LIMIT ∧ n * vs.total < d * trustedSigningPower (specInput vs 0 0 sigs) := by
  have := trusting_prefix ok n d vs sigs [] hwf hw
  rw [List.append_nil] at this
  rw [this]
  refine viaNeeded_ok_iff.trans ?_
  simp only [trustLoop]
  refine and_congr_right fun hd => and_congr_right fun _ => ?_
  rw [← needed_strict _ _ _ _ hd]
  split <;> simp [*]

theorem trustLoop_ok_validPower (ok : Nat → Nat → Bool) (needed : Nat) (vs : ValSet) (sigs : List CSig)
    (hacc : trustLoop ok needed vs.vals 0 [] 0 sigs = .ok) :
    needed < validPowerTrusting (specInput vs 0 0 sigs) ok := by
  have hP : VotersIn ok vs.vals (signedTrusting (specInput vs 0 0 sigs) ok) 0 sigs := by
    intro p hp hc hs vi v hf hok
    obtain ⟨hv, ha⟩ := findValidator_some vs.vals p.1.addr vi v hf
    have hp := List.mem_zipIdx_iff_getElem?.mp hp
    simp only [signedTrusting, List.any_eq_true, List.mem_range]
    refine ⟨p.2, by simpa [specInput] using (List.getElem?_eq_some_iff.mp hp).1, ?_⟩
    simp [specInput, entry, hp, toEntry, hc, hs, hok, hv, ha]
  refine (trustLoop_bound ok needed vs.vals _ 0 [] 0 sigs hP (by simp) (Nat.zero_le _) ?_).1 hacc
  simp [validPowerTrusting, specInput, power]

/-- each trusted validator is tallied at most once, so the tally stays below the set's total -/
theorem trustLoop_ne_panic (ok : Nat → Nat → Bool) (needed : Nat) (vals : List Validator) (sigs : List CSig)
    (h : sumPowers vals < U64_LIMIT) : trustLoop ok needed vals 0 [] 0 sigs ≠ .panic :=
  (trustLoop_bound ok needed vals (fun _ => true) 0 [] 0 sigs (fun _ _ _ _ _ _ _ _ => rfl) (by simp)
    (Nat.zero_le _) (by simp only [if_true, sumBelow_powers]; exact Nat.le_refl _)).2 h

end Lumina.Proofs.Commit

/-
  The retry pool of the header-ex client (C32: at most three sends, at most one answer, and exactly one unless the caller has gone).  A step acts on every
  record separately (`step_eq`); what it may do to one record is a `Move` (`stepRec_move`; a request made in this
  step is a `Move` of the record `fresh`, `newRec_move`).  The record invariant `RInv`, the agreement of the
  counters with the emitted trace (`TInv`) are proved by cases on `Move`;
  the per-step answer specs of `Spec/C32` and the progress statements need what a step does exactly and unfold `stepRec`.
-/
import Lumina.Model.Retry
import Lumina.Spec.C32
import Lumina.Proofs.Util

namespace Lumina.Proofs.Retry
open Lumina.Model.Retry

/-- per-request invariant -/
structure RInv (r : Rec) : Prop where
  live : r.phase ≠ .done → r.sends + r.triesLeft = 3 ∧ r.answers = 0
  pend : r.phase = .pending → 1 ≤ r.triesLeft
  last : r.phase = .pending → r.triesLeft = 1 → r.kind = .archival
  kinds : r.kind = .any ∨ r.kind = .archival
  sendsLe : r.sends ≤ 3
  answersLe : r.answers ≤ 1
  arch : r.kind = .archival → r.triesLeft ≤ 1
  fin : r.phase = .done → r.closed = true ∨ r.answers = 1

/-- the events that end a request, with the answer each gives: stop, the outcome of the outstanding attempt, and
    the request event itself (answered at once when it cannot be served) -/
def Answers (r : Rec) (ev : Ev) (a : Answer) : Prop :=
  ev = .stop ∧ a = .requestCancelled ∨ (∃ res, ev = .outcome r.id r.sends res ∧ a = answerOf res) ∨ ∃ v, ev = .request v

/-- the moves of one record: how a step can change it, and what it then emits (`stepRec_move`).  What
    holds of a record whatever the event is proved by cases on this. -/
inductive Move (r : Rec) : Ev → Rec × List Out → Prop
  | stay (ev : Ev) : Move r ev (r, [])
  | close : Move r (.close r.id) ({ r with closed := true }, [])
  /-- the caller is gone: the request is dropped without an answer -/
  | drop (ev : Ev) : r.closed = true → Move r ev ({ r with phase := .done }, [])
  | send (peers : List Peer) (choice : Nat → Nat) (p : Peer) : r.phase = .pending → r.closed = false →
      p ∈ peers → kindOk r.kind p = true →
      Move r (.schedule peers choice)
        ({ r with phase := .inflight, triesLeft := r.triesLeft - 1, sends := r.sends + 1 },
         [.sent r.id (r.sends + 1) r.kind (r.triesLeft - 1) p])
  | retry (res : Res) : r.phase = .inflight → canRetry r res = true →
      Move r (.outcome r.id r.sends res) ({ r with phase := .pending, kind := nextKind r }, [])
  | answer (ev : Ev) (a : Answer) : r.phase ≠ .done → r.closed = false → Answers r ev a →
      Move r ev ({ r with phase := .done, answers := r.answers + 1 }, [.answer r.id a])

theorem finish_move (r : Rec) (ev : Ev) (a : Answer) (hd : r.phase ≠ .done) (ha : Answers r ev a) :
    Move r ev (finish r a) := by
  unfold finish
  split
  · exact .drop ev ‹_›
  · exact .answer ev a hd ((Bool.not_eq_true _).mp ‹_›) ha

theorem stepRec_move (ev : Ev) (r : Rec) : Move r ev (stepRec ev r) := by
  cases ev with
  | request v => exact .stay _
  | close id =>
    simp only [stepRec]
    split
    · rename_i h; subst h; exact .close
    · exact .stay _
  | stop =>
    simp only [stepRec]
    split
    · exact .stay _
    · exact finish_move r _ _ ‹_› (.inl ⟨rfl, rfl⟩)
  | schedule peers choice =>
    simp only [stepRec]
    split
    · rename_i hp
      cases hg : (peers.filter (kindOk r.kind))[choice r.id % (peers.filter (kindOk r.kind)).length]? with
      | none => exact .stay _
      | some p =>
        have hm := List.mem_filter.mp (List.mem_of_getElem? hg)
        dsimp only
        split
        · exact .drop _ ‹_›
        · exact .send peers choice p hp ((Bool.not_eq_true _).mp ‹_›) hm.1 hm.2
    · exact .stay _
  | outcome id att res =>
    simp only [stepRec]
    split
    · rename_i hc
      obtain ⟨rfl, hp, rfl⟩ := hc
      cases hr : canRetry r res
      · exact finish_move r _ _ (by rw [hp]; decide) (.inr (.inl ⟨res, rfl, rfl⟩))
      · exact .retry res hp hr
    · exact .stay _

theorem Move.id {r : Rec} {ev : Ev} {x : Rec × List Out} (h : Move r ev x) : x.1.id = r.id := by
  cases h <;> rfl

theorem Move.inv {r : Rec} {ev : Ev} {x : Rec × List Out} (hm : Move r ev x) (h : RInv r) : RInv x.1 := by
  obtain ⟨h1, h2, h3, h4, h5, h6, h7, h8⟩ := h
  cases hm with
  | stay => exact ⟨h1, h2, h3, h4, h5, h6, h7, h8⟩
  | close => exact ⟨h1, h2, h3, h4, h5, h6, h7, fun _ => .inl rfl⟩
  | drop _ hc => exact ⟨nofun, nofun, nofun, h4, h5, h6, h7, fun _ => .inl hc⟩
  | answer _ _ hd _ _ =>
    have := h1 hd
    exact ⟨nofun, nofun, nofun, h4, h5, by simp only; omega, h7, fun _ => .inr (by simp only; omega)⟩
  | send _ _ _ hp _ _ _ =>
    have hl := h1 (by rw [hp]; decide)
    have ht := h2 hp
    exact ⟨fun _ => by simp only; omega, nofun, nofun, h4, by simp only; omega, h6,
      fun hk => by have := h7 hk; simp only; omega, nofun⟩
  | retry res hp hr =>
    -- back to pending, the last try redirected to archival peers
    have hl := h1 (by rw [hp]; decide)
    have ht : r.triesLeft ≠ 0 := by
      intro h0
      simp [canRetry, h0] at hr
    have hk : nextKind r = .any ∨ nextKind r = .archival := by
      unfold nextKind
      split
      · rcases h4 with hk | hk <;> simp [hk]
      · exact h4
    refine ⟨fun _ => hl, fun _ => Nat.pos_of_ne_zero ht, ?_, hk, h5, h6, ?_, nofun⟩
    · intro _ ht1
      simp only at ht1
      simp only [nextKind, ht1, ↓reduceIte]
      rcases h4 with hk | hk <;> simp [hk]
    · simp only [nextKind]
      split
      · intro _; omega
      · exact h7

theorem stepRec_id (ev : Ev) (r : Rec) : (stepRec ev r).1.id = r.id := (stepRec_move ev r).id

/-- state invariant: every record satisfies `RInv`, ids are positions -/
structure SInv (s : State) : Prop where
  recs : ∀ r ∈ s.recs, RInv r
  ids : s.recs.map (·.id) = List.range s.recs.length

/-- what `on_send_request` adds in a step: the new record, and the answer it may get at once -/
def newOf (s : State) : Ev → List Rec × List Out
  | .request v => ([(newRec s v).1], (newRec s v).2)
  | _ => ([], [])

theorem step_eq (s : State) (ev : Ev) :
    (step s ev).1.recs = s.recs.map (fun r => (stepRec ev r).1) ++ (newOf s ev).1 ∧
    (step s ev).2 = s.recs.flatMap (fun r => (stepRec ev r).2) ++ (newOf s ev).2 := by
  cases ev <;> simp [step, newOf, List.map_map, Function.comp_def, List.flatMap_def]

/-- the record `on_send_request` starts from; what it becomes at once is a move of it like any other -/
def fresh (s : State) : Rec :=
  { id := s.recs.length, kind := .any, triesLeft := MAX_TRIES, phase := .pending, closed := false, sends := 0, answers := 0 }

theorem fresh_inv (s : State) : RInv (fresh s) :=
  ⟨fun _ => ⟨rfl, rfl⟩, fun _ => (by decide : 1 ≤ MAX_TRIES), nofun, .inl rfl, Nat.zero_le _, Nat.zero_le _, nofun, nofun⟩

theorem newRec_move (s : State) (v : Bool) : Move (fresh s) (.request v) (newRec s v) := by
  unfold newRec
  dsimp only
  split
  · exact finish_move (fresh s) _ _ nofun (.inr (.inr ⟨v, rfl⟩))
  · split
    · exact finish_move (fresh s) _ _ nofun (.inr (.inr ⟨v, rfl⟩))
    · exact .stay _

theorem newOf_cases (s : State) (ev : Ev) :
    newOf s ev = ([], []) ∨ ∃ v x, ev = .request v ∧ Move (fresh s) ev x ∧ newOf s ev = ([x.1], x.2) := by
  cases ev with
  | request v => exact .inr ⟨v, _, rfl, newRec_move s v, rfl⟩
  | _ => exact .inl rfl

theorem step_inv (s : State) (ev : Ev) (h : SInv s) : SInv (step s ev).1 := by
  obtain ⟨hr, hi⟩ := h
  have hmap : ∀ r ∈ s.recs.map (fun r => (stepRec ev r).1), RInv r := by
    intro r hm
    obtain ⟨r0, hr0, rfl⟩ := List.mem_map.mp hm
    exact (stepRec_move ev r0).inv (hr r0 hr0)
  have hids : (s.recs.map (fun r => (stepRec ev r).1)).map (·.id) = List.range s.recs.length := by
    rw [← hi, List.map_map]
    exact List.map_congr_left (fun r _ => stepRec_id ev r)
  rcases newOf_cases s ev with h0 | ⟨_, x, _, hm, h1⟩
  · have e : (step s ev).1.recs = s.recs.map (fun r => (stepRec ev r).1) := by
      rw [(step_eq s ev).1, h0, List.append_nil]
    exact ⟨e ▸ hmap, by rw [e, hids, List.length_map]⟩
  · have e : (step s ev).1.recs = s.recs.map (fun r => (stepRec ev r).1) ++ [x.1] := by
      rw [(step_eq s ev).1, h1]
    refine ⟨fun y hy => ?_, by rw [e, List.map_append, hids, List.length_append, List.length_map,
      List.length_singleton, List.range_succ, List.map_singleton, hm.id]; rfl⟩
    rw [e] at hy
    exact (List.mem_append.mp hy).elim (hmap y) (fun hy => List.mem_singleton.mp hy ▸ hm.inv (fresh_inv s))

theorem init_inv : SInv init := ⟨fun _ h => (nomatch h), rfl⟩

/-- one step of the trace accumulator used by `run` -/
def acc1 (acc : State × List Out) (ev : Ev) : State × List Out :=
  ((step acc.1 ev).1, acc.2 ++ (step acc.1 ev).2)

theorem run_eq (evs : List Ev) : run evs = evs.foldl acc1 (init, []) := rfl

theorem run_induction (P : State × List Out → Prop) (h0 : P (init, []))
    (hstep : ∀ acc ev, SInv acc.1 → P acc → P (acc1 acc ev)) (evs : List Ev) :
    SInv (run evs).1 ∧ P (run evs) :=
  evs.foldlRecOn (motive := fun acc => SInv acc.1 ∧ P acc) acc1 ⟨init_inv, h0⟩
    fun acc h ev _ => ⟨step_inv _ ev h.1, hstep acc ev h.1 h.2⟩

theorem run_inv (evs : List Ev) : SInv (run evs).1 :=
  (run_induction (fun _ => True) trivial (fun _ _ _ _ => trivial) evs).1

theorem ids_nodup (s : State) (h : SInv s) : (s.recs.map (·.id)).Nodup := by
  rw [h.ids]; exact List.nodup_range

theorem id_lt (s : State) (h : SInv s) (r : Rec) (hr : r ∈ s.recs) : r.id < s.recs.length := by
  have : r.id ∈ s.recs.map (·.id) := List.mem_map_of_mem hr
  rw [h.ids] at this
  exact List.mem_range.mp this

def isSent (i : Nat) : Out → Bool
  | .sent j _ _ _ _ => j == i
  | .answer _ _ => false

def isAnswer (i : Nat) : Out → Bool
  | .sent _ _ _ _ _ => false
  | .answer j _ => j == i

def sendsOf (i : Nat) (outs : List Out) : Nat := outs.countP (isSent i)
def answersOf (i : Nat) (outs : List Out) : Nat := outs.countP (isAnswer i)

theorem finish_counts (r : Rec) (a : Answer) (i : Nat) :
    sendsOf i (finish r a).2 = 0 ∧ (finish r a).1.sends = r.sends ∧
    (if i = r.id then answersOf i (finish r a).2 + r.answers = (finish r a).1.answers
     else answersOf i (finish r a).2 = 0) := by
  unfold finish
  split
  · simp [sendsOf, answersOf]
  · by_cases h : i = r.id
    · subst h; simp [sendsOf, answersOf, isSent, isAnswer]; omega
    · have : (r.id == i) = false := by simp; omega
      simp [sendsOf, answersOf, isSent, isAnswer, h, this]

theorem sendsOf_append (i : Nat) (a b : List Out) : sendsOf i (a ++ b) = sendsOf i a + sendsOf i b :=
  List.countP_append
theorem answersOf_append (i : Nat) (a b : List Out) : answersOf i (a ++ b) = answersOf i a + answersOf i b :=
  List.countP_append

/-- a record only emits outputs about itself, and as many as its counters advance -/
theorem Move.counts {r : Rec} {ev : Ev} {x : Rec × List Out} (h : Move r ev x) (i : Nat) :
    (if r.id = i then sendsOf i x.2 + r.sends = x.1.sends ∧ answersOf i x.2 + r.answers = x.1.answers
     else sendsOf i x.2 = 0 ∧ answersOf i x.2 = 0) := by
  cases h <;> simp only [sendsOf, answersOf, List.countP_cons, List.countP_nil, isSent, isAnswer] <;>
    split <;> simp [*] <;> omega

/-- total of the counter `g` over the records with id `i` (there is at most one) -/
def tally (g : Rec → Nat) (i : Nat) (recs : List Rec) : Nat := ((recs.filter (·.id == i)).map g).sum

theorem tally_cons (g : Rec → Nat) (i : Nat) (r : Rec) (recs : List Rec) :
    tally g i (r :: recs) = (if r.id = i then g r else 0) + tally g i recs := by
  unfold tally
  rw [List.filter_cons]
  split <;> simp_all

theorem tally_append (g : Rec → Nat) (i : Nat) (a b : List Rec) : tally g i (a ++ b) = tally g i a + tally g i b := by
  simp [tally, List.filter_append, List.sum_append]

theorem tally_le (g : Rec → Nat) (i b : Nat) : ∀ recs : List Rec, (recs.map (·.id)).Nodup → (∀ r ∈ recs, g r ≤ b) →
    tally g i recs ≤ b
  | [], _, _ => Nat.zero_le _
  | r :: recs, hnd, hb => by
    rw [List.map_cons, List.nodup_cons] at hnd
    rw [tally_cons]
    have hr := hb r List.mem_cons_self
    split
    · -- the head is the record with id `i`: no other one in the tail
      have h0 : tally g i recs = 0 := by
        unfold tally
        rw [List.filter_eq_nil_iff.mpr]; · rfl
        intro x hx hxi
        exact hnd.1 (List.mem_map.mpr ⟨x, hx, by simpa [‹r.id = i›] using hxi⟩)
      omega
    · have := tally_le g i b recs hnd.2 (fun x hx => hb x (List.mem_cons_of_mem _ hx))
      omega

theorem tally_step (ev : Ev) (i : Nat) : ∀ recs : List Rec,
    sendsOf i (recs.flatMap (fun r => (stepRec ev r).2)) + tally (·.sends) i recs =
      tally (·.sends) i (recs.map (fun r => (stepRec ev r).1)) ∧
    answersOf i (recs.flatMap (fun r => (stepRec ev r).2)) + tally (·.answers) i recs =
      tally (·.answers) i (recs.map (fun r => (stepRec ev r).1))
  | [] => ⟨rfl, rfl⟩
  | r :: recs => by
    have hc := (stepRec_move ev r).counts i
    have ih := tally_step ev i recs
    simp only [List.map_cons, List.flatMap_cons, sendsOf_append, answersOf_append, tally_cons, stepRec_id]
    split <;> simp only [*, ↓reduceIte] at hc <;> omega

/-- trace invariant: for every request id, the sends and answers in the trace are the record's counters -/
def TInv (acc : State × List Out) : Prop :=
  ∀ i, sendsOf i acc.2 = tally (·.sends) i acc.1.recs ∧ answersOf i acc.2 = tally (·.answers) i acc.1.recs

theorem acc1_tinv (acc : State × List Out) (ev : Ev) (ht : TInv acc) : TInv (acc1 acc ev) := by
  intro i
  obtain ⟨hs, ha⟩ := ht i
  obtain ⟨hs', ha'⟩ := tally_step ev i acc.1.recs
  have hnew : sendsOf i (newOf acc.1 ev).2 = tally (·.sends) i (newOf acc.1 ev).1 ∧
      answersOf i (newOf acc.1 ev).2 = tally (·.answers) i (newOf acc.1 ev).1 := by
    rcases newOf_cases acc.1 ev with h0 | ⟨_, x, _, hm, h1⟩
    · rw [h0]; exact ⟨rfl, rfl⟩
    · -- the new record starts with both counters at zero
      have hc := hm.counts i
      have hs0 : (fresh acc.1).sends = 0 := rfl
      have ha0 : (fresh acc.1).answers = 0 := rfl
      rw [h1, tally_cons, tally_cons, hm.id]
      simp only [tally, List.filter_nil, List.map_nil, List.sum_nil, Nat.add_zero]
      split <;> simp only [*, ↓reduceIte, Nat.add_zero] at hc <;> omega
  simp only [acc1, (step_eq acc.1 ev).1, (step_eq acc.1 ev).2, sendsOf_append, answersOf_append, tally_append]
  omega

theorem run_tinv (evs : List Ev) : TInv (run evs) :=
  (run_induction TInv (fun _ => ⟨rfl, rfl⟩) (fun acc ev _ => acc1_tinv acc ev) evs).2

open Lumina.Spec.C32 (Known Sent specSends specAnswers specScheduleProgress specStopProgress)

def knownOf (r : Rec) : Known :=
  { id := r.id, sends := r.sends, answered := decide (1 ≤ r.answers), closed := r.closed,
    waiting := r.phase == .pending, inflight := r.phase == .inflight }

def sentOf : Out → Option Sent
  | .sent id _ _ _ p => some { id := id, toConnected := p.connected, toArchival := p.archival }
  | .answer _ _ => none

def answeredOf : Out → Option Nat
  | .sent _ _ _ _ _ => none
  | .answer id _ => some id

/-- what is known before the step (a request made in this very step is known with zero counts) -/
def knownFor (s : State) (ev : Ev) : List Known :=
  s.recs.map knownOf ++
    (match ev with
     | .request _ => [{ id := s.recs.length, sends := 0, answered := false, closed := false, waiting := false, inflight := false }]
     | _ => [])

theorem step_filterMap {β} (φ : Out → Option β) (s : State) (ev : Ev) :
    (step s ev).2.filterMap φ =
      s.recs.flatMap (fun r => (stepRec ev r).2.filterMap φ) ++ (newOf s ev).2.filterMap φ := by
  rw [(step_eq s ev).2, List.filterMap_append, List.filterMap_flatMap]

theorem find_known (recs : List Rec) (tail : List Known) (i : Nat) :
    (recs.map knownOf ++ tail).find? (fun k => k.id == i) =
      ((recs.find? (fun r => r.id == i)).map knownOf).or (tail.find? (fun k => k.id == i)) := by
  rw [List.find?_append, List.find?_map]; rfl

theorem find_of_mem {r : Rec} {recs : List Rec} (hnd : (recs.map (·.id)).Nodup) (hr : r ∈ recs) :
    recs.find? (fun x => x.id == r.id) = some r :=
  (Util.find?_key (·.id) recs hnd r.id r).mpr ⟨hr, rfl⟩

theorem find_fresh (s : State) (h : SInv s) : s.recs.find? (fun r => r.id == s.recs.length) = none :=
  List.find?_eq_none.mpr (fun r hr => by have := id_lt s h r hr; simp; omega)

theorem kindOk_connected (k : Kind) (p : Peer) (h : kindOk k p = true) : p.connected = true := by
  cases k <;> simp [kindOk] at h <;> simp [h]

theorem Move.sent {r : Rec} {ev : Ev} {x : Rec × List Out} (hm : Move r ev x) (h : RInv r) :
    x.2.filterMap sentOf = [] ∨
    ∃ y, x.2.filterMap sentOf = [y] ∧ y.id = r.id ∧ r.sends + 1 ≤ 3 ∧ y.toConnected = true ∧
      (r.sends + 1 = 3 → y.toArchival = true) ∧ r.answers = 0 := by
  cases hm with
  | send peers choice p hp _ _ hk =>
    have hl := h.live (by rw [hp]; decide)
    have ht := h.pend hp
    refine .inr ⟨_, rfl, rfl, by omega, kindOk_connected _ _ hk, fun h3 => ?_, hl.2⟩
    -- the third send is the last try, queued for archival peers
    rw [h.last hp (by omega)] at hk
    exact (Bool.and_eq_true _ _ ▸ hk).2
  | _ => exact .inl rfl

theorem Move.answered {r : Rec} {ev : Ev} {x : Rec × List Out} (hm : Move r ev x) (h : RInv r) :
    x.2.filterMap answeredOf = [] ∨ x.2.filterMap answeredOf = [r.id] ∧ r.answers = 0 := by
  cases hm with
  | answer _ _ hd => exact .inr ⟨rfl, (h.live hd).2⟩
  | _ => exact .inl rfl

theorem flatten_sublist_ids (g : Rec → List Nat) : ∀ recs : List Rec, (∀ r ∈ recs, g r = [] ∨ g r = [r.id]) →
    (recs.flatMap g).Sublist (recs.map (·.id))
  | [], _ => .slnil
  | r :: recs, h => by
    have ih := flatten_sublist_ids g recs (fun x hx => h x (List.mem_cons_of_mem _ hx))
    rw [List.flatMap_cons, List.map_cons]
    rcases h r List.mem_cons_self with h0 | h1
    · rw [h0]; exact ih.cons _
    · rw [h1]; exact ih.cons_cons _

theorem Move.no_sent {r : Rec} {ev : Ev} {x : Rec × List Out} (hm : Move r ev x)
    (hev : ∀ p c, ev ≠ .schedule p c) : x.2.filterMap sentOf = [] := by
  cases hm <;> first | rfl | exact absurd rfl (hev _ _)

theorem newOf_no_sent (s : State) (ev : Ev) : (newOf s ev).2.filterMap sentOf = [] := by
  rcases newOf_cases s ev with h0 | ⟨_, x, rfl, hm, h1⟩
  · rw [h0]; rfl
  · rw [h1]; exact hm.no_sent nofun

theorem step_sends_spec (s : State) (ev : Ev) (h : SInv s) :
    specSends (knownFor s ev) ((step s ev).2.filterMap sentOf) = true := by
  have hnd := ids_nodup s h
  rw [step_filterMap, newOf_no_sent, List.append_nil]
  unfold specSends
  rw [Bool.and_eq_true, List.all_eq_true, decide_eq_true_eq]
  constructor
  · intro x hx
    obtain ⟨r, hr, hxr⟩ := List.mem_flatMap.mp hx
    rcases (stepRec_move ev r).sent (h.recs r hr) with h0 | ⟨y, h1, hid, h3, hc, ha, hans⟩
    · rw [h0] at hxr; nomatch hxr
    · rw [h1, List.mem_singleton] at hxr
      subst hxr
      unfold knownFor
      rw [hid, find_known, find_of_mem hnd hr]
      simp only [Option.map_some, Option.some_or, knownOf, hans, Bool.and_eq_true, decide_eq_true_eq, hc,
        Bool.or_eq_true, bne_iff_ne, ne_eq, Bool.not_eq_true', decide_eq_false_iff_not]
      exact ⟨⟨⟨h3, trivial⟩, (Decidable.em (r.sends + 1 = 3)).elim (fun e => .inr (ha e)) .inl⟩, by omega⟩
  · rw [List.map_flatMap]
    refine hnd.sublist (flatten_sublist_ids _ s.recs (fun r hr => ?_))
    rcases (stepRec_move ev r).sent (h.recs r hr) with h0 | ⟨y, h1, hid, _⟩
    · left; simp only [h0]; rfl
    · right; simp only [h1, List.map_singleton, hid]

theorem step_answers_spec (s : State) (ev : Ev) (h : SInv s) :
    specAnswers (knownFor s ev) ((step s ev).2.filterMap answeredOf) = true := by
  have hnd := ids_nodup s h
  have hsub := flatten_sublist_ids (fun r => (stepRec ev r).2.filterMap answeredOf) s.recs
    (fun r hr => ((stepRec_move ev r).answered (h.recs r hr)).imp id And.left)
  -- answers of existing records
  have hold : ∀ i ∈ s.recs.flatMap (fun r => (stepRec ev r).2.filterMap answeredOf),
      (match (knownFor s ev).find? (fun k => k.id == i) with
       | none => false
       | some k => !k.answered) = true := by
    intro i hi
    obtain ⟨r, hr, hir⟩ := List.mem_flatMap.mp hi
    rcases (stepRec_move ev r).answered (h.recs r hr) with h0 | ⟨h1, hans⟩
    · rw [h0] at hir; nomatch hir
    · rw [h1, List.mem_singleton] at hir
      subst hir
      unfold knownFor
      rw [find_known, find_of_mem hnd hr]
      simp [knownOf, hans]
  rw [step_filterMap]
  unfold specAnswers
  rw [Bool.and_eq_true, List.all_eq_true, decide_eq_true_eq]
  rcases newOf_cases s ev with h0 | ⟨v, x, rfl, hm, h1⟩
  · rw [h0, List.filterMap_nil, List.append_nil]; exact ⟨hold, hnd.sublist hsub⟩
  have e : (newOf s (.request v)).2 = x.2 := congrArg Prod.snd h1
  rcases hm.answered (fresh_inv s) with h2 | ⟨h2, _⟩
  · rw [e, h2, List.append_nil]; exact ⟨hold, hnd.sublist hsub⟩
  · -- a request answered at once: it is known, unanswered, under the next id
    rw [e, show x.2.filterMap answeredOf = [s.recs.length] from h2]
    have hlt : ∀ i ∈ s.recs.flatMap (fun r => (stepRec (.request v) r).2.filterMap answeredOf),
        i < s.recs.length := by
      intro i hi
      have := hsub.subset hi
      rwa [h.ids, List.mem_range] at this
    constructor
    · intro i hi
      rcases List.mem_append.mp hi with hi | hi
      · exact hold i hi
      · unfold knownFor
        rw [List.mem_singleton.mp hi, find_known, find_fresh s h]
        simp
    · exact List.nodup_append.mpr ⟨hnd.sublist hsub, List.nodup_cons.mpr ⟨List.not_mem_nil, List.nodup_nil⟩, fun a ha b hb =>
        List.mem_singleton.mp hb ▸ Nat.ne_of_lt (hlt a ha)⟩

theorem mem_step_outs (s : State) (ev : Ev) (r : Rec) (hr : r ∈ s.recs) (o : Out) (ho : o ∈ (stepRec ev r).2) :
    o ∈ (step s ev).2 := by
  rw [(step_eq s ev).2]
  exact List.mem_append_left _ (List.mem_flatMap.mpr ⟨r, hr, ho⟩)

theorem schedule_sends_pending (r : Rec) (peers : List Peer) (choice : Nat → Nat)
    (hp : r.phase = .pending) (hc : r.closed = false) (p : Peer) (hpm : p ∈ peers) (hk : kindOk r.kind p = true) :
    ∃ q, stepRec (.schedule peers choice) r =
      ({ r with phase := .inflight, triesLeft := r.triesLeft - 1, sends := r.sends + 1 },
       [.sent r.id (r.sends + 1) r.kind (r.triesLeft - 1) q]) := by
  have hne : 0 < (peers.filter (kindOk r.kind)).length :=
    List.length_pos_of_mem (List.mem_filter.mpr ⟨hpm, hk⟩)
  simp only [stepRec, hp, ↓reduceIte, List.getElem?_eq_getElem (Nat.mod_lt _ hne), hc, Bool.false_eq_true]
  exact ⟨_, rfl⟩

theorem schedule_progress_spec (s : State) (peers : List Peer) (choice : Nat → Nat) (h : SInv s) :
    specScheduleProgress (knownFor s (.schedule peers choice))
      (peers.any (·.connected)) (peers.any (fun p => p.connected && p.archival))
      ((step s (.schedule peers choice)).2.filterMap sentOf) = true := by
  unfold specScheduleProgress knownFor
  simp only [List.append_nil]
  rw [List.all_eq_true]
  intro k hk
  rw [List.mem_map] at hk
  obtain ⟨r, hr, rfl⟩ := hk
  have hi := h.recs r hr
  by_cases hcond : ((knownOf r).waiting && !(knownOf r).closed && !(knownOf r).answered &&
      (if (knownOf r).sends + 1 == 3 then peers.any (fun p => p.connected && p.archival) else peers.any (·.connected))) = true
  · simp only [hcond, Bool.not_true, Bool.false_or]
    simp only [knownOf, Bool.and_eq_true, beq_iff_eq, Bool.not_eq_true', decide_eq_false_iff_not] at hcond
    obtain ⟨⟨⟨hp, hc⟩, _⟩, hpeer⟩ := hcond
    have hl := hi.live (by rw [hp]; simp)
    -- a peer of the required kind: the last try is queued for archival peers, the others for any peer
    have hex : ∃ p ∈ peers, kindOk r.kind p = true := by
      by_cases h3 : r.sends + 1 = 3
      · rw [hi.last hp (by omega)]
        simpa [h3, kindOk] using hpeer
      · rw [hi.kinds.resolve_right (fun hk => by have := hi.arch hk; have := hi.pend hp; omega)]
        simpa [h3, kindOk] using hpeer
    obtain ⟨p, hpm, hkp⟩ := hex
    obtain ⟨q, hq⟩ := schedule_sends_pending r peers choice hp hc p hpm hkp
    rw [List.any_eq_true]
    refine ⟨{ id := r.id, toConnected := q.connected, toArchival := q.archival }, ?_, by simp [knownOf]⟩
    rw [List.mem_filterMap]
    refine ⟨.sent r.id (r.sends + 1) r.kind (r.triesLeft - 1) q, ?_, rfl⟩
    exact mem_step_outs s _ r hr _ (by rw [hq]; exact List.mem_singleton.mpr rfl)
  · have hcond' := (Bool.not_eq_true _).mp hcond
    simp only [hcond', Bool.not_false, Bool.true_or]

/-- at stop every caller that is still there and unanswered is answered -/
theorem stop_progress_spec (s : State) (h : SInv s) :
    specStopProgress (knownFor s .stop) ((step s .stop).2.filterMap answeredOf) = true := by
  unfold specStopProgress knownFor
  simp only [List.append_nil]
  rw [List.all_eq_true]
  intro k hk
  rw [List.mem_map] at hk
  obtain ⟨r, hr, rfl⟩ := hk
  have hi := h.recs r hr
  simp only [knownOf, Bool.or_eq_true, decide_eq_true_eq, List.contains_eq_mem]
  by_cases hd : r.phase = .done
  · rcases hi.fin hd with hc | ha
    · left; right; exact hc
    · left; left; omega
  · by_cases hc : r.closed = true
    · left; right; exact hc
    · right
      rw [List.mem_filterMap]
      refine ⟨.answer r.id .requestCancelled, ?_, rfl⟩
      apply mem_step_outs s .stop r hr
      simp [stepRec, hd, finish, hc]

/-- bounded-progress measure of a request that is still open -/
def pot (r : Rec) : Nat := 2 * r.triesLeft + (if r.phase = .inflight then 1 else 0)

theorem pot_le (r : Rec) (h : RInv r) (hl : r.phase ≠ .done) : pot r ≤ 7 := by
  have := h.live hl
  unfold pot; split <;> omega

theorem schedule_decreases (r : Rec) (peers : List Peer) (choice : Nat → Nat) (hi : RInv r)
    (hp : r.phase = .pending) (hc : r.closed = false) (p : Peer) (hpm : p ∈ peers) (hk : kindOk r.kind p = true) :
    pot (stepRec (.schedule peers choice) r).1 < pot r := by
  obtain ⟨q, hq⟩ := schedule_sends_pending r peers choice hp hc p hpm hk
  have ht := hi.pend hp
  simp only [hq, pot, hp, ↓reduceIte]
  omega

theorem outcome_settles (r : Rec) (res : Res) (hi : RInv r) (hp : r.phase = .inflight) :
    let r' := (stepRec (.outcome r.id r.sends res) r).1
    (r'.phase = .done ∧ (r.closed = false → r'.answers = 1 ∧
        (stepRec (.outcome r.id r.sends res) r).2 = [.answer r.id (answerOf res)])) ∨
    (r'.phase = .pending ∧ pot r' < pot r) := by
  have hl := hi.live (by rw [hp]; simp)
  simp only [stepRec, hp, and_self, ↓reduceIte]
  by_cases hr : canRetry r res = true
  · right
    simp [hr, pot, hp]
  · left
    simp only [hr, Bool.false_eq_true, ↓reduceIte, finish]
    split
    · rename_i hc; simp [hc]
    · simp; omega

open Lumina.Spec.C32 (AnsKind specOutcomeAnswers specRequestAnswers specStopAnswers specQuietStep)

def kindOfAnswer : Answer → AnsKind
  | .ok => .ok | .headerNotFound => .headerNotFound | .invalidResponse => .invalidResponse
  | .invalidRequest => .invalidRequest | .outboundFailure => .outboundFailure | .requestCancelled => .requestCancelled

def answerPairOf : Out → Option (Nat × AnsKind)
  | .sent _ _ _ _ _ => none
  | .answer id a => some (id, kindOfAnswer a)

def resKind (res : Res) : AnsKind := kindOfAnswer (answerOf res)

/-- when only the record with id `i` can emit anything, the step's outputs are that record's -/
theorem flatten_single {β} (f : Rec → List β) (i : Nat) : ∀ (recs : List Rec), (recs.map (·.id)).Nodup →
    (∀ r ∈ recs, r.id ≠ i → f r = []) →
    recs.flatMap f = (match recs.find? (fun r => r.id == i) with | some r => f r | none => [])
  | [], _, _ => rfl
  | x :: xs, hnd, hz => by
    rw [List.map_cons, List.nodup_cons] at hnd
    rw [List.flatMap_cons, List.find?_cons]
    by_cases hx : x.id = i
    · have hrest : xs.flatMap f = [] :=
        List.flatMap_eq_nil_iff.mpr (fun y hy => hz y (List.mem_cons_of_mem _ hy)
          (fun hyi => hnd.1 (List.mem_map.mpr ⟨y, hy, hyi.trans hx.symm⟩)))
      rw [hrest, List.append_nil, beq_iff_eq.mpr hx]
    · rw [hz x List.mem_cons_self hx, beq_false_of_ne hx, List.nil_append]
      exact flatten_single f i xs hnd.2 (fun r hr => hz r (List.mem_cons_of_mem _ hr))

theorem canRetry_eq_false (r : Rec) (res : Res) :
    canRetry r res = false ↔ r.triesLeft = 0 ∨ r.closed = true ∨ res = .ok := by
  unfold canRetry
  cases res <;> simp [Decidable.imp_iff_not_or]

theorem outcome_outs (r : Rec) (id att : Nat) (res : Res) :
    (stepRec (.outcome id att res) r).2 =
      if (r.id = id ∧ r.phase = .inflight ∧ r.sends = att) ∧ canRetry r res = false ∧ r.closed = false
      then [.answer r.id (answerOf res)] else [] := by
  simp only [stepRec, finish]
  by_cases h1 : r.id = id ∧ r.phase = .inflight ∧ r.sends = att
  · cases hr : canRetry r res <;> cases hc : r.closed <;> simp [h1]
  · simp [h1]

/-- the first valid response or the final error -/
theorem outcome_answers_spec (s : State) (id att : Nat) (res : Res) (h : SInv s) :
    specOutcomeAnswers (knownFor s (.outcome id att res)) id
      (match s.recs.find? (fun r => r.id == id) with | some r => att == r.sends | none => false)
      (resKind res) ((step s (.outcome id att res)).2.filterMap answerPairOf) = true := by
  rw [step_filterMap, show (newOf s (.outcome id att res)).2 = [] from rfl, List.filterMap_nil, List.append_nil,
    flatten_single _ id s.recs (ids_nodup s h) (by intro r _ hne; simp [outcome_outs, hne])]
  unfold specOutcomeAnswers knownFor
  rw [find_known, List.find?_nil, Option.or_none]
  cases hf : s.recs.find? (fun r => r.id == id) with
  | none => rfl
  | some r =>
    obtain ⟨hm, hid⟩ := Util.find?_key_some _ hf
    have hi := h.recs r hm
    have hok : (resKind res == AnsKind.ok) = decide (res = .ok) := by cases res <;> rfl
    -- while the attempt is outstanding, the tries are used up exactly at the third send
    have h3 : r.phase = .inflight → (r.triesLeft = 0 ↔ r.sends = 3) := fun hp => by
      have := (hi.live (by rw [hp]; decide)).1
      omega
    simp only [Option.map_some, knownOf, outcome_outs, canRetry_eq_false, hid, hok, true_and]
    have hcond : ((r.phase = .inflight ∧ r.sends = att) ∧ (r.triesLeft = 0 ∨ r.closed = true ∨ res = .ok) ∧
          r.closed = false) ↔
        (att == r.sends && r.phase == Phase.inflight && !r.closed && (decide (res = Res.ok) || r.sends == 3)) = true := by
      simp only [Bool.and_eq_true, Bool.or_eq_true, beq_iff_eq, Bool.not_eq_true', decide_eq_true_eq]
      constructor
      · rintro ⟨⟨hp, ha⟩, hfin, hc⟩
        refine ⟨⟨⟨ha.symm, hp⟩, hc⟩, ?_⟩
        rcases hfin with h0 | hc' | hok
        · exact .inr ((h3 hp).mp h0)
        · rw [hc] at hc'; cases hc'
        · exact .inl hok
      · rintro ⟨⟨⟨ha, hp⟩, hc⟩, hfin⟩
        exact ⟨⟨hp, ha.symm⟩, hfin.elim (fun hok => .inr (.inr hok)) (fun h => .inl ((h3 hp).mpr h)), hc⟩
    simp only [hcond]
    split
    · exact beq_self_eq_true _
    · rfl
/-- a new request is answered at once only after stop (cancelled) or when invalid -/
theorem request_answers_spec (s : State) (v : Bool) :
    specRequestAnswers s.recs.length s.stopped v ((step s (.request v)).2.filterMap answerPairOf) = true := by
  rw [step_filterMap, (List.flatMap_eq_nil_iff
      (f := fun r => (stepRec (.request v) r).2.filterMap answerPairOf)).mpr (fun _ _ => rfl),
    List.nil_append]
  unfold specRequestAnswers newOf newRec finish
  cases hs : s.stopped <;> cases v <;> simp [answerPairOf, kindOfAnswer]

theorem Move.answerPairs {r : Rec} {ev : Ev} {x : Rec × List Out} (hm : Move r ev x) :
    x.2.filterMap answerPairOf = [] ∨
    ∃ a, Answers r ev a ∧ x.2.filterMap answerPairOf = [(r.id, kindOfAnswer a)] := by
  cases hm with
  | answer _ a _ _ ha => exact .inr ⟨a, ha, rfl⟩
  | _ => exact .inl rfl

/-- at stop every answer is `RequestCancelled` (at a scheduling step or when a caller goes away
    nobody is answered: `quiet_steps_spec`) -/
theorem stop_answers_spec (s : State) :
    specStopAnswers ((step s .stop).2.filterMap answerPairOf) = true := by
  rw [step_filterMap, show (newOf s .stop).2 = [] from rfl, List.filterMap_nil, List.append_nil]
  unfold specStopAnswers
  rw [List.all_eq_true]
  intro a ha
  obtain ⟨r, _, har⟩ := List.mem_flatMap.mp ha
  rcases (stepRec_move .stop r).answerPairs with h0 | ⟨_, ⟨_, rfl⟩ | ⟨_, he, _⟩ | ⟨_, he⟩, h1⟩
  · rw [h0] at har; nomatch har
  · rw [h1, List.mem_singleton] at har; rw [har]; rfl
  · nomatch he
  · nomatch he

theorem quiet_steps_spec (s : State) (ev : Ev) (hev : (∃ p c, ev = .schedule p c) ∨ (∃ i, ev = .close i)) :
    specQuietStep ((step s ev).2.filterMap answerPairOf) = true := by
  have hnew : (newOf s ev).2 = [] := by rcases hev with ⟨p, c, rfl⟩ | ⟨i, rfl⟩ <;> rfl
  rw [step_filterMap, hnew, List.flatMap_eq_nil_iff.mpr]
  · rfl
  · intro r _
    refine (stepRec_move ev r).answerPairs.resolve_right fun ⟨_, ha, _⟩ => ?_
    rcases hev with ⟨p, c, rfl⟩ | ⟨i, rfl⟩ <;> rcases ha with ⟨he, _⟩ | ⟨_, he, _⟩ | ⟨_, he⟩ <;> nomatch he

end Lumina.Proofs.Retry

/-
  C07 completeness: an honest proof (at least half of the axis' shares, each with the inclusion proof `Sample::new`
  builds for its own position) of an axis that is NOT a codeword validates.
  Uses `Sample.sample_complete_core` (honest single-leaf proofs verify, incl. lumina's shape check).
-/
import Lumina.Proofs.BefpSound
import Lumina.Proofs.Sample
import Lumina.Proofs.EdsBind

namespace Lumina.Proofs.BefpComplete
open Lumina.Util Lumina.Model.Nmt Lumina.Model.Eds Lumina.Model.EdsCode Lumina.Model.Befp
open Lumina.Model.Decoders (Befp ShareWithProof)
open Lumina.Proofs.Nmt Lumina.Proofs.Eds Lumina.Proofs.EdsCode Lumina.Proofs.EdsExtend Lumina.Proofs.EdsLinear
open Lumina.Proofs.Befp Lumina.Proofs.BefpSound Lumina.Proofs.NmtOrder
open Lumina.Proofs.Sample (ValidSquare sample_complete_core)
open Lumina.Spec.C08 (erase)

/-- the share-with-proof at position `i` is what an honest prover builds: the share of that cell with the inclusion
    proof of `Sample::new` along its proof axis -/
def HonestAt (H : HashFn) (e : Eds) (axis : Axis) (index i : Nat) (s : ShareWithProof) : Prop :=
  ∃ smp, Lumina.Model.Sample.new H e (axisCoord axis index i).1 (axisCoord axis index i).2 s.proofAxis = .ok smp ∧
    s.ns = smp.share.ns ∧ s.share = smp.share.data ∧ s.proof = smp.proof

/-- an honest fraud proof for the header height `hh` against the square `e` -/
structure HonestProof (H : HashFn) (e : Eds) (p : Befp) (hh : Nat) : Prop where
  height : hh = p.height
  index : p.index < e.width
  len : p.shares.length = e.width
  count : e.width / 2 ≤ (p.shares.filter Option.isSome).length
  honest : ∀ i s, p.shares[i]? = some (some s) → HonestAt H e p.axis p.index i s

theorem validSquare_of_newOK {ver : Nat} {X : List Bytes} {e : Eds} (hn : NewOK ver X e) :
    ∃ k, ValidSquare e k := by
  obtain ⟨j, hj1, hj15, hj⟩ := hn.pow
  refine ⟨j, hj, hj1, by omega, ?_, fun sh hsh => (hn.mem_shares hsh).size, fun sh hsh => (hn.mem_shares hsh).ns⟩
  intro r c sh hr hc hsh
  rw [hn.shareAt hr hc] at hsh
  cases hsh
  rfl

theorem honest_share_check {H : HashFn} (hl : HashLen H) {e : Eds} {k : Nat} (hv : ValidSquare e k) {dah : Dah}
    (hd : Dah.ofEds H e = .ok dah) {axis : Axis} {index i : Nat} (hidx : index < e.width) (hi : i < e.width)
    {s : ShareWithProof} (hs : HonestAt H e axis index i s) : ShareChecked Flags.fixed H dah axis index i s := by
  obtain ⟨smp, hnew, hns, hsh, hpf⟩ := hs
  obtain ⟨hr, hc⟩ := axisCoord_lt axis hidx hi
  obtain ⟨s', hnew', _, hver, _⟩ := sample_complete_core hl hv hd _ _ hr hc s.proofAxis
  rw [hnew] at hnew'
  cases hnew'
  have hchk := (Lumina.Proofs.Sample.verify_ok_iff.mp hver).2.2
  rw [(Lumina.Proofs.Sample.new_ok hnew).1] at hchk
  rw [shareChecked_fixed_iff, hns, hsh, hpf]
  exact hchk

theorem verifyShares_honest {H : HashFn} (hl : HashLen H) {e : Eds} {k : Nat} (hv : ValidSquare e k) {dah : Dah}
    (hd : Dah.ofEds H e = .ok dah) {axis : Axis} {index : Nat} (hidx : index < e.width) :
    ∀ (shares : List (Option ShareWithProof)) (i0 : Nat), i0 + shares.length ≤ e.width →
      (∀ m s, shares[m]? = some (some s) → HonestAt H e axis index (i0 + m) s) →
      verifyShares Flags.fixed H dah axis index shares i0 = .ok () := by
  intro shares i0 hlen hh
  refine verifyShares_ok_iff.mpr fun m s hm => honest_share_check hl hv hd hidx ?_ (hh m s hm)
  have := (List.getElem?_eq_some_iff.mp hm).1
  omega

/-- when leopard's `encode` accepts its arguments, all shards have one length, a positive multiple of 64 -/
theorem encodeErr_false_sizes {l : List Bytes} {k : Nat} (h : leopardEncodeErr l k = false) :
    ∃ n, 64 ≤ n ∧ ∀ s ∈ l, s.length = n := by
  unfold leopardEncodeErr at h
  simp only [Bool.if_true_left, Bool.or_eq_false_iff, decide_eq_false_iff_not] at h
  obtain ⟨_, _, _, _, hany, hmod⟩ := h
  refine ⟨shardSize l, ?_, fun s hs => by simpa using List.any_eq_false.mp (Bool.eq_false_iff.mpr hany) s hs⟩
  have : shardSize l % 64 = 0 := by simpa using hmod
  omega

/-- the namespace the loop files the `n`-th leaf under (when it does not bail out) -/
def nsOfLeaf (k index n : Nat) (sh : Bytes) : Bytes :=
  if n < k ∧ index < k then sh.take NS_SIZE else parityNs

def leafNsList (k index : Nat) : List Bytes → Nat → List Bytes
  | [], _ => []
  | sh :: rest, n => nsOfLeaf k index n sh :: leafNsList k index rest (n + 1)

theorem leafNs_fixed (k index n : Nat) {sh : Bytes} (hl : NS_SIZE ≤ sh.length) :
    leafNs Flags.fixed k index n sh = .ok none ∨
      (leafNs Flags.fixed k index n sh = .ok (some (nsOfLeaf k index n sh)) ∧ (nsOfLeaf k index n sh).length = NS_SIZE) := by
  unfold nsOfLeaf
  by_cases hq : n < k ∧ index < k
  · rw [leafNs_data hq hl, if_pos hq]
    cases hf : Lumina.Model.Namespace.fromRaw (sh.take NS_SIZE) with
    | error er => exact Or.inl rfl
    | ok ns =>
      rw [(Lumina.Proofs.Namespace.fromRaw_ok_iff.mp hf).2]
      exact Or.inr ⟨rfl, by rw [List.length_take]; omega⟩
  · rw [leafNs_parity _ hq, if_neg hq]
    exact Or.inr ⟨rfl, by decide⟩

/-- the namespaces the (fixed) loop computes for shares of at least 29 bytes: no panic, and where none is missing
    ("befp is legit") they are `leafNsList`, 29 bytes each -/
theorem leafNs_fixed_all (k index : Nat) : ∀ (full : List Bytes) (n : Nat), (∀ s ∈ full, NS_SIZE ≤ s.length) →
    ∃ os, List.zipWith (leafNs Flags.fixed k index) (List.range' n full.length) full = os.map .ok ∧
      ∀ nss, optAll os = some nss → nss = leafNsList k index full n ∧ nss.length = full.length ∧ ∀ ns ∈ nss, ns.length = NS_SIZE
  | [], _, _ => ⟨[], rfl, fun nss h => by cases h; simp [leafNsList]⟩
  | sh :: rest, n, hsz => by
    obtain ⟨os, h1, h2⟩ := leafNs_fixed_all k index rest (n + 1) fun s hs => hsz s (List.mem_cons_of_mem _ hs)
    rcases leafNs_fixed k index n (hsz sh (by simp)) with hn | ⟨hn, hnl⟩
    · exact ⟨none :: os, by simp [List.range'_succ, hn, h1], nofun⟩
    · refine ⟨some (nsOfLeaf k index n sh) :: os, by simp [List.range'_succ, hn, h1], fun nss h => ?_⟩
      simp only [optAll] at h
      cases ho : optAll os with
      | none => simp [ho] at h
      | some t =>
        obtain ⟨rfl, h3, h4⟩ := h2 t ho
        simp only [ho, Option.some.injEq] at h
        subst h
        exact ⟨rfl, by simp [h3], by simpa using ⟨hnl, h4⟩⟩

theorem reconstructStep_length {C : Codec} (hreclen : ∀ l, (C.recon l).length = l.length) {k : Nat} {rebuilt recd : List Bytes}
    (h : reconstructStep C k rebuilt = some recd) : recd.length = rebuilt.length := by
  unfold reconstructStep at h
  split at h
  · cases h
  · injection h with h; rw [← h]
  · injection h with h; rw [← h, hreclen]

/-- the byte strings hashed by the re-encoding check of `validate` on the rebuilt axis: the leaves of the re-encoded axis
    (under the namespaces the loop assigns) and the inner nodes of its tree -/
def encodingInputs (H : HashFn) (C : Codec) (k index : Nat) (rebuilt : List Bytes) : List Bytes :=
  match reconstructStep C k rebuilt with
  | none => []
  | some recd =>
    ((leafNsList k index (recd.take k ++ C.enc (recd.take k)) 0).zip (recd.take k ++ C.enc (recd.take k))).map
        (fun p => leafInput p.1 p.2) ++
      rootInputs H true
        ((List.zipWith (hashLeaf H) (leafNsList k index (recd.take k ++ C.enc (recd.take k)) 0)
          (recd.take k ++ C.enc (recd.take k))).length + 1)
        (List.zipWith (hashLeaf H) (leafNsList k index (recd.take k ++ C.enc (recd.take k)) 0)
          (recd.take k ++ C.enc (recd.take k)))

/-- **the encoding check accepts ("befp is legit") whenever the committed axis is not a codeword** — whatever the
    rebuilt shares are: what comes out of reconstruct + encode IS a codeword, so its tree cannot have the committed root
    (no collision among the inputs hashed for the committed square and for the re-encoded axis) -/
theorem checkEncoding_noncodeword {H : HashFn} (C : Codec) {ver : Nat} {X : List Bytes} {e : Eds}
    (hn : NewOK ver X e) {dah : Dah} (hd : Dah.ofEds H e = .ok dah) (axis : Axis) {index : Nat} (hidx : index < e.width)
    (rebuilt : List Bytes) (hrl : rebuilt.length = e.width)
    (hk : HashOKOn H (fun y => y ∈ edsInputs H e ++ encodingInputs H C (e.width / 2) index rebuilt))
    (hnc : ¬ IsCodeword C.enc (e.width / 2) (axisData e X axis index))
    (hencsz : ∀ l, (∀ s ∈ l, 64 ≤ s.length) → ∀ s ∈ C.enc l, NS_SIZE ≤ s.length)
    (hreclen : ∀ l, (C.recon l).length = l.length) :
    checkEncoding Flags.fixed H C dah axis index (e.width / 2) rebuilt = .ok () := by
  rw [checkEncoding_ok_iff]
  intro recd hrs hee
  have hrecl : recd.length = e.width := by rw [reconstructStep_length hreclen hrs, hrl]
  obtain ⟨n, hn64, hsizes⟩ := encodeErr_false_sizes hee
  have htk : ∀ s ∈ recd.take (e.width / 2), 64 ≤ s.length := fun s hs => by
    rw [hsizes s (List.mem_of_mem_take hs)]; exact hn64
  generalize hfull' : recd.take (e.width / 2) ++ C.enc (recd.take (e.width / 2)) = full at *
  have hfull : ∀ s ∈ full, NS_SIZE ≤ s.length := by
    intro s hs
    rw [← hfull'] at hs
    rcases List.mem_append.mp hs with h | h
    · have := htk s h; simp only [NS_SIZE]; omega
    · exact hencsz _ htk s h
  -- the loop does not panic; leaves it returns are those of the shares under `leafNsList`, which passed the order check
  obtain ⟨os, hos, hall⟩ := leafNs_fixed_all (e.width / 2) index full 0 hfull
  refine ⟨_, rebuildLeaves_eq _ H _ _ _ os _ _ hos, fun hs hsome => ?_⟩
  obtain ⟨nss, hopt, hif⟩ := Option.bind_eq_some_iff.mp hsome
  obtain ⟨hnss, e2, e3⟩ := hall nss hopt
  obtain ⟨hord, e1⟩ : _ ∧ List.zipWith (hashLeaf H) nss full = hs := by simpa using hif
  -- membership of the hashed inputs
  have hSenc : ∀ y, y ∈ (nss.zip full).map (fun p => leafInput p.1 p.2) ++ rootInputs H true (hs.length + 1) hs →
      y ∈ edsInputs H e ++ encodingInputs H C (e.width / 2) index rebuilt := by
    intro y hy
    apply List.mem_append_right
    unfold encodingInputs
    rw [hrs]
    simp only [hfull', ← hnss, e1]
    exact hy
  -- the committed root of the axis
  obtain ⟨r, hroot, _, hr2⟩ := hn.dahRoot hd axis hidx
  have hzip : hs = (nss.zip full).map (fun p => hashLeaf H p.1 p.2) := by
    rw [← e1, List.map_zip_eq_zipWith]
    rfl
  have hne : nss.zip full ≠ [] := by
    apply List.ne_nil_of_length_pos
    rw [List.length_zip, e2, ← hfull']
    simp only [Nat.min_self, List.length_append, List.length_take]
    have := hn.two_le
    omega
  -- the re-encoded leaves passed `push_leaf`'s order check
  obtain ⟨root', hroot'⟩ : ∃ r, computeRoot H true hs = .ok r :=
    hzip ▸ computeRoot_leaves H true hne
      (by rw [List.map_fst_zip (by rw [e2])]; exact ((pushOrderOk_iff _ _).mp hord).1)
  refine ⟨r, root', hroot, hroot', fun heq => ?_⟩
  subst heq
  -- the committed root binds the re-encoded axis to the committed one
  have hdata := Lumina.Proofs.EdsBind.axis_root_binds hk hn (fun y hy => List.mem_append_left _ hy) axis hidx
    e2 e3
    (fun p hp => hSenc _ (List.mem_append_left _ (List.mem_map.mpr ⟨p, hp, rfl⟩)))
    (fun y hy => hSenc y (List.mem_append_right _ (e1 ▸ hy))) (e1 ▸ hroot') hr2
  -- so the committed axis is `data ++ enc data`
  apply hnc
  have hax' : axisData e X axis index = recd.take (e.width / 2) ++ C.enc (recd.take (e.width / 2)) := by
    rw [hfull']; exact hdata.symm
  have htl : (recd.take (e.width / 2)).length = e.width / 2 := by rw [List.length_take, hrecl]; omega
  have hal := axisData_length e X axis index
  refine ⟨by rw [hal]; exact hn.half.symm, ?_⟩
  rw [hax', List.drop_left' htl, List.take_left' htl]

end Lumina.Proofs.BefpComplete

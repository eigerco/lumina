/-
  Lemmas about the remaining `BlockRanges` operations of `Lumina/Model/Ranges.lean`:
  cardinality / `len`, the abstract value `heights`, a value cut inside one of its ranges (`inv_cut`:
  both sides are `Inv` and the heights split there; `pop_head` / `pop_tail` are its end cases), single
  heights, `head` as the greatest member, `left_of` / `right_of`, `edges`.  (`headn` / `tailn` /
  `partitions` are in `RangesTrunc.lean`.)
-/
import Lumina.Proofs.Ranges

namespace Lumina.Proofs.Ranges
open Lumina.Model.Ranges hiding Inv

open Lumina.Model.Ranges renaming Inv → RInv

attribute [local simp] ok_bind err_bind map_ok map_err pure_eq throw_eq

/-- number of heights of a value (for `Inv` values: the cardinality of the set, see
    `length_heights`, `mem_heights`, `heights_sorted`) -/
def card (rs : Ranges) : Nat := (rs.map (fun r => r.2 + 1 - r.1)).sum

@[simp] theorem card_nil : card [] = 0 := rfl

@[simp] theorem card_cons (r : Range) (rs : Ranges) : card (r :: rs) = (r.2 + 1 - r.1) + card rs := by
  simp [card]

theorem card_append (a b : Ranges) : card (a ++ b) = card a + card b := by
  induction a with
  | nil => simp
  | cons r a ih => simp [ih]; omega

theorem card_concat (a : Ranges) (r : Range) : card (a ++ [r]) = card a + (r.2 + 1 - r.1) := by
  rw [card_append, card_cons, card_nil, Nat.add_zero]

theorem length_heights (rs : Ranges) : (heights rs).length = card rs := by
  induction rs with
  | nil => rfl
  | cons r rs ih =>
    simp only [heights, List.flatMap_cons, List.length_append, List.length_range', card_cons] at ih ⊢
    rw [ih]

theorem heights_cons (x : Range) (rs : Ranges) :
    heights (x :: rs) = List.range' x.1 (x.2 + 1 - x.1) ++ heights rs := by
  simp [heights]

theorem heights_append (a b : Ranges) : heights (a ++ b) = heights a ++ heights b := by
  simp [heights]

theorem heights_singleton (x : Range) : heights [x] = List.range' x.1 (x.2 + 1 - x.1) := by
  simp [heights]

theorem heights_piece (lo hi : Nat) : heights (piece lo hi) = List.range' lo (hi + 1 - lo) := by
  unfold piece
  split
  · exact heights_singleton _
  · rw [show hi + 1 - lo = 0 by omega]; rfl

theorem range'_split {s m e : Nat} (h1 : s ≤ m) (h2 : m ≤ e) :
    List.range' s (e - s) = List.range' s (m - s) ++ List.range' m (e - m) := by
  have := @List.range'_append_1 s (m - s) (e - m)
  rwa [show s + (m - s) = m by omega, show m - s + (e - m) = e - s by omega, eq_comm] at this

/-- an `Inv` value cut inside its range `x`, between the heights `c` and `c + 1` (`c = x.1 - 1` or
    `c = x.2`: at an end of `x`): both parts are `Inv`, and the ascending heights are those of the
    lower part followed by those of the upper part -/
theorem inv_cut {pre rest : Ranges} {x : Range} {c : Nat} (hi : RInv (pre ++ x :: rest))
    (h1 : x.1 ≤ c + 1) (h2 : c ≤ x.2) :
    RInv (pre ++ piece x.1 c) ∧ RInv (piece (c + 1) x.2 ++ rest) ∧
      heights (pre ++ x :: rest) = heights (pre ++ piece x.1 c) ++ heights (piece (c + 1) x.2 ++ rest) := by
  obtain ⟨hp, hxr, hc⟩ := inv_append.1 hi
  obtain ⟨hx, ⟨v1, v2, v3⟩, hr⟩ := inv_cons.1 hxr
  refine ⟨inv_append.2 ⟨hp, inv_piece v1 (by omega), fun a ha b hb => ?_⟩,
    inv_append.2 ⟨inv_piece (by omega) v3, hr, fun a ha b hb => ?_⟩, ?_⟩
  · have := piece_bounds b hb; have := hc a ha x (List.mem_cons_self ..); omega
  · have := piece_bounds a ha; have := hx b hb; omega
  · rw [heights_append, heights_cons, heights_append, heights_append, heights_piece, heights_piece,
      range'_split (m := c + 1) h1 (by omega)]
    simp only [List.append_assoc]

theorem mem_heights (rs : Ranges) (h : Nat) : h ∈ heights rs ↔ mem rs h := by
  simp only [heights, List.mem_flatMap, List.mem_range'_1, mem]
  constructor
  · rintro ⟨r, hr, h1, h2⟩; exact ⟨r, hr, h1, by omega⟩
  · rintro ⟨r, hr, h1, h2⟩; exact ⟨r, hr, h1, by omega⟩

theorem heights_sorted : ∀ {rs : Ranges}, RInv rs → (heights rs).Pairwise (· < ·)
  | [], _ => List.Pairwise.nil
  | r :: rs, hi => by
    obtain ⟨h1, hv, hrs⟩ := inv_cons.1 hi
    have ih := heights_sorted hrs
    rw [heights_cons, List.pairwise_append]
    refine ⟨List.pairwise_lt_range' 1, ih, ?_⟩
    intro a ha b hb
    rw [List.mem_range'_1] at ha
    obtain ⟨x, hx, hx1, hx2⟩ := (mem_heights rs b).1 hb
    have := h1 x hx
    omega

theorem card_between : ∀ {rs : Ranges}, RInv rs → ∀ lo hi, (∀ x, mem rs x → lo ≤ x ∧ x ≤ hi) → lo ≤ hi + 1 →
    lo + card rs ≤ hi + 1
  | [], _, lo, hi, _, h => by simpa using h
  | r :: rs, hinv, lo, hi, hb, _ => by
    have hlo := (hb r.1 (mem_start hinv (List.mem_cons_self ..))).1
    have hhi := (hb r.2 (mem_end hinv (List.mem_cons_self ..))).2
    have ih := card_between (inv_tail hinv) (r.2 + 1) hi (fun x hx =>
      ⟨Nat.le_of_lt (lt_of_mem_tail hinv hx), (hb x ((mem_cons r rs x).2 (Or.inr hx))).2⟩) (by omega)
    have := (inv_cons.1 hinv).2.1.2.1
    rw [card_cons]
    omega

theorem card_bound {rs : Ranges} (hi : RInv rs) (lo : Nat) (hlo : ∀ r ∈ rs, lo ≤ r.1)
    (h : lo ≤ U64_MAX + 1) : lo + card rs ≤ U64_MAX + 1 :=
  card_between hi lo U64_MAX (fun x hx => ⟨by obtain ⟨r, hr, h1, _⟩ := hx; exact Nat.le_trans (hlo r hr) h1,
    (mem_bounds hi hx).2⟩) h

theorem card_le {rs : Ranges} (hi : RInv rs) : card rs ≤ U64_MAX := by
  have := card_bound hi 1 (fun r hr => (inv_validR hi hr).1) (by decide)
  omega

theorem card_eq_zero_iff {rs : Ranges} (hi : RInv rs) : card rs = 0 ↔ rs = [] := by
  cases rs with
  | nil => simp
  | cons r rs =>
    have hv := inv_validR hi (r := r) (by simp)
    unfold ValidR at hv
    simp only [card_cons, reduceCtorEq, iff_false]
    omega

theorem rangeLen_ok {r : Range} (hv : ValidR r) : Range.len r = .ok (r.2 + 1 - r.1) := by
  unfold ValidR at hv
  have h1 : checkedSub r.2 r.1 = some (r.2 - r.1) := by simp [checkedSub, hv.2.1]
  have h2 : r.2 - r.1 + 1 ≤ U64_MAX := by omega
  simp only [Range.len, h1, addU64, h2, ↓reduceIte]
  congr 1; omega

theorem lenGo_spec : ∀ {rs : Ranges} (acc : Nat), (∀ r ∈ rs, ValidR r) → acc + card rs ≤ U64_MAX →
    lenGo acc rs = .ok (acc + card rs)
  | [], acc, _, _ => by simp [lenGo]
  | r :: rs, acc, hv, hb => by
    rw [card_cons] at hb
    have h1 : acc + (r.2 + 1 - r.1) ≤ U64_MAX := by omega
    simp only [lenGo, rangeLen_ok (hv r (by simp)), ok_bind, addU64, h1, ↓reduceIte]
    rw [lenGo_spec _ (fun x hx => hv x (List.mem_cons_of_mem _ hx)) (by omega), card_cons]
    congr 1; omega

theorem len_spec {rs : Ranges} (hi : RInv rs) : len rs = .ok (card rs) := by
  have := lenGo_spec 0 (fun r hr => inv_validR hi hr) (by have := card_le hi; omega)
  simpa [len] using this

theorem contains_false_iff (rs : Ranges) (h : Nat) : contains rs h = false ↔ ¬ mem rs h := by
  rw [← contains_iff_mem]; cases contains rs h <;> simp

theorem contains_eq_of_iff {a : Ranges} {f : Nat → Bool} (h : ∀ x, mem a x ↔ f x = true) :
    (fun x => contains a x) = f := by
  funext x
  cases hf : f x
  · exact (contains_false_iff a x).2 (fun hm => by have := (h x).1 hm; simp [hf] at this)
  · exact (contains_iff_mem a x).2 ((h x).2 hf)

theorem not_mem_zero {rs : Ranges} (hi : RInv rs) : ¬ mem rs 0 := fun hm => by
  have := mem_bounds hi hm; omega

theorem validR_single {h : Nat} (h1 : 1 ≤ h) (h2 : h ≤ U64_MAX) : ValidR (h, h) := ⟨h1, Nat.le_refl _, h2⟩

theorem insertPoint_spec {rs : Ranges} (hi : RInv rs) {h : Nat} (h1 : 1 ≤ h) (h2 : h ≤ U64_MAX) :
    Denotes (insertRelaxed rs (h, h)) fun x => mem rs x ∨ x = h :=
  (insertRelaxed_spec hi (validR_single h1 h2)).congr fun x =>
    or_congr_right ⟨fun ⟨a, b⟩ => Nat.le_antisymm b a, fun e => by omega⟩

theorem removePoint_spec {rs : Ranges} (hi : RInv rs) {h : Nat} (h1 : 1 ≤ h) (h2 : h ≤ U64_MAX) :
    Denotes (removeRelaxed rs (h, h)) fun x => mem rs x ∧ x ≠ h :=
  (removeRelaxed_spec hi (validR_single h1 h2)).congr fun x =>
    and_congr_right fun _ => ⟨fun n e => n (by omega), fun n e => n (by omega)⟩

theorem head_eq_some_iff {rs : Ranges} (hi : RInv rs) {x : Nat} :
    head rs = some x ↔ mem rs x ∧ ∀ h, mem rs h → h ≤ x := by
  constructor
  · exact head_spec hi
  · rintro ⟨hm, hmax⟩
    cases hh : head rs with
    | none => rw [head_eq_none_iff] at hh; subst hh; exact absurd hm (mem_nil x)
    | some y =>
      obtain ⟨hy, hymax⟩ := head_spec hi hh
      have := hmax y hy; have := hymax x hm
      congr 1; omega

theorem head_of_mem {rs : Ranges} (hi : RInv rs) {x : Nat} (hm : mem rs x) : ∃ y, head rs = some y ∧ x ≤ y := by
  cases hh : head rs with
  | none => rw [head_eq_none_iff.1 hh] at hm; exact absurd hm (mem_nil x)
  | some y => exact ⟨y, rfl, (head_spec hi hh).2 x hm⟩

theorem tail_of_mem {rs : Ranges} (hi : RInv rs) {x : Nat} (hm : mem rs x) : ∃ y, tail rs = some y ∧ y ≤ x := by
  cases ht : tail rs with
  | none => rw [tail_eq_none_iff.1 ht] at hm; exact absurd hm (mem_nil x)
  | some y => exact ⟨y, rfl, (tail_spec hi ht).2 x hm⟩

theorem head_insert {rs rs' : Ranges} {r : Range} (hi' : RInv rs') (hi : RInv rs) (hv : ValidR r)
    (hm : ∀ h, mem rs' h ↔ mem rs h ∨ (r.1 ≤ h ∧ h ≤ r.2)) :
    head rs' = some (max r.2 ((head rs).getD 0)) := by
  rw [head_eq_some_iff hi']
  obtain ⟨v1, v2, v3⟩ := hv
  cases hh : head rs with
  | none =>
    obtain rfl := head_eq_none_iff.1 hh
    simp only [Option.getD_none, Nat.max_zero]
    exact ⟨(hm _).2 (Or.inr ⟨v2, Nat.le_refl _⟩), fun x hx => ((hm x).1 hx).elim (absurd · (mem_nil x)) (·.2)⟩
  | some y =>
    obtain ⟨hy, hymax⟩ := head_spec hi hh
    simp only [Option.getD_some]
    refine ⟨?_, ?_⟩
    · by_cases hc : y ≤ r.2
      · rw [Nat.max_eq_left hc]; exact (hm _).2 (Or.inr ⟨v2, Nat.le_refl _⟩)
      · rw [Nat.max_eq_right (by omega)]; exact (hm _).2 (Or.inl hy)
    · intro x hx
      rcases (hm x).1 hx with hx | hx
      · have := hymax x hx; omega
      · omega

theorem popTail_nil : popTail [] = .ok (none, []) := rfl

theorem popTail_heights {r : Range} {rs : Ranges} (hi : RInv (r :: rs)) :
    ∃ rs', popTail (r :: rs) = .ok (some r.1, rs') ∧ RInv rs' ∧
      heights (r :: rs) = r.1 :: heights rs' ∧ card rs' + 1 = card (r :: rs) := by
  have hv := (inv_cons.1 hi).2.1
  have ⟨hv1, hv2, hv3⟩ := hv
  obtain ⟨-, hi', hh⟩ := inv_cut (pre := []) (c := r.1) hi (Nat.le_succ _) hv2
  simp only [List.nil_append, heights_piece, Nat.add_sub_cancel_left, List.range'_one,
    List.singleton_append] at hh
  refine ⟨piece (r.1 + 1) r.2 ++ rs, ?_, hi', hh, ?_⟩
  · have e1 : r.1 + 1 ≤ r.2 → r.1 + 1 ≤ U64_MAX := by omega
    have e2 : r.2 + 1 - r.1 = 1 ↔ ¬ r.1 + 1 ≤ r.2 := by omega
    simp only [popTail, rangeLen_ok hv, ok_bind, beq_iff_eq, e2, piece, addU64]
    by_cases c : r.1 + 1 ≤ r.2 <;> simp [c, e1]
  · have := congrArg List.length hh
    rwa [List.length_cons, length_heights, length_heights, eq_comm] at this

theorem popTail_spec {rs : Ranges} (hi : RInv rs) :
    (rs = [] ∧ popTail rs = .ok (none, [])) ∨
    ∃ x rs', tail rs = some x ∧ popTail rs = .ok (some x, rs') ∧ RInv rs' ∧
      (∀ h, mem rs' h ↔ mem rs h ∧ h ≠ x) ∧ card rs' + 1 = card rs := by
  cases rs with
  | nil => exact Or.inl ⟨rfl, rfl⟩
  | cons r rs =>
    obtain ⟨rs', e, hi', hh, hc⟩ := popTail_heights hi
    have hs := heights_sorted hi
    rw [hh, List.pairwise_cons] at hs
    refine Or.inr ⟨r.1, rs', rfl, e, hi', fun h => ?_, hc⟩
    rw [← mem_heights, ← mem_heights, hh, List.mem_cons]
    exact ⟨fun hm => ⟨Or.inr hm, Nat.ne_of_gt (hs.1 h hm)⟩, fun hm => hm.1.resolve_left hm.2⟩

theorem popHead_nil : popHead [] = .ok (none, []) := rfl

theorem popHead_heights {r : Range} {ys : Ranges} (hi : RInv (ys ++ [r])) :
    ∃ rs', popHead (ys ++ [r]) = .ok (some r.2, rs') ∧ RInv rs' ∧
      heights (ys ++ [r]) = heights rs' ++ [r.2] ∧ card rs' + 1 = card (ys ++ [r]) := by
  have hv : ValidR r := inv_validR hi (by simp)
  have ⟨hv1, hv2, hv3⟩ := hv
  obtain ⟨hi', -, hh⟩ := inv_cut (c := r.2 - 1) hi (by omega) (Nat.sub_le ..)
  simp only [show r.2 - 1 + 1 = r.2 by omega, List.append_nil, heights_piece, Nat.add_sub_cancel_left,
    List.range'_one] at hh
  refine ⟨ys ++ piece r.1 (r.2 - 1), ?_, hi', hh, ?_⟩
  · have e2 : r.2 + 1 - r.1 = 1 ↔ ¬ r.1 ≤ r.2 - 1 := by omega
    have e3 : 1 ≤ r.2 := by omega
    simp only [popHead, List.getLast?_concat, List.dropLast_concat, rangeLen_ok hv, ok_bind,
      beq_iff_eq, e2, piece, subU64, e3]
    by_cases c : r.1 ≤ r.2 - 1 <;> simp [c]
  · have := congrArg List.length hh
    rwa [List.length_append, List.length_singleton, length_heights,
      length_heights, eq_comm] at this

theorem popHead_spec {rs : Ranges} (hi : RInv rs) :
    (rs = [] ∧ popHead rs = .ok (none, [])) ∨
    ∃ x rs', head rs = some x ∧ popHead rs = .ok (some x, rs') ∧ RInv rs' ∧
      (∀ h, mem rs' h ↔ mem rs h ∧ h ≠ x) ∧ card rs' + 1 = card rs := by
  rcases List.eq_nil_or_concat rs with rfl | ⟨ys, r, rfl⟩
  · exact Or.inl ⟨rfl, rfl⟩
  · rw [List.concat_eq_append] at hi ⊢
    obtain ⟨rs', e, hi', hh, hc⟩ := popHead_heights hi
    have hs := heights_sorted hi
    rw [hh, List.pairwise_append] at hs
    refine Or.inr ⟨r.2, rs', by simp [head], e, hi', fun h => ?_, hc⟩
    rw [← mem_heights, ← mem_heights, hh, List.mem_append, List.mem_singleton]
    exact ⟨fun hm => ⟨Or.inl hm, Nat.ne_of_lt (hs.2.2 h hm r.2 (by simp))⟩,
      fun hm => hm.1.resolve_right hm.2⟩

theorem valid_point {h : Nat} (hh : 1 ≤ h) : Range.valid (h, h) = true := by
  rw [valid_iff]; exact ⟨hh, Nat.le_refl _⟩

theorem rightOfGo_spec {h : Nat} (hh : 1 ≤ h) : ∀ {rs : Ranges}, RInv rs →
    ∃ o, rightOfGo h rs = .ok o ∧ (o = none → ∀ x, mem rs x → x ≤ h) ∧
      (∀ y, o = some y → mem rs y ∧ h < y ∧ ∀ x, mem rs x → h < x → y ≤ x)
  | [], _ => ⟨none, rfl, fun _ x hx => absurd hx (mem_nil x), fun y hy => by cases hy⟩
  | r :: rs, hi => by
    obtain ⟨h1, hv, hrs⟩ := inv_cons.1 hi
    have ⟨_, hv2, _⟩ := hv
    have hright := isRightOf_ok hv.valid (valid_point hh)
    by_cases c1 : h < r.1
    · -- `r.1` is the least member
      refine ⟨some r.1, by simp [rightOfGo, hright, c1], (fun hc => nomatch hc), ?_⟩
      rintro y ⟨⟩
      exact ⟨(mem_cons _ _ _).2 (Or.inl ⟨Nat.le_refl _, hv2⟩), c1, fun x hx _ => head_le_of_mem hi hx⟩
    · by_cases c2 : h < r.2
      · -- `h` lies inside `r`, below its end
        refine ⟨some (h + 1), ?_, (fun hc => nomatch hc), ?_⟩
        · simp [rightOfGo, hright, c1, Range.contains, Nat.le_of_not_lt c1, Nat.le_of_lt c2,
            Nat.ne_of_gt c2, addU64, show h + 1 ≤ U64_MAX by omega]
        · rintro y ⟨⟩
          exact ⟨(mem_cons _ _ _).2 (Or.inl ⟨by omega, by omega⟩), Nat.lt_succ_self h, fun x _ hx => hx⟩
      · -- every height of `r` is at most `h`: the answer is that of the tail
        obtain ⟨o, ho, hn, hs⟩ := rightOfGo_spec hh hrs
        have c3 : (Range.contains r h && r.2 != h) = false := by
          simp only [Range.contains, Bool.and_eq_false_iff, decide_eq_false_iff_not,
            bne_eq_false_iff_eq]
          omega
        refine ⟨o, by simp [rightOfGo, hright, c1, c3, ho], fun hc x hx => ?_, fun y hy => ?_⟩
        · rcases (mem_cons _ _ _).1 hx with hx | hx
          · omega
          · exact hn hc x hx
        · obtain ⟨k1, k2, k3⟩ := hs y hy
          refine ⟨(mem_cons _ _ _).2 (Or.inr k1), k2, fun x hx hlt => ?_⟩
          rcases (mem_cons _ _ _).1 hx with hx | hx
          · omega
          · exact k3 x hx hlt

theorem rightOf_spec {rs : Ranges} {h : Nat} (hi : RInv rs) (hh : 1 ≤ h) :
    ∃ o, rightOf rs h = .ok o ∧ (o = none → ∀ x, mem rs x → x ≤ h) ∧
      (∀ y, o = some y → mem rs y ∧ h < y ∧ ∀ x, mem rs x → h < x → y ≤ x) :=
  rightOfGo_spec hh hi

theorem mem_reverse (rs : Ranges) (h : Nat) : mem rs.reverse h ↔ mem rs h := by
  simp [mem]

/-- `left_of` loop on the reversed list -/
theorem leftOfGo_spec {h : Nat} (hh : 1 ≤ h) : ∀ {l : Ranges}, RInv l.reverse →
    ∃ o, leftOfGo h l = .ok o ∧ (o = none → ∀ x, mem l x → h ≤ x) ∧
      (∀ y, o = some y → mem l y ∧ y < h ∧ ∀ x, mem l x → x < h → x ≤ y)
  | [], _ => ⟨none, rfl, fun _ x hx => absurd hx (mem_nil x), fun y hy => by cases hy⟩
  | r :: l, hi => by
    rw [List.reverse_cons] at hi
    obtain ⟨hl, hr, hc⟩ := inv_append.1 hi
    have hv : ValidR r := inv_singleton.1 hr
    have ⟨_, hv2, _⟩ := hv
    have hleft := isLeftOf_ok hv.valid (valid_point hh)
    by_cases c1 : r.2 < h
    · -- `r.2` is the greatest member
      refine ⟨some r.2, by simp [leftOfGo, hleft, c1], (fun hc => nomatch hc), ?_⟩
      rintro y ⟨⟩
      refine ⟨(mem_cons _ _ _).2 (Or.inl ⟨hv2, Nat.le_refl _⟩), c1, ?_⟩
      rintro x ⟨z, hz, _, hz2⟩ _
      have := (inv_le_last hi z (by simpa [or_comm] using hz)).2
      omega
    · by_cases c2 : r.1 < h
      · -- `h` lies inside `r`, above its start
        refine ⟨some (h - 1), ?_, (fun hc => nomatch hc), ?_⟩
        · simp [leftOfGo, hleft, c1, Range.contains, Nat.le_of_lt c2, Nat.le_of_not_lt c1,
            Nat.ne_of_lt c2, subU64, hh]
        · rintro y ⟨⟩
          exact ⟨(mem_cons _ _ _).2 (Or.inl ⟨by omega, by omega⟩), by omega, fun x _ hx => by omega⟩
      · -- every height of `r` is at least `h`: the answer is that of the ranges below
        obtain ⟨o, ho, hn, hs⟩ := leftOfGo_spec hh hl
        have c3 : (Range.contains r h && r.1 != h) = false := by
          simp only [Range.contains, Bool.and_eq_false_iff, decide_eq_false_iff_not,
            bne_eq_false_iff_eq]
          omega
        refine ⟨o, by simp [leftOfGo, hleft, c1, c3, ho], fun hc x hx => ?_, fun y hy => ?_⟩
        · rcases (mem_cons _ _ _).1 hx with hx | hx
          · omega
          · exact hn hc x hx
        · obtain ⟨k1, k2, k3⟩ := hs y hy
          refine ⟨(mem_cons _ _ _).2 (Or.inr k1), k2, fun x hx hlt => ?_⟩
          rcases (mem_cons _ _ _).1 hx with hx | hx
          · omega
          · exact k3 x hx hlt

theorem leftOf_spec {rs : Ranges} {h : Nat} (hi : RInv rs) (hh : 1 ≤ h) :
    ∃ o, leftOf rs h = .ok o ∧ (o = none → ∀ x, mem rs x → h ≤ x) ∧
      (∀ y, o = some y → mem rs y ∧ y < h ∧ ∀ x, mem rs x → x < h → x ≤ y) := by
  obtain ⟨o, h1, h2, h3⟩ := leftOfGo_spec hh (l := rs.reverse) (by rw [List.reverse_reverse]; exact hi)
  refine ⟨o, h1, fun hc x hx => h2 hc x ((mem_reverse rs x).2 hx), ?_⟩
  intro y hy
  obtain ⟨k1, k2, k3⟩ := h3 y hy
  exact ⟨(mem_reverse rs y).1 k1, k2, fun x hx => k3 x ((mem_reverse rs x).2 hx)⟩

theorem edgesGo_spec : ∀ {rs acc : Ranges}, RInv acc → (∀ r ∈ rs, ValidR r) →
    Denotes (edgesGo rs acc) fun h => mem acc h ∨ ∃ r ∈ rs, h = r.1 ∨ h = r.2
  | [], acc, ha, _ => ⟨acc, rfl, ha, fun h => by simp⟩
  | r :: rs, acc, ha, hv => by
    have ⟨v1, v2, v3⟩ := hv r (by simp)
    exact (insertPoint_spec ha v1 (Nat.le_trans v2 v3)).expect.bind fun a1 i1 m1 =>
      (insertPoint_spec i1 (Nat.le_trans v1 v2) v3).expect.bind fun a2 i2 m2 =>
      (edgesGo_spec i2 fun x hx => hv x (List.mem_cons_of_mem _ hx)).congr fun h => by
        simp only [m2, m1, List.mem_cons, exists_eq_or_imp, or_assoc]

theorem edges_spec {rs : Ranges} (hi : RInv rs) :
    Denotes (edges rs) fun h => ∃ r ∈ rs, h = r.1 ∨ h = r.2 :=
  (edgesGo_spec (rs := rs) inv_nil fun r hr => inv_validR hi hr).congr fun h => by simp [mem_nil]

theorem inv_trichotomy : ∀ {rs : Ranges}, RInv rs → ∀ x ∈ rs, ∀ y ∈ rs,
    x = y ∨ x.2 + 1 < y.1 ∨ y.2 + 1 < x.1
  | [], _, x, hx, _, _ => by cases hx
  | r :: rs, hi, x, hx, y, hy => by
    obtain ⟨h1, _, hrs⟩ := inv_cons.1 hi
    rcases List.mem_cons.1 hx with hxr | hxs
    · rcases List.mem_cons.1 hy with hyr | hys
      · exact Or.inl (hxr.trans hyr.symm)
      · exact Or.inr (Or.inl (hxr ▸ h1 y hys))
    · rcases List.mem_cons.1 hy with hyr | hys
      · exact Or.inr (Or.inr (hyr ▸ h1 x hxs))
      · exact inv_trichotomy hrs x hxs y hys

/-- `edges` is determined by the set: the starts and ends of ranges are the members with a
    non-member neighbour -/
theorem edge_iff_boundary {rs : Ranges} (hi : RInv rs) (h : Nat) :
    (∃ r ∈ rs, h = r.1 ∨ h = r.2) ↔ mem rs h ∧ (¬ mem rs (h - 1) ∨ ¬ mem rs (h + 1)) := by
  constructor
  · rintro ⟨r, hr, he⟩
    have hv := inv_validR hi hr
    unfold ValidR at hv
    refine ⟨⟨r, hr, by omega, by omega⟩, ?_⟩
    rcases he with he | he
    · left
      rintro ⟨x, hx, h1, h2⟩
      rcases inv_trichotomy hi x hx r hr with rfl | c | c <;> omega
    · right
      rintro ⟨x, hx, h1, h2⟩
      rcases inv_trichotomy hi x hx r hr with rfl | c | c <;> omega
  · rintro ⟨⟨r, hr, h1, h2⟩, hb⟩
    refine ⟨r, hr, ?_⟩
    by_cases c1 : h = r.1
    · exact Or.inl c1
    · by_cases c2 : h = r.2
      · exact Or.inr c2
      · exfalso
        rcases hb with hb | hb
        · exact hb ⟨r, hr, by omega, by omega⟩
        · exact hb ⟨r, hr, by omega, by omega⟩

end Lumina.Proofs.Ranges

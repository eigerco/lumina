/-
  Lemmas for C05 (rows): the codec assumptions of the round trips (`RowCodeword`, `RecoversFromRight`), `buildShares` on
  honest rows (`HonestRow`).  The inputs hashed for a row tree (`rowInputs`) are in `AxisTree.lean`.
-/
import Lumina.Proofs.Sample
import Lumina.Model.Row
import Lumina.Spec.C05

namespace Lumina.Proofs.Row
open Lumina.Util Lumina.Model.Nmt Lumina.Model.Eds Lumina.Model.Row
open Lumina.Proofs.Nmt Lumina.Proofs.Eds Lumina.Proofs.Sample Lumina.Spec.C05
open Lumina.Model.Sample (SErr shareFromRaw shareParity)

theorem allLeaf_of_shares {H : HashFn} {l : List Share} (h : ∀ sh ∈ l, NS_SIZE ≤ sh.data.length) :
    AllLeaf H (l.map (Share.leafHash H)) :=
  (rowInputs_on (S := fun _ => True) h fun _ _ => trivial).1.allLeaf

/-! The codec properties the round trips need are stated about the codec (`enc`, `rec`), not about the round trip's result. -/

/-- the row's bytes are a codeword of the systematic encoder `enc` (`k` data shards ↦ `k` parity shards): the second
    half is the encoding of the first half.  (Same shape as `Lumina.Proofs.EdsLinear.IsCodeword`.) -/
def RowCodeword (enc : List Bytes → List Bytes) (k : Nat) (cw : List Bytes) : Prop :=
  cw.length = 2 * k ∧ cw.drop k = enc (cw.take k)

/-- `leopard_codec::encode` as a function of the shard vector `Row::from_raw` passes: SYSTEMATIC — the first half of
    the shards is kept, the second (zeroed) half is overwritten with `enc` of the first half -/
def encodeCodec (enc : List Bytes → List Bytes) : List Bytes → CodecRes :=
  fun l => .ok (l.take (l.length / 2) ++ enc (l.take (l.length / 2)))

/-- `leopard_codec::reconstruct` as a total function on the shard vector -/
def reconstructCodec (rec : List Bytes → List Bytes) : List Bytes → CodecRes := fun l => .ok (rec l)

/-- the MDS property the right-half round trip needs: `rec` recovers every codeword of `enc` from its parity half
    (the data half erased, i.e. replaced by empty shards) -/
def RecoversFromRight (enc rec : List Bytes → List Bytes) (k : Nat) : Prop :=
  ∀ cw, RowCodeword enc k cw → rec (List.replicate k [] ++ cw.drop k) = cw

/-- from the bytes of shares whose flags follow the quadrant rule (row `i`, columns from `col`, ODS width `ds`) and whose
    bytes are well-formed, `buildShares` gives back those shares -/
theorem buildShares_ok (i ds : Nat) : ∀ (l : List Share) (col : Nat),
    (∀ j sh, l[j]? = some sh → sh.data.length = SHARE_SIZE ∧
      sh.isParity = !(decide (i < ds ∧ col + j < ds)) ∧
      (sh.isParity = false → ∃ n, Lumina.Model.Namespace.fromRaw (sh.data.take NS_SIZE) = .ok n)) →
    buildShares i ds col (l.map Share.data) = .ok l := by
  intro l
  induction l with
  | nil => intro col _; rfl
  | cons a t ih =>
    intro col h
    obtain ⟨h1, h2, h3⟩ := h 0 a rfl
    have ht := ih (col + 1) (fun j sh hj => by
      have := h (j + 1) sh (by simpa using hj)
      have e : col + (j + 1) = col + 1 + j := by omega
      rw [e] at this; exact this)
    simp only [Nat.add_zero] at h2
    simp only [List.map_cons, buildShares, ht, share_reparse h1 h2 h3]

/-- what `Row::from_raw` may assume about an honest row of an extended square: `2k` shares of 512 bytes, flags by
    quadrant for row index `i`, valid namespaces on original-data shares -/
structure HonestRow (r : Row) (i k : Nat) : Prop where
  len : r.shares.length = 2 * k
  kpos : 1 ≤ k
  ok : ∀ j sh, r.shares[j]? = some sh → sh.data.length = SHARE_SIZE ∧
      sh.isParity = !(decide (i < k ∧ j < k)) ∧
      (sh.isParity = false → ∃ n, Lumina.Model.Namespace.fromRaw (sh.data.take NS_SIZE) = .ok n)

end Lumina.Proofs.Row

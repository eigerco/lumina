/-
  Lemmas about the `BlockRanges` model (`Lumina/Model/Ranges.lean`): membership, the
  representation invariant `Inv`, canonical form, the outcome `Denotes` (an operation succeeds with
  the canonical value of a given set), `find_affected_ranges`, `insert_relaxed`, `remove_relaxed`,
  the simple queries and the set operators.  Shared with the store / pruner / syncer proofs.
-/
import Lumina.Model.Ranges
import Lumina.Proofs.InsertSort

namespace Lumina.Proofs.Ranges
open Lumina.Model.Ranges hiding Inv

-- `Inv` clashes with core's `_root_.Inv` once the model namespace is opened
open Lumina.Model.Ranges renaming Inv → RInv

theorem ok_bind {ε α β} (a : α) (f : α → Except ε β) : (Except.ok a >>= f) = f a := rfl
theorem err_bind {ε α β} (e : ε) (f : α → Except ε β) :
    ((Except.error e : Except ε α) >>= f) = Except.error e := rfl
theorem map_ok {ε α β} (a : α) (f : α → β) : (f <$> (Except.ok a : Except ε α)) = Except.ok (f a) := rfl
theorem map_err {ε α β} (e : ε) (f : α → β) : (f <$> (Except.error e : Except ε α)) = Except.error e := rfl
theorem pure_eq {ε α} (a : α) : (pure a : Except ε α) = Except.ok a := rfl
theorem throw_eq {ε α} (e : ε) : (throw e : Except ε α) = Except.error e := rfl

attribute [local simp] ok_bind err_bind map_ok map_err pure_eq throw_eq

/-- a valid block range inside `u64` -/
def ValidR (r : Range) : Prop := 1 ≤ r.1 ∧ r.1 ≤ r.2 ∧ r.2 ≤ U64_MAX

/-- `x` overlaps `r` or is adjacent to it -/
def touches (x r : Range) : Bool := !(decide (x.2 + 1 < r.1)) && !(decide (r.2 + 1 < x.1))

theorem valid_iff (r : Range) : Range.valid r = true ↔ 1 ≤ r.1 ∧ r.1 ≤ r.2 := by
  simp [Range.valid]; omega

theorem ValidR.valid {r : Range} (h : ValidR r) : Range.valid r = true :=
  (valid_iff r).2 ⟨h.1, h.2.1⟩

theorem ValidR.of_valid {r : Range} (h : Range.valid r = true) (hb : r.2 ≤ U64_MAX) : ValidR r :=
  ⟨((valid_iff r).1 h).1, ((valid_iff r).1 h).2, hb⟩

theorem validate_ok {r : Range} (h : Range.valid r = true) : Range.validate r = .ok () := by
  simp [Range.validate, h]

theorem validate_err {r : Range} (h : Range.valid r = false) : Range.validate r = .error (.invalid r) := by
  simp [Range.validate, h]

theorem memB_iff_mem (rs : Ranges) (h : Nat) : memB rs h = true ↔ mem rs h := by
  simp only [memB, mem, List.any_eq_true, Bool.and_eq_true, decide_eq_true_eq]

theorem memB_eq_false_iff (rs : Ranges) (h : Nat) : memB rs h = false ↔ ¬ mem rs h := by
  rw [← memB_iff_mem]; simp

theorem contains_iff_mem (rs : Ranges) (h : Nat) : contains rs h = true ↔ mem rs h := by
  simp only [contains, Range.contains, mem, List.any_eq_true, Bool.and_eq_true, decide_eq_true_eq]

theorem mem_nil (h : Nat) : ¬ mem [] h := by simp [mem]

theorem mem_cons (r : Range) (rs : Ranges) (h : Nat) :
    mem (r :: rs) h ↔ (r.1 ≤ h ∧ h ≤ r.2) ∨ mem rs h := by
  simp only [mem, List.mem_cons, or_and_right, exists_or, exists_eq_left]

theorem mem_append (a b : Ranges) (h : Nat) : mem (a ++ b) h ↔ mem a h ∨ mem b h := by
  simp only [mem, List.mem_append, or_and_right, exists_or]

theorem mem_singleton (r : Range) (h : Nat) : mem [r] h ↔ (r.1 ≤ h ∧ h ≤ r.2) := by
  simp only [mem, List.mem_singleton, exists_eq_left]

theorem inv_nil : RInv [] := ⟨List.Pairwise.nil, by simp [AllValid]⟩

theorem allValid_cons {r : Range} {rs : Ranges} :
    AllValid (r :: rs) ↔ (1 ≤ r.1 ∧ r.1 ≤ r.2 ∧ r.2 ≤ U64_MAX) ∧ AllValid rs :=
  List.forall_mem_cons

theorem allValid_append {a b : Ranges} : AllValid (a ++ b) ↔ AllValid a ∧ AllValid b :=
  List.forall_mem_append

theorem inv_cons {r : Range} {rs : Ranges} :
    RInv (r :: rs) ↔ (∀ x ∈ rs, r.2 + 1 < x.1) ∧ ValidR r ∧ RInv rs := by
  simp only [Lumina.Model.Ranges.Inv, List.pairwise_cons, allValid_cons, ValidR]
  constructor
  · rintro ⟨⟨h1, h2⟩, h3, h4⟩; exact ⟨h1, h3, h2, h4⟩
  · rintro ⟨h1, h3, h2, h4⟩; exact ⟨⟨h1, h2⟩, h3, h4⟩

theorem inv_tail {r : Range} {rs : Ranges} (h : RInv (r :: rs)) : RInv rs := (inv_cons.1 h).2.2

theorem inv_validR {rs : Ranges} (h : RInv rs) {r : Range} (hr : r ∈ rs) : ValidR r := h.2 r hr

theorem inv_append {a b : Ranges} :
    RInv (a ++ b) ↔ RInv a ∧ RInv b ∧ ∀ x ∈ a, ∀ y ∈ b, x.2 + 1 < y.1 := by
  simp only [Lumina.Model.Ranges.Inv, List.pairwise_append, allValid_append]
  constructor
  · rintro ⟨⟨h1, h2, h3⟩, h4, h5⟩; exact ⟨⟨h1, h4⟩, ⟨h2, h5⟩, h3⟩
  · rintro ⟨⟨h1, h4⟩, ⟨h2, h5⟩, h3⟩; exact ⟨⟨h1, h2, h3⟩, h4, h5⟩

theorem inv_singleton {r : Range} : RInv [r] ↔ ValidR r := by
  simp [Lumina.Model.Ranges.Inv, AllValid, ValidR]

theorem mem_bounds {rs : Ranges} (hi : RInv rs) {h : Nat} (hm : mem rs h) : 1 ≤ h ∧ h ≤ U64_MAX := by
  obtain ⟨r, hr, h1, h2⟩ := hm
  have := hi.2 r hr
  omega

theorem mem_start {rs : Ranges} (hi : RInv rs) {r : Range} (hr : r ∈ rs) : mem rs r.1 :=
  ⟨r, hr, Nat.le_refl _, (hi.2 r hr).2.1⟩

theorem mem_end {rs : Ranges} (hi : RInv rs) {r : Range} (hr : r ∈ rs) : mem rs r.2 :=
  ⟨r, hr, (hi.2 r hr).2.1, Nat.le_refl _⟩

theorem inv_head_le {r : Range} {rs : Ranges} (hi : RInv (r :: rs)) :
    ∀ x ∈ r :: rs, r.1 ≤ x.1 ∧ r.2 ≤ x.2 := by
  intro x hx
  rcases List.mem_cons.1 hx with rfl | hx
  · exact ⟨Nat.le_refl _, Nat.le_refl _⟩
  · have h1 := (inv_cons.1 hi).1 x hx
    have h2 := hi.2 r (by simp)
    have h3 := hi.2 x (List.mem_cons_of_mem _ hx)
    omega

theorem inv_le_last {rs : Ranges} {r : Range} (hi : RInv (rs ++ [r])) :
    ∀ x ∈ rs ++ [r], x.1 ≤ r.1 ∧ x.2 ≤ r.2 := by
  intro x hx
  rcases List.mem_append.1 hx with hx | hx
  · have h1 := (inv_append.1 hi).2.2 x hx r (by simp)
    have h2 := hi.2 r (by simp)
    have h3 := hi.2 x (List.mem_append_left _ hx)
    omega
  · simp at hx; subst hx; exact ⟨Nat.le_refl _, Nat.le_refl _⟩

theorem lt_of_mem_tail {r : Range} {rs : Ranges} (hi : RInv (r :: rs)) {h : Nat} (hm : mem rs h) :
    r.2 + 1 < h := by
  obtain ⟨x, hx, h1, _⟩ := hm
  have := (inv_cons.1 hi).1 x hx
  omega

theorem mem_tail_iff {r : Range} {rs : Ranges} (hi : RInv (r :: rs)) (h : Nat) :
    mem rs h ↔ mem (r :: rs) h ∧ r.2 + 1 < h := by
  rw [mem_cons]
  constructor
  · exact fun hm => ⟨Or.inr hm, lt_of_mem_tail hi hm⟩
  · rintro ⟨⟨_, h2⟩ | hm, h3⟩
    · omega
    · exact hm

theorem head_le_of_mem {r : Range} {rs : Ranges} (hi : RInv (r :: rs)) {h : Nat}
    (hm : mem (r :: rs) h) : r.1 ≤ h := by
  have hv := (inv_cons.1 hi).2.1.2.1
  rcases (mem_cons _ _ _).1 hm with h1 | h1
  · exact h1.1
  · have := lt_of_mem_tail hi h1; omega

/-! ### canonical form: an `Inv` representation is determined by the set it denotes -/

/-- `q` cannot reach beyond `p`: the height `p.2 + 1` is not a member of `p :: ps` -/
theorem head_end_le {p q : Range} {ps qs : Ranges} (hp : RInv (p :: ps)) (h1 : q.1 = p.1) (hsub : ∀ h, mem (q :: qs) h → mem (p :: ps) h) : q.2 ≤ p.2 := by
  have hv := (inv_cons.1 hp).2.1.2.1
  refine Nat.le_of_not_lt fun hlt => ?_
  rcases (mem_cons _ _ _).1 (hsub (p.2 + 1) ((mem_cons _ _ _).2 (Or.inl ⟨by omega, by omega⟩))) with h | h
  · omega
  · exact Nat.lt_irrefl _ (lt_of_mem_tail hp h)

theorem canonical : ∀ {a b : Ranges}, RInv a → RInv b → (∀ h, mem a h ↔ mem b h) → a = b
  | [], [], _, _, _ => rfl
  | [], s :: _, _, hb, hm =>
    absurd ((hm s.1).2 (mem_start hb (List.mem_cons_self ..))) (mem_nil _)
  | r :: _, [], ha, _, hm =>
    absurd ((hm r.1).1 (mem_start ha (List.mem_cons_self ..))) (mem_nil _)
  | r :: rs, s :: ss, ha, hb, hm => by
    -- both heads start at the least member and end before the first non-member above it
    have e1 : r.1 = s.1 := Nat.le_antisymm
      (head_le_of_mem ha ((hm _).2 (mem_start hb (List.mem_cons_self ..))))
      (head_le_of_mem hb ((hm _).1 (mem_start ha (List.mem_cons_self ..))))
    have e2 : r.2 = s.2 := Nat.le_antisymm
      (head_end_le hb e1 fun h => (hm h).1) (head_end_le ha e1.symm fun h => (hm h).2)
    obtain rfl : r = s := Prod.ext e1 e2
    congr 1
    exact canonical (inv_tail ha) (inv_tail hb) fun h => by
      rw [mem_tail_iff ha, mem_tail_iff hb, hm h]

/-- `x` succeeds, with the `Inv` value whose members are the heights in `P` (there is one such
    value: `canonical`).  For operations that return a `BlockRanges`.  Those that return a pair or an
    option (`popHead_spec`, `leftOf_spec`, `partitions_spec`), and `tailn_spec` / `headn_spec`, which
    speak of the ascending list `heights` and a cardinality, state their results directly. -/
inductive Denotes (x : Res Ranges) (P : Nat → Prop) : Prop
  | intro (out : Ranges) (eq : x = .ok out) (inv : RInv out) (mem : ∀ h, mem out h ↔ P h)

theorem Denotes.out {x : Res Ranges} {P : Nat → Prop} : Denotes x P →
    ∃ out, x = .ok out ∧ RInv out ∧ ∀ h, mem out h ↔ P h
  | ⟨out, e, i, m⟩ => ⟨out, e, i, m⟩

theorem Denotes.bind {x : Res Ranges} {P P' : Nat → Prop} {f : Ranges → Res Ranges} :
    Denotes x P → (∀ v, RInv v → (∀ h, mem v h ↔ P h) → Denotes (f v) P') → Denotes (x >>= f) P'
  | ⟨v, e, iv, qv⟩, hf => e ▸ hf v iv qv

theorem Denotes.expect {x : Res Ranges} {P : Nat → Prop} : Denotes x P → Denotes (expectOk x) P
  | ⟨v, e, iv, qv⟩ => ⟨v, by rw [e]; rfl, iv, qv⟩

theorem Denotes.congr {x : Res Ranges} {P P' : Nat → Prop} : Denotes x P → (∀ h, P h ↔ P' h) →
    Denotes x P'
  | ⟨v, e, iv, qv⟩, h => ⟨v, e, iv, fun k => (qv k).trans (h k)⟩

theorem Denotes.eq_ok {x : Res Ranges} {P : Nat → Prop} {c : Ranges} : Denotes x P → RInv c →
    (∀ h, mem c h ↔ P h) → x = .ok c
  | ⟨v, e, iv, qv⟩, hc, hm => by rw [e, canonical iv hc fun h => (qv h).trans (hm h).symm]

theorem isOverlapping_ok {a b : Range} (ha : Range.valid a = true) (hb : Range.valid b = true) :
    Range.isOverlapping a b = .ok (Range.overlapping a b) := by
  simp [Range.isOverlapping, debugAssert, ha, hb]

theorem isAdjacent_ok {a b : Range} (ha : Range.valid a = true) (hb : Range.valid b = true) :
    Range.isAdjacent a b = .ok (Range.adjacent a b) := by
  simp [Range.isAdjacent, debugAssert, ha, hb]

theorem isLeftOf_ok {a b : Range} (ha : Range.valid a = true) (hb : Range.valid b = true) :
    Range.isLeftOf a b = .ok (decide (a.2 < b.1)) := by
  simp [Range.isLeftOf, debugAssert, ha, hb]

theorem isRightOf_ok {a b : Range} (ha : Range.valid a = true) (hb : Range.valid b = true) :
    Range.isRightOf a b = .ok (decide (b.2 < a.1)) := by
  simp [Range.isRightOf, debugAssert, ha, hb]

theorem overlapping_iff {a b : Range} (ha : Range.valid a = true) (hb : Range.valid b = true) :
    Range.overlapping a b = true ↔ a.1 ≤ b.2 ∧ b.1 ≤ a.2 := by
  rw [valid_iff] at ha hb
  -- the chain `if c then true else …` is the disjunction of its four conditions
  simp only [Range.overlapping, Range.contains, Bool.if_true_left, Bool.if_false_right,
    Bool.or_eq_true, Bool.and_eq_true, decide_eq_true_eq, Bool.decide_and, Bool.and_true]
  omega

theorem adjacent_iff {a b : Range} (ha : Range.valid a = true) (hb : Range.valid b = true) :
    Range.adjacent a b = true ↔ a.2 + 1 = b.1 ∨ b.2 + 1 = a.1 := by
  rw [valid_iff] at ha hb
  simp only [Range.adjacent, satSub, Bool.if_true_left, Bool.if_false_right, Bool.or_eq_true,
    decide_eq_true_eq, beq_iff_eq, Bool.and_true]
  omega

theorem touches_iff {x r : Range} : touches x r = true ↔ r.1 ≤ x.2 + 1 ∧ x.1 ≤ r.2 + 1 := by
  simp [touches]

theorem hit_eq_touches {x r : Range} (hx : Range.valid x = true) (hr : Range.valid r = true) :
    (Range.overlapping x r || Range.adjacent x r) = touches x r := by
  rw [Bool.eq_iff_iff, Bool.or_eq_true, overlapping_iff hx hr, adjacent_iff hx hr, touches_iff]
  rw [valid_iff] at hx hr
  omega

theorem findAffectedGo_cons {range r : Range} (hr : Range.valid r = true) (hv : Range.valid range = true)
    (rest : List Range) (i : Nat) (s e : Option Nat) :
    findAffectedGo range (r :: rest) i s e =
      if touches r range then
        findAffectedGo range rest (i + 1) (if s.isNone then some i else s) (some i)
      else if e.isSome then .ok (s, e)
      else findAffectedGo range rest (i + 1) s e := by
  have hh := hit_eq_touches hr hv
  rw [findAffectedGo, isOverlapping_ok hr hv]
  by_cases ho : Range.overlapping r range = true
  · have ht : touches r range = true := by rw [← hh, ho]; rfl
    simp [ho, ht]
  · have ho' : Range.overlapping r range = false := by simpa using ho
    rw [ho'] at hh
    simp [ho', isAdjacent_ok hr hv]
    simp at hh
    rw [hh]

theorem findAffectedGo_skip {range : Range} (hv : Range.valid range = true) :
    ∀ (L T : List Range) (i : Nat), (∀ x ∈ L, Range.valid x = true ∧ touches x range = false) →
      findAffectedGo range (L ++ T) i none none = findAffectedGo range T (i + L.length) none none
  | [], T, i, _ => by simp
  | x :: L, T, i, h => by
    have hx := h x (by simp)
    rw [List.cons_append, findAffectedGo_cons hx.1 hv, hx.2]
    simp only [Bool.false_eq_true, ↓reduceIte, Option.isSome_none]
    rw [findAffectedGo_skip hv L T (i + 1) (fun y hy => h y (List.mem_cons_of_mem _ hy))]
    simp only [List.length_cons]
    congr 1; omega

theorem findAffectedGo_take {range : Range} (hv : Range.valid range = true) :
    ∀ (M T : List Range) (s e : Nat), (∀ x ∈ M, Range.valid x = true ∧ touches x range = true) →
      findAffectedGo range (M ++ T) (e + 1) (some s) (some e) =
        findAffectedGo range T (e + 1 + M.length) (some s) (some (e + M.length))
  | [], T, s, e, _ => by simp
  | x :: M, T, s, e, h => by
    have hx := h x (by simp)
    rw [List.cons_append, findAffectedGo_cons hx.1 hv, hx.2]
    simp only [↓reduceIte, Option.isNone_some, Bool.false_eq_true]
    rw [findAffectedGo_take hv M T s (e + 1) (fun y hy => h y (List.mem_cons_of_mem _ hy))]
    simp only [List.length_cons]
    congr 1
    · omega
    · congr 1; omega

theorem findAffectedGo_stop {range : Range} (hv : Range.valid range = true)
    (R : List Range) (i s e : Nat) (h : ∀ x ∈ R, Range.valid x = true ∧ touches x range = false) :
    findAffectedGo range R i (some s) (some e) = .ok (some s, some e) := by
  cases R with
  | nil => simp [findAffectedGo]
  | cons x R =>
    have hx := h x (by simp)
    rw [findAffectedGo_cons hx.1 hv, hx.2]
    simp

theorem findAffectedGo_none {range : Range} (hv : Range.valid range = true) (R : List Range) (i : Nat)
    (h : ∀ x ∈ R, Range.valid x = true ∧ touches x range = false) :
    findAffectedGo range R i none none = .ok (none, none) := by
  simpa [findAffectedGo] using findAffectedGo_skip hv R [] i h

theorem findAffected_decomp {range : Range} (hv : Range.valid range = true) (L M R : List Range)
    (hL : ∀ x ∈ L, Range.valid x = true ∧ touches x range = false)
    (hM : ∀ x ∈ M, Range.valid x = true ∧ touches x range = true)
    (hR : ∀ x ∈ R, Range.valid x = true ∧ touches x range = false) :
    findAffectedRanges (L ++ M ++ R) range =
      .ok (if M = [] then none else some (L.length, L.length + M.length - 1)) := by
  unfold findAffectedRanges
  simp only [debugAssert, hv, ↓reduceIte, ok_bind]
  rw [List.append_assoc, findAffectedGo_skip hv L (M ++ R) 0 hL]
  cases M with
  | nil =>
    simp only [List.nil_append, ↓reduceIte]
    rw [findAffectedGo_none hv R _ hR]
    simp
  | cons m M =>
    have hm := hM m (by simp)
    rw [List.cons_append, findAffectedGo_cons hm.1 hv, hm.2]
    simp only [↓reduceIte, Option.isNone_none]
    rw [findAffectedGo_take hv M R _ _ (fun y hy => hM y (List.mem_cons_of_mem _ hy))]
    rw [findAffectedGo_stop hv R _ _ _ hR]
    simp only [ok_bind, pure_eq, reduceCtorEq, ↓reduceIte, List.length_cons]
    congr 3 <;> omega

/-- an `Inv` list splits around a valid range: strictly-left / touching / strictly-right -/
theorem inv_decomp {range : Range} (hv : ValidR range) :
    ∀ {rs : Ranges}, RInv rs → ∃ L M R, rs = L ++ M ++ R ∧
      (∀ x ∈ L, x.2 + 1 < range.1) ∧ (∀ x ∈ M, touches x range = true) ∧
      (∀ x ∈ R, range.2 + 1 < x.1)
  | [], _ => ⟨[], [], [], rfl, by simp, by simp, by simp⟩
  | x :: xs, hi => by
    obtain ⟨h1, hvx, hxs⟩ := inv_cons.1 hi
    obtain ⟨L, M, R, rfl, hL, hM, hR⟩ := inv_decomp hv hxs
    unfold ValidR at hvx hv
    by_cases c1 : x.2 + 1 < range.1
    · refine ⟨x :: L, M, R, by simp, ?_, hM, hR⟩
      intro y hy
      rcases List.mem_cons.1 hy with rfl | hy
      · exact c1
      · exact hL y hy
    · by_cases c2 : range.2 + 1 < x.1
      · refine ⟨[], [], x :: (L ++ M ++ R), by simp, by simp, by simp, ?_⟩
        intro y hy
        rcases List.mem_cons.1 hy with rfl | hy
        · exact c2
        · have := h1 y hy; omega
      · -- x touches; nothing of xs can be strictly left
        have hLnil : L = [] := by
          cases L with
          | nil => rfl
          | cons l L =>
            exfalso
            have := hL l (by simp)
            have := h1 l (by simp)
            have := hi.2 l (by simp)
            omega
        subst hLnil
        refine ⟨[], x :: M, R, by simp, by simp, ?_, hR⟩
        intro y hy
        rcases List.mem_cons.1 hy with rfl | hy
        · rw [touches_iff]; omega
        · exact hM y hy

theorem not_touches_of_left {x r : Range} (h : x.2 + 1 < r.1) : touches x r = false := by
  simp [touches]; omega

theorem not_touches_of_right {x r : Range} (h : r.2 + 1 < x.1) : touches x r = false := by
  simp [touches]; omega

theorem find_decomp {rs : Ranges} {range : Range} (hi : RInv rs) (hv : ValidR range) :
    ∃ L M R, rs = L ++ M ++ R ∧
      (∀ x ∈ L, x.2 + 1 < range.1) ∧ (∀ x ∈ M, touches x range = true) ∧
      (∀ x ∈ R, range.2 + 1 < x.1) ∧
      findAffectedRanges rs range =
        .ok (if M = [] then none else some (L.length, L.length + M.length - 1)) := by
  obtain ⟨L, M, R, rfl, hL, hM, hR⟩ := inv_decomp hv hi
  refine ⟨L, M, R, rfl, hL, hM, hR, ?_⟩
  have hval : ∀ x ∈ L ++ M ++ R, Range.valid x = true := fun x hx => (inv_validR hi hx).valid
  apply findAffected_decomp hv.valid
  · intro x hx
    exact ⟨hval x (by simp [hx]), not_touches_of_left (hL x hx)⟩
  · intro x hx
    exact ⟨hval x (by simp [hx]), hM x hx⟩
  · intro x hx
    exact ⟨hval x (by simp [hx]), not_touches_of_right (hR x hx)⟩

theorem decomp_surgery (L M R : List Range) (hM : M ≠ []) :
    ∃ a b M' M'', M = a :: M' ∧ M = M'' ++ [b] ∧
      (L ++ M ++ R)[L.length]? = some a ∧ (L ++ M ++ R)[L.length + M.length - 1]? = some b ∧
      (L ++ M ++ R).take L.length = L ∧ (L ++ M ++ R).drop (L.length + M.length - 1 + 1) = R := by
  cases M with
  | nil => exact absurd rfl hM
  | cons a M' =>
    obtain ⟨M'', hb⟩ := List.getLast?_eq_some_iff.1 (List.getLast?_eq_some_getLast (l := a :: M') (by simp))
    refine ⟨a, (a :: M').getLast (by simp), M', M'', rfl, hb, ?_, ?_, ?_, ?_⟩
    · rw [List.append_assoc, List.getElem?_append_right (Nat.le_refl _)]; simp
    · rw [List.append_assoc, List.getElem?_append_right (by simp only [List.length_cons]; omega)]
      have e : L.length + (a :: M').length - 1 - L.length = (a :: M').length - 1 := by
        simp only [List.length_cons]; omega
      rw [e, List.getElem?_append_left (by simp)]
      rw [← List.getLast?_eq_getElem?, List.getLast?_eq_some_getLast]
    · rw [List.append_assoc, List.take_left]
    · exact List.drop_left' (by simp only [List.length_append, List.length_cons]; omega)

theorem block_facts {L M R : List Range} {a b : Range} {M' M'' : List Range}
    (hi : RInv (L ++ M ++ R)) (ha : M = a :: M') (hb : M = M'' ++ [b]) :
    a ∈ M ∧ b ∈ M ∧ (∀ x ∈ M, a.1 ≤ x.1 ∧ x.2 ≤ b.2) ∧ RInv L ∧ RInv M ∧ RInv R ∧
      (∀ x ∈ L, ∀ y ∈ M, x.2 + 1 < y.1) ∧ (∀ x ∈ L, ∀ y ∈ R, x.2 + 1 < y.1) ∧
      (∀ x ∈ M, ∀ y ∈ R, x.2 + 1 < y.1) := by
  obtain ⟨h1, hR, c1⟩ := inv_append.1 hi
  obtain ⟨hL, hMi, c2⟩ := inv_append.1 h1
  refine ⟨by simp [ha], by simp [hb], ?_, hL, hMi, hR, c2, ?_, ?_⟩
  · intro x hx
    have k1 := inv_head_le (ha ▸ hMi) x (ha ▸ hx)
    have k2 := inv_le_last (hb ▸ hMi) x (hb ▸ hx)
    exact ⟨k1.1, k2.2⟩
  · intro x hx y hy; exact c1 x (List.mem_append_left _ hx) y hy
  · intro x hx y hy; exact c1 x (List.mem_append_right _ hx) y hy

/-- outside `r`, the heights of a non-empty block `M` of ranges touching `r` are those between
    the start of its first range and the end of its last -/
theorem block_hull {M : Ranges} {a b r : Range} (ha : a ∈ M) (hb : b ∈ M)
    (hMb : ∀ x ∈ M, a.1 ≤ x.1 ∧ x.2 ≤ b.2) (hta : touches a r = true) (htb : touches b r = true)
    {h : Nat} (hout : ¬ (r.1 ≤ h ∧ h ≤ r.2)) : mem M h ↔ a.1 ≤ h ∧ h ≤ b.2 := by
  rw [touches_iff] at hta htb
  constructor
  · rintro ⟨x, hx, h1, h2⟩
    have := hMb x hx; omega
  · intro hh
    by_cases hlt : h < r.1
    · exact ⟨a, ha, by omega, by omega⟩
    · exact ⟨b, hb, by omega, by omega⟩

theorem inv_sandwich {L X R : Ranges} {lo hi : Nat} (hL : RInv L) (hX : RInv X) (hR : RInv R)
    (hLX : ∀ x ∈ L, x.2 + 1 < lo) (hXb : ∀ x ∈ X, lo ≤ x.1 ∧ x.2 ≤ hi) (hXR : ∀ y ∈ R, hi + 1 < y.1)
    (hLR : ∀ x ∈ L, ∀ y ∈ R, x.2 + 1 < y.1) : RInv (L ++ X ++ R) := by
  refine inv_append.2 ⟨inv_append.2 ⟨hL, hX, fun x hx y hy => ?_⟩, hR, fun x hx y hy => ?_⟩
  · have := hLX x hx; have := hXb y hy; omega
  · rcases List.mem_append.1 hx with hx | hx
    · exact hLR x hx y hy
    · have := hXb x hx; have := hXR y hy; omega

/-- the heights `lo ..= hi` as a value (empty when `hi < lo`) -/
def piece (lo hi : Nat) : Ranges := if lo ≤ hi then [(lo, hi)] else []

theorem mem_piece (lo hi h : Nat) : mem (piece lo hi) h ↔ lo ≤ h ∧ h ≤ hi := by
  unfold piece
  split
  · exact mem_singleton _ _
  · simp only [mem_nil, false_iff]; omega

theorem piece_bounds {lo hi : Nat} : ∀ x ∈ piece lo hi, x.1 = lo ∧ x.2 = hi ∧ lo ≤ hi := by
  unfold piece
  split <;> simp_all

theorem inv_piece {lo hi : Nat} (h1 : 1 ≤ lo) (h2 : hi ≤ U64_MAX) : RInv (piece lo hi) := by
  unfold piece
  split
  · exact inv_singleton.2 ⟨h1, ‹_›, h2⟩
  · exact inv_nil

theorem insertSorted_isInsert : InsertSort.IsInsert (fun a b : Range => a.2 < b.1) InsertSort.Never insertSorted :=
  ⟨fun _ => rfl, fun _ _ _ => rfl⟩

theorem insertSorted_decomp {r : Range} (hr : r.1 ≤ r.2) (L R : List Range)
    (hL : ∀ x ∈ L, x.1 ≤ x.2 ∧ x.2 + 1 < r.1) (hR : ∀ x ∈ R, r.2 + 1 < x.1) :
    insertSorted r (L ++ R) = L ++ r :: R :=
  insertSorted_isInsert.append r R (fun y hy => by have := hR y (List.mem_of_mem_head? hy); omega) L
    fun y hy => ⟨by have := hL y hy; omega, id⟩

theorem insertRelaxed_invalid {rs : Ranges} {r : Range} (h : Range.valid r = false) :
    insertRelaxed rs r = .error (.invalid r) := by
  simp only [insertRelaxed, validate_err h, err_bind]

theorem removeRelaxed_invalid {rs : Ranges} {r : Range} (h : Range.valid r = false) :
    removeRelaxed rs r = .error (.invalid r) := by
  simp only [removeRelaxed, validate_err h, err_bind]

/-- `insert_relaxed` and `remove_relaxed` rewrite the same stretch of an `Inv` value.  With `L` the
    ranges strictly left of `r`, `R` those strictly right and `lo ..= hi` the span of the ranges that
    touch `r` (of `r` itself when none does, which makes the two arms of the code one case), insert
    puts the hull of `lo ..= hi` and `r` between `L` and `R`, remove what is left of `lo ..= hi` below
    and above `r`.  Outside `r`, the heights between `L` and `R` are those of `lo ..= hi`. -/
theorem relaxed_splice {rs : Ranges} {r : Range} (hi : RInv rs) (hv : ValidR r) :
    ∃ L R lo hi, RInv L ∧ RInv R ∧ (∀ x ∈ L, ∀ y ∈ R, x.2 + 1 < y.1) ∧
      (∀ x ∈ L, x.2 + 1 < min lo r.1) ∧ (∀ y ∈ R, max hi r.2 + 1 < y.1) ∧
      (1 ≤ lo ∧ lo ≤ r.2 + 1 ∧ r.1 ≤ hi + 1 ∧ hi ≤ U64_MAX) ∧
      (∀ h, ¬ (r.1 ≤ h ∧ h ≤ r.2) → (mem rs h ↔ mem L h ∨ (lo ≤ h ∧ h ≤ hi) ∨ mem R h)) ∧
      insertRelaxed rs r = .ok (L ++ (min lo r.1, max hi r.2) :: R) ∧
      removeRelaxed rs r = .ok (L ++ (piece lo (r.1 - 1) ++ piece (r.2 + 1) hi) ++ R) := by
  obtain ⟨L, M, R, rfl, hL, hM, hR, hfind⟩ := find_decomp hi hv
  have ⟨hv1, hv2, hv3⟩ := hv
  by_cases hMnil : M = []
  · subst hMnil
    simp only [List.append_nil, ↓reduceIte] at hfind hi ⊢
    obtain ⟨hLi, hRi, c⟩ := inv_append.1 hi
    have hins : insertSorted r (L ++ R) = L ++ r :: R :=
      insertSorted_decomp hv2 L R (fun x hx => ⟨(inv_validR hLi hx).2.1, hL x hx⟩) hR
    have e1 : ¬ r.1 ≤ r.1 - 1 := by omega
    refine ⟨L, R, r.1, r.2, hLi, hRi, c, ?_, ?_, by omega,
      fun h hin => by simp only [mem_append, hin, false_or], ?_, ?_⟩
    · rwa [Nat.min_self]
    · rwa [Nat.max_self]
    · simp only [insertRelaxed, validate_ok hv.valid, ok_bind, hfind, pure_eq, hins, Nat.min_self,
        Nat.max_self]
    · simp only [removeRelaxed, validate_ok hv.valid, ok_bind, hfind, pure_eq, piece, e1,
        Nat.not_succ_le_self, ↓reduceIte, List.append_nil]
  · obtain ⟨a, b, M', M'', ha, hb, ga, gb, gt, gd⟩ := decomp_surgery L M R hMnil
    obtain ⟨haM, hbM, hMb, hLi, hMi, hRi, cLM, cLR, cMR⟩ := block_facts hi ha hb
    have ⟨_, _, _⟩ := inv_validR hMi haM
    have ⟨_, _, _⟩ := inv_validR hMi hbM
    have hta := touches_iff.1 (hM a haM)
    have htb := touches_iff.1 (hM b hbM)
    refine ⟨L, R, a.1, b.2, hLi, hRi, cLR, fun x hx => ?_, fun y hy => ?_, by omega,
      fun h hin => ?_, ?_, ?_⟩
    · have := cLM x hx a haM; have := hL x hx; omega
    · have := cMR b hbM y hy; have := hR y hy; omega
    · rw [mem_append, mem_append, block_hull haM hbM hMb (hM a haM) (hM b hbM) hin, or_assoc]
    · simp only [insertRelaxed, validate_ok hv.valid, ok_bind, hfind, hMnil, ↓reduceIte, ga, gb,
        gt, gd, pure_eq]
    · have e1 : r.2 < b.2 → r.2 + 1 ≤ U64_MAX := by omega
      have e2 : r.2 + 1 ≤ b.2 ↔ r.2 < b.2 := by omega
      have e3 : a.1 ≤ r.1 - 1 ↔ a.1 < r.1 := by omega
      simp only [removeRelaxed, validate_ok hv.valid, ok_bind, hfind, hMnil, ↓reduceIte, ga, gb,
        gt, gd, piece, addU64, subU64, e2, e3, hv1]
      by_cases c1 : r.2 < b.2 <;> by_cases c2 : a.1 < r.1 <;> simp [c1, c2, e1]

theorem insertRelaxed_spec {rs : Ranges} {r : Range} (hi : RInv rs) (hv : ValidR r) :
    Denotes (insertRelaxed rs r) fun h => mem rs h ∨ (r.1 ≤ h ∧ h ≤ r.2) := by
  obtain ⟨L, R, lo, hi', hLi, hRi, cLR, hL, hR, hb, hm, e, -⟩ := relaxed_splice hi hv
  have ⟨_, _, _⟩ := hv
  refine ⟨_, e, ?_, fun h => ?_⟩
  · have := inv_sandwich (X := [(min lo r.1, max hi' r.2)]) hLi
      (inv_singleton.2 ⟨by omega, by omega, by omega⟩) hRi hL
      (fun x hx => by rw [List.mem_singleton.1 hx]; exact ⟨Nat.le_refl _, Nat.le_refl _⟩) hR cLR
    rwa [List.append_assoc] at this
  · rw [mem_append, mem_cons]
    by_cases hin : r.1 ≤ h ∧ h ≤ r.2
    · simp only [hin, and_self, or_true, iff_true]
      exact Or.inr (Or.inl ⟨by omega, by omega⟩)
    · have : (min lo r.1 ≤ h ∧ h ≤ max hi' r.2) ↔ (lo ≤ h ∧ h ≤ hi') := by omega
      rw [hm h hin, this, or_iff_left hin]

theorem removeRelaxed_spec {rs : Ranges} {r : Range} (hi : RInv rs) (hv : ValidR r) :
    Denotes (removeRelaxed rs r) fun h => mem rs h ∧ ¬ (r.1 ≤ h ∧ h ≤ r.2) := by
  obtain ⟨L, R, lo, hi', hLi, hRi, cLR, hL, hR, hb, hm, -, e⟩ := relaxed_splice hi hv
  have ⟨_, _, _⟩ := hv
  refine ⟨_, e, inv_sandwich hLi ?_ hRi hL ?_ hR cLR, fun h => ?_⟩
  · refine inv_append.2 ⟨inv_piece (by omega) (by omega), inv_piece (by omega) (by omega),
      fun x hx y hy => ?_⟩
    have := piece_bounds x hx; have := piece_bounds y hy; omega
  · intro x hx
    rcases List.mem_append.1 hx with hx | hx <;> have := piece_bounds x hx <;> omega
  · simp only [mem_append, mem_piece]
    by_cases hin : r.1 ≤ h ∧ h ≤ r.2
    · -- the heights of `L` and of `R` lie outside `r`
      simp only [hin, and_self, not_true_eq_false, and_false, iff_false]
      rintro ((⟨x, hx, _, _⟩ | _) | ⟨y, hy, _, _⟩)
      · have := hL x hx; omega
      · omega
      · have := hR y hy; omega
    · have : (lo ≤ h ∧ h ≤ r.1 - 1 ∨ r.2 + 1 ≤ h ∧ h ≤ hi') ↔ (lo ≤ h ∧ h ≤ hi') := by omega
      rw [hm h hin, this, and_iff_left hin, or_assoc]

theorem head_eq_none_iff {rs : Ranges} : head rs = none ↔ rs = [] := by
  simp [head]

theorem tail_eq_none_iff {rs : Ranges} : tail rs = none ↔ rs = [] := by
  simp [tail]

theorem head_spec {rs : Ranges} (hi : RInv rs) {x : Nat} (hx : head rs = some x) :
    mem rs x ∧ ∀ h, mem rs h → h ≤ x := by
  simp only [head, Option.map_eq_some_iff] at hx
  obtain ⟨r, hr, rfl⟩ := hx
  obtain ⟨ys, rfl⟩ := List.getLast?_eq_some_iff.1 hr
  refine ⟨mem_end hi (by simp), ?_⟩
  rintro h ⟨y, hy, h1, h2⟩
  have := inv_le_last hi y hy
  omega

theorem tail_spec {rs : Ranges} (hi : RInv rs) {x : Nat} (hx : tail rs = some x) :
    mem rs x ∧ ∀ h, mem rs h → x ≤ h := by
  cases rs with
  | nil => simp [tail] at hx
  | cons r rs =>
    simp only [tail, List.head?_cons, Option.map_some, Option.some.injEq] at hx
    subst hx
    exact ⟨mem_start hi (List.mem_cons_self ..), fun h hm => head_le_of_mem hi hm⟩

theorem isEmpty_iff {rs : Ranges} (hi : RInv rs) : isEmpty rs = true ↔ rs = [] := by
  cases rs with
  | nil => simp [isEmpty]
  | cons r rs =>
    have hv := inv_validR hi (r := r) (by simp)
    unfold ValidR at hv
    simp [isEmpty, Range.isEmpty]
    intro h; omega

theorem fromVecMerge_of_inv : ∀ {rs : Ranges} (acc : Ranges), RInv (acc.reverse ++ rs) →
    fromVecMerge acc rs = .ok (acc.reverse ++ rs)
  | [], acc, _ => by simp [fromVecMerge]
  | r :: rs, acc, hi => by
    have hv : ValidR r := inv_validR hi (by simp)
    have hi' : RInv ((r :: acc).reverse ++ rs) := by
      simpa [List.append_assoc] using hi
    have ih := fromVecMerge_of_inv (r :: acc) hi'
    cases acc with
    | nil => simpa [fromVecMerge, validate_ok hv.valid] using ih
    | cons prev t =>
      have hgap : prev.2 + 1 < r.1 := (inv_append.1 hi).2.2 prev (by simp) r (by simp)
      have hvv := hv
      unfold ValidR at hvv
      have h1 : ¬ r.1 ≤ prev.2 := by omega
      have h2 : prev.2 + 1 ≤ U64_MAX := by omega
      have h3 : ¬ prev.2 + 1 = r.1 := by omega
      simp only [fromVecMerge, validate_ok hv.valid, ok_bind, h1, ↓reduceIte, addU64, h2, beq_iff_eq, h3]
      simpa [List.append_assoc] using ih

theorem fromVec_of_inv {rs : Ranges} (hi : RInv rs) : fromVec rs = .ok rs := by
  simpa [fromVec] using fromVecMerge_of_inv (rs := rs) [] (by simpa using hi)

theorem sortedB_pairwise : ∀ {rs : Ranges}, sortedB rs = true → (∀ r ∈ rs, r.1 ≤ r.2) →
    rs.Pairwise (fun a b => a.2 + 1 < b.1)
  | [], _, _ => List.Pairwise.nil
  | [a], _, _ => by simp
  | a :: b :: rest, hs, hv => by
    simp only [sortedB, Bool.and_eq_true, decide_eq_true_eq] at hs
    have ih := sortedB_pairwise hs.2 (fun r hr => hv r (List.mem_cons_of_mem _ hr))
    refine List.pairwise_cons.2 ⟨?_, ih⟩
    intro y hy
    rcases List.mem_cons.1 hy with rfl | hy
    · exact hs.1
    · have h1 := (List.pairwise_cons.1 ih).1 y hy
      have h2 := hv b (by simp)
      omega

theorem pairwise_sortedB : ∀ {rs : Ranges}, rs.Pairwise (fun a b => a.2 + 1 < b.1) → sortedB rs = true
  | [], _ => rfl
  | [a], _ => rfl
  | a :: b :: rest, h => by
    simp only [sortedB, Bool.and_eq_true, decide_eq_true_eq]
    exact ⟨(List.pairwise_cons.1 h).1 b (by simp), pairwise_sortedB (List.pairwise_cons.1 h).2⟩

theorem invB_iff (rs : Ranges) : invB rs = true ↔ RInv rs := by
  simp only [invB, Bool.and_eq_true, Lumina.Model.Ranges.Inv, AllValid, allValidB, List.all_eq_true,
    decide_eq_true_eq]
  constructor
  · rintro ⟨h1, h2⟩
    have h2' : ∀ r ∈ rs, 1 ≤ r.1 ∧ r.1 ≤ r.2 ∧ r.2 ≤ U64_MAX := fun r hr => by
      have := h2 r hr; omega
    exact ⟨sortedB_pairwise h1 (fun r hr => (h2' r hr).2.1), h2'⟩
  · rintro ⟨h1, h2⟩
    exact ⟨pairwise_sortedB h1, fun r hr => by have := h2 r hr; omega⟩

theorem inv_of_invB {rs : Ranges} (h : invB rs = true) : RInv rs := (invB_iff rs).1 h

theorem expectOk_ok {α} (a : α) : expectOk (.ok a : Res α) = .ok a := rfl

theorem add_spec : ∀ {b a : Ranges}, RInv a → RInv b → Denotes (add a b) fun h => mem a h ∨ mem b h
  | [], a, ha, _ => ⟨a, rfl, ha, fun h => by simp [mem_nil]⟩
  | r :: b, a, ha, hb => by
    obtain ⟨_, hv, hb'⟩ := inv_cons.1 hb
    exact (insertRelaxed_spec ha hv).expect.bind fun a' h2 h3 =>
      (add_spec h2 hb').congr fun h => by rw [h3, mem_cons, or_assoc]

theorem sub_spec : ∀ {b a : Ranges}, RInv a → RInv b → Denotes (sub a b) fun h => mem a h ∧ ¬ mem b h
  | [], a, ha, _ => ⟨a, rfl, ha, fun h => by simp [mem_nil]⟩
  | r :: b, a, ha, hb => by
    obtain ⟨_, hv, hb'⟩ := inv_cons.1 hb
    exact (removeRelaxed_spec ha hv).expect.bind fun a' h2 h3 =>
      (sub_spec h2 hb').congr fun h => by rw [h3, mem_cons, not_or, and_assoc]

theorem bitOr_spec {a b : Ranges} (ha : RInv a) (hb : RInv b) :
    Denotes (bitOr a b) fun h => mem a h ∨ mem b h := add_spec ha hb

theorem bitNot_spec {a : Ranges} (ha : RInv a) :
    Denotes (bitNot a) fun h => (1 ≤ h ∧ h ≤ U64_MAX) ∧ ¬ mem a h :=
  (insertRelaxed_spec (r := (1, U64_MAX)) inv_nil ⟨Nat.le_refl _, by decide, Nat.le_refl _⟩).expect.bind
    fun u h2 h3 => (sub_spec h2 ha).congr fun h => by rw [h3]; simp [mem_nil]

theorem bitAnd_spec {a b : Ranges} (ha : RInv a) (hb : RInv b) :
    Denotes (bitAnd a b) fun h => mem a h ∧ mem b h :=
  (bitNot_spec ha).bind fun na h2 h3 => (bitNot_spec hb).bind fun nb h5 h6 =>
    (bitOr_spec h2 h5).bind fun u h8 h9 => (bitNot_spec h8).congr fun h => by
      -- De Morgan inside the universe `[1, u64::MAX]`, which holds every member of `a`
      rw [h9, h3, h6]
      constructor
      · rintro ⟨hu, hn⟩
        exact ⟨Classical.byContradiction fun hc => hn (Or.inl ⟨hu, hc⟩),
          Classical.byContradiction fun hc => hn (Or.inr ⟨hu, hc⟩)⟩
      · rintro ⟨hma, hmb⟩
        exact ⟨mem_bounds ha hma, fun hn => hn.elim (fun k => k.2 hma) (fun k => k.2 hmb)⟩

end Lumina.Proofs.Ranges

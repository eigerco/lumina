/-
  Positional notation.  `val B ds` is the number a digit string denotes in base `B`, most
  significant digit first; `digits B w n` are the `w` lowest digits of `n`.  A string of digits
  below `B` is determined by its length and its value (`val_inj`), so two encodings of the same
  number with the same number of digits are equal: this is how the codecs built on it (the 8 <-> 5
  bit regrouping of bech32, big-endian integers) get their round trips.  No imports.
-/
namespace Lumina.Proofs.Digits

def val (B : Nat) : List Nat → Nat
  | [] => 0
  | d :: ds => d * B ^ ds.length + val B ds

theorem val_lt {B : Nat} {ds : List Nat} (h : ∀ d ∈ ds, d < B) : val B ds < B ^ ds.length := by
  induction ds with
  | nil => simp [val]
  | cons d ds ih =>
    have hv := ih fun x hx => h x (List.mem_cons_of_mem _ hx)
    have hd : d + 1 ≤ B := h d List.mem_cons_self
    have := Nat.mul_le_mul_right (B ^ ds.length) hd
    rw [Nat.succ_mul] at this
    simp only [val, List.length_cons, Nat.pow_succ, Nat.mul_comm _ B]
    omega

/-- positional notation is unambiguous: the leading digit is the quotient by `B ^ (length - 1)`,
    the rest is the remainder -/
theorem val_inj {B : Nat} : ∀ {l₁ l₂ : List Nat}, (∀ d ∈ l₁, d < B) → (∀ d ∈ l₂, d < B) →
    l₁.length = l₂.length → val B l₁ = val B l₂ → l₁ = l₂
  | [], [], _, _, _, _ => rfl
  | [], _ :: _, _, _, hl, _ => by simp at hl
  | _ :: _, [], _, _, hl, _ => by simp at hl
  | d :: ds, e :: es, h₁, h₂, hl, hv => by
    have hl' : ds.length = es.length := by simpa using hl
    have v₁ := val_lt fun x hx => h₁ x (List.mem_cons_of_mem _ hx)
    have v₂ := val_lt fun x hx => h₂ x (List.mem_cons_of_mem _ hx)
    simp only [val, hl'] at hv v₁
    have hP : 0 < B ^ es.length := Nat.lt_of_le_of_lt (Nat.zero_le _) v₂
    have hd := congrArg (· / B ^ es.length) hv
    have hr := congrArg (· % B ^ es.length) hv
    simp only [Nat.mul_comm _ (B ^ es.length), Nat.mul_add_div hP, Nat.mul_add_mod, Nat.div_eq_of_lt v₁,
      Nat.div_eq_of_lt v₂, Nat.mod_eq_of_lt v₁, Nat.mod_eq_of_lt v₂, Nat.add_zero] at hd hr
    rw [hd, val_inj (fun x hx => h₁ x (List.mem_cons_of_mem _ hx)) (fun x hx => h₂ x (List.mem_cons_of_mem _ hx)) hl' hr]

theorem val_append (B : Nat) (l₁ l₂ : List Nat) :
    val B (l₁ ++ l₂) = val B l₁ * B ^ l₂.length + val B l₂ := by
  induction l₁ with
  | nil => simp [val]
  | cons d l₁ ih =>
    simp only [List.cons_append, val, ih, List.length_append, Nat.pow_add, Nat.add_mul, Nat.mul_assoc, Nat.add_assoc]

/-- shifting one digit into an accumulator that stands before the string -/
theorem val_shift (B a d : Nat) (ds : List Nat) :
    a * B ^ (d :: ds).length + val B (d :: ds) = (a * B + d) * B ^ ds.length + val B ds := by
  rw [val, List.length_cons, Nat.pow_succ, Nat.add_mul, Nat.mul_assoc, Nat.mul_comm B, Nat.add_assoc]

/-- Horner's rule: reading the digits one by one, shifting the accumulator -/
theorem foldl_horner (B : Nat) (ds : List Nat) (a : Nat) :
    ds.foldl (fun a d => a * B + d) a = a * B ^ ds.length + val B ds := by
  induction ds generalizing a with
  | nil => simp [val]
  | cons d ds ih => rw [List.foldl_cons, ih, val_shift]

def digits (B : Nat) : Nat → Nat → List Nat
  | 0, _ => []
  | w + 1, n => n / B ^ w % B :: digits B w n

theorem length_digits (B w n : Nat) : (digits B w n).length = w := by
  induction w with
  | zero => rfl
  | succ w ih => simp [digits, ih]

theorem digits_lt {B : Nat} (hB : 0 < B) (w n : Nat) : ∀ d ∈ digits B w n, d < B := by
  induction w with
  | zero => simp [digits]
  | succ w ih =>
    simp only [digits, List.forall_mem_cons]
    exact ⟨Nat.mod_lt _ hB, ih⟩

theorem val_digits (B w n : Nat) : val B (digits B w n) = n % B ^ w := by
  induction w with
  | zero => simp [digits, val, Nat.mod_one]
  | succ w ih => rw [digits, val, length_digits, ih, Nat.mod_pow_succ, Nat.add_comm, Nat.mul_comm]

theorem digits_val {B : Nat} {ds : List Nat} (h : ∀ d ∈ ds, d < B) : digits B ds.length (val B ds) = ds := by
  cases ds with
  | nil => rfl
  | cons d ds =>
    have hB : 0 < B := Nat.lt_of_le_of_lt (Nat.zero_le _) (h d List.mem_cons_self)
    exact val_inj (digits_lt hB _ _) h (length_digits ..) ((val_digits ..).trans (Nat.mod_eq_of_lt (val_lt h)))

theorem toNat_lt_of_mem {bs : List UInt8} : ∀ d ∈ bs.map UInt8.toNat, d < 256 := by
  intro d hd
  obtain ⟨b, _, rfl⟩ := List.mem_map.mp hd
  exact UInt8.toNat_lt b

end Lumina.Proofs.Digits

/-
  The tendermint-style merkle tree of `celestia_types::MerkleProof` (`Lumina.Model.Merkle`): unfolding lemmas for
  the well-founded definitions, `hash_leaves_collecting_aunts` = (root, audit path `auntsOf`) (`hlca_eq`), the honest
  path recomputes the root (`subtreeRootRev_auntsOf`), and under collision-free `inner` the verifier's recursion is
  injective in (leaf digest, aunts) (`subtreeRootRev_inj`), so that an accepted path fixes the leaf digest at its index and
  is that audit path (`subtreeRootRev_sound`).  `Proofs/C13` combines these with `C13.verify_ok_iff` into soundness and completeness of `MerkleProof::verify`.
-/
import Lumina.Model.Merkle

namespace Lumina.Proofs.Merkle
open Lumina.Util Lumina.Model.Merkle

variable {D : Type}

theorem root_nil (H : HashFns D) : root H [] = H.empty := by
  rw [root]

theorem root_singleton (H : HashFns D) (x : Bytes) : root H [x] = H.leaf x := by
  rw [root]

theorem root_split (H : HashFns D) (l : List Bytes) (h : 2 ≤ l.length) :
    root H l = H.inner (root H (l.take (splitPoint l.length))) (root H (l.drop (splitPoint l.length))) := by
  match l, h with
  | a :: b :: rest, _ => rw [root]

theorem hlca_nil (H : HashFns D) (f p : Nat) (a : List D) :
    hashLeavesCollectingAunts H f p [] a = (H.empty, a) := by
  rw [hashLeavesCollectingAunts]

theorem hlca_singleton (H : HashFns D) (f p : Nat) (x : Bytes) (a : List D) :
    hashLeavesCollectingAunts H f p [x] a = (H.leaf x, a) := by
  rw [hashLeavesCollectingAunts]

theorem hlca_split (H : HashFns D) (f p : Nat) (l : List Bytes) (a : List D) (h : 2 ≤ l.length) :
    hashLeavesCollectingAunts H f p l a =
      (let total := l.length
       let k := splitPoint total
       let lft := hashLeavesCollectingAunts H f p (l.take k) a
       let r := hashLeavesCollectingAunts H (f + k) p (l.drop k) lft.2
       let aunts' :=
         if f ≤ p ∧ p < f + total then
           if p < f + k then r.2 ++ [r.1] else r.2 ++ [lft.1]
         else r.2
       (H.inner lft.1 r.1, aunts')) := by
  match l, h with
  | a :: b :: rest, _ => rw [hashLeavesCollectingAunts]

/-- audit path of leaf `m` in the tree over `l` (sibling digests, leaf level first), by the model's split rule -/
def auntsOf (H : HashFns D) (m : Nat) (l : List Bytes) : List D :=
  match l with
  | [] => []
  | [_] => []
  | a :: b :: rest =>
    let k := splitPoint (a :: b :: rest).length
    if m < k then auntsOf H m ((a :: b :: rest).take k) ++ [root H ((a :: b :: rest).drop k)]
    else auntsOf H (m - k) ((a :: b :: rest).drop k) ++ [root H ((a :: b :: rest).take k)]
termination_by l.length
decreasing_by
  · have h1 := splitPoint_lt (a :: b :: rest).length (by simp)
    simp only [List.length_take]
    omega
  · have _h2 := splitPoint_pos (a :: b :: rest).length (by simp)
    simp only [List.length_drop]
    simp only [List.length_cons] at *
    omega

theorem auntsOf_short (H : HashFns D) (m : Nat) (l : List Bytes) (h : l.length ≤ 1) : auntsOf H m l = [] := by
  match l, h with
  | [], _ => rw [auntsOf]
  | [_], _ => rw [auntsOf]

theorem auntsOf_split (H : HashFns D) (m : Nat) (l : List Bytes) (h : 2 ≤ l.length) :
    auntsOf H m l =
      if m < splitPoint l.length then
        auntsOf H m (l.take (splitPoint l.length)) ++ [root H (l.drop (splitPoint l.length))]
      else auntsOf H (m - splitPoint l.length) (l.drop (splitPoint l.length)) ++
        [root H (l.take (splitPoint l.length))] := by
  match l, h with
  | a :: b :: rest, _ => rw [auntsOf]

/-- `hash_leaves_collecting_aunts` returns the root and appends exactly the audit path of the
    leaf to prove when that leaf lies in the current subtree (nothing otherwise). -/
theorem hlca_eq (H : HashFns D) : ∀ (n : Nat) (l : List Bytes), l.length ≤ n → ∀ (f p : Nat) (a : List D),
    hashLeavesCollectingAunts H f p l a =
      (root H l, if f ≤ p ∧ p < f + l.length then a ++ auntsOf H (p - f) l else a) := by
  intro n
  induction n with
  | zero =>
    intro l hl f p a
    have : l = [] := List.eq_nil_of_length_eq_zero (by omega)
    subst this
    have : ¬ (f ≤ p ∧ p < f + 0) := by omega
    simp only [hlca_nil, root_nil, List.length_nil]
    rw [if_neg this]
  | succ n ih =>
    intro l hl f p a
    by_cases h2 : 2 ≤ l.length
    · have hk1 := splitPoint_lt l.length h2
      have hk0 := splitPoint_pos l.length h2
      have hlt : (l.take (splitPoint l.length)).length ≤ n := by simp only [List.length_take]; omega
      have hld : (l.drop (splitPoint l.length)).length ≤ n := by simp only [List.length_drop]; omega
      have htl : (l.take (splitPoint l.length)).length = splitPoint l.length := by
        simp only [List.length_take]; omega
      have hdl : (l.drop (splitPoint l.length)).length = l.length - splitPoint l.length := by
        simp only [List.length_drop]
      rw [hlca_split H f p l a h2]
      simp only
      rw [ih _ hlt f p a]
      simp only
      rw [ih _ hld]
      simp only
      rw [← root_split H l h2, htl, hdl, auntsOf_split H (p - f) l h2]
      by_cases hin : f ≤ p ∧ p < f + l.length
      · by_cases hleft : p < f + splitPoint l.length
        · have c1 : f ≤ p ∧ p < f + splitPoint l.length := ⟨hin.1, hleft⟩
          have c2 : ¬ (f + splitPoint l.length ≤ p ∧ p < f + splitPoint l.length + (l.length - splitPoint l.length)) := by omega
          have c3 : p - f < splitPoint l.length := by omega
          simp only [if_pos hin, if_pos hleft, if_pos c1, if_neg c2, if_pos c3, List.append_assoc]
        · have c1 : ¬ (f ≤ p ∧ p < f + splitPoint l.length) := by omega
          have c2 : f + splitPoint l.length ≤ p ∧ p < f + splitPoint l.length + (l.length - splitPoint l.length) := by omega
          have c3 : ¬ p - f < splitPoint l.length := by omega
          have c4 : p - (f + splitPoint l.length) = p - f - splitPoint l.length := by omega
          simp only [if_pos hin, if_neg hleft, if_neg c1, if_pos c2, if_neg c3, c4, List.append_assoc]
      · have c1 : ¬ (f ≤ p ∧ p < f + splitPoint l.length) := by omega
        have c2 : ¬ (f + splitPoint l.length ≤ p ∧ p < f + splitPoint l.length + (l.length - splitPoint l.length)) := by omega
        simp only [if_neg hin, if_neg c1, if_neg c2]
    · match l, h2 with
      | [], _ =>
        have : ¬ (f ≤ p ∧ p < f + 0) := by omega
        simp only [hlca_nil, root_nil, List.length_nil]
        rw [if_neg this]
      | [x], _ =>
        simp only [hlca_singleton, root_singleton, List.length_singleton]
        rw [auntsOf_short H _ [x] (by simp)]
        simp
      | _ :: _ :: _, h2 => simp at h2

theorem subtreeRootRev_auntsOf (H : HashFns D) : ∀ (n : Nat) (l : List Bytes), l.length ≤ n → ∀ m, m < l.length →
    subtreeRootRev H m l.length (H.leaf (l.getD m [])) (auntsOf H m l).reverse = .ok (root H l) := by
  intro n
  induction n with
  | zero => intro l hl m hm; omega
  | succ n ih =>
    intro l hl m hm
    by_cases h2 : 2 ≤ l.length
    · have hk1 := splitPoint_lt l.length h2
      have hk0 := splitPoint_pos l.length h2
      have htl : (l.take (splitPoint l.length)).length = splitPoint l.length := by
        simp only [List.length_take]; omega
      have hdl : (l.drop (splitPoint l.length)).length = l.length - splitPoint l.length := by
        simp only [List.length_drop]
      have hne1 : l.length ≠ 1 := by omega
      rw [auntsOf_split H m l h2, root_split H l h2]
      by_cases hleft : m < splitPoint l.length
      · rw [if_pos hleft, List.reverse_append, List.reverse_singleton, List.singleton_append, subtreeRootRev]
        rw [if_neg hne1]
        simp only
        rw [if_pos hleft]
        have := ih (l.take (splitPoint l.length)) (by omega) m (by omega)
        rw [htl] at this
        have hg : (l.take (splitPoint l.length)).getD m [] = l.getD m [] := by
          simp only [List.getD_eq_getElem?_getD, List.getElem?_take, if_pos hleft]
        rw [hg] at this
        rw [this]
      · rw [if_neg hleft, List.reverse_append, List.reverse_singleton, List.singleton_append, subtreeRootRev]
        rw [if_neg hne1]
        simp only
        rw [if_neg hleft]
        have := ih (l.drop (splitPoint l.length)) (by omega) (m - splitPoint l.length) (by omega)
        rw [hdl] at this
        have hg : (l.drop (splitPoint l.length)).getD (m - splitPoint l.length) [] = l.getD m [] := by
          simp only [List.getD_eq_getElem?_getD, List.getElem?_drop]
          congr 2
          omega
        rw [hg] at this
        rw [this]
    · match l, h2, hm with
      | [x], _, hm =>
        have : m = 0 := by simpa using hm
        subst this
        rw [auntsOf_short H _ [x] (by simp)]
        simp [subtreeRootRev, root_singleton]
      | _ :: _ :: _, h2, _ => simp at h2

theorem ok_of_step_ok {s : Except Err D} {f : D → D} {x : D}
    (h : (match s with | .ok y => .ok (f y) | .error e => .error e : Except Err D) = .ok x) : ∃ y, s = .ok y ∧ f y = x := by
  cases s with
  | ok y => exact ⟨y, rfl, Except.ok.inj h⟩
  | error e => cases h

/-- Under collision-free `inner` the recursion is injective: at a given index of a tree with a given leaf count, a
    root is reached from one leaf digest through one list of aunts only.  No tree is mentioned: the shape of the
    recursion depends on `index` and `total` alone. -/
theorem subtreeRootRev_inj (H : HashFns D) (hinj : InnerInj H) :
    ∀ (rev rev' : List D) (m n : Nat) (d d' x : D),
      subtreeRootRev H m n d rev = .ok x → subtreeRootRev H m n d' rev' = .ok x → d = d' ∧ rev = rev' := by
  intro rev
  induction rev with
  | nil =>
    intro rev' m n d d' x h h'
    rw [subtreeRootRev] at h
    by_cases h1 : n = 1
    · rw [if_pos h1] at h
      cases rev' with
      | nil => rw [subtreeRootRev, if_pos h1] at h'; exact ⟨Except.ok.inj (h.trans h'.symm), rfl⟩
      | cons _ _ => rw [subtreeRootRev, if_pos h1] at h'; cases h'
    · rw [if_neg h1] at h; cases h
  | cons sib rest ih =>
    intro rev' m n d d' x h h'
    rw [subtreeRootRev] at h
    by_cases h1 : n = 1
    · rw [if_pos h1] at h; cases h
    · cases rev' with
      | nil => rw [subtreeRootRev, if_neg h1] at h'; cases h'
      | cons sib' rest' =>
        rw [subtreeRootRev] at h'
        rw [if_neg h1] at h h'
        -- the same argument in the left and in the right child
        by_cases hleft : m < splitPoint n <;> simp only [hleft, ↓reduceIte] at h h'
        all_goals
          obtain ⟨y, hs, rfl⟩ := ok_of_step_ok h
          obtain ⟨y', hs', e⟩ := ok_of_step_ok h'
          obtain ⟨rfl, rfl⟩ := hinj _ _ _ _ e
          obtain ⟨rfl, rfl⟩ := ih rest' _ _ d d' _ hs hs'
          exact ⟨rfl, rfl⟩

/-- Hence, if the recursion reproduces the root of the tree over `l` with `total = |l|` and `index < total`, the leaf
    digest is the digest of `l[index]` and the aunts are exactly the audit path: the honest path does
    (`subtreeRootRev_auntsOf`), and no other can. -/
theorem subtreeRootRev_sound (H : HashFns D) (hinj : InnerInj H) (rev : List D) (l : List Bytes) (m : Nat) (d : D)
    (hm : m < l.length) (h : subtreeRootRev H m l.length d rev = .ok (root H l)) :
    d = H.leaf (l.getD m []) ∧ rev = (auntsOf H m l).reverse :=
  subtreeRootRev_inj H hinj _ _ _ _ _ _ _ h (subtreeRootRev_auntsOf H l.length l (Nat.le_refl _) m hm)

/-- the free term algebra is collision free (the hypotheses of the soundness theorems are satisfiable) -/
theorem termFns_innerInj : InnerInj termFns := by
  intro a b c d h
  simp only [termFns] at h
  injection h with h1 h2
  exact ⟨h1, h2⟩

theorem termFns_leafInj : LeafInj termFns := by
  intro x y h
  simp only [termFns] at h
  injection h

theorem termFns_leafNeInner : LeafNeInner termFns := by
  intro x a b h
  simp only [termFns] at h
  cases h

theorem not_collision_iff (H : HashFns D) : ¬ Collision H ↔ (LeafInj H ∧ InnerInj H) := by
  constructor
  · intro hn
    constructor
    · intro x y h
      by_cases hxy : x = y
      · exact hxy
      · exact absurd (Or.inl ⟨x, y, hxy, h⟩) hn
    · intro a b c d h
      by_cases hac : a = c
      · by_cases hbd : b = d
        · exact ⟨hac, hbd⟩
        · exact absurd (Or.inr ⟨a, b, c, d, Or.inr hbd, h⟩) hn
      · exact absurd (Or.inr ⟨a, b, c, d, Or.inl hac, h⟩) hn
  · rintro ⟨hl, hi⟩ (⟨x, y, hne, h⟩ | ⟨a, b, c, d, hne, h⟩)
    · exact hne (hl x y h)
    · obtain ⟨h1, h2⟩ := hi a b c d h
      cases hne with
      | inl h => exact h h1
      | inr h => exact h h2

end Lumina.Proofs.Merkle

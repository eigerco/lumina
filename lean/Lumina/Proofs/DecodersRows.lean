/-
  C16: `compute_root` over pushed (ordered) leaves, leopard's entry guards, and one specification lemma per decoder
  (sample, row, row namespace data, namespace data, bad encoding fraud proof): where it may panic and what a value
  it returns satisfies (`Sat`), read off its guard cascade once.
-/
import Lumina.Proofs.DecodersMain
import Lumina.Proofs.NmtOrder

namespace Lumina.Proofs.Decoders
open Lumina.Util Lumina.Model.Eds Lumina.Model.Decoders
open Lumina.Model.Nmt hiding validateShape
open Lumina.Proofs.Nmt (leB_refl)
open Lumina.Proofs.NmtOrder (computeRoot_summ leaves_monoA)
open Lumina.Model.Sample (shareFromRaw shareParity)

theorem computeRoot_ne_panic (H : HashFn) (ign : Bool) (ls : List NsHash) (hm : MonoA ls) :
    computeRoot H ign ls ≠ .error .panic := by
  by_cases h : ls = []
  · subst h; nofun
  · obtain ⟨r, hr, _⟩ := computeRoot_summ H ign h hm
    rw [hr]; nofun

theorem pushLeaves_mono {H : HashFn} {leaves : List (Bytes × Bytes)} {hs : List NsHash}
    (h : pushLeaves H leaves = some hs) : MonoA hs := by
  unfold pushLeaves at h
  split at h
  · rename_i hok
    simp only [Option.some.injEq] at h
    subst h
    exact leaves_monoA H (ns := Prod.fst) (d := Prod.snd) ((Lumina.Proofs.Nmt.pushOrderOk_iff _ _).mp hok).1
  · cases h

theorem ceilPow2_noPanic {x : Nat} (h : x ≠ 0) : ∃ m, ceilPow2 x = .ok m := by
  unfold ceilPow2; simp [h]

theorem isEncodeBufOverflow_noPanic {k parity : Nat} (h : parity ≠ 0) : ∃ b, isEncodeBufOverflow k parity = .ok b := by
  unfold isEncodeBufOverflow
  obtain ⟨m, hm⟩ := ceilPow2_noPanic h
  rw [hm]
  simp only [Out.bind]
  split <;> exact ⟨_, rfl⟩

theorem checkShards_false_some {s : List Bytes} {size : Nat} (h : checkShards s false = some size) :
    size = shardSize s ∧ size ≠ 0 := by
  unfold checkShards at h
  simp only at h
  split at h
  · simp at h
  · split at h
    · simp only [Option.some.injEq] at h; subst h; exact ⟨rfl, by assumption⟩
    · cases h

/-- asked for a non-zero number of parity shards, `encode` does not panic; past its guards it hands shards of a common
    non-zero size, a multiple of 64, to the transform -/
theorem leoEncode_sat (c : Codec) (shards : List Bytes) (k : Nat) (h1 : k ≤ shards.length) (h2 : shards.length ≠ k) :
    Sat Never (fun r => r = c.enc shards k ∧ shardSize shards ≠ 0 ∧ shardSize shards % 64 = 0)
      (leoEncode c shards k) := by
  unfold leoEncode
  refine Sat.guard fun _ => ?_
  rw [if_neg (by omega)]
  refine Sat.guard fun _ => ?_
  obtain ⟨b, hb⟩ := isEncodeBufOverflow_noPanic (k := k) (parity := shards.length - k) (by omega)
  rw [hb]
  refine Sat.guard fun _ => ?_
  split; · trivial
  rename_i size hcs
  refine Sat.guard fun hmod => ?_
  obtain ⟨e, hne⟩ := checkShards_false_some hcs
  exact ⟨rfl, e ▸ hne, e ▸ by simpa using hmod⟩

/-- `reconstruct` does not panic; past its guards it returns the shards as they are (all present) or the transform's
    result -/
theorem leoReconstruct_sat (c : Codec) (shards : List Bytes) (k : Nat) (h1 : k ≤ shards.length) :
    Sat Never (fun r => r = shards ∨ r = c.recon shards k) (leoReconstruct c shards k) := by
  unfold leoReconstruct
  refine Sat.guard fun _ => ?_
  rw [if_neg (by omega)]
  refine Sat.guard fun _ => ?_
  split; · trivial
  simp only
  split; · exact .inl rfl
  exact Sat.guard fun _ => Sat.guard fun _ => .inr rfl

theorem sampleFromRaw_sat (row col : Nat) (raw : RawSample) :
    Sat Never (fun s => ∃ rp data, raw.proof = some rp ∧ proofFromRaw rp = .ok s.proof ∧ raw.share = some data ∧
      (shareFromRaw data = .ok s.share ∨ shareParity data = .ok s.share)) (sampleFromRaw row col raw) := by
  unfold sampleFromRaw sampleFromRawWith
  split; · trivial
  rename_i rp hrp
  refine (proofFromRaw_sat rp).bind fun proof hq => ?_
  split; · trivial
  split; · trivial
  split; · trivial
  rename_i data hdata
  refine Sat.bind (P := fun _ => True) trivial fun t _ => ?_
  split; · trivial
  unfold sampleFinish
  simp only
  split; · trivial
  rename_i share hshare
  refine ⟨rp, data, hrp, hq, hdata, ?_⟩
  split at hshare
  · exact .inl hshare
  · exact .inr hshare

theorem sampleVerify_sat (H : HashFn) (s : Lumina.Model.Sample.Sample) (hu : U32 s.proof) (row col : Nat) (dah : Dah) :
    Safe (sampleVerify H s row col dah) := by
  unfold sampleVerify sampleVerifyWith
  split
  · exact Sat.guard fun _ => sat_ofNmt (safeVerifyRange_ne_panic H s.proof hu _ _ _)
  · trivial

theorem rowFromRaw_sat (c : Codec) (i : Nat) (raw : RawRow) :
    Sat Never (fun r => ∀ sh ∈ r, ∃ d, shareFromRaw d = .ok sh ∨ shareParity d = .ok sh) (rowFromRaw c i raw) := by
  unfold rowFromRaw rowFromRawWith
  simp only [Bool.true_and]
  refine Sat.guard fun hk => ?_
  have hk' : raw.halves.length ≠ 0 := by simpa using hk
  refine Sat.bind (P := fun _ => True) ?_ fun shards _ => ?_
  · split
    · exact (leoReconstruct_sat _ _ _ (by simp)).safe
    · exact (leoEncode_sat _ _ _ (by simp) (by simp only [List.length_append, List.length_replicate]; omega)).safe
  · unfold rowShares
    refine (sat_collectOut (P := fun q sh => shareFromRaw q.2 = .ok sh ∨ shareParity q.2 = .ok sh) fun q _ => ?_).mono
      (fun _ h => h) fun r _ h sh hsh => let ⟨q, _, hq⟩ := h sh hsh; ⟨q.2, hq⟩
    split
    · rename_i s hs
      split at hs
      · exact .inl hs
      · exact .inr hs
    · trivial

theorem rowVerify_sat (H : HashFn) (r : Row) (rowIdx : Nat) (dah : Dah) : Safe (rowVerify H r rowIdx dah) := by
  unfold rowVerify
  split; · trivial
  rename_i hs hp
  split; · trivial
  refine (sat_ofNmt (computeRoot_ne_panic H true hs (pushLeaves_mono hp))).bind fun a _ => ?_
  split <;> trivial

theorem rndFromRaw_sat (ns : Bytes) (raw : RawRnd) :
    Sat Never (fun d => ∃ rp, raw.proof = some rp ∧ proofFromRaw rp = .ok d.proof) (rndFromRaw ns raw) := by
  unfold rndFromRaw
  split; · trivial
  rename_i rp hrp
  refine Sat.bind (sat_collectOut (P := fun _ _ => True) fun d _ => by split <;> trivial) fun shares _ => ?_
  split; · trivial
  exact (proofFromRaw_sat rp).bind fun p hq => ⟨rp, hrp, hq⟩

theorem rndVerify_sat (H : HashFn) (d : Rnd) (hu : U32 d.proof) (ns : Bytes) (row : Nat) (dah : Dah) :
    Safe (rndVerify H d ns row dah) := by
  unfold rndVerify rndVerifyWith
  refine Sat.guard fun _ => ?_
  split; · trivial
  exact sat_ofNmt (safeVerifyCompleteNamespace_ne_panic H d.proof hu _ _ _)

theorem ndFromRaw_sat (ns : Bytes) (rows : List RawRnd) :
    Sat Never (fun ds => ∀ d ∈ ds, U32 d.proof) (ndFromRaw ns rows) := by
  unfold ndFromRaw
  refine Sat.guard fun _ => ?_
  refine (sat_collectOut fun r _ => rndFromRaw_sat ns r).mono (fun _ h => h) fun ds _ h d hd => ?_
  obtain ⟨_, _, _, _, hq⟩ := h d hd
  exact proofFromRaw_u32 hq

theorem verifyRows_sat (f : Rnd → Nat → Out Unit) : ∀ (rows : List Rnd) (idxs : List Nat),
    (∀ r ∈ rows, ∀ i, Safe (f r i)) → Safe (verifyRows f rows idxs)
  | [], idxs, _ => by cases idxs <;> trivial
  | _ :: _, [], _ => trivial
  | r :: rs, i :: is, h => by
    unfold verifyRows
    exact (h r List.mem_cons_self i).bind fun _ _ =>
      verifyRows_sat f rs is fun r' hr' => h r' (List.mem_cons_of_mem _ hr')

theorem dahSquareWidth_ok {dah : Dah} (hw : dah.rowRoots.length ≤ U16_MAX) : dahSquareWidth dah = .ok dah.rowRoots.length := by
  unfold dahSquareWidth; rw [if_neg (by omega)]

theorem ndVerify_sat (H : HashFn) (rows : List Rnd) (hu : ∀ d ∈ rows, U32 d.proof) (ns : Bytes) (dah : Dah)
    (hw : dah.rowRoots.length ≤ U16_MAX) : Safe (ndVerify H rows ns dah) := by
  unfold ndVerify ndVerifyWith
  refine Sat.guard fun _ => ?_
  rw [dahSquareWidth_ok hw]
  refine Sat.guard fun _ => ?_
  exact verifyRows_sat _ _ _ fun r hr i => rndVerify_sat H r (hu r hr) ns i dah

theorem shareWithProofFromRaw_sat (s : RawBefpShare) (rp : RawProof) :
    Sat Never (fun x => U32 x.proof) (shareWithProofFromRaw s rp) := by
  unfold shareWithProofFromRaw
  refine Sat.guard fun _ => ?_
  split; · trivial
  refine (proofFromRaw_sat rp).bind fun p hq => ?_
  refine Sat.guard fun _ => ?_
  split; · trivial
  exact proofFromRaw_u32 hq

/-- the proofs inside a decoded fraud proof carry `u32` indices -/
def BefpU32 (p : Befp) : Prop := ∀ s, some s ∈ p.shares → U32 s.proof

theorem befpFromRaw_sat (raw : RawBefp) : Sat Never BefpU32 (befpFromRaw raw) := by
  unfold befpFromRaw
  split; · trivial
  refine Sat.guard fun _ => ?_
  refine Sat.bind (sat_collectOut (P := fun _ o => ∀ x, o = some x → U32 x.proof) fun s _ => ?_) fun shares hs => ?_
  · unfold befpShareFromRaw
    split
    · exact (shareWithProofFromRaw_sat _ _).bind fun x hx y e => by cases e; exact hx
    · exact fun x e => by cases e
  · refine Sat.guard fun _ => Sat.guard fun _ => ?_
    intro s hm
    obtain ⟨_, _, h⟩ := hs (some s) hm
    exact h s rfl

theorem befpVerifyShares_sat (H : HashFn) (bindPos : Bool) (dah : Dah) (axis : Axis) (index : Nat)
    (hw : dah.rowRoots.length ≤ U16_MAX) (hrc : dah.rowRoots.length = dah.colRoots.length)
    (hidx : index < dah.rowRoots.length) :
    ∀ (shares : List (Option ShareWithProof)) (i : Nat), (∀ s, some s ∈ shares → U32 s.proof) →
      i + shares.length ≤ dah.rowRoots.length →
      Safe (befpVerifyShares (safeVerifyRange H) bindPos dah axis index shares i) := by
  intro shares
  induction shares with
  | nil => intro i _ _; trivial
  | cons o rest ih =>
    intro i hu hlen
    have hrest : ∀ s, some s ∈ rest → U32 s.proof := fun s hs => hu s (List.mem_cons_of_mem _ hs)
    have hlen' : i + 1 + rest.length ≤ dah.rowRoots.length := by simp at hlen; omega
    cases o with
    | none => unfold befpVerifyShares; exact ih (i + 1) hrest hlen'
    | some s =>
      unfold befpVerifyShares
      have hi : i < dah.rowRoots.length := by simp at hlen; omega
      have himod : i % 65536 = i := Nat.mod_eq_of_lt (by unfold U16_MAX at hw; omega)
      have hfin : ∀ (root : NsHash) (j : Nat),
          Safe (if (bindPos && s.proof.start != j) = true then Out.err
           else (ofNmt (safeVerifyRange H s.proof root [s.share] s.ns)).bind fun _ =>
            befpVerifyShares (safeVerifyRange H) bindPos dah axis index rest (i + 1)) := fun root j =>
        Sat.guard fun _ => (sat_ofNmt (safeVerifyRange_ne_panic H s.proof (hu s List.mem_cons_self) _ _ _)).bind
          fun _ _ => ih (i + 1) hrest hlen'
      -- the roots the `unwrap`s index are there: square DAH, indices below its width
      have hr1 : dah.rowRoot? index = some dah.rowRoots[index] := List.getElem?_eq_getElem hidx
      have hr2 : dah.colRoot? index = some (dah.colRoots[index]'(by omega)) := List.getElem?_eq_getElem (by omega)
      have hr3 : dah.rowRoot? i = some dah.rowRoots[i] := List.getElem?_eq_getElem hi
      have hr4 : dah.colRoot? i = some (dah.colRoots[i]'(by omega)) := List.getElem?_eq_getElem (by omega)
      rw [himod]
      cases axis <;> cases s.proofAxis <;> simp only [hr1, hr2, hr3, hr4] <;> exact hfin _ _

/-- what is assumed of leopard's transforms: they keep the number of shards and return shards of the
    common shard size -/
structure CodecShape (c : Codec) : Prop where
  enc_len : ∀ s k, (c.enc s k).length = s.length
  enc_size : ∀ s k, ∀ x ∈ c.enc s k, x.length = shardSize s
  recon_len : ∀ s k, (c.recon s k).length = s.length

/-- `validate` up to the reconstruction, against a DAH of at most `u16::MAX` row roots: no panic; on success one share
    to rebuild from per root of a square DAH, the ODS width, and an axis index inside the square -/
theorem befpPrefix_sat (H : HashFn) (bindPos capGuard : Bool) (p : Befp) (hu : BefpU32 p) (hh : Nat) (dah : Dah)
    (hw : dah.rowRoots.length ≤ U16_MAX) :
    Sat Never (fun rk => rk.2 = dah.rowRoots.length / 2 ∧ rk.1.length = dah.rowRoots.length ∧
        p.index < dah.rowRoots.length ∧ dah.rowRoots.length = dah.colRoots.length)
      (befpPrefix (safeVerifyRange H) bindPos capGuard p hh dah) := by
  unfold befpPrefix
  refine Sat.guard fun _ => Sat.guard fun hrc => ?_
  rw [dahSquareWidth_ok hw]
  refine Sat.guard fun h1 => Sat.guard fun h2 => Sat.guard fun _ => Sat.guard fun _ => ?_
  refine (befpVerifyShares_sat H bindPos dah p.axis p.index hw (by omega) (by omega) p.shares 0 hu
    (by omega)).bind fun _ _ => ?_
  exact ⟨rfl, by rw [List.length_map]; omega, by omega, by omega⟩

/-- the one site the fraud-proof code may panic at while the `unwrap` is in it -/
def UnwrapOnly (unwrapFixed : Bool) : Site → Prop := fun t => unwrapFixed = false ∧ t = .befpUnwrap

theorem befpLeafNs_sat (uf io : Bool) (k n : Nat) (sh : Bytes) (h : NS_SIZE ≤ sh.length) :
    Sat (UnwrapOnly uf) (fun _ => True) (befpLeafNs uf io k n sh) := by
  unfold befpLeafNs
  split
  · rw [if_neg (by omega)]
    split
    · trivial
    · cases uf
      · exact ⟨rfl, rfl⟩
      · trivial
  · trivial

theorem befpRebuild_sat (uf io : Bool) (H : HashFn) (k : Nat) : ∀ (shares : List Bytes) (n : Nat) (hi : Bytes),
    (∀ sh ∈ shares, NS_SIZE ≤ sh.length) →
    Sat (UnwrapOnly uf) (fun o => ∀ hs, o = some hs → MonoA hs ∧ ∀ x, hs.head? = some x → leB hi x.minNs = true)
      (befpRebuild uf io H k shares n hi)
  | [], n, hi, _ => fun hs h => by cases h; exact ⟨trivial, nofun⟩
  | sh :: rest, n, hi, hlen => by
    have ih := fun ns => befpRebuild_sat uf io H k rest (n + 1) ns fun s hs => hlen s (List.mem_cons_of_mem _ hs)
    have hl := befpLeafNs_sat uf io k n sh (hlen sh List.mem_cons_self)
    unfold befpRebuild
    split
    · rename_i e; exact hl.of_panic e
    · trivial
    · exact nofun
    · rename_i ns _
      split; · exact nofun
      rename_i hlt
      split
      · rename_i e; exact (ih ns).of_panic e
      · trivial
      · exact nofun
      · rename_i hs0 e
        obtain ⟨hm, hh⟩ := (ih ns).of_ok e hs0 rfl
        intro hs h
        cases h
        exact ⟨monoA_cons.mpr ⟨leB_refl _, hh, hm⟩,
          fun x hx => by cases hx; exact (Lumina.Proofs.Nmt.leB_of_not_ltB (by simpa using hlt) : leB hi ns = true)⟩

theorem befpSuffix_sat (uf : Bool) (H : HashFn) (c : Codec) (hc : CodecShape c) (p : Befp) (dah : Dah)
    (rebuilt : List Bytes) (k : Nat) (hlen : rebuilt.length = dah.rowRoots.length)
    (hk : k = dah.rowRoots.length / 2) (hidx : p.index < dah.rowRoots.length)
    (hrc : dah.rowRoots.length = dah.colRoots.length) :
    Sat (UnwrapOnly uf) (fun _ => True) (befpSuffix uf H c p dah rebuilt k) := by
  unfold befpSuffix
  -- a codec error is "befp is legit", not an error of `validate`: the two codec calls are matched on, not bound
  have hR := leoReconstruct_sat c rebuilt k (by omega)
  cases hr : leoReconstruct c rebuilt k with
  | panic s => exact (hR.of_panic hr).elim
  | err => trivial
  | ok rec =>
    have hrl : rec.length = rebuilt.length := by
      rcases hR.of_ok hr with rfl | rfl
      · rfl
      · exact hc.recon_len _ _
    have hE := leoEncode_sat c rec k (by omega) (by omega)
    simp only
    cases he : leoEncode c rec k with
    | panic s => exact (hE.of_panic he).elim
    | err => trivial
    | ok full =>
      obtain ⟨rfl, h0, h64⟩ := hE.of_ok he
      simp only
      refine (befpRebuild_sat uf _ H k _ 0 _ fun sh hsh => ?_).bind fun hs? hb => ?_
      · rw [hc.enc_size _ _ sh hsh]; unfold NS_SIZE; omega
      split; · trivial
      rename_i hs
      have hfin : ∀ e : NsHash, Sat (UnwrapOnly uf) (fun _ => True) ((ofNmt (computeRoot H true hs)).bind fun root =>
          if (root == e) = true then Out.err else Out.ok ()) := fun e =>
        (sat_ofNmt (computeRoot_ne_panic H true hs (hb hs rfl).1)).weaken.bind fun _ _ => by split <;> trivial
      -- the axis root is there: the index was checked against the square width
      have hr1 : dah.rowRoot? p.index = some dah.rowRoots[p.index] := List.getElem?_eq_getElem hidx
      have hr2 : dah.colRoot? p.index = some (dah.colRoots[p.index]'(by omega)) := List.getElem?_eq_getElem (by omega)
      cases hax : p.axis <;> simp only [hr1, hr2] <;> exact hfin _

/-- decode + `validate` with lumina's shape-validating `verify_range`: whichever of the byzantine.rs fixes are in,
    the only panic left is the `unwrap`, and that only while it is in the code -/
theorem befpValidateWith_sat (uf bindPos capGuard : Bool) (H : HashFn) (c : Codec) (hc : CodecShape c) (p : Befp)
    (hu : BefpU32 p) (hh : Nat) (dah : Dah) (hw : dah.rowRoots.length ≤ U16_MAX) :
    Sat (UnwrapOnly uf) (fun _ => True) (befpValidateWith uf bindPos capGuard H (safeVerifyRange H) c p hh dah) :=
  (befpPrefix_sat H bindPos capGuard p hu hh dah hw).weaken.bind fun rk ⟨h0, h1, h2, h3⟩ =>
    befpSuffix_sat uf H c hc p dah rk.1 rk.2 h1 h0 h2 h3

theorem edsNotification_sat (emptyHash : Bytes) (height : Nat) (dataHash : Bytes) :
    Safe (edsNotification emptyHash height dataHash) := by
  unfold edsNotification
  exact Sat.guard fun _ => Sat.guard fun _ => Sat.guard fun _ => Sat.guard fun _ => trivial

theorem edsResponseGuards_sat (rawLen : Nat) : Sat Never (fun k => k ≠ 0) (edsResponseGuards rawLen) := by
  unfold edsResponseGuards
  refine Sat.guard fun h0 => Sat.guard fun h1 => Sat.guard fun h2 => fun e => ?_
  rw [e] at h2
  have hs : SHARE_SIZE = 512 := rfl
  rw [hs] at h1 h2
  simp only [ne_eq, Decidable.not_not] at h1 h2
  omega

end Lumina.Proofs.Decoders

/-
  Facts that more than one model needs and core does not have: a guard in front of an `Except` computation, the
  default-valued index of a list, and lists that are used as finite maps (entries found by a key `f`, the keys pairwise
  distinct).
-/
namespace Lumina.Proofs.Util

theorem guard_ok_iff {ε α} {c : Prop} [Decidable c] {e : ε} {x : Except ε α} {a : α} :
    (if c then Except.error e else x) = .ok a ↔ ¬ c ∧ x = .ok a := by
  by_cases h : c <;> simp [h]

theorem getD_mem {α} {l : List α} {i : Nat} {d : α} (h : i < l.length) : l.getD i d ∈ l := by
  rw [List.getD_eq_getElem?_getD, List.getElem?_eq_getElem h]
  exact List.getElem_mem h

variable {α : Type _} (f : α → Nat)

theorem nodup_map_inj (l : List α) (hn : (l.map f).Nodup) :
    ∀ x ∈ l, ∀ y ∈ l, f x = f y → x = y := by
  induction l with
  | nil => simp
  | cons a rest ih =>
    simp only [List.map_cons, List.nodup_cons] at hn
    intro x hx y hy e
    rcases List.mem_cons.1 hx with ex | ex <;> rcases List.mem_cons.1 hy with ey | ey
    · rw [ex, ey]
    · subst ex; exfalso; apply hn.1; rw [e]; exact List.mem_map_of_mem ey
    · subst ey; exfalso; apply hn.1; rw [← e]; exact List.mem_map_of_mem ex
    · exact ih hn.2 x ex y ey e

theorem find?_key_some {l : List α} {k : Nat} {x : α} (h : l.find? (fun y => f y == k) = some x) :
    x ∈ l ∧ f x = k :=
  ⟨List.mem_of_find?_eq_some h, by simpa using List.find?_some h⟩

theorem find?_key (l : List α) (hn : (l.map f).Nodup) (k : Nat) (x : α) :
    l.find? (fun y => f y == k) = some x ↔ x ∈ l ∧ f x = k := by
  constructor
  · exact find?_key_some f
  · rintro ⟨hx, rfl⟩
    cases h : l.find? (fun y => f y == f x) with
    | none => have := List.find?_eq_none.1 h x hx; simp at this
    | some y =>
      obtain ⟨hy, e⟩ := find?_key_some f h
      rw [nodup_map_inj f l hn y hy x hx e]

theorem find?_map_key {β : Type _} (f' : β → Nat) (g : α → β) (hg : ∀ x, f' (g x) = f x) (l : List α) (k : Nat) :
    (l.map g).find? (fun y => f' y == k) = (l.find? (fun x => f x == k)).map g := by
  rw [List.find?_map]
  congr 2
  funext x
  simp [hg]

theorem find?_filter_key (l : List α) (h k : Nat) :
    (l.filter (fun x => f x != h)).find? (fun x => f x == k) = if k = h then none else l.find? (fun x => f x == k) := by
  rw [List.find?_filter]
  by_cases e : k = h
  · subst e
    simp only [if_true, List.find?_eq_none]
    intro x _; simp
  · simp only [e, if_false]
    congr 1
    funext x
    by_cases e2 : f x = k
    · simp [e2, e]
    · simp [e2]

theorem filter_key_congr (g : α → Nat) (l : List α) (hf : (l.map f).Nodup) (hg : (l.map g).Nodup)
    (x : α) (hx : x ∈ l) : l.filter (fun y => f y != f x) = l.filter (fun y => g y != g x) :=
  List.filter_congr fun y hy => by
    by_cases e : y = x
    · simp [e]
    · rw [bne_iff_ne.2 fun h => e (nodup_map_inj f l hf y hy x hx h),
        bne_iff_ne.2 fun h => e (nodup_map_inj g l hg y hy x hx h)]

theorem filter_same_key_length (l : List α) (hn : (l.map f).Nodup) (x : α) (hx : x ∈ l) :
    (l.filter (fun y => f y == f x)).length = 1 := by
  have := hn.count (a := f x)
  rw [if_pos (List.mem_map_of_mem hx), List.count_eq_countP, List.countP_map, List.countP_eq_length_filter] at this
  exact this

theorem filter_ne_key_length (l : List α) (hn : (l.map f).Nodup) (x : α) (hx : x ∈ l) :
    (l.filter (fun y => f y != f x)).length = l.length - 1 := by
  have h1 := filter_same_key_length f l hn x hx
  have h2 := List.length_eq_countP_add_countP (l := l) (fun y => f y == f x)
  have e : l.countP (fun y => f y != f x) = l.countP (fun y => decide ¬(f y == f x) = true) :=
    List.countP_congr fun y _ => by simp
  rw [← List.countP_eq_length_filter] at h1 ⊢
  rw [e]
  omega

end Lumina.Proofs.Util

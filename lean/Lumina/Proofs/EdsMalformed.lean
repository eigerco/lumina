/-
  C08: what `new` / `from_ods` accept is in none of the malformed classes of `Lumina/Spec/C08.lean`.

  The two checkers `malformedEds` / `malformedOds` have one shape (share count not a square | width not a power of two |
  below the minimum | above the maximum | a share of the wrong size | unsorted at the width); `malformed_shape_iff` reads
  that shape once, in both directions.
-/
import Lumina.Proofs.EdsCodeword

namespace Lumina.Proofs.EdsMalformed
open Lumina.Util Lumina.Model.Nmt Lumina.Model.Eds Lumina.Model.EdsCode
open Lumina.Proofs.EdsCode Lumina.Proofs.EdsExtend Lumina.Proofs.EdsCodeword
open Lumina.Spec.C08

theorem notSquare_false_iff {n : Nat} : notSquare n = false ↔ ∃ w, w * w = n := by
  simp only [notSquare, Bool.eq_false_iff, ne_eq, List.all_eq_true, List.mem_range, bne_iff_ne, not_forall,
    Decidable.not_not]
  exact ⟨fun ⟨w, _, h⟩ => ⟨w, h⟩, fun ⟨w, h⟩ => ⟨w, by have := Nat.le_mul_self w; omega, h⟩⟩

theorem widthNotPow2_false_iff {n w : Nat} (hw : w * w = n) : widthNotPow2 n = false ↔ ∃ j, w = 2 ^ j := by
  unfold widthNotPow2
  rw [List.any_eq_false]
  constructor
  · intro h
    have := h w (List.mem_range.mpr (by have := Nat.le_mul_self w; omega))
    have h' : (List.range (w + 1)).any (fun j => 2 ^ j == w) = true := by simpa [hw] using this
    obtain ⟨j, _, h⟩ := List.any_eq_true.mp h'
    exact ⟨j, (beq_iff_eq.mp h).symm⟩
  · rintro ⟨j, hj⟩ w' _
    simp only [Bool.and_eq_true, beq_iff_eq, Bool.not_eq_true', List.any_eq_false, List.mem_range, not_and,
      not_forall, Decidable.not_not]
    intro h1
    obtain rfl : w' = w := Nat.mul_self_inj.mp (by rw [h1, hw])
    exact ⟨j, by have := @Nat.lt_two_pow_self j; omega, hj.symm⟩

theorem malformed_shape_iff {n lo hi : Nat} {sizes : Bool} {uns : Nat → Bool} :
    (notSquare n || widthNotPow2 n || decide (n < lo) || decide (n > hi) || sizes ||
      (List.range (n + 1)).any (fun w => w * w == n && uns w)) = false ↔
    ∃ w j, w * w = n ∧ w = 2 ^ j ∧ lo ≤ n ∧ n ≤ hi ∧ sizes = false ∧ uns w = false := by
  simp only [Bool.or_eq_false_iff, decide_eq_false_iff_not, Nat.not_lt, List.any_eq_false, List.mem_range,
    Bool.and_eq_true, beq_iff_eq, not_and, Bool.not_eq_true]
  constructor
  · rintro ⟨⟨⟨⟨⟨hsq, hp2⟩, hlo⟩, hhi⟩, hsz⟩, hu⟩
    obtain ⟨w, hw⟩ := notSquare_false_iff.mp hsq
    obtain ⟨j, hj⟩ := (widthNotPow2_false_iff hw).mp hp2
    exact ⟨w, j, hw, hj, hlo, hhi, hsz, hu w (by have := Nat.le_mul_self w; omega) hw⟩
  · rintro ⟨w, j, hw, hj, hlo, hhi, hsz, hu⟩
    refine ⟨⟨⟨⟨⟨notSquare_false_iff.mpr ⟨w, hw⟩, (widthNotPow2_false_iff hw).mpr ⟨j, hj⟩⟩, hlo⟩, hhi⟩, hsz⟩, ?_⟩
    intro w' _ hw'
    obtain rfl : w' = w := Nat.mul_self_inj.mp (by rw [hw', hw])
    exact hu

/-- the spec's bound on the original square is the model's `square_size_upper_bound` -/
theorem maxWidth_eq (ver : Nat) : maxExtendedSquareWidth ver = maxOdsWidth ver * 2 := rfl

theorem wrongShareSize_false {shares : List Bytes} (h : ∀ s ∈ shares, s.length = SHARE_SIZE) :
    wrongShareSize shares = false := by
  unfold wrongShareSize
  rw [List.any_eq_false]
  intro s hs
  simp [h s hs, SHARE_SIZE]

theorem nsAt_cell (w : Nat) (sq : List Bytes) (r c : Nat) : nsAt w sq r c = (cell w sq r c).ns := by
  rw [cell_ns]; rfl

theorem unsortedEds_false_iff {w : Nat} {sq : List Bytes} : unsortedEds w sq = false ↔
    ∀ i, i < w → ∀ j, j + 1 < w → ∀ ax : Axis,
      ltB (cell w sq (axisCoord ax i (j + 1)).1 (axisCoord ax i (j + 1)).2).ns
        (cell w sq (axisCoord ax i j).1 (axisCoord ax i j).2).ns = false := by
  simp only [unsortedEds, List.any_eq_false, List.mem_range, Bool.not_eq_true, Bool.or_eq_false_iff, nsAt_cell]
  constructor
  · intro h i hi j hj ax
    cases ax
    · exact (h i hi j (by omega)).1
    · exact (h i hi j (by omega)).2
  · exact fun h i hi j hj => ⟨h i hi j (by omega) .row, h i hi j (by omega) .col⟩

theorem pairwise_adjacent {l : List Bytes} (h : l.Pairwise (fun a b => leB a b = true)) {j : Nat} (hj : j + 1 < l.length) :
    ltB (l.getD (j + 1) []) (l.getD j []) = false := by
  rw [List.pairwise_iff_getElem] at h
  have := h j (j + 1) (by omega) hj (by omega)
  unfold leB at this
  simp only [List.getD_eq_getElem?_getD, List.getElem?_eq_getElem hj, List.getElem?_eq_getElem (show j < l.length by omega),
    Option.getD_some]
  simpa using this

theorem pairwise_of_adjacent : ∀ {l : List Bytes},
    (∀ j, j + 1 < l.length → ltB (l.getD (j + 1) []) (l.getD j []) = false) → l.Pairwise (fun a b => leB a b = true)
  | [], _ => List.Pairwise.nil
  | [a], _ => by simp
  | a :: b :: t, h => by
    have ih := pairwise_of_adjacent (l := b :: t) (fun j hj => h (j + 1) (by simpa using hj))
    have hab : leB a b = true := by have := h 0 (by simp); simpa [leB] using this
    refine List.pairwise_cons.mpr ⟨fun x hx => ?_, ih⟩
    rcases List.mem_cons.mp hx with rfl | hx
    · exact hab
    · exact Lumina.Proofs.Nmt.leB_trans hab ((List.pairwise_cons.mp ih).1 x hx)

theorem unsortedEds_false {ver : Nat} {shares : List Bytes} {e : Eds} (h : NewOK ver shares e) :
    unsortedEds e.width shares = false := by
  rw [unsortedEds_false_iff]
  intro i hi j hj ax
  have := pairwise_adjacent (h.sorted i hi ax) (j := j) (by rw [List.length_map, lineCells_length]; exact hj)
  rwa [lineCells_ns_getD _ _ _ hj, lineCells_ns_getD _ _ _ (by omega)] at this

/-- **an accepted square is in none of the malformed classes** -/
theorem not_malformed_of_newOK {ver : Nat} {shares : List Bytes} {e : Eds} (ok : NewOK ver shares e) :
    malformedEds ver shares = false := by
  obtain ⟨j, _, _, hj⟩ := ok.pow
  have hw2 := ok.two_le
  refine malformed_shape_iff.mpr ⟨e.width, j, ok.sq, hj, ?_, ?_, wrongShareSize_false ok.raw_size, unsortedEds_false ok⟩
  · rw [← ok.sq]; exact Nat.mul_le_mul hw2 hw2
  · have hmax : e.width ≤ 2 * maxOdsWidth ver := by
      have := ok.maxw
      rw [maxWidth_eq] at this
      omega
    rw [← ok.sq]
    exact Nat.mul_le_mul hmax hmax

/-- **`from_ods` rejects every malformed original square** -/
theorem not_malformedOds_of_fromOds {enc : List Bytes → List Bytes} {ver : Nat} {ods : List Bytes} {e : Eds}
    (hs : EncShape enc (isqrt ods.length)) (h : fromOds enc ver ods = .ok e) : malformedOds ver ods = false := by
  have x := ExtOK.of_fromOds hs h
  generalize isqrt ods.length = k at x
  have ok := x.newOK
  obtain ⟨j, hj1, _, hj⟩ := ok.pow
  rw [x.width] at hj
  have hkpow : k = 2 ^ (j - 1) := by
    obtain ⟨j', rfl⟩ : ∃ j', j = j' + 1 := ⟨j - 1, by omega⟩
    rw [Nat.pow_succ] at hj
    simp; omega
  refine malformed_shape_iff.mpr ⟨k, j - 1, x.sq.symm, hkpow, ?_, ?_, wrongShareSize_false x.ods_size, ?_⟩
  · rw [x.sq]; exact Nat.mul_le_mul x.kpos x.kpos
  · have hmax : k ≤ maxOdsWidth ver := by
      have := ok.maxw
      rw [x.width, maxWidth_eq] at this
      omega
    rw [x.sq]
    exact Nat.mul_le_mul hmax hmax
  · -- sortedness of the original square = sortedness of the first quadrant of the accepted square
    have hE := unsortedEds_false_iff.mp (unsortedEds_false ok)
    rw [x.width] at hE
    have q0 : ∀ r c, r < k → c < k → (cell (2 * k) (extGrid enc k ods) r c).ns = (ods.getD (r * k + c) []).take 29 := by
      intro r c hr hc
      rw [← nsAt_cell, nsAt, show 2 * k / 2 = k by omega, if_pos ⟨hr, hc⟩, extGrid_q0 enc ods hr hc]
    simp only [unsortedOds, List.any_eq_false, List.mem_range, Bool.not_eq_true, Bool.or_eq_false_iff]
    intro i hi jj hjj
    have hj1 : jj + 1 < k := by omega
    have hj0 : jj < k := Nat.lt_of_succ_lt hj1
    have hE' := hE i (by omega) jj (by omega)
    have hrow := hE' .row
    have hcol := hE' .col
    simp only [axisCoord] at hrow hcol
    rw [q0 _ _ hi hj1, q0 _ _ hi hj0] at hrow
    rw [q0 _ _ hj1 hi, q0 _ _ hj0 hi] at hcol
    exact ⟨hrow, hcol⟩

end Lumina.Proofs.EdsMalformed

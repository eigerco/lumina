/-
  Lemmas for C37 (model `Lumina/Model/Subs.lean`).  Every call that touches `pending` parks a range and then
  takes ranges starting at `last_sent_height + 1` out of it, so each invariant has to survive a `push` and a `pop`.
  `Step` says what a call can do (`step_spec`; the loop is `Drains`), and the three invariants `StoredInv`, `StreamInv`,
  `PendingInv` are proved per constructor of `Step`.
-/
import Lumina.Model.Subs
import Lumina.Spec.C37

namespace Lumina.Proofs.Subs
open Lumina.Model.Subs

/-- a non-empty run `a, a+1, …, a+n` (what a verified header range is, as heights) -/
def IsRun (r : List Nat) : Prop := ∃ a n, r = List.range' a (n + 1)

def lo (r : List Nat) : Nat := r.head?.getD 0
def hi (r : List Nat) : Nat := r.getLast?.getD 0

section
variable {r stored : List Nat} {p : List (List Nat)}

theorem lo_eq_succ {n : Nat} : lo r = n + 1 ↔ r.head? = some (n + 1) := by
  cases r <;> simp [lo]

theorem getLastD_eq_hi (h : r ≠ []) (d : Nat) : r.getLast?.getD d = hi r := by
  cases r with
  | nil => exact absurd rfl h
  | cons a l => simp [hi, List.getLast?_cons]

@[simp] theorem lo_range' (a n : Nat) : lo (List.range' a (n + 1)) = a := by simp [lo, List.range'_succ]
@[simp] theorem hi_range' (a n : Nat) : hi (List.range' a (n + 1)) = a + n := by
  simp [hi, List.getLast?_range']

theorem isRun_singleton (h : Nat) : IsRun [h] := ⟨h, 0, rfl⟩

theorem IsRun.ne_nil (h : IsRun r) : r ≠ [] := by
  obtain ⟨a, n, rfl⟩ := h
  simp [List.range'_succ]

theorem IsRun.mem_iff (h : IsRun r) (x : Nat) : x ∈ r ↔ lo r ≤ x ∧ x ≤ hi r := by
  obtain ⟨a, n, rfl⟩ := h
  simp only [lo_range', hi_range', List.mem_range'_1]
  omega

theorem IsRun.lo_le_hi (h : IsRun r) : lo r ≤ hi r := by
  obtain ⟨a, n, rfl⟩ := h
  simp

theorem IsRun.lo_mem (h : IsRun r) : lo r ∈ r := (h.mem_iff _).2 ⟨Nat.le_refl _, h.lo_le_hi⟩
theorem IsRun.hi_mem (h : IsRun r) : hi r ∈ r := (h.mem_iff _).2 ⟨h.lo_le_hi, Nat.le_refl _⟩

theorem mem_addStored {range : List Nat} {x : Nat} :
    x ∈ addStored stored range ↔ x ∈ stored ∨ x ∈ range := by
  by_cases h : x ∈ stored <;> simp [addStored, h]

def Sub (p : List (List Nat)) (stored : List Nat) : Prop := ∀ r ∈ p, ∀ x ∈ r, x ∈ stored

theorem Sub.store (h : Sub p stored) (r : List Nat) :
    Sub p (addStored stored r) :=
  fun r' hr' x hx => mem_addStored.2 (.inl (h r' hr' x hx))

theorem Sub.push (h : Sub p stored) (r : List Nat) :
    Sub (p ++ [r]) (addStored stored r) :=
  List.forall_mem_append.2 ⟨h.store r, List.forall_mem_singleton.2 fun _ hx => mem_addStored.2 (.inr hx)⟩

end

theorem perm_swapRemove {α} (p : List α) (j : Nat) (r : α) (h : p[j]? = some r) :
    p.Perm (r :: swapRemove p j) := by
  induction p generalizing j with
  | nil => simp at h
  | cons x l ih =>
    rcases List.eq_nil_or_concat l with rfl | ⟨l', z, rfl⟩
    · cases j <;> simp_all [swapRemove]
    · have hz : (x :: (l' ++ [z])).getLast? = some z := List.getLast?_concat (l := x :: l')
      simp only [List.concat_eq_append] at ih h ⊢
      cases j with
      | zero =>
        obtain rfl : x = r := by simpa using h
        simp [swapRemove, hz, List.dropLast_cons_of_ne_nil]
      | succ j =>
        have e : swapRemove (x :: (l' ++ [z])) (j + 1) = x :: swapRemove (l' ++ [z]) j := by
          simp [swapRemove, hz, List.dropLast_cons_of_ne_nil]
        rw [e]
        exact ((ih j (by simpa using h)).cons x).trans (.swap _ _ _)

theorem scan_spec (t : Nat) : ∀ (p : List (List Nat)) (k : Nat),
    match scan t p k with
    | .found i r => k ≤ i ∧ p[i - k]? = some r ∧ r.head? = some t
    | .notFound => ∀ r ∈ p, r.head? ≠ some t
    | .panic => [] ∈ p
  | [], _ => by simp [scan]
  | [] :: _, _ => by simp [scan]
  | (f :: x) :: xs, k => by
    have ih := scan_spec t xs (k + 1)
    by_cases hf : f = t
    · simp [scan, hf]
    · simp only [scan, List.head?_cons, beq_iff_eq, hf, if_false]
      cases hs : scan t xs (k + 1) with
      | panic => simp_all
      | notFound => simp_all
      | found i r =>
        simp only [hs] at ih ⊢
        refine ⟨by omega, ?_, ih.2.2⟩
        rw [show i - k = (i - (k + 1)) + 1 by omega]
        exact ih.2.1

/-- the drain loop: again and again a range starting at `last_sent_height + 1` is taken out of `pending`
    (the rest in whatever order `swap_remove` leaves it) and sent -/
inductive Drains : Nat → List (List Nat) → Nat → List (List Nat) → List Nat → Prop
  | stop (L p) : Drains L p L p []
  | next {L p r q L' p' s} : lo r = L + 1 → p.Perm (r :: q) → Drains (hi r) q L' p' s → Drains L p L' p' (r ++ s)

theorem drain_spec : ∀ (fuel L : Nat) (p : List (List Nat)),
    match drain fuel L p with
    | none => [] ∈ p
    | some (L', p', s) => Drains L p L' p' s ∧ (p.length ≤ fuel → ∀ r ∈ p', lo r ≠ L' + 1)
  | 0, L, p => ⟨.stop L p, fun h r hr => by simp [List.eq_nil_of_length_eq_zero (Nat.le_zero.1 h)] at hr⟩
  | fuel + 1, L, p => by
    have hs := scan_spec (L + 1) p 0
    unfold drain
    cases h : scan (L + 1) p 0 with
    | panic => simpa [h] using hs
    | notFound =>
      simp only [h] at hs ⊢
      exact ⟨.stop L p, fun _ r hr e => hs r hr (lo_eq_succ.1 e)⟩
    | found i r =>
      simp only [h, Nat.sub_zero] at hs ⊢
      have hlo := lo_eq_succ.2 hs.2.2
      have hperm := perm_swapRemove p i r hs.2.1
      have ih := drain_spec fuel (hi r) (swapRemove p i)
      rw [getLastD_eq_hi (by rintro rfl; simp at hs)]
      cases hd : drain fuel (hi r) (swapRemove p i) with
      | none =>
        simp only [hd] at ih ⊢
        exact hperm.symm.subset (.tail _ ih)
      | some res =>
        simp only [hd] at ih ⊢
        refine ⟨.next hlo hperm ih.1, fun hl => ih.2 ?_⟩
        have := hperm.length_eq
        simp only [List.length_cons] at this
        omega

section
variable {L L' h0 : Nat} {stored log sent r : List Nat} {p p' q : List (List Nat)}

theorem Drains.sub (h : Drains L p L' p' sent) (hs : Sub p stored) :
    Sub p' stored ∧ ∀ x ∈ sent, x ∈ stored := by
  induction h with
  | stop => exact ⟨hs, nofun⟩
  | next _ hp _ ih =>
    have hsub := hp.symm.subset
    obtain ⟨h1, h2⟩ := ih fun r' hr' => hs r' (hsub (.tail _ hr'))
    exact ⟨h1, fun x hx => (List.mem_append.1 hx).elim (hs _ (hsub (.head _)) x) (h2 x)⟩

structure Str (sentLog : List Nat) (pending : List (List Nat)) (L h0 : Nat) : Prop where
  le : h0 ≤ L
  log : sentLog = List.range' h0 (L + 1 - h0)
  runs : ∀ r ∈ pending, IsRun r

theorem Str.push (h : Str log p L h0) (hr : IsRun r) : Str log (p ++ [r]) L h0 :=
  ⟨h.le, h.log, List.forall_mem_append.2 ⟨h.runs, List.forall_mem_singleton.2 hr⟩⟩

theorem Str.pop (h : Str log p L h0) (hp : p.Perm (r :: q)) (hlo : lo r = L + 1) :
    Str (log ++ r) q (hi r) h0 := by
  have hle := h.le
  obtain ⟨a, n, rfl⟩ := h.runs r (hp.symm.subset (.head _))
  simp only [lo_range', hi_range'] at hlo ⊢
  subst hlo
  refine ⟨by omega, ?_, fun r' hr' => h.runs r' (hp.symm.subset (.tail _ hr'))⟩
  have := List.range'_append_1 (s := h0) (m := L + 1 - h0) (n := n + 1)
  rw [show h0 + (L + 1 - h0) = L + 1 by omega] at this
  rw [h.log, this]
  congr 1
  omega

theorem Drains.str (h : Drains L p L' p' sent) : ∀ {log}, Str log p L h0 → Str (log ++ sent) p' L' h0 := by
  induction h with
  | stop => intro log h; simpa using h
  | next hlo hp _ ih => intro log h; simpa using ih (h.pop hp hlo)

/-- a range starting inside another one ends inside it -/
def Rel (r1 r2 : List Nat) : Prop := (lo r1 ∈ r2 → hi r1 ≤ hi r2) ∧ (lo r2 ∈ r1 → hi r2 ≤ hi r1)

theorem Rel.symm {a b : List Nat} (h : Rel a b) : Rel b a := ⟨h.2, h.1⟩

theorem rel_of_disjoint {a : List Nat} (ha : IsRun a) (hr : IsRun r) (h : ∀ x ∈ r, x ∉ a) : Rel a r :=
  ⟨fun h1 => absurd ha.lo_mem (h _ h1), fun h1 => absurd h1 (h _ hr.lo_mem)⟩

theorem rel_singleton {a : List Nat} (ha : IsRun a) {x : Nat} (h : hi a ≤ x) : Rel a [x] :=
  ⟨fun _ => h, fun h1 => ((ha.mem_iff x).1 h1).2⟩

/-- pending ranges are laminar (`Rel`), not disjoint: a re-connection head may repeat a pending height -/
structure PInv (L : Nat) (stored : List Nat) (p : List (List Nat)) : Prop where
  last : L ∈ stored
  runs : ∀ r ∈ p, IsRun r
  sub : Sub p stored
  nostr : ∀ r ∈ p, hi r ≤ L ∨ L < lo r
  cover : ∀ x ∈ stored, L < x → ∃ r ∈ p, x ∈ r
  lam : p.Pairwise Rel

theorem pinv_first {h : Nat} (hmax : ∀ x ∈ stored, x ≤ h) : PInv h (addStored stored [h]) [] :=
  ⟨mem_addStored.2 (.inr (.head _)), nofun, nofun, nofun,
   fun x hx hl => (mem_addStored.1 hx).elim (fun h' => absurd (hmax x h') (by omega))
     fun h' => absurd (List.mem_singleton.1 h') (by omega), .nil⟩

theorem PInv.store (hp : PInv L stored p) (hr : ∀ x ∈ r, x ≤ L) : PInv L (addStored stored r) p :=
  ⟨mem_addStored.2 (.inl hp.last), hp.runs, hp.sub.store r, hp.nostr,
   fun x hx hl => (mem_addStored.1 hx).elim (hp.cover x · hl) fun h => absurd (hr x h) (by omega), hp.lam⟩

theorem PInv.push (hp : PInv L stored p) (hr : IsRun r) (hns : hi r ≤ L ∨ L < lo r)
    (hrel : ∀ a ∈ p, Rel a r) : PInv L (addStored stored r) (p ++ [r]) where
  last := mem_addStored.2 (.inl hp.last)
  runs := List.forall_mem_append.2 ⟨hp.runs, List.forall_mem_singleton.2 hr⟩
  sub := hp.sub.push r
  nostr := List.forall_mem_append.2 ⟨hp.nostr, List.forall_mem_singleton.2 hns⟩
  cover x hx hl := by
    rcases mem_addStored.1 hx with h | h
    · obtain ⟨r', hr', hxr'⟩ := hp.cover x h hl
      exact ⟨r', List.mem_append_left _ hr', hxr'⟩
    · exact ⟨r, by simp, h⟩
  lam := List.pairwise_append.2 ⟨hp.lam, List.pairwise_singleton _ _, by simpa using hrel⟩

theorem PInv.hi_le (hp : PInv L stored p) {h : Nat} (hmax : ∀ x ∈ stored, x ≤ h) : ∀ r ∈ p, hi r ≤ h :=
  fun r hr => hmax _ (hp.sub r hr _ (hp.runs r hr).hi_mem)

theorem PInv.push_head (hp : PInv L stored p) {h : Nat} (hmax : ∀ x ∈ stored, x ≤ h) :
    PInv L (addStored stored [h]) (p ++ [[h]]) :=
  hp.push (isRun_singleton h) (Nat.lt_or_ge L h).symm fun a ha =>
    rel_singleton (hp.runs a ha) (hp.hi_le hmax a ha)

/-- sending a pending range that starts at `L + 1`: ranges starting inside it end inside it (`lam`), so
    none straddles its last height -/
theorem PInv.pop (hp : PInv L stored p) (hperm : p.Perm (r :: q)) (hlo : lo r = L + 1) :
    PInv (hi r) stored q := by
  have hq : q ⊆ p := fun _ h => hperm.symm.subset (.tail _ h)
  have hrp : r ∈ p := hperm.symm.subset (.head _)
  have hr := hp.runs r hrp
  have hlh := hr.lo_le_hi
  have hlam := List.pairwise_cons.1 ((hperm.pairwise_iff Rel.symm).1 hp.lam)
  refine ⟨hp.sub r hrp _ hr.hi_mem, fun r' h => hp.runs r' (hq h), fun r' h => hp.sub r' (hq h), ?_, ?_,
    hlam.2⟩
  · intro r' hr'
    rcases hp.nostr r' (hq hr') with h | h
    · left; omega
    · by_cases hc : lo r' ≤ hi r
      · left; exact (hlam.1 r' hr').2 ((hr.mem_iff _).2 ⟨by omega, hc⟩)
      · right; omega
  · intro x hx hxl
    obtain ⟨r', hr', hxr'⟩ := hp.cover x hx (by omega)
    rcases List.mem_cons.1 (hperm.mem_iff.1 hr') with rfl | h
    · have := ((hr.mem_iff x).1 hxr').2
      omega
    · exact ⟨r', h, hxr'⟩

theorem Drains.pinv (h : Drains L p L' p' sent) : PInv L stored p → PInv L' stored p' := by
  induction h with
  | stop => exact id
  | next hlo hperm _ ih => exact fun hp => ih (hp.pop hperm hlo)

end

theorem straddle_iff (lo hi last : Nat) :
    (!(decide (hi < last) || decide (lo > last))) = true ↔ lo ≤ last ∧ last ≤ hi := by
  simp
  omega

/-- `announce` covers both the adjacent and the parked range: the range joins `pending` and the loop runs
    (for an adjacent range the first one taken out is the range itself) -/
inductive Step (s : State) : Event → State × Out → Prop
  | storeInsert (r) : Step s (.storeInsert r) ({ s with stored := addStored s.stored r }, {})
  | first (h) : s.lastSent = none → Step s (.initBroadcast h)
      ({ s with lastSent := some h, stored := addStored s.stored [h], sentLog := s.sentLog ++ [h],
                firstHead := some h }, { sent := [h] })
  | reAdj (h L) : s.lastSent = some L → L + 1 = h → Step s (.initBroadcast h)
      ({ s with lastSent := some h, stored := addStored s.stored [h], sentLog := s.sentLog ++ [h] },
       { sent := [h] })
  | rePark (h L) : s.lastSent = some L → L + 1 ≠ h → Step s (.initBroadcast h)
      ({ s with pending := s.pending ++ [[h]], stored := addStored s.stored [h] }, {})
  /-- a failed `expect` (no head yet, an empty pending range) or `debug_assert!` (a straddling range) -/
  | panic (r ok) : (∀ L, s.lastSent = some L → [] ∈ s.pending ∨ r ≠ [] ∧ lo r ≤ L ∧ L ≤ hi r) →
      Step s (.announceInsert r ok) (s, { panic := true })
  /-- an empty range, or one the store rejected -/
  | ignored (r ok res) : Step s (.announceInsert r ok) (s, { result := res })
  | hist (r L) : s.lastSent = some L → r ≠ [] → hi r < L → Step s (.announceInsert r true)
      ({ s with stored := addStored s.stored r }, { result := some true })
  | announce (r L L' p' sent) : s.lastSent = some L → r ≠ [] → L ≤ lo r → (hi r < L ∨ L < lo r) →
      Drains L (s.pending ++ [r]) L' p' sent → (∀ r' ∈ p', lo r' ≠ L' + 1) →
      Step s (.announceInsert r true)
        ({ s with lastSent := some L', pending := p', stored := addStored s.stored r,
                  sentLog := s.sentLog ++ sent }, { sent, result := some true })

/-- `finish` runs the loop from `(L1, p1)` with `sent1` already sent; `hpre` turns such a run into one from
    `(L, s.pending ++ [r])`, the start `Step.announce` states (one `next` in front for an adjacent range,
    nothing for a parked one) -/
theorem Step.of_finish {s : State} {r sent1 : List Nat} {L L1 : Nat} {p1 : List (List Nat)}
    (hL : s.lastSent = some L) (hne : r ≠ []) (h1 : L ≤ lo r) (h2 : hi r < L ∨ L < lo r)
    (hnil : [] ∈ p1 → [] ∈ s.pending)
    (hpre : ∀ {L' p' sent'}, Drains L1 p1 L' p' sent' → Drains L (s.pending ++ [r]) L' p' (sent1 ++ sent')) :
    Step s (.announceInsert r true) (finish s (addStored s.stored r) L1 p1 sent1) := by
  have hd := drain_spec p1.length L1 p1
  unfold finish
  split <;> rename_i heq <;> simp only [heq] at hd
  · exact .panic r true fun _ _ => .inl (hnil hd)
  · exact .announce r L _ _ _ hL hne h1 h2 (hpre hd.1) (hd.2 (Nat.le_refl _))

theorem step_spec (s : State) : ∀ e, Step s e (step s e)
  | .storeInsert r => .storeInsert r
  | .initBroadcast h => by
    simp only [step, initBroadcast]
    split
    · exact .first h ‹_›
    · rename_i L hL
      split <;> rename_i hadj
      · exact .reAdj h L hL (by simpa using hadj)
      · exact .rePark h L hL (by simpa using hadj)
  | .announceInsert r ok => by
    simp only [step, announceInsert]
    split
    · exact .panic r ok (by simp_all)
    · rename_i L hL
      split
      · rename_i lo' hi' hhead hlast
        have hne : r ≠ [] := by rintro rfl; simp at hhead
        obtain rfl : lo r = lo' := by simp [lo, hhead]
        obtain rfl : hi r = hi' := by simp [hi, hlast]
        split
        · rename_i hc
          refine .panic r ok fun L' h => .inr ⟨hne, ?_⟩
          cases hL.symm.trans h
          rwa [straddle_iff] at hc
        · rename_i hc
          rw [straddle_iff] at hc
          split
          · cases ok
            · exact .ignored r false _
            · exact .hist r L hL hne (by omega)
          · split
            · exact .ignored r ok _
            · obtain rfl : ok = true := by simpa using ‹¬ (!ok) = true›
              split
              · rename_i hadj
                exact .of_finish hL hne (by omega) (by omega) id
                  (.next (Eq.symm (by simpa using hadj)) (List.perm_append_singleton _ _))
              · exact .of_finish hL hne (by omega) (by omega) (by simp [Ne.symm hne]) id
      · exact .ignored r ok _

/-! `StreamInv` and `PendingInv` have two phases: nothing has happened before the first head (`A`), and `B L` holds
    once `last_sent_height = L`. -/

theorem idle_of {o : Option Nat} {A : Prop} {B : Nat → Prop} (h : (o = none ∧ A) ∨ ∃ L, o = some L ∧ B L)
    (ho : o = none) : A := by
  rcases h with ⟨_, a⟩ | ⟨_, e, _⟩
  · exact a
  · rw [e] at ho; cases ho

theorem live_of {o : Option Nat} {A : Prop} {B : Nat → Prop} (h : (o = none ∧ A) ∨ ∃ L, o = some L ∧ B L)
    {L : Nat} (ho : o = some L) : B L := by
  rcases h with ⟨e, _⟩ | ⟨_, e, b⟩
  · rw [e] at ho; cases ho
  · rw [e] at ho; cases ho; exact b

section
variable {s : State} {e : Event} {q : State × Out}

theorem Step.sentLog (h : Step s e q) : q.1.sentLog = s.sentLog ++ q.2.sent := by
  cases h <;> simp

/-! ### only stored heights are ever sent (no hypotheses) -/

def StoredInv (s : State) : Prop := Sub s.pending s.stored

theorem Step.storedInv (h : Step s e q) (hJ : StoredInv s) : StoredInv q.1 ∧ ∀ x ∈ q.2.sent, x ∈ q.1.stored := by
  cases h with
  | storeInsert r | hist r => exact ⟨hJ.store r, nofun⟩
  | first h | reAdj h => exact ⟨hJ.store [h], fun x hx => mem_addStored.2 (.inr hx)⟩
  | rePark h => exact ⟨hJ.push [h], nofun⟩
  | panic | ignored => exact ⟨hJ, nofun⟩
  | announce r _ _ _ _ _ _ _ _ hd => exact hd.sub (hJ.push r)

/-! ### the stream is `head, head+1, …` (hypothesis: the store only accepts contiguous ranges) -/

def StreamInv (s : State) : Prop :=
  (s.lastSent = none ∧ s.firstHead = none ∧ s.pending = [] ∧ s.sentLog = []) ∨
  (∃ L, s.lastSent = some L ∧ ∃ h0, s.firstHead = some h0 ∧ Str s.sentLog s.pending L h0)

/-- what the inner store guarantees: a range it accepted is a run of consecutive heights -/
def StoreSound : Event → Prop
  | .announceInsert r true => r = [] ∨ IsRun r
  | _ => True

theorem Step.streamInv (h : Step s e q) (hinv : StreamInv s) (hs : StoreSound e) : StreamInv q.1 := by
  cases h with
  | storeInsert | panic | ignored | hist => exact hinv
  | first h hn =>
    obtain ⟨_, hp, hl⟩ := idle_of hinv hn
    exact .inr ⟨h, rfl, h, rfl, Nat.le_refl _, by simp [hl], by simp [hp]⟩
  | reAdj h L hl hadj =>
    obtain ⟨h0, hf, hstr⟩ := live_of hinv hl
    exact .inr ⟨h, rfl, h0, hf, (hstr.push (isRun_singleton h)).pop (List.perm_append_singleton _ _) hadj.symm⟩
  | rePark h L hl =>
    obtain ⟨h0, hf, hstr⟩ := live_of hinv hl
    exact .inr ⟨L, hl, h0, hf, hstr.push (isRun_singleton h)⟩
  | announce r L L' p' sent hl hne _ _ hd =>
    obtain ⟨h0, hf, hstr⟩ := live_of hinv hl
    exact .inr ⟨L', rfl, h0, hf, hd.str (hstr.push (hs.resolve_left hne))⟩

theorem StreamInv.stream (h : StreamInv s) {h0 : Nat} (hh : s.firstHead = some h0) :
    ∃ L, s.lastSent = some L ∧ h0 ≤ L ∧ s.sentLog = List.range' h0 (L + 1 - h0) := by
  rcases h with ⟨_, b, _⟩ | ⟨L, a, _, b, c⟩
  · rw [b] at hh; cases hh
  · rw [b] at hh; cases hh; exact ⟨L, a, c.le, c.log⟩

theorem streamInv_init : StreamInv init := Or.inl ⟨rfl, rfl, rfl, rfl⟩

/-! ### completeness and absence of panics (hypothesis: admissible environment) -/

/-- what the syncer and the store guarantee about each call, in the state it is made in:
    * pre-existing store content is only loaded before the first head is known;
    * a (re-)connection head is the store head, i.e. at least every stored height;
    * `announce_insert` is only called after the first head, with an empty range or a verified
      contiguous range of heights the store does not hold yet (the syncer only fetches missing heights). -/
def Adm (s : State) : Event → Prop
  | .storeInsert _ => s.lastSent = none
  | .initBroadcast h => ∀ x ∈ s.stored, x ≤ h
  | .announceInsert r _ => s.lastSent ≠ none ∧ (r = [] ∨ (IsRun r ∧ ∀ x ∈ r, x ∉ s.stored))

def PendingInv (s : State) : Prop :=
  (s.lastSent = none ∧ s.pending = []) ∨
  (∃ L, s.lastSent = some L ∧ PInv L s.stored s.pending ∧ ∀ r ∈ s.pending, lo r ≠ L + 1)

theorem Step.pendingInv (h : Step s e q) (hinv : PendingInv s) (ha : Adm s e) : PendingInv q.1 ∧ q.2.panic = false := by
  cases h with
  | storeInsert r => exact ⟨.inl ⟨ha, idle_of hinv ha⟩, rfl⟩
  | ignored => exact ⟨hinv, rfl⟩
  | first h hn =>
    refine ⟨.inr ⟨h, rfl, ?_⟩, rfl⟩
    show PInv h _ s.pending ∧ ∀ r ∈ s.pending, _
    rw [idle_of hinv hn]
    exact ⟨pinv_first ha, nofun⟩
  | reAdj h L hl hadj =>
    -- the head joins `pending` and is taken out again at once; nothing stored lies above it
    obtain ⟨hp, _⟩ := live_of hinv hl
    refine ⟨.inr ⟨h, rfl, (hp.push_head ha).pop (List.perm_append_singleton _ _) hadj.symm,
      fun r hr e => ?_⟩, rfl⟩
    have := hp.hi_le ha r hr
    have := (hp.runs r hr).lo_le_hi
    omega
  | rePark h L hl hne =>
    obtain ⟨hp, hq⟩ := live_of hinv hl
    exact ⟨.inr ⟨L, hl, hp.push_head ha, List.forall_mem_append.2 ⟨hq, List.forall_mem_singleton.2 fun e : h = L + 1 => hne e.symm⟩⟩, rfl⟩
  | panic r ok hc =>
    obtain ⟨L, hl⟩ := Option.ne_none_iff_exists'.1 ha.1
    obtain ⟨hp, _⟩ := live_of hinv hl
    rcases hc L hl with h | ⟨hne, h1, h2⟩
    · exact absurd rfl (hp.runs [] h).ne_nil
    · obtain ⟨hr, hdis⟩ := ha.2.resolve_left hne
      exact absurd hp.last (hdis L ((hr.mem_iff L).2 ⟨h1, h2⟩))
  | hist r L hl hne hlt =>
    obtain ⟨hp, hq⟩ := live_of hinv hl
    obtain ⟨hr, _⟩ := ha.2.resolve_left hne
    refine ⟨.inr ⟨L, hl, hp.store fun x hx => ?_, hq⟩, rfl⟩
    have := ((hr.mem_iff x).1 hx).2
    omega
  | announce r L L' p' sent hl hne hle hns hd hquiet =>
    obtain ⟨hp, _⟩ := live_of hinv hl
    obtain ⟨hr, hdis⟩ := ha.2.resolve_left hne
    have hlo : L < lo r := by have := hr.lo_le_hi; omega
    exact ⟨.inr ⟨L', rfl, hd.pinv (hp.push hr (.inr hlo) fun a ha' =>
      rel_of_disjoint (hp.runs a ha') hr fun x hx hxa => hdis x hx (hp.sub a ha' x hxa)), hquiet⟩, rfl⟩

end

theorem pendingInv_init : PendingInv init := Or.inl ⟨rfl, rfl⟩

theorem run_cons (s : State) (e : Event) (evs : List Event) : run s (e :: evs) = run (step s e).1 evs := rfl

theorem storedInv_run (evs : List Event) : StoredInv (run init evs) :=
  evs.foldlRecOn _ (nofun : StoredInv init) fun s h e _ => ((step_spec s e).storedInv h).1

theorem streamInv_run (evs : List Event) (hs : ∀ e ∈ evs, StoreSound e) : StreamInv (run init evs) :=
  evs.foldlRecOn _ streamInv_init fun s h e he => (step_spec s e).streamInv h (hs e he)

def AdmRun : State → List Event → Prop
  | _, [] => True
  | s, e :: evs => Adm s e ∧ AdmRun (step s e).1 evs

theorem adm_storeSound {s : State} {e : Event} (h : Adm s e) : StoreSound e := by
  cases e with
  | storeInsert r => trivial
  | initBroadcast h => trivial
  | announceInsert r ok =>
    cases ok with
    | false => trivial
    | true => exact h.2.imp_right And.left

theorem inv_run_adm : ∀ (evs : List Event) (s : State), StreamInv s → PendingInv s → AdmRun s evs →
    StreamInv (run s evs) ∧ PendingInv (run s evs)
  | [], _, h1, h3, _ => ⟨h1, h3⟩
  | e :: evs, s, h1, h3, ha =>
    inv_run_adm evs _ ((step_spec s e).streamInv h1 (adm_storeSound ha.1)) ((step_spec s e).pendingInv h3 ha.1).1 ha.2

theorem run_append (s : State) (evs : List Event) (e : Event) :
    run s (evs ++ [e]) = (step (run s evs) e).1 := by
  simp [run, List.foldl_append]

theorem admRun_append : ∀ (evs : List Event) (s : State) (e : Event),
    AdmRun s (evs ++ [e]) → AdmRun s evs ∧ Adm (run s evs) e
  | [], _, _, h => ⟨trivial, h.1⟩
  | _ :: evs, _, e, h =>
    let ⟨h1, h2⟩ := admRun_append evs _ e h.2
    ⟨⟨h.1, h1⟩, h2⟩

/-- the heart of completeness: with both invariants, a stored prefix above the first head has been sent -/
theorem complete_of_inv {s : State} (h1 : StreamInv s) (h3 : PendingInv s) (L h0 : Nat)
    (hL : s.lastSent = some L) (hh : s.firstHead = some h0) (H : Nat)
    (hall : ∀ h, h0 < h → h ≤ H → h ∈ s.stored) : H ≤ L := by
  obtain ⟨hp, hno⟩ := live_of h3 hL
  obtain ⟨h0', b, c⟩ := live_of h1 hL
  rw [b] at hh; cases hh
  have hle := c.le
  -- otherwise `L + 1` is stored, so some pending run holds it; that run does not straddle `L`, so it
  -- starts at `L + 1`, which the drain loop has excluded
  false_or_by_contra
  obtain ⟨r, hr, hxr⟩ := hp.cover (L + 1) (hall (L + 1) (by omega) (by omega)) (by omega)
  have hb := ((hp.runs r hr).mem_iff (L + 1)).1 hxr
  rcases hp.nostr r hr with h | h
  · omega
  · exact hno r hr (by omega)

open Lumina.Spec.C37 in
theorem reach_spec (stored : List Nat) : ∀ (fuel head : Nat) (h : Nat),
    head < h → h ≤ reach stored head fuel → h ∈ stored
  | 0, head, h, h1, h2 => by simp only [reach] at h2; omega
  | fuel + 1, head, h, h1, h2 => by
    simp only [reach] at h2
    split at h2
    · rename_i hc
      by_cases e : h = head + 1
      · subst e; simpa using hc
      · exact reach_spec stored fuel (head + 1) h (by omega) h2
    · omega

def outputs : State → List Event → List Out
  | _, [] => []
  | s, e :: evs => (step s e).2 :: outputs (step s e).1 evs

theorem sentLog_outputs : ∀ (evs : List Event) (s : State),
    (run s evs).sentLog = s.sentLog ++ (outputs s evs).flatMap (·.sent)
  | [], s => by simp [run, outputs]
  | e :: evs, s => by
    rw [run_cons, sentLog_outputs evs, (step_spec s e).sentLog]
    simp [outputs, List.append_assoc]

end Lumina.Proofs.Subs

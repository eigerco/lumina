/-
  Multi-leaf range proofs of the nmt-rs model: POSITION-BINDING SOUNDNESS against perfect trees,
  `checkRangeProof_multi_sound_on`.  The hash is assumed to have no collision among the inputs `S` that the two
  computations hash (`HashOKOn H S`, satisfiable; injectivity on ALL byte strings with 32-byte output would be
  contradictory by pigeonhole, and theorems assuming it vacuous).

  What nmt-rs does NOT bind (and the theorem therefore does not claim): a range proof carries no tree size — the
  verifier derives the tree shape from `(start, number of siblings)` — so for a tree whose size is not a power of two, or
  for a range claimed beyond the real size, the same proof can verify for a different position (`design_notes/C04.md`,
  `C13.md`).  The hypotheses "`2^j` leaves" and "`s + |X| ≤ 2^j`" are exactly what lumina's callers guarantee
  (square width a power of two; `Sample::verify` binds `start` to the coordinate, the C13 spec conditions on `end ≤ w`).

  The proof has two halves that do not meet before `Shaped.bind`.  Hashing: a path of the verifier's tree that ends in a
  leaf hash is a path of the real tree, so it has depth `j` and the leaf is `L` at the number of the path (`Ev.leaf_real`).
  Arithmetic: in a tree of the verifier's shape the leaf claimed at index `p` sits on a path whose number is `p` as soon as
  `p` is below two to the path's depth (`Shaped.leaf_general`).

  `Eds.AxisTree.range_sound_on` (`AxisTree.lean`) applies the theorem to a row or column tree of a square; the sample,
  bad-encoding and share-proof verifiers go through it.  `Nmt.checkRangeProof_single_sound_on` reads the case
  `X = [x]` as `L[start]? = some x`.  The last section states the binding once more per call of the verifier
  (`child_shallow_on`, `child_perfect_on`, `inner_general_on`); nothing else uses it.
-/
import Lumina.Proofs.NmtRange

namespace Lumina.Proofs.NmtRange
open Lumina.Util Lumina.Model.Nmt Lumina.Proofs.Nmt

/-- where the verifier's shape puts the leaf claimed at index `p` (arithmetic only): at some `(d, n)` with `2 ^ d < 2 * size`,
    and `n = p - off` once `p - off < 2 ^ d` (that is, once the claimed index lies inside a real perfect tree of that depth);
    in a perfect subtree `d` is its depth -/
theorem Shaped.leaf_general {X : List NsHash} {s last p : Nat} (hs : s ≤ p) (he : p ≤ last) : ∀ {size off : Nat} {t : PT},
    Shaped X s last size off t → off ≤ p → p < off + size →
    ∃ d n x, X[p - s]? = some x ∧ Leaf t d n x ∧ 2 ^ d < 2 * size ∧ (p - off < 2 ^ d → n = p - off) ∧
      ∀ m, size = 2 ^ m → d = m := by
  intro size off t h
  induction h with
  | @leaf off x h1 h2 h3 =>
    intro ho hp
    obtain rfl : p = off := by omega
    refine ⟨0, 0, x, h3, .here, by simp, fun _ => by omega, fun m hm => ?_⟩
    cases m with
    | zero => rfl
    | succ m => have := two_le_two_pow_succ m; omega
  | sib h1 h2 => intro ho hp; omega
  | @node size off l r h2 _ _ _ _ ihl ihr =>
    intro ho hp
    obtain ⟨m, hm, hlt, hle⟩ := nextSmallerPo2_spec size h2
    -- a power of two in `(2 ^ m, 2 ^ (m + 1)]` is `2 ^ (m + 1)`
    have hM : ∀ M, size = 2 ^ M → M = m + 1 := fun M hM => by
      have h1 := (Nat.pow_lt_pow_iff_right (by omega)).mp (hM ▸ hlt)
      have h2 := (Nat.pow_le_pow_iff_right (by omega)).mp (hM ▸ hle)
      omega
    by_cases c : p < off + 2 ^ m
    · obtain ⟨d, n, x, hx, lf, _, hn, hd⟩ := ihl ho (by omega)
      obtain rfl := hd m hm
      exact ⟨d + 1, n, x, hx, .left lf, by omega, fun _ => hn (by omega), fun M hM' => (hM M hM').symm⟩
    · obtain ⟨d, n, x, hx, lf, hd, hn, hdm⟩ := ihr (by omega) (by omega)
      have hdle : d ≤ m := by
        have : 2 ^ d < 2 ^ (m + 1) := by omega
        have := (Nat.pow_lt_pow_iff_right (by omega)).mp this
        omega
      refine ⟨d + 1, 2 ^ d + n, x, hx, .right lf, ?_, fun hlt2 => ?_, fun M hM' => ?_⟩
      · have := Nat.pow_le_pow_right (show 0 < 2 by omega) hdle
        omega
      · have hmd : m ≤ d := by
          have : 2 ^ m < 2 ^ (d + 1) := by omega
          have := (Nat.pow_lt_pow_iff_right (by omega)).mp this
          omega
        obtain rfl : d = m := by omega
        have := hn (by omega)
        omega
      · obtain rfl := hM M hM'
        rw [hdm m (by omega)]

theorem Shaped.leaf_perfect {X : List NsHash} {s last p : Nat} (hs : s ≤ p) (he : p ≤ last) {size off : Nat} {t : PT}
    (h : Shaped X s last size off t) {m : Nat} (hm : size = 2 ^ m) (ho : off ≤ p) (hp : p < off + size) :
    ∃ x, X[p - s]? = some x ∧ Leaf t m (p - off) x := by
  obtain ⟨d, n, x, hx, lf, _, hn, hd⟩ := h.leaf_general hs he ho hp
  obtain rfl := hd m hm
  rw [hn (by omega)] at lf
  exact ⟨x, hx, lf⟩

variable {H : HashFn} {ign ign' : Bool} {S : Bytes → Prop}

/-- **position binding at tree level**: the verifier's subtree for the node of `size` leaves at `off` (claimed range `[s, last]`),
    with the root hash of the tree `t'` that `compute_root` builds over `2 ^ j` leaves `L`: a claimed leaf at `p < off + 2 ^ j`
    is the real one -/
theorem Shaped.bind (hk : HashOKOn H S) {X : List NsHash} {s last size off : Nat} {t t' : PT} {h : NsHash} {j : Nat} {L : List NsHash}
    (sh : Shaped X s last size off t) (ev : Ev H ign S t h) (w : ∀ x ∈ t.frontier, x.WF) (al : AllLeafOn H S L)
    (c : Canon L t') (ev' : Ev H ign' S t' h) (hl : L.length = 2 ^ j) (lx : ∀ x ∈ X, IsLeafOn H S x)
    {p : Nat} (hs : s ≤ p) (he : p ≤ last) (ho : off ≤ p) (hp : p < off + size) (hj : p < off + 2 ^ j) :
    X[p - s]? = L[p - off]? := by
  obtain ⟨d, n, x, hx, lf, _, hn, _⟩ := sh.leaf_general hs he ho hp
  obtain ⟨rfl, hL⟩ := ev.leaf_real hk lf (lx x (List.mem_of_getElem? hx)) w al c ev' hl
  rw [hx, ← hL, hn (by omega)]

/-- the tree a successful call evaluated; the hashes given in it come from the two stacks -/
theorem FrontierOK.tree {f : Nat} {X P : List NsHash} {s size off : Nat} {h : NsHash} {X' P' : List NsHash}
    (fr : FrontierOK H ign S f X P s size off h X' P') (wx : ∀ x ∈ X, x.WF) (wp : ∀ p ∈ P, p.WF) :
    ∃ t, Shaped X s (X.length + s - 1) size off t ∧ Ev H ign S t h ∧ ∀ x ∈ t.frontier, x.WF := by
  obtain ⟨t, PL, XS, PR, hX, hP, hfr, hev, hsh, _⟩ := fr
  refine ⟨t, hsh, hev, ?_⟩
  intro x hx
  rw [hfr] at hx
  simp only [List.mem_append] at hx
  rcases hx with (hx | hx) | hx
  · exact wp x (by rw [hP]; simp [hx])
  · exact wx x (by rw [hX]; simp [hx])
  · exact wp x (by rw [hP]; simp [hx])

end Lumina.Proofs.NmtRange

namespace Lumina.Proofs.NmtMulti
open Lumina.Util Lumina.Model.Nmt Lumina.Proofs.Nmt Lumina.Proofs.NmtRange

/-- **Position binding of multi-leaf range proofs against perfect trees.**  If `check_range_proof` accepts the leaf
    hashes `X` (non-empty) at `start = s` against the root of the `2^j` leaf hashes `L`, and `s + |X| ≤ 2^j`, then `X`
    is the block of `L` at `[s, s + |X|)` — for every hash with 32-byte output that has no collision among `S`, where `S`
    contains the leaf preimages of `L` and `X` (`AllLeafOn`, `IsLeafOn`), the inputs of the honest root computation
    (`rootInputs`) and those of this verification (`proofInputs`). -/
theorem checkRangeProof_multi_sound_on {H : HashFn} {S : Bytes → Prop} (hk : HashOKOn H S) {ign ign' : Bool} {j : Nat}
    {L : List NsHash} {root : NsHash} {X P : List NsHash} {s : Nat}
    (al : AllLeafOn H S L) (hl : L.length = 2 ^ j) (hroot : computeRoot H ign' L = .ok root)
    (lx : ∀ x ∈ X, IsLeafOn H S x) (wp : ∀ p ∈ P, p.WF) (hX : 1 ≤ X.length) (hs : s + X.length ≤ 2 ^ j)
    (hV : ∀ y ∈ proofInputs H ign X P s, S y) (hT : ∀ y ∈ rootInputs H ign' (L.length + 1) L, S y)
    (e : checkRangeProof H ign root X P s = .ok ()) : X = (L.drop s).take X.length := by
  have hne : L ≠ [] := fun h0 => by rw [h0] at hl; exact absurd hl (Nat.ne_of_lt (Nat.two_pow_pos j))
  obtain ⟨t', c, ev'⟩ := canon_of_root _ hne (Nat.lt_succ_self _) hT hroot
  by_cases htriv : X.length = 1 ∧ P = []
  · -- a single leaf and no proof node: the verifier compared the leaf with the root
    obtain ⟨hx1, rfl⟩ := htriv
    match X, hx1, lx, e with
    | [x], _, lx, e =>
      obtain ⟨rfl, rfl⟩ := checkRangeProof_nil e
      -- a tree whose root is a leaf hash is that leaf
      rw [ev'.eq_leaf hk.inj (lx x (by simp))] at c
      rw [← c.frontier]
      rfl
  · obtain ⟨_, T, X', P', _, hge, fr⟩ := checkRangeProof_call hX htriv hV e
    obtain ⟨t, sh, ev, w⟩ := fr.tree (fun x hx => (lx x hx).WF hk.len) wp
    apply List.ext_getElem?
    intro i
    by_cases hi : i < X.length
    · have := sh.bind hk ev w al c ev' hl lx (p := s + i) (by omega) (by omega) (Nat.zero_le _) (by omega) (by omega)
      have e1 : s + i - s = i := by omega
      rw [e1, Nat.sub_zero] at this
      rw [this, List.getElem?_take, if_pos hi, List.getElem?_drop]
    · rw [List.getElem?_eq_none_iff.mpr (by omega), List.getElem?_take, if_neg hi]

end Lumina.Proofs.NmtMulti

namespace Lumina.Proofs.Nmt
open Lumina.Util Lumina.Model.Nmt Lumina.Proofs.NmtMulti

/-- **Position binding of single-leaf range proofs against perfect trees** under collision-freeness relative to the
    inputs hashed by the verifier (`proofInputs`), by the honest root computation (`rootInputs`) and the leaf preimages. -/
theorem checkRangeProof_single_sound_on {H : HashFn} {S : Bytes → Prop} (hk : HashOKOn H S) {ign ign' : Bool} {j : Nat} {L : List NsHash}
    {root x : NsHash} {proof : List NsHash} {start : Nat}
    (al : AllLeafOn H S L) (hl : L.length = 2 ^ j) (hroot : computeRoot H ign' L = .ok root)
    (lx : IsLeafOn H S x) (wp : ∀ p ∈ proof, p.WF) (hs : start < 2 ^ j)
    (hV : ∀ y ∈ proofInputs H ign [x] proof start, S y) (hT : ∀ y ∈ rootInputs H ign' (L.length + 1) L, S y)
    (e : checkRangeProof H ign root [x] proof start = .ok ()) : L[start]? = some x := by
  have h := checkRangeProof_multi_sound_on hk al hl hroot (X := [x])
    (fun y hy => by simpa [List.mem_singleton.mp hy] using lx) wp (by simp)
    (by simp only [List.length_singleton]; omega) hV hT e
  have h2 : start < L.length := by omega
  rw [List.getElem?_eq_getElem h2]
  simp only [List.length_singleton, List.take_one] at h
  rw [List.head?_drop, List.getElem?_eq_getElem h2] at h
  simpa using h.symm

end Lumina.Proofs.Nmt

namespace Lumina.Proofs.NmtMulti
open Lumina.Util Lumina.Model.Nmt Lumina.Proofs.Nmt Lumina.Proofs.NmtRange

/-! The binding stated per call of the verifier: corollaries of `Shaped.bind` and `Ev.leaf_real` for one child call (`ChildRes`) and for one call of
`check_range_proof_inner`, with what the call leaves on the leaf stack.  `checkRangeProof_multi_sound_on` does not go
through them. -/

/-- the leaves a call consumed are the real leaves at their claimed positions: `X'` (what is left) is the prefix of `X`
    of the leaves before `max s off`, and every position `p` of the range from there up to the last index `E` holds the
    real leaf -/
def Bind (X X' : List NsHash) (s off E : Nat) (L : List NsHash) : Prop :=
  X'.length + s = max s off ∧ (∃ XS, X = X' ++ XS) ∧ ∀ p, max s off ≤ p → p ≤ E → X[p - s]? = L[p - off]?

/-- `Shaped.bind` at every index of the range inside the subtree, with the call's account of the leaf stack -/
theorem _root_.Lumina.Proofs.NmtRange.FrontierOK.bind {H : HashFn} {S : Bytes → Prop} (hk : HashOKOn H S)
    {ign ign' : Bool} {f : Nat} {X P X' P' : List NsHash} {s size off j : Nat} {h : NsHash} {L : List NsHash}
    (fr : FrontierOK H ign S f X P s size off h X' P') (lx : ∀ x ∈ X, IsLeafOn H S x) (wp : ∀ p ∈ P, p.WF)
    (hE2 : X.length + s - 1 < off + size) (hEj : X.length + s - 1 < off + 2 ^ j)
    (al : AllLeafOn H S L) (hT : ∀ y ∈ perfectInputs H ign' j L, S y) (pr : perfectRoot H ign' j L = .ok h) :
    Bind X X' s off (X.length + s - 1) L := by
  obtain ⟨t, sh, ev, w⟩ := fr.tree (fun x hx => (lx x hx).WF hk.len) wp
  obtain ⟨_, _, XS, _, hX, _, _, _, _, hxs, _⟩ := fr
  obtain ⟨t', c, ev', hl⟩ := canon_of_perfect j hT pr
  exact ⟨hxs, ⟨XS, hX⟩, fun p hp hpe => sh.bind hk ev w al c ev' hl lx (by omega) hpe (by omega) (by omega) (by omega)⟩

/-- shallow verifier subtree against a deeper perfect real tree: impossible -/
theorem child_shallow_on {H : HashFn} {S : Bytes → Prop} (hk : HashOKOn H S) {ign ign' : Bool} :
    ∀ (f j : Nat) {X P : List NsHash} {s csize coff : Nat} {h : NsHash} {X' P' : List NsHash} {L : List NsHash},
    (∀ x ∈ X, IsLeafOn H S x) → (∀ p ∈ P, p.WF) → AllLeafOn H S L →
    (∀ y ∈ childInputs H ign f X P s csize coff, S y) → (∀ y ∈ perfectInputs H ign' (j + 1) L, S y) →
    1 ≤ csize → csize ≤ 2 ^ j →
    coff ≤ X.length + s - 1 → X.length + s - 1 < coff + csize → 1 ≤ X.length →
    ChildRes H ign f X P s csize coff h X' P' → perfectRoot H ign' (j + 1) L = .ok h → False := by
  intro f j X P s csize coff h X' P' L lx wp al hV hT h1 hsz hE1 hE2 hX hc pr
  obtain ⟨t, sh, ev, w⟩ := (frontier_child h1 hE1 hE2 hX hV hc).tree (fun x hx => (lx x hx).WF hk.len) wp
  -- the last claimed leaf sits at a depth `d` with `2 ^ d < 2 * csize`, and at depth `j + 1` of the real tree
  obtain ⟨d, n, x, hx, lf, hd, _, _⟩ := sh.leaf_general (p := X.length + s - 1) (by omega) (Nat.le_refl _) hE1 hE2
  obtain ⟨t', c, ev', hl⟩ := canon_of_perfect (j + 1) hT pr
  obtain ⟨rfl, _⟩ := ev.leaf_real hk lf (lx x (List.mem_of_getElem? hx)) w al c ev' hl
  omega

/-- perfect verifier subtree against a perfect real tree: same depth, and the consumed leaves are the real ones -/
theorem child_perfect_on {H : HashFn} {S : Bytes → Prop} (hk : HashOKOn H S) {ign ign' : Bool} :
    ∀ (f m j : Nat) {X P : List NsHash} {s coff : Nat} {h : NsHash} {X' P' : List NsHash} {L : List NsHash},
    (∀ x ∈ X, IsLeafOn H S x) → (∀ p ∈ P, p.WF) → AllLeafOn H S L →
    (∀ y ∈ childInputs H ign f X P s (2 ^ m) coff, S y) → (∀ y ∈ perfectInputs H ign' j L, S y) →
    coff ≤ X.length + s - 1 → X.length + s - 1 < coff + 2 ^ m → 1 ≤ X.length →
    ChildRes H ign f X P s (2 ^ m) coff h X' P' → perfectRoot H ign' j L = .ok h →
    j = m ∧ Bind X X' s coff (X.length + s - 1) L := by
  intro f m j X P s coff h X' P' L lx wp al hV hT hE1 hE2 hX hc pr
  have fr := frontier_child Nat.one_le_two_pow hE1 hE2 hX hV hc
  obtain ⟨t, sh, ev, w⟩ := fr.tree (fun x hx => (lx x hx).WF hk.len) wp
  obtain ⟨x, hx, lf⟩ := sh.leaf_perfect (p := X.length + s - 1) (by omega) (Nat.le_refl _) rfl hE1 hE2
  obtain ⟨t', c, ev', hl⟩ := canon_of_perfect j hT pr
  obtain ⟨rfl, _⟩ := ev.leaf_real hk lf (lx x (List.mem_of_getElem? hx)) w al c ev' hl
  exact ⟨rfl, fr.bind hk lx wp hE2 hE2 al hT pr⟩

/-- general verifier subtree against a perfect real tree that contains the claimed range: the consumed leaves are the
    real ones at their claimed positions -/
theorem inner_general_on {H : HashFn} {S : Bytes → Prop} (hk : HashOKOn H S) {ign ign' : Bool} :
    ∀ (f j : Nat) {X P : List NsHash} {s size off : Nat} {h : NsHash} {X' P' : List NsHash} {L : List NsHash},
    (∀ x ∈ X, IsLeafOn H S x) → (∀ p ∈ P, p.WF) → AllLeafOn H S L →
    (∀ y ∈ innerInputs H ign f X P s size off, S y) → (∀ y ∈ perfectInputs H ign' j L, S y) → 2 ≤ size →
    off ≤ X.length + s - 1 → X.length + s - 1 < off + size → X.length + s - 1 < off + 2 ^ j → 1 ≤ X.length →
    checkRangeProofInner H ign f X P s size off = .ok (h, X', P') → perfectRoot H ign' j L = .ok h →
    Bind X X' s off (X.length + s - 1) L := by
  intro f j X P s size off h X' P' L lx wp al hV hT h2 hE1 hE2 hEj hX hc pr
  exact (frontier_inner f h2 hE1 hE2 hX hV hc).bind hk lx wp hE2 hEj al hT pr

end Lumina.Proofs.NmtMulti

/-
  Composition C21 × C02: the store's verification oracle instantiated with the model of
  `ExtendedHeader::verify`.

  The store models (`Model/Store.lean`) take `ExtendedHeader::verify` as an arbitrary oracle
  `Hdr → Hdr → Bool` that is FIXED along a history.  The real check is modelled in
  `Model/HeaderVerify.lean` and characterised in `Props/C02.lean`.  This file plugs the second
  into the first:

    * `Content`: the projection from the store models' abstract header (`Store.Hdr`: an identity,
      its height, its hash, its validation bit) to the record `HeaderVerify.Hdr` of the fields
      `verify` reads (the abstract header's `id` "identifies the complete header content", so the
      content is a FUNCTION of the abstract header; the only tie that is needed is that both
      records carry the same height);
    * runs in which EVERY OPERATION HAS ITS OWN ORACLE (`runOpsV`): the real check reads the
      clock, so the oracle of one `insert` need not be the oracle of the next one.  A per-operation
      oracle `w` is admissible (`ClockSound`) when every `true` it gives is the verdict `Ok` of
      the C02 model `verify` at SOME clock reading (one reading per verified pair — the clock may
      even advance inside one store call);
    * the chain invariant `AbsVer` of `Proofs/StoreAbs.lean` is stated for two oracles: an operation
      run with oracle `w` preserves "consecutive stored headers are `L`-related" as soon as `w`
      implies `L` on adjacent pairs (`SoundFor`; `abs_step_ver` in `Proofs/StoreHist.lean`); here it is lifted to clocked
      runs and transferred to both store models through the one-step simulations, which hold for
      any oracle: `mem_step_sim`, and for the redb store `redb_stepS_sim` against the strict
      abstract store (no hypothesis on the headers; `redb_step_sim` for validated insertions).

  `L` is then instantiated with the TIME-INDEPENDENT part of C02's acceptance condition for
  adjacent headers (`Linked`), and with `Linked` + "time below the latest clock reading + 10 s".
-/
import Lumina.Proofs.StoreStrict
import Lumina.Props.C02

open Lumina.Model.Store Lumina.Spec.C19
open Lumina.Model
open Lumina.Proofs.Store

namespace Lumina.Proofs.ComposeStoreVerify

/-- content of an abstract store header in the vocabulary of the verification model -/
structure Content where
  /-- the fields `verify` reads, for the header the abstract record stands for -/
  c : Hdr → HeaderVerify.Hdr
  height_eq : ∀ x, (c x).height = x.height

/-- the abstract `hash` (an opaque number) is the hash of the content: headers whose contents have
    the same `hash()` have the same abstract hash (needed only for the parent-lookup corollary) -/
def Content.HashFaithful (C : Content) : Prop :=
  ∀ x y, (C.c x).hash = (C.c y).hash → x.hash = y.hash

/-- the CONCRETE linkage conditions of C02 for adjacent headers, without the clock: height + 1,
    same chain id, strictly later time, `validators_hash = trusted.next_validators_hash`,
    `last_block_id.hash = trusted.hash` -/
def Linked (t u : HeaderVerify.Hdr) : Prop :=
  u.height = t.height + 1 ∧ u.chainId = t.chainId ∧ t.time < u.time ∧
    u.validatorsHash = t.nextValidatorsHash ∧ u.lastHeaderHash = t.hash

instance (t u : HeaderVerify.Hdr) : Decidable (Linked t u) := by unfold Linked; infer_instance

/-- the oracle the C02 model defines at clock reading `now` (`sig a b` = the signature oracle of
    trusting verification for that pair; not consulted for adjacent headers) -/
def verifyAt (C : Content) (sig : Hdr → Hdr → HeaderVerify.Oracle) (now : Int) : Hdr → Hdr → Bool :=
  fun a b => decide (Lumina.Props.C02.verifyM (sig a b) now (C.c a) (C.c b) = .ok)

/-- every `true` of the oracle `w` is an `Ok` of the real check at some clock reading `≤ N` -/
def ClockSoundBelow (C : Content) (sig : Hdr → Hdr → HeaderVerify.Oracle) (N : Int)
    (w : Hdr → Hdr → Bool) : Prop :=
  ∀ a b, w a b = true → ∃ now : Int, now ≤ N ∧ verifyAt C sig now a b = true

/-- every `true` of the oracle `w` is an `Ok` of the real check at some clock reading -/
def ClockSound (C : Content) (sig : Hdr → Hdr → HeaderVerify.Oracle) (w : Hdr → Hdr → Bool) : Prop :=
  ∀ a b, w a b = true → ∃ now : Int, verifyAt C sig now a b = true

theorem verifyAt_clockSound (C : Content) (sig : Hdr → Hdr → HeaderVerify.Oracle) (now : Int) :
    ClockSound C sig (verifyAt C sig now) := fun _ _ h => ⟨now, h⟩

theorem verifyAt_clockSoundBelow (C : Content) (sig : Hdr → Hdr → HeaderVerify.Oracle) (now N : Int)
    (h : now ≤ N) : ClockSoundBelow C sig N (verifyAt C sig now) := fun _ _ hw => ⟨now, h, hw⟩

theorem verifyAt_adjacent {C : Content} {sig : Hdr → Hdr → HeaderVerify.Oracle} {now : Int} {a b : Hdr}
    (h : verifyAt C sig now a b = true) (hadj : a.height + 1 = b.height) :
    Linked (C.c a) (C.c b) ∧ (C.c b).time < now + 10000000000 := by
  have hv : Lumina.Props.C02.verifyM (sig a b) now (C.c a) (C.c b) = .ok := of_decide_eq_true h
  obtain ⟨_, h2, h3, h4, h5⟩ := (Lumina.Props.C02.verify_ok_iff _ _ _ _).1 hv
  have e : (C.c a).height + 1 = (C.c b).height := by rw [C.height_eq, C.height_eq]; exact hadj
  rw [if_pos e] at h5
  exact ⟨⟨e.symm, h2, h3, h5.1, h5.2⟩, h4⟩

theorem verifyAt_of_linked {C : Content} {sig : Hdr → Hdr → HeaderVerify.Oracle} {now : Int} {a b : Hdr}
    (hl : Linked (C.c a) (C.c b)) (ht : (C.c b).time < now + 10000000000) :
    verifyAt C sig now a b = true := by
  obtain ⟨h1, h2, h3, h4, h5⟩ := hl
  apply decide_eq_true
  rw [Lumina.Props.C02.verify_ok_iff]
  refine ⟨by omega, h2, h3, ht, ?_⟩
  rw [if_pos h1.symm]
  exact ⟨h4, h5⟩

theorem verifyAdjacent_linked {C : Content} {sig : Hdr → Hdr → HeaderVerify.Oracle} {now : Int} {x y : Hdr}
    (h : verifyAdjacent (verifyAt C sig now) x y = true) : Linked (C.c x) (C.c y) := by
  unfold verifyAdjacent at h
  split at h
  · cases h
  · rename_i hne; exact (verifyAt_adjacent h (by simpa using hne)).1

/-- an operation together with the verification oracle in force while it runs -/
abbrev VOp := (Hdr → Hdr → Bool) × Op

/-- run a history; operation `i` is executed with its own oracle -/
def runOpsV {σ : Type} (step : (Hdr → Hdr → Bool) → σ → Op → σ × Res) : σ → List VOp → σ × List Res
  | s, [] => (s, [])
  | s, (w, op) :: rest =>
    let (s1, r) := step w s op
    let (s2, rs) := runOpsV step s1 rest
    (s2, r :: rs)

theorem runOpsV_cons {σ : Type} (step : (Hdr → Hdr → Bool) → σ → Op → σ × Res) (s : σ)
    (w : Hdr → Hdr → Bool) (op : Op) (rest : List VOp) :
    runOpsV step s ((w, op) :: rest) =
      ((runOpsV step (step w s op).1 rest).1, (step w s op).2 :: (runOpsV step (step w s op).1 rest).2) := rfl

theorem runOpsV_const {σ : Type} (step : (Hdr → Hdr → Bool) → σ → Op → σ × Res) (v : Hdr → Hdr → Bool) :
    ∀ (ops : List Op) (s : σ), runOpsV step s (ops.map (fun op => (v, op))) = runOps (step v) s ops
  | [], _ => rfl
  | op :: rest, s => by
    rw [List.map_cons, runOpsV_cons, runOpsV_const step v rest, runOps_cons]

def AllWfV (ops : List VOp) : Prop := ∀ p ∈ ops, p.2.wf = true
def AllValidatedV (ops : List VOp) : Prop := ∀ p ∈ ops, p.2.validated = true
def AllSoundFor (L : Hdr → Hdr → Bool) (ops : List VOp) : Prop := ∀ p ∈ ops, SoundFor L p.1

theorem runOpsV_inv {σ : Type} {f : (Hdr → Hdr → Bool) → σ → Op → σ × Res} {I : σ → Prop} {P : VOp → Prop}
    (hstep : ∀ s w op, I s → P (w, op) → I (f w s op).1) :
    ∀ (ops : List VOp), (∀ p ∈ ops, P p) → ∀ s, I s → I (runOpsV f s ops).1
  | [], _, _, hs => hs
  | (w, op) :: rest, hp, s, hs => by
    rw [runOpsV_cons]
    exact runOpsV_inv hstep rest (fun o ho => hp o (List.mem_cons_of_mem _ ho)) _
      (hstep s w op hs (hp (w, op) (by simp)))

theorem runOpsV_sim {σ τ : Type} {f : (Hdr → Hdr → Bool) → σ → Op → σ × Res}
    {g : (Hdr → Hdr → Bool) → τ → Op → τ × Res} {R : σ → τ → Prop} {P : VOp → Prop}
    (hstep : ∀ s t w op, R s t → P (w, op) → (f w s op).2 = (g w t op).2 ∧ R (f w s op).1 (g w t op).1) :
    ∀ (ops : List VOp), (∀ p ∈ ops, P p) → ∀ s t, R s t →
      (runOpsV f s ops).2 = (runOpsV g t ops).2 ∧ R (runOpsV f s ops).1 (runOpsV g t ops).1
  | [], _, _, _, r => ⟨rfl, r⟩
  | (w, op) :: rest, hp, s, t, r => by
    rw [runOpsV_cons, runOpsV_cons]
    obtain ⟨e, r'⟩ := hstep s t w op r (hp (w, op) (by simp))
    obtain ⟨e2, r2⟩ := runOpsV_sim hstep rest (fun o ho => hp o (List.mem_cons_of_mem _ ho)) _ _ r'
    exact ⟨by rw [e, e2], r2⟩

theorem absV_run_inv {L : Hdr → Hdr → Bool} : ∀ (ops : List VOp) (a : AbsStore), AllWfV ops →
    AllSoundFor L ops → AbsInv a → AbsVer L a →
      AbsInv (runOpsV AbsStore.step a ops).1 ∧ AbsVer L (runOpsV AbsStore.step a ops).1 :=
  fun ops a hw hs hi hv =>
    runOpsV_inv (I := fun a => AbsInv a ∧ AbsVer L a) (P := fun p => p.2.wf = true ∧ SoundFor L p.1)
      (fun a w op i hp => ⟨abs_step_inv w a op i.1 hp.1, abs_step_ver hp.2 a op i.1 i.2⟩)
      ops (fun p hp => ⟨hw p hp, hs p hp⟩) a ⟨hi, hv⟩

theorem absV_run_storedValid : ∀ (ops : List VOp) (a : AbsStore), AllValidatedV ops → StoredValid a →
    StoredValid (runOpsV AbsStore.step a ops).1 :=
  fun ops a hv hs => runOpsV_inv (fun a w op hs hb => abs_step_storedValid w a op hs hb) ops hv a hs

theorem memV_run_sim : ∀ (ops : List VOp) (m : MemStore) (a : AbsStore), AllWfV ops → Rm m a → AbsInv a →
    (runOpsV MemStore.step m ops).2 = (runOpsV AbsStore.step a ops).2 ∧
    Rm (runOpsV MemStore.step m ops).1 (runOpsV AbsStore.step a ops).1 :=
  fun ops m a hw r hi => (runOpsV_sim (R := fun m a => Rm m a ∧ AbsInv a)
    (fun _ a w op r hop => ⟨(mem_step_sim r.1 r.2 w op hop).1, (mem_step_sim r.1 r.2 w op hop).2.1,
      abs_step_inv w a op r.2 hop⟩) ops hw m a ⟨r, hi⟩).imp_right And.left

theorem redbV_run_sim : ∀ (ops : List VOp) (t : Tables) (a : AbsStore), AllWfV ops → AllValidatedV ops →
    Rr t a → AbsInv a → StoredValid a →
    (runOpsV RedbStore.step t ops).2 = (runOpsV AbsStore.step a ops).2 ∧
    Rr (runOpsV RedbStore.step t ops).1 (runOpsV AbsStore.step a ops).1 :=
  fun ops t a hw hval r hi hs => (runOpsV_sim (R := fun t a => Rr t a ∧ AbsInv a ∧ StoredValid a)
    (P := fun p => p.2.wf = true ∧ p.2.validated = true)
    (fun _ a w op r hp => ⟨(redb_step_sim r.1 r.2.1 r.2.2 w op hp.1).1, (redb_step_sim r.1 r.2.1 r.2.2 w op hp.1).2,
      abs_step_inv w a op r.2.1 hp.1, abs_step_storedValid w a op r.2.2 hp.2⟩)
    ops (fun p hp => ⟨hw p hp, hval p hp⟩) t a ⟨r, hi, hs⟩).imp_right And.left

/-- `L` := the clock-free linkage -/
def linkB (C : Content) : Hdr → Hdr → Bool := fun a b => decide (Linked (C.c a) (C.c b))

/-- `L` := linkage + "the upper header's time is below `N + 10 s`" -/
def linkBelowB (C : Content) (N : Int) : Hdr → Hdr → Bool :=
  fun a b => decide (Linked (C.c a) (C.c b) ∧ (C.c b).time < N + 10000000000)

theorem soundFor_link {C : Content} {sig : Hdr → Hdr → HeaderVerify.Oracle} {w : Hdr → Hdr → Bool}
    (h : ClockSound C sig w) : SoundFor (linkB C) w := by
  intro a b hadj hw
  obtain ⟨now, hn⟩ := h a b hw
  exact decide_eq_true (verifyAt_adjacent hn hadj).1

theorem soundFor_linkBelow {C : Content} {sig : Hdr → Hdr → HeaderVerify.Oracle} {N : Int}
    {w : Hdr → Hdr → Bool} (h : ClockSoundBelow C sig N w) : SoundFor (linkBelowB C N) w := by
  intro a b hadj hw
  obtain ⟨now, hle, hn⟩ := h a b hw
  obtain ⟨h1, h2⟩ := verifyAt_adjacent hn hadj
  exact decide_eq_true ⟨h1, by omega⟩

theorem mem_pair {m : MemStore} {a : AbsStore} (r : Rm m a) (hi : AbsInv a) {L : Hdr → Hdr → Bool}
    (hv : AbsVer L a) (h : Nat) (x y : Hdr)
    (hx : m.getByHeight h = .ok x) (hy : m.getByHeight (h + 1) = .ok y) : L x y = true :=
  (mem_adjacent r hi hv hx hy).1

theorem redb_pair {t : Tables} {a : AbsStore} (r : Rr t a) (hi : AbsInv a) {L : Hdr → Hdr → Bool}
    (hv : AbsVer L a) (h : Nat) (x y : Hdr)
    (hx : RedbStore.getByHeight t h = .ok x) (hy : RedbStore.getByHeight t (h + 1) = .ok y) :
    L x y = true :=
  (redb_adjacent r hi hv hx hy).1

theorem memV_run_pair {L : Hdr → Hdr → Bool} (ops : List VOp) (hw : AllWfV ops) (hs : AllSoundFor L ops)
    (h : Nat) (x y : Hdr) (hx : (runOpsV MemStore.step MemStore.new ops).1.getByHeight h = .ok x)
    (hy : (runOpsV MemStore.step MemStore.new ops).1.getByHeight (h + 1) = .ok y) : L x y = true := by
  obtain ⟨hi, hv⟩ := absV_run_inv ops init hw hs absInv_init (absVer_init _)
  exact mem_pair (memV_run_sim ops _ _ hw rm_init absInv_init).2 hi hv h x y hx hy

/-- the same for the redb store, whatever headers are stored: through the strict abstract store,
    whose states keep the chain invariant because they are states of `AbsStore.step` or unchanged -/
theorem redbV_run_pair {L : Hdr → Hdr → Bool} (ops : List VOp) (hw : AllWfV ops) (hs : AllSoundFor L ops)
    (h : Nat) (x y : Hdr)
    (hx : RedbStore.getByHeight (runOpsV RedbStore.step RedbStore.new ops).1 h = .ok x)
    (hy : RedbStore.getByHeight (runOpsV RedbStore.step RedbStore.new ops).1 (h + 1) = .ok y) : L x y = true := by
  obtain ⟨_, r, hi, hv⟩ := runOpsV_sim (g := stepS) (R := fun t a => Rr t a ∧ AbsInv a ∧ AbsVer L a)
    (P := fun p => p.2.wf = true ∧ SoundFor L p.1)
    (fun _ a w op r hp => ⟨(redb_stepS_sim r.1 r.2.1 w op hp.1).1, (redb_stepS_sim r.1 r.2.1 w op hp.1).2,
      stepS_inv w a op r.2.1 hp.1, stepS_ver hp.2 a op r.2.1 r.2.2⟩)
    ops (fun p hp => ⟨hw p hp, hs p hp⟩) RedbStore.new init ⟨rr_init, absInv_init, absVer_init _⟩
  exact redb_pair r hi hv h x y hx hy

end Lumina.Proofs.ComposeStoreVerify

/-
  Refinement of the redb store model (`RedbStore`, tables + atomic write transactions) to the
  abstract store: relation `Rr`, evaluation lemmas, per-operation simulation.

  The simulation is proved WITHOUT the precondition "only validated headers are stored", against
  `stepS`: the abstract store as the redb store realises it.  `stepS` is the specification
  `AbsStore.step` except that a stored header is read back through `ExtendedHeader::decode`, which
  validates — so an unvalidated stored header answers `StoredDataError` when read (`get_by_height`,
  `get_by_hash`, `get_head`, `get_range`), when it is the neighbour of an insertion, and when it is
  to be removed (the state then stays).  `redb_stepS_sim`: the RedbStore model conforms to `stepS`
  in EVERY state related by `Rr` (no hypothesis on the headers); this pins the open finding
  `C19/redb/unvalidated-header-stored` down to exactly these reads.  `stepS_cases`: a call on
  `stepS` does what the specification does, or it is refused with `StoredDataError`, the state
  unchanged, and then some stored header is not valid.  So under the precondition `StoredValid`
  (only validated headers are stored) `stepS` IS the specification (`stepS_eq_step`), which gives
  the conformance to `AbsStore.step` (`redb_step_sim`).  `writeTxL_eq_writeTx`: `write_tx` as written
  (begin, run the closure, commit or abort) realises the all-or-nothing summary `writeTx`.
-/
import Lumina.Proofs.StoreMem

open Lumina.Model.Store Lumina.Spec.C19
open Lumina.Model
open Lumina.Proofs.Ranges

namespace Lumina.Proofs.Store

open Lumina.Model.Ranges renaming Inv → RInv

/-- the raw vector stored under a key of the ranges table -/
def rawRanges (t : Tables) (k : RKey) : Ranges.Ranges := (AMap.get t.ranges k).getD []

/-- refinement relation between the redb store model and the abstract store -/
structure Rr (t : Tables) (a : AbsStore) : Prop where
  invH : RInv (rawRanges t .header)
  invS : RInv (rawRanges t .sampled)
  invP : RInv (rawRanges t .pruned)
  memH : ∀ h, Ranges.mem (rawRanges t .header) h ↔ a.stored h = true
  memS : ∀ h, Ranges.mem (rawRanges t .sampled) h ↔ h ∈ a.sampled
  memP : ∀ h, Ranges.mem (rawRanges t .pruned) h ↔ h ∈ a.pruned
  hdrT : ∀ h, AMap.get t.headers h = a.atHeight h
  hgt : ∀ q, AMap.get t.heights q = (a.byHash q).map (·.height)
  md : ∀ h, AMap.get t.samplingMetadata h = a.metaOf h

/-- precondition of the redb store: every stored header is valid (decoding validates) -/
def StoredValid (a : AbsStore) : Prop := ∀ x ∈ a.hdrs, x.valid = true

theorem Rr.ranges {t : Tables} {a : AbsStore} (r : Rr t a) :
    RangesRel (rawRanges t .header) (rawRanges t .sampled) (rawRanges t .pruned) a :=
  ⟨r.invH, r.invS, r.invP, r.memH, r.memS, r.memP⟩

theorem Rr.of {t : Tables} {a : AbsStore} {hr sr pr : Ranges.Ranges} (eH : rawRanges t .header = hr)
    (eS : rawRanges t .sampled = sr) (eP : rawRanges t .pruned = pr) (g : RangesRel hr sr pr a)
    (hT : ∀ h, AMap.get t.headers h = a.atHeight h)
    (hG : ∀ q, AMap.get t.heights q = (a.byHash q).map (·.height))
    (hM : ∀ h, AMap.get t.samplingMetadata h = a.metaOf h) : Rr t a := by
  subst eH eS eP
  exact ⟨g.invH, g.invS, g.invP, g.memH, g.memS, g.memP, hT, hG, hM⟩

theorem Rr.known {t : Tables} {a : AbsStore} (r : Rr t a) (q : Hash) :
    AMap.contains t.heights q = (a.hdrs.map (·.hash)).contains q := by
  rw [contains_eq, r.hgt q, ← byHash_isSome]
  cases a.byHash q <;> rfl

theorem Rr.heights_get {t : Tables} {a : AbsStore} (r : Rr t a) (hi : AbsInv a) {x : Hdr} (hx : x ∈ a.hdrs) :
    AMap.get t.heights x.hash = some x.height := by
  rw [r.hgt, (byHash_some hi x.hash x).2 ⟨hx, rfl⟩]; rfl

theorem Rr.getRanges {t : Tables} {a : AbsStore} (r : Rr t a) (k : RKey) :
    RedbStore.getRanges t k = .ok (rawRanges t k) := by
  have hinv : RInv (rawRanges t k) := match k with
    | .header => r.invH
    | .sampled => r.invS
    | .pruned => r.invP
  unfold RedbStore.getRanges
  show (match Ranges.fromVec (rawRanges t k) with | .ok r => _ | .error _ => _) = _
  rw [fromVec_of_inv hinv]

theorem rawRanges_set (t : Tables) (k k' : RKey) (r : Ranges.Ranges) :
    rawRanges (RedbStore.setRanges t k r) k' = if k' = k then r else rawRanges t k' := by
  unfold rawRanges RedbStore.setRanges
  simp only [get_insert]
  by_cases e : k' = k <;> simp [e]

/-- a stored header read back through `decode` (which validates) -/
def readBack (o : Option Hdr) : Except Err Hdr :=
  match o with
  | none => .error .notFound
  | some x => if x.valid then .ok x else .error .storedDataError

/-- lower neighbour of an insertion, read back and verified -/
def prevS (v : Hdr → Hdr → Bool) (a : AbsStore) (first : Hdr) : Except Err Unit :=
  match a.atHeight (first.height - 1) with
  | none => .ok ()
  | some p => if !p.valid then .error .storedDataError
              else if !v p first then .error .neighborsVerificationFailed else .ok ()

/-- upper neighbour of an insertion, read back and verified -/
def nextS (v : Hdr → Hdr → Bool) (a : AbsStore) (last : Hdr) : Except Err Unit :=
  match a.atHeight (last.height + 1) with
  | none => .ok ()
  | some n => if !n.valid then .error .storedDataError
              else if !v last n then .error .neighborsVerificationFailed else .ok ()

def neighS (v : Hdr → Hdr → Bool) (a : AbsStore) (first last : Hdr) : Except Err Unit :=
  match prevS v a first with
  | .error e => .error e
  | .ok () => nextS v a last

/-- `insertCheck` with the neighbours read back through `decode` -/
def insertCheckS (v : Hdr → Hdr → Bool) (a : AbsStore) (batch : List Hdr) :
    Except Err (Option (Nat × Nat)) :=
  match batch.head?, batch.getLast? with
  | some first, some last =>
    if !chainOK v batch then .error .headersVerificationFailed
    else
      match AbsStore.placement a first.height last.height with
      | .error e => .error e
      | .ok () =>
        match neighS v a first last with
        | .error e => .error e
        | .ok () =>
          match firstDupHash (a.hdrs.map (·.hash)) batch with
          | some q => .error (.hashExists q)
          | none => .ok (some (first.height, last.height))
  | _, _ => .ok none

def headHeightE (a : AbsStore) : Except Err Nat :=
  match a.headHeight with
  | some h => .ok h
  | none => .error .notFound

/-- the abstract store as the redb store realises it (see the header of this file) -/
def stepS (v : Hdr → Hdr → Bool) (a : AbsStore) : Op → AbsStore × Res
  | .insert batch =>
    match insertCheckS v a batch with
    | .error e => (a, .err e)
    | .ok none => (a, .ok .unit)
    | .ok (some (lo, hi)) => (added a batch lo hi, .ok .unit)
  | .remove h =>
    match a.atHeight h with
    | none => (a, .err .notFound)
    | some x => if x.valid then (removed a h, .ok .unit) else (a, .err .storedDataError)
  | .getByHeight h => (a, toRes (readBack (a.atHeight h)) .hdr)
  | .getByHash q => (a, toRes (readBack (a.byHash q)) .hdr)
  | .head => (a, match a.headHeight with
      | some h => toRes (readBack (a.atHeight h)) .hdr
      | none => .err .notFound)
  | .getRange lo hi => (a, toRes (getRange (headHeightE a) (fun h => readBack (a.atHeight h)) lo hi) .hdrs)
  | op => AbsStore.step v a op

def HasInvalid (a : AbsStore) : Prop := ∃ x ∈ a.hdrs, x.valid = false

theorem neighS_cases (v : Hdr → Hdr → Bool) (a : AbsStore) (first last : Hdr) :
    neighS v a first last =
      (if !AbsStore.prevOK v a first || !AbsStore.nextOK v a last then .error .neighborsVerificationFailed
       else .ok ()) ∨
    (neighS v a first last = .error .storedDataError ∧ HasInvalid a) := by
  unfold neighS prevS nextS AbsStore.prevOK AbsStore.nextOK
  cases hp : a.atHeight (first.height - 1) with
  | none =>
    cases hq : a.atHeight (last.height + 1) with
    | none => exact Or.inl rfl
    | some n =>
      cases hn : n.valid with
      | false => exact Or.inr ⟨by simp [hn], n, (mem_of_atHeight hq).1, hn⟩
      | true => left; cases h : v last n <;> simp [hn, h]
  | some p =>
    cases hv : p.valid with
    | false => exact Or.inr ⟨by simp [hv], p, (mem_of_atHeight hp).1, hv⟩
    | true =>
      cases h : v p first with
      | false => left; cases a.atHeight (last.height + 1) <;> simp [hv, h]
      | true =>
        cases hq : a.atHeight (last.height + 1) with
        | none => left; simp [hv, h]
        | some n =>
          cases hn : n.valid with
          | false => exact Or.inr ⟨by simp [hv, h, hn], n, (mem_of_atHeight hq).1, hn⟩
          | true => left; cases h2 : v last n <;> simp [hv, h, hn, h2]

theorem neighS_ok (v : Hdr → Hdr → Bool) (a : AbsStore) (first last : Hdr) (h : neighS v a first last = .ok ()) :
    (!AbsStore.prevOK v a first || !AbsStore.nextOK v a last) = false := by
  rcases neighS_cases v a first last with e | ⟨e, _⟩ <;> rw [e] at h
  · split at h
    · cases h
    · rename_i c; simpa using c
  · cases h

theorem insertCheckS_cases (v : Hdr → Hdr → Bool) (a : AbsStore) (batch : List Hdr) :
    insertCheckS v a batch = AbsStore.insertCheck v a batch ∨
    (insertCheckS v a batch = .error .storedDataError ∧ HasInvalid a) := by
  unfold insertCheckS AbsStore.insertCheck
  cases batch.head? with
  | none => exact Or.inl rfl
  | some first =>
    cases batch.getLast? with
    | none => exact Or.inl rfl
    | some last =>
      simp only
      split
      · exact Or.inl rfl
      · cases AbsStore.placement a first.height last.height with
        | error e => exact Or.inl rfl
        | ok u =>
          rcases neighS_cases v a first last with e | ⟨e, q⟩ <;> rw [e]
          · left
            by_cases c : (!AbsStore.prevOK v a first || !AbsStore.nextOK v a last) = true
            · simp only [c, if_true]
            · simp only [c, Bool.false_eq_true, if_false]; rfl
          · exact Or.inr ⟨rfl, q⟩

theorem insertCheckS_none (v : Hdr → Hdr → Bool) (a : AbsStore) (batch : List Hdr) :
    insertCheckS v a batch = .ok none ↔ batch = [] := by
  constructor
  · intro h
    rcases insertCheckS_cases v a batch with e | ⟨e, _⟩ <;> rw [e] at h
    · exact insertCheck_none v a batch h
    · cases h
  · intro h; subst h; rfl

theorem redb_getHeaderS {t : Tables} {a : AbsStore} (r : Rr t a) (h : Nat) :
    RedbStore.getHeader t h = readBack (a.atHeight h) := by
  unfold RedbStore.getHeader readBack
  rw [r.hdrT h]
  cases a.atHeight h with
  | none => rfl
  | some x => rfl

theorem redb_verifyNeighboursS {t : Tables} {a : AbsStore} (r : Rr t a) (hi : AbsInv a)
    (v : Hdr → Hdr → Bool) (first last : Hdr) (hlo : 1 ≤ first.height) :
    RedbStore.verifyAgainstNeighbours v t (if a.stored (first.height - 1) then some first else none)
        (if a.stored (last.height + 1) then some last else none) = neighS v a first last := by
  have hpred := pred64_of_pos hlo
  unfold RedbStore.verifyAgainstNeighbours neighS prevS nextS
  rw [stored_eq_atHeight, stored_eq_atHeight]
  cases hp : a.atHeight (first.height - 1) with
  | none =>
    cases hn : a.atHeight (last.height + 1) with
    | none => simp [pure_eq]
    | some n =>
      simp only [Option.isSome_none, Option.isSome_some, Bool.false_eq_true, if_false, if_true, ok_bind,
        pure_eq, succ64_of_stored hi hn, RedbStore.neighbour, redb_getHeaderS r, hn, readBack]
      cases hval : n.valid <;> cases hv : v last n <;> simp [hv, ok_bind, err_bind, throw_eq]
  | some p =>
    cases hn : a.atHeight (last.height + 1) with
    | none =>
      simp only [Option.isSome_none, Option.isSome_some, Bool.false_eq_true, if_false, if_true,
        ok_bind, pure_eq, hpred, RedbStore.neighbour, redb_getHeaderS r, hp, readBack]
      cases hval : p.valid <;> cases hv : v p first <;> simp [hv, ok_bind, err_bind, throw_eq]
    | some n =>
      simp only [Option.isSome_some, if_true, ok_bind, pure_eq, hpred,
        succ64_of_stored hi hn, RedbStore.neighbour, redb_getHeaderS r, hp, hn, readBack]
      cases hval : p.valid <;> cases hv : v p first <;> cases hval2 : n.valid <;> cases hv2 : v last n <;>
        simp [hv, hv2, ok_bind, err_bind, throw_eq]

theorem redb_insertLoop_eq (t : Tables) (known : List Hash) (l : List Hdr)
    (hk : ∀ q, AMap.contains t.heights q = known.contains q) (hH : Fresh (·.height) t.headers l) :
    RedbStore.insertLoop t l =
      match firstDupHash known l with
      | some q => .error (.hashExists q)
      | none => .ok { t with headers := insertAll (·.height) id t.headers l,
                             heights := insertAll (·.hash) (·.height) t.heights l } := by
  induction l generalizing t known with
  | nil => rfl
  | cons a rest ih =>
    obtain ⟨h1, hH'⟩ := hH.cons a
    have hka : (AMap.get t.heights a.hash).isSome = known.contains a.hash := by
      rw [← contains_eq]; exact hk a.hash
    simp only [firstDupHash, RedbStore.insertLoop, contains_eq, h1, Option.isSome_none,
      Bool.false_eq_true, if_false, hka]
    by_cases hd : known.contains a.hash = true
    · simp only [hd, if_true]
    · simp only [hd]
      rw [ih _ (a.hash :: known)
        (by intro q
            simp only [contains_eq, get_insert, List.contains_cons]
            have := hk q; rw [contains_eq] at this
            by_cases e : q = a.hash
            · simp [e]
            · simp [e, this])
        hH']
      cases firstDupHash (a.hash :: known) rest <;> rfl

theorem redb_insertCommit {t : Tables} {a : AbsStore} (r : Rr t a)
    {v : Hdr → Hdr → Bool} {batch : List Hdr} {first last : Hdr}
    (ok : InsertOK v a batch first last) (hwf : ∀ x ∈ batch, x.height ≤ U64_MAX) :
    ∃ t1 hr sr pr, RedbStore.insertLoop t batch = .ok t1 ∧
      expectR (Ranges.insertRelaxed (rawRanges t .header) (first.height, last.height)) = .ok hr ∧
      expectR (Ranges.removeRelaxed (rawRanges t .sampled) (first.height, last.height)) = .ok sr ∧
      expectR (Ranges.removeRelaxed (rawRanges t .pruned) (first.height, last.height)) = .ok pr ∧
      Rr (RedbStore.setRanges (RedbStore.setRanges (RedbStore.setRanges t1 .header hr) .sampled sr) .pruned pr)
        (added a batch first.height last.height) := by
  obtain ⟨b1, b2, _⟩ := batch_heights v batch first last ok.chain ok.hd ok.lst
  have fH : Fresh (·.height) t.headers batch := ⟨fun x hx => by
    rw [r.hdrT]; exact atHeight_none_of_disjoint a _ _ ok.disjoint _ (b2 x hx), b1⟩
  have fQ : Fresh (·.hash) t.heights batch :=
    ⟨fun x hx => by rw [r.hgt, ok.byHash_none x hx]; rfl, ((firstDup_none _ _).1 ok.nodup).2⟩
  have loop := redb_insertLoop_eq t (a.hdrs.map (·.hash)) batch r.known fH
  rw [ok.nodup] at loop
  obtain ⟨hr, sr, pr, eh, es, ep, g⟩ := r.ranges.insert ok (hwf last (List.mem_of_getLast? ok.lst))
  refine ⟨_, hr, sr, pr, loop, by rw [eh]; rfl, by rw [es]; rfl, by rw [ep]; rfl,
    Rr.of (by simp [rawRanges_set]) (by simp [rawRanges_set]) (by simp [rawRanges_set]) g
      (fun h => ?_) (fun q => ?_) r.md⟩
  · show AMap.get (insertAll (·.height) id t.headers batch) h = _
    rw [get_insertAll _ _ _ _ fH, r.hdrT, added_atHeight, Option.map_id, id]
  · show AMap.get (insertAll (·.hash) (·.height) t.heights batch) q = _
    rw [get_insertAll _ _ _ _ fQ, r.hgt, added_byHash]
    cases a.byHash q <;> rfl

theorem redb_insert_simS {t : Tables} {a : AbsStore} (r : Rr t a) (hi : AbsInv a)
    (v : Hdr → Hdr → Bool) (batch : List Hdr) (hwf : ∀ x ∈ batch, x.height ≤ U64_MAX) :
    match insertCheckS v a batch with
    | .error e => RedbStore.insert v t batch = (t, .error e)
    | .ok none => RedbStore.insert v t batch = (t, .ok ())
    | .ok (some (lo, hi')) => ∃ t', RedbStore.insert v t batch = (t', .ok ()) ∧ Rr t' (added a batch lo hi') := by
  cases batch with
  | nil => simp [insertCheckS, RedbStore.insert, tryIntoVerified, RedbStore.insertTx, RedbStore.writeTx]
  | cons b rest =>
    obtain ⟨last, hl⟩ := Option.isSome_iff_exists.1 (show ((b :: rest).getLast?).isSome by simp)
    have hf : (b :: rest).head? = some b := rfl
    unfold RedbStore.insert
    rw [tryIntoVerified_eq]
    unfold insertCheckS
    simp only [hf, hl]
    by_cases hc : chainOK v (b :: rest) = true
    · simp only [hc, Bool.not_true, Bool.false_eq_true, if_false, if_true]
      unfold RedbStore.writeTx RedbStore.insertTx
      simp only [hf, hl]
      simp only [r.getRanges, ok_bind]
      rw [r.ranges.constraints b.height last.height (hwf last (List.mem_of_getLast? hl))]
      cases hp : AbsStore.placement a b.height last.height with
      | error e => simp only [err_bind]
      | ok u =>
        simp only [ok_bind]
        rw [redb_verifyNeighboursS r hi v b last (placement_ok a _ _ hp).1]
        cases hn : neighS v a b last with
        | error e => simp only [err_bind]
        | ok u2 =>
          simp only [ok_bind]
          cases hd : firstDupHash (a.hdrs.map (·.hash)) (b :: rest) with
          | some q =>
            obtain ⟨b1, b2, _⟩ := batch_heights v (b :: rest) b last hc hf hl
            rw [redb_insertLoop_eq t (a.hdrs.map (·.hash)) (b :: rest) r.known
              ⟨fun x hx => by
                rw [r.hdrT]; exact atHeight_none_of_disjoint a _ _ (placement_ok a _ _ hp).2.2 _ (b2 x hx), b1⟩,
              hd]
            simp only [err_bind]
          | none =>
            simp only
            obtain ⟨t1, hr, sr, pr, e1, eh, es, ep, rr⟩ :=
              redb_insertCommit r (InsertOK.of_checks hf hl hc hp (neighS_ok v a b last hn) hd) hwf
            simp only [e1, eh, es, ep, ok_bind]
            exact ⟨_, rfl, rr⟩
    · simp [hc]

/-- removal on the redb store: a stored header that does not validate cannot be removed -/
theorem redb_remove_simS {t : Tables} {a : AbsStore} (r : Rr t a) (hi : AbsInv a) (v : Hdr → Hdr → Bool) (h : Nat) :
    (RedbStore.step v t (.remove h)).2 = (stepS v a (.remove h)).2 ∧
    Rr (RedbStore.step v t (.remove h)).1 (stepS v a (.remove h)).1 := by
  simp only [RedbStore.step, stepS]
  cases hat : a.atHeight h with
  | none =>
    have hs : a.stored h = false := by unfold AbsStore.stored; rw [hat]; rfl
    have : RedbStore.writeTx (RedbStore.removeHeightTx h) t = (t, .error .notFound) := by
      unfold RedbStore.writeTx RedbStore.removeHeightTx
      simp only [r.getRanges, ok_bind, r.ranges.contains, hs, Bool.not_false, if_true, throw_eq, err_bind]
    simp [this, toRes, r]
  | some x =>
    have hs : a.stored h = true := by unfold AbsStore.stored; rw [hat]; rfl
    obtain ⟨hx, rfl⟩ := (atHeight_some hi h x).1 hat
    by_cases hv : x.valid = true
    · obtain ⟨hr, sr, pr, eh, es, ep, g⟩ := r.ranges.remove hi hs
      have hg := r.heights_get hi hx
      have e : RedbStore.writeTx (RedbStore.removeHeightTx x.height) t =
          (RedbStore.setRanges (RedbStore.setRanges (RedbStore.setRanges
            { t with headers := AMap.erase t.headers x.height, heights := AMap.erase t.heights x.hash,
                     samplingMetadata := AMap.erase t.samplingMetadata x.height } .header hr) .sampled sr) .pruned pr,
            .ok ()) := by
        unfold RedbStore.writeTx RedbStore.removeHeightTx
        simp only [r.getRanges, ok_bind, pure_eq, r.ranges.contains, hs, r.hdrT, hat, RedbStore.decodeHeader, hv,
          contains_eq, hg, eh, es, ep, expectR, Bool.not_true, Bool.false_eq_true, if_false, if_true,
          Option.isSome_some]
      simp only [e, hv, if_true, toRes]
      refine ⟨trivial, Rr.of (by simp [rawRanges_set]) (by simp [rawRanges_set]) (by simp [rawRanges_set]) g
        (fun k => ?_) (fun q => ?_) (fun k => ?_)⟩
      · show AMap.get (AMap.erase t.headers x.height) k = _
        rw [get_erase, removed_atHeight, r.hdrT k]
      · show AMap.get (AMap.erase t.heights x.hash) q = _
        rw [get_erase, removed_byHash hi hx, r.hgt q]
        by_cases e : q = x.hash <;> simp [e]
      · show AMap.get (AMap.erase t.samplingMetadata x.height) k = _
        rw [get_erase, removed_metaOf, r.md k]
    · have hv' : x.valid = false := by simpa using hv
      have : RedbStore.writeTx (RedbStore.removeHeightTx x.height) t = (t, .error .storedDataError) := by
        unfold RedbStore.writeTx RedbStore.removeHeightTx
        simp only [r.getRanges, ok_bind, pure_eq, r.ranges.contains, hs, r.hdrT, hat, RedbStore.decodeHeader, hv',
          Bool.not_true, Bool.false_eq_true, if_false, err_bind]
      simp [this, toRes, r, hv']

/-- `mark_as_sampled` and `update_sampling_metadata` read no header back: on them `stepS` is the
    specification, and this lemma and the next serve both -/
theorem redb_mark_sim {t : Tables} {a : AbsStore} (r : Rr t a) (hi : AbsInv a) (h : Nat) :
    (a.stored h = false ∧ RedbStore.writeTx (RedbStore.markAsSampledTx h) t = (t, .error .notFound)) ∨
    (a.stored h = true ∧ ∃ t', RedbStore.writeTx (RedbStore.markAsSampledTx h) t = (t', .ok ()) ∧
        Rr t' { a with sampled := h :: a.sampled }) := by
  cases hs : a.stored h with
  | false =>
    left; refine ⟨rfl, ?_⟩
    unfold RedbStore.writeTx RedbStore.markAsSampledTx
    simp only [r.getRanges, ok_bind, r.ranges.contains, hs, Bool.not_false, if_true, throw_eq, err_bind]
  | true =>
    right; refine ⟨rfl, ?_⟩
    obtain ⟨sr, es, g⟩ := r.ranges.mark hi hs
    refine ⟨RedbStore.setRanges t .sampled sr, ?_,
      Rr.of (by simp [rawRanges_set]) (by simp [rawRanges_set]) (by simp [rawRanges_set]) g r.hdrT r.hgt r.md⟩
    unfold RedbStore.writeTx RedbStore.markAsSampledTx
    simp only [r.getRanges, ok_bind, pure_eq, r.ranges.contains, hs, es, expectR, Bool.not_true, Bool.false_eq_true,
      if_false]

theorem redb_updMeta_sim {t : Tables} {a : AbsStore} (r : Rr t a) (h : Nat) (cids : List Cid) :
    (a.stored h = false ∧
      RedbStore.writeTx (RedbStore.updateSamplingMetadataTx h cids) t = (t, .error .notFound)) ∨
    (a.stored h = true ∧ ∃ t', RedbStore.writeTx (RedbStore.updateSamplingMetadataTx h cids) t = (t', .ok ()) ∧
        Rr t' (a.updateMeta h cids).1) := by
  cases hs : a.stored h with
  | false =>
    left; refine ⟨rfl, ?_⟩
    unfold RedbStore.writeTx RedbStore.updateSamplingMetadataTx
    simp only [r.getRanges, ok_bind, r.ranges.contains, hs, Bool.not_false, if_true, throw_eq, err_bind]
  | true =>
    right; refine ⟨rfl, ?_⟩
    rw [updateMeta_ok a h cids hs]
    refine ⟨{ t with samplingMetadata := AMap.insert t.samplingMetadata h (metaEntry a h cids) }, ?_,
      Rr.of rfl rfl rfl (r.ranges.withMetas _) r.hdrT r.hgt fun k => ?_⟩
    · unfold RedbStore.writeTx RedbStore.updateSamplingMetadataTx
      simp only [r.getRanges, ok_bind, pure_eq, r.ranges.contains, hs, r.md h, Bool.not_true, Bool.false_eq_true,
        if_false, metaEntry]
      rfl
    · show AMap.get (AMap.insert t.samplingMetadata h _) k = _
      rw [get_insert, updated_metaOf, r.md k]

theorem redb_headHeight {t : Tables} {a : AbsStore} (r : Rr t a) :
    RedbStore.headHeight t = match a.headHeight with | some h => .ok h | none => .error .notFound := by
  unfold RedbStore.headHeight
  rw [r.getRanges, ok_bind, r.ranges.head]
  cases a.headHeight <;> rfl

theorem redb_containsHeight {t : Tables} {a : AbsStore} (r : Rr t a) (h : Nat) :
    RedbStore.containsHeight t h = a.stored h := by
  unfold RedbStore.containsHeight
  rw [contains_eq, r.hdrT h]; rfl

/-- per-operation simulation of the redb store by the strict abstract store: NO hypothesis on the
    validity of the headers -/
theorem redb_stepS_sim {t : Tables} {a : AbsStore} (r : Rr t a) (hi : AbsInv a)
    (v : Hdr → Hdr → Bool) (op : Op) (hwf : op.wf = true) :
    (RedbStore.step v t op).2 = (stepS v a op).2 ∧
    Rr (RedbStore.step v t op).1 (stepS v a op).1 := by
  cases op
  case insert batch =>
    have hw : ∀ x ∈ batch, x.height ≤ U64_MAX := by
      simpa [Op.wf] using hwf
    have sim := redb_insert_simS r hi v batch hw
    simp only [RedbStore.step, stepS]
    split at sim
    · simp [sim, toRes, r]
    · simp [sim, toRes, r]
    · obtain ⟨t', e, r'⟩ := sim
      simp only [e, toRes]
      exact ⟨trivial, r'⟩
  case remove h => exact redb_remove_simS r hi v h
  case mark h =>
    simp only [RedbStore.step, stepS, AbsStore.step]
    rcases redb_mark_sim r hi h with ⟨hs, e⟩ | ⟨hs, t', e, r'⟩
    · simp [e, mark_err a h hs, toRes, r]
    · simp [e, mark_ok a h hs, toRes]; exact r'
  case updMeta h cids =>
    simp only [RedbStore.step, stepS, AbsStore.step]
    rcases redb_updMeta_sim r h cids with ⟨hs, e⟩ | ⟨hs, t', e, r'⟩
    · simp [e, updateMeta_err a h cids hs, toRes, r]
    · simp only [e, toRes]
      exact ⟨by rw [updateMeta_ok a h cids hs], r'⟩
  all_goals
    simp only [RedbStore.step, stepS, AbsStore.step, RedbStore.readTx]
    refine ⟨?_, r⟩
  case getByHeight h =>
    simp only [RedbStore.getByHeight]
    rw [redb_getHeaderS r]
  case hasAt h =>
    rw [redb_containsHeight r]
  case getByHash q =>
    simp only [RedbStore.getByHash, RedbStore.getHeight]
    rw [r.hgt q]
    cases hb : a.byHash q with
    | none => rfl
    | some x =>
      simp only [Option.map_some, ok_bind]
      rw [redb_getHeaderS r, atHeight_of_byHash hi hb]
  case has q =>
    simp only [RedbStore.containsHash, RedbStore.getHeight]
    rw [r.hgt q]
    cases hb : a.byHash q with
    | none => rfl
    | some x => simp only [Option.map_some, contains_eq, r.hdrT, atHeight_of_byHash hi hb]
  case getMeta h =>
    simp only [RedbStore.getSamplingMetadata]
    have := redb_containsHeight r h
    unfold RedbStore.containsHeight at this
    simp only [this, r.md h]
    cases a.stored h <;> rfl
  case head =>
    simp only [RedbStore.getHead]
    simp only [r.getRanges, ok_bind]
    rw [r.ranges.head]
    cases a.headHeight with
    | none => rfl
    | some h => simp only; rw [redb_getHeaderS r]
  case headHeight =>
    rw [redb_headHeight r]
    cases a.headHeight <;> rfl
  case getRange lo hi' =>
    have e1 : RedbStore.getByHeight t = fun h => readBack (a.atHeight h) := by
      funext h; exact redb_getHeaderS r h
    rw [redb_headHeight r, e1]; rfl
  case storedRanges =>
    rw [r.getRanges, r.ranges.stored_eq hi]; rfl
  case sampledRanges =>
    rw [r.getRanges, r.ranges.sampled_eq hi]; rfl
  case prunedRanges =>
    rw [r.getRanges, r.ranges.pruned_eq hi]; rfl

theorem readBack_cases (a : AbsStore) (o : Option Hdr) (ho : ∀ x, o = some x → x ∈ a.hdrs) :
    readBack o = (match (generalizing := false) o with | some x => .ok x | none => .error .notFound) ∨
    (readBack o = .error .storedDataError ∧ HasInvalid a) := by
  cases o with
  | none => exact Or.inl rfl
  | some x =>
    cases hv : x.valid with
    | true => left; simp [readBack, hv]
    | false => right; exact ⟨by simp [readBack, hv], x, ho x rfl, hv⟩

theorem getRangeGo_cases {Q : Prop} (f g : Nat → Except Err Hdr)
    (h : ∀ k, f k = g k ∨ (f k = .error .storedDataError ∧ Q)) (s n : Nat) (acc : List Hdr) :
    getRangeGo f s n acc = getRangeGo g s n acc ∨ (getRangeGo f s n acc = .error .storedDataError ∧ Q) := by
  induction n generalizing s acc with
  | zero => exact Or.inl rfl
  | succ n ih =>
    unfold getRangeGo
    rcases h s with e | ⟨e, q⟩ <;> rw [e]
    · cases g s with
      | error _ => exact Or.inl rfl
      | ok x => exact ih _ _
    · exact Or.inr ⟨rfl, q⟩

theorem getRange_cases {Q : Prop} (hh : Except Err Nat) (f g : Nat → Except Err Hdr)
    (h : ∀ k, f k = g k ∨ (f k = .error .storedDataError ∧ Q)) (lo hi : Bound) :
    getRange hh f lo hi = getRange hh g lo hi ∨ (getRange hh f lo hi = .error .storedDataError ∧ Q) := by
  unfold getRange
  cases hh with
  | error _ => exact Or.inl rfl
  | ok head =>
    simp only [ok_bind]
    cases toHeadersRange lo hi head with
    | error _ => exact Or.inl rfl
    | ok p => exact getRangeGo_cases f g h _ _ _

/-- the strict abstract store IS the specification, except that a call may be refused with
    `StoredDataError`, the state unchanged — and only when an unvalidated header is stored -/
theorem stepS_cases (v : Hdr → Hdr → Bool) (a : AbsStore) (op : Op) :
    stepS v a op = AbsStore.step v a op ∨ (stepS v a op = (a, .err .storedDataError) ∧ HasInvalid a) := by
  have rbH := fun h => readBack_cases a (a.atHeight h) fun _ hx => (mem_of_atHeight hx).1
  cases op with
  | insert batch =>
    simp only [stepS, AbsStore.step, AbsStore.insert]
    rcases insertCheckS_cases v a batch with e | ⟨e, q⟩ <;> rw [e]
    · exact Or.inl rfl
    · exact Or.inr ⟨rfl, q⟩
  | remove h =>
    simp only [stepS, AbsStore.step]
    cases hx : a.atHeight h with
    | none => left; rw [remove_err a h (by simp [AbsStore.stored, hx])]
    | some x =>
      cases hv : x.valid with
      | true => left; rw [remove_ok a h (by simp [AbsStore.stored, hx])]; simp only [hv, if_true]
      | false => exact Or.inr ⟨by simp [hv], x, (mem_of_atHeight hx).1, hv⟩
  | getByHeight h =>
    simp only [stepS, AbsStore.step]
    rcases rbH h with e | ⟨e, q⟩ <;> rw [e]
    · left; cases a.atHeight h <;> rfl
    · exact Or.inr ⟨rfl, q⟩
  | getByHash q =>
    simp only [stepS, AbsStore.step]
    rcases readBack_cases a (a.byHash q) fun _ hx => List.mem_of_find?_eq_some hx with e | ⟨e, q⟩ <;> rw [e]
    · left; cases a.byHash q <;> rfl
    · exact Or.inr ⟨rfl, q⟩
  | head =>
    simp only [stepS, AbsStore.step]
    cases a.headHeight with
    | none => exact Or.inl rfl
    | some h =>
      rcases rbH h with e | ⟨e, q⟩ <;> simp only [e]
      · left; cases a.atHeight h <;> rfl
      · exact Or.inr ⟨rfl, q⟩
  | getRange lo hi =>
    simp only [stepS, AbsStore.step]
    rcases getRange_cases (headHeightE a) _ _ rbH lo hi with e | ⟨e, q⟩ <;> rw [e]
    · exact Or.inl (congrArg (Prod.mk a) (getRange_eq a (headHeightE a) _ rfl (fun _ => rfl) lo hi))
    · exact Or.inr ⟨rfl, q⟩
  | _ => exact Or.inl rfl

theorem stepS_eq_step (v : Hdr → Hdr → Bool) {a : AbsStore} (hv : StoredValid a) (op : Op) :
    stepS v a op = AbsStore.step v a op :=
  (stepS_cases v a op).resolve_right fun ⟨_, x, hx, h⟩ => by rw [hv x hx] at h; cases h

theorem stepS_state (v : Hdr → Hdr → Bool) (a : AbsStore) (op : Op) :
    (stepS v a op).1 = (AbsStore.step v a op).1 ∨ (stepS v a op).1 = a :=
  (stepS_cases v a op).imp (congrArg Prod.fst) fun h => congrArg Prod.fst h.1

/-- per-operation simulation of the redb store by the abstract store, under the precondition
    that only valid headers are stored -/
theorem redb_step_sim {t : Tables} {a : AbsStore} (r : Rr t a) (hi : AbsInv a) (hv : StoredValid a)
    (v : Hdr → Hdr → Bool) (op : Op) (hwf : op.wf = true) :
    (RedbStore.step v t op).2 = (AbsStore.step v a op).2 ∧
    Rr (RedbStore.step v t op).1 (AbsStore.step v a op).1 := by
  rw [← stepS_eq_step v hv op]; exact redb_stepS_sim r hi v op hwf

/-- C20 for the redb store: whatever the state, a failed call leaves the tables unchanged
    (the write transaction is aborted: hypothesis encoded in `writeTx`) -/
theorem redb_err_unchanged (v : Hdr → Hdr → Bool) (t : Tables) (op : Op)
    (h : (RedbStore.step v t op).2.isErr = true) : (RedbStore.step v t op).1 = t := by
  have wtx : ∀ {α : Type} (f : Tables → Except Err (Tables × α)) (g : α → Out),
      (toRes (RedbStore.writeTx f t).2 g).isErr = true → (RedbStore.writeTx f t).1 = t := by
    intro α f g
    unfold RedbStore.writeTx
    cases f t with
    | error e => intro _; rfl
    | ok p => intro hh; simp [toRes, Res.isErr] at hh
  cases op with
  | insert batch =>
    simp only [RedbStore.step] at h ⊢
    unfold RedbStore.insert at h ⊢
    cases hx : tryIntoVerified v batch with
    | error e => rfl
    | ok hs => rw [hx] at h; exact wtx _ _ h
  | remove k => exact wtx _ _ h
  | mark k => exact wtx _ _ h
  | updMeta k c => exact wtx _ _ h
  | _ => rfl

theorem writeTxL_eq_writeTx {α : Type} (dirty : Tables → Tables) (f : Tables → Except Err (Tables × α)) (t : Tables) :
    RedbStore.writeTxL dirty f t = RedbStore.writeTx f t := by
  unfold RedbStore.writeTxL RedbStore.writeTx RedbStore.WriteTxn.run RedbStore.beginWrite
  cases hf : f t with
  | error e => simp [RedbStore.WriteTxn.abort]
  | ok p => obtain ⟨w, a⟩ := p; simp [RedbStore.WriteTxn.commit]

theorem stepL_eq_step (dirty : Tables → Tables) (v : Hdr → Hdr → Bool) (t : Tables) (op : Op) :
    RedbStore.stepL dirty v t op = RedbStore.step v t op := by
  cases op <;> simp only [RedbStore.stepL, RedbStore.step, RedbStore.insertL, RedbStore.insert, writeTxL_eq_writeTx]

end Lumina.Proofs.Store

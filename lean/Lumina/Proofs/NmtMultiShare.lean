/-
  Multi-leaf range proofs: the NMT binding that `ShareProof::verify` (C13) needs, DERIVED.

  `nmtBinds_of_eds_on`: for a square `e` of width `2^k` with the quadrant parity flags and shares of at least 29 bytes whose
  DAH exists, `all = dah.allRootsBytes` are the NMT roots of the axes of `rawSquare e`, and an nmt-rs range proof
  (well-formed 90-byte siblings, 29-byte namespace — both guaranteed by the Rust types) accepted against such a root
  for a range with `end ≤ width` proves exactly that range of the axis, under the namespace each share is committed
  with — for every NMT hash with 32-byte output that has no collision among `S`, where `S` contains the inputs hashed
  when the DAH was computed (`Eds.edsInputs`), the leaf preimages of the presented shares and the inputs of this
  verification (`proofInputs`).  `shareLoopInputs` collects the latter two for the whole loop of `ShareProof::verify`.
  (Injectivity on ALL byte strings cannot be assumed of a hash with 32-byte output; hence the set `S`.)
-/
import Lumina.Proofs.NmtMultiSound
import Lumina.Proofs.C13Share
import Lumina.Proofs.NsData

namespace Lumina.Proofs.NmtMulti
open Lumina.Util Lumina.Model.Nmt Lumina.Model.Eds
open Lumina.Proofs.Nmt Lumina.Proofs.NmtRange Lumina.Proofs.Eds Lumina.Proofs.Sample
open Lumina.Proofs.NsData (SquareShape)
open Lumina.Spec.C13 (axisShares leafNsAt nsAllAt slicesBound bindsAll)
open Lumina.Proofs.C13 (nobsOf)
open Lumina.Proofs.Merkle
open Lumina.Model.Merkle (HashFns Proof)

/-- `NmtBinds` relative to a set `S` of hash inputs, with the Rust type invariants of the proof (90-byte siblings) and of
    the namespace (29 bytes) as premises: the conclusion is claimed for verifications whose own hashed inputs (leaf
    preimages of the presented shares, `proofInputs`) lie in `S` -/
def NmtBindsOn (h : HashFn) (S : Bytes → Prop) (w : Nat) (sq all : List Bytes) : Prop :=
  ∀ (idx : Nat) (r : Bytes) (root : NsHash) (p : NsProof) (raws : List Bytes) (ns : Bytes),
    all[idx]? = some r → NsHash.ofBytes? r = some root → (∀ x ∈ p.siblings, x.WF) → ns.length = 29 →
    (∀ d ∈ raws, S (leafInput ns d)) →
    (∀ y ∈ proofInputs h p.ignoreMaxNs (raws.map (hashLeaf h ns)) p.siblings p.start, S y) →
    verifyRange h p root raws ns = .ok () → p.end_ ≤ w →
    raws = ((axisShares w sq idx).drop p.start).take (p.end_ - p.start) ∧
      nsAllAt w idx ns p.start raws = true

/-- the inputs hashed by the range-proof loop of `ShareProof::verify`: per proof the leaf preimages of its share group
    (under the claimed namespace) and the `hash_nodes` inputs of `check_range_proof` -/
def shareLoopInputs (h : HashFn) (ns : Bytes) : List Bytes → List NsProof → List Bytes
  | _, [] => []
  | data, p :: ps =>
    (data.take (p.end_ - p.start)).map (leafInput ns) ++
      proofInputs h p.ignoreMaxNs ((data.take (p.end_ - p.start)).map (hashLeaf h ns)) p.siblings p.start ++
      shareLoopInputs h ns (data.drop (p.end_ - p.start)) ps

/-- the axis the `idx`-th DAH root commits to -/
def axisOf (w idx : Nat) : Axis × Nat := if idx < w then (.row, idx) else (.col, idx - w)

/-- the spec's view of an axis = the model's axis -/
theorem axisShares_eq {e : Eds} {idx : Nat} {shares : List Share}
    (hax : e.axis? (axisOf e.width idx).1 (axisOf e.width idx).2 = some shares) :
    axisShares e.width (rawSquare e) idx = shares.map Share.data := by
  obtain ⟨hlen, hg⟩ := axis?_some hax
  unfold axisShares
  apply List.ext_getElem?
  intro i
  by_cases hw : idx < e.width
  · simp only [axisOf, hw, ↓reduceIte] at hg
    rw [if_pos hw]
    by_cases hi : i < e.width
    · obtain ⟨sh, hsh, hshi⟩ := hg i hi
      simp only [axisCoord, Eds.share?] at hsh
      rw [List.getElem?_take, if_pos hi, List.getElem?_drop, List.getElem?_map, hshi]
      simp only [rawSquare, List.getElem?_map, hsh, Option.map_some]
    · rw [List.getElem?_take, if_neg hi]
      symm; rw [List.getElem?_eq_none_iff]; simp; omega
  · simp only [axisOf, hw, ↓reduceIte] at hg
    rw [if_neg hw]
    by_cases hi : i < e.width
    · obtain ⟨sh, hsh, hshi⟩ := hg i hi
      simp only [axisCoord, Eds.share?] at hsh
      rw [List.getElem?_map, List.getElem?_range hi, List.getElem?_map, hshi]
      simp only [Option.map_some, rawSquare, List.getD_eq_getElem?_getD, List.getElem?_map, hsh,
        Option.getD_some]
    · rw [List.getElem?_eq_none_iff.mpr (by simp; omega)]
      symm; rw [List.getElem?_eq_none_iff]; simp; omega

/-- the namespace the spec attaches to a position of an axis = the namespace the share is committed with -/
theorem leafNsAt_eq {e : Eds} (hsq : SquareShape e) {idx i : Nat} (hidx : idx < 2 * e.width) (hi : i < e.width)
    {shares : List Share} {sh : Share}
    (hax : e.axis? (axisOf e.width idx).1 (axisOf e.width idx).2 = some shares) (hsh : shares[i]? = some sh) :
    leafNsAt e.width idx i sh.data = sh.ns := by
  obtain ⟨_, hg⟩ := axis?_some hax
  obtain ⟨sh', hsh', hshi⟩ := hg i hi
  rw [hsh] at hshi
  injection hshi with hshi
  subst hshi
  unfold leafNsAt
  by_cases hw : idx < e.width
  · simp only [axisOf, hw, ↓reduceIte, axisCoord] at hsh'
    simp only [hw, ↓reduceIte]
    exact ns_of_quadrant (hsq.flags idx i sh hw hi hsh')
  · simp only [axisOf, hw, ↓reduceIte, axisCoord] at hsh'
    simp only [hw, ↓reduceIte]
    exact ns_of_quadrant (hsq.flags i (idx - e.width) sh hi (by omega) hsh')

theorem nsAllAt_of {w idx : Nat} {ns : Bytes} : ∀ (raws : List Bytes) (pos : Nat),
    (∀ i d, raws[i]? = some d → leafNsAt w idx (pos + i) d = ns) → nsAllAt w idx ns pos raws = true := by
  intro raws
  induction raws with
  | nil => intro _ _; rfl
  | cons d t ih =>
    intro pos h
    simp only [nsAllAt, Bool.and_eq_true, beq_iff_eq]
    refine ⟨by simpa using h 0 d rfl, ih (pos + 1) ?_⟩
    intro i d' hd'
    have := h (i + 1) d' (by simpa using hd')
    have e1 : pos + 1 + i = pos + (i + 1) := by omega
    rw [e1]; exact this

theorem dah_entry {H : HashFn} (hl : HashLen H) {e : Eds} {dah : Dah} (hd : Dah.ofEds H e = .ok dah)
    (hsz : ∀ sh ∈ e.shares, NS_SIZE ≤ sh.data.length) {idx : Nat} {r : Bytes} {root : NsHash}
    (hr : dah.allRootsBytes[idx]? = some r) (hp : NsHash.ofBytes? r = some root) :
    idx < 2 * e.width ∧ (axisOf e.width idx).2 < e.width ∧
      ∃ shares, AxisTree H e (axisOf e.width idx).1 (axisOf e.width idx).2 shares root := by
  obtain ⟨hrl, hcl, _, _⟩ := dah_ofEds_roots hd
  unfold Dah.allRootsBytes at hr
  rw [List.getElem?_map] at hr
  cases hg : (dah.rowRoots ++ dah.colRoots)[idx]? with
  | none => simp [hg] at hr
  | some rt =>
    simp only [hg, Option.map_some, Option.some.injEq] at hr
    have hidx : idx < 2 * e.width := by
      have := (List.getElem?_eq_some_iff.mp hg).1
      simp only [List.length_append, hrl, hcl] at this; omega
    have hroot? : dah.root? (axisOf e.width idx).1 (axisOf e.width idx).2 = some rt := by
      unfold axisOf
      by_cases hw : idx < e.width
      · rw [if_pos hw]; rwa [List.getElem?_append_left (by omega)] at hg
      · rw [if_neg hw]; rwa [List.getElem?_append_right (by omega), hrl] at hg
    obtain ⟨hlt, haxr⟩ := (dah_root?_iff hd).mp hroot?
    obtain ⟨shares, T⟩ := axisTree_of_root haxr
    rw [← hr, ofBytes_toBytes (T.rootWF hl hsz)] at hp
    cases hp
    exact ⟨hidx, hlt, shares, T⟩

/-- **`NmtBinds` derived** from the multi-leaf range-proof soundness, for the DAH of a power-of-two square, relative to
    any `S` that contains the inputs hashed when the DAH was computed -/
theorem nmtBinds_of_eds_on {h : HashFn} {S : Bytes → Prop} (hk : HashOKOn h S) {e : Eds} {k : Nat} (hsq : SquareShape e)
    (hw : e.width = 2 ^ k) {dah : Dah} (hd : Dah.ofEds h e = .ok dah) (hS : ∀ y ∈ edsInputs h e, S y) :
    NmtBindsOn h S e.width (rawSquare e) dah.allRootsBytes := by
  intro idx r root p raws ns hr hp wp hns hlS hV hv hend
  obtain ⟨hidx, hlt, shares, T⟩ := dah_entry hk.len hd hsq.size hr hp
  rw [axisShares_eq T.axis]
  have hrl : p.end_ - p.start = raws.length := (verifyRange_ok_iff.mp hv).2.1.symm
  have hpt := T.range_sound_on hk hw hsq.size (fun y hy => hS y (axisInputs_mem_eds hlt hy)) wp hns hlS hV hv
  by_cases hemp : raws = []
  · subst hemp; rw [hrl]; exact ⟨by simp, rfl⟩
  · have hpos : 0 < raws.length := List.length_pos_iff.mpr hemp
    have hpt := hpt (by omega)
    refine ⟨?_, ?_⟩
    · apply List.ext_getElem?
      intro i
      by_cases hi : i < raws.length
      · obtain ⟨sh, hs1, hs2, _⟩ := hpt i raws[i] (List.getElem?_eq_getElem hi)
        rw [List.getElem?_eq_getElem hi, List.getElem?_take, if_pos (by omega), List.getElem?_drop, List.getElem?_map,
          hs1, Option.map_some, hs2]
      · rw [List.getElem?_eq_none_iff.mpr (by omega), List.getElem?_take, if_neg (by omega)]
    · apply nsAllAt_of
      intro i d hd'
      obtain ⟨sh, hs1, hs2, hs3⟩ := hpt i d hd'
      have hi : i < raws.length := (List.getElem?_eq_some_iff.mp hd').1
      rw [← hs2, ← hs3]
      exact leafNsAt_eq hsq hidx (by omega) T.axis hs1

/-- `slicesBound_of_loop` with the binding hypothesis in the derived, `S`-relative form; the inputs hashed by the loop
    (`shareLoopInputs`) must lie in `S` -/
theorem slicesBound_of_ok_on {D : Type} [DecidableEq D] (H : HashFns D) (h : HashFn) (S : Bytes → Prop) (w : Nat)
    (sq all : List Bytes) (hn : NmtBindsOn h S w sq all) (ns : Bytes) (hns : ns.length = 29) :
    ∀ (nps : List NsProof) (rs : List Bytes) (mps : List (Proof D)) (data : List Bytes),
      (∀ np ∈ nps, ∀ x ∈ np.siblings, x.WF) → (∀ y ∈ shareLoopInputs h ns data nps, S y) →
      Lumina.Model.ShareProof.rangeLoop h ns data nps rs = .ok →
      bindsAll H all rs (mps.map Lumina.Proofs.C13.obsOf) = true → (∀ p ∈ mps, p.total = all.length) →
      nps.length = rs.length → rs.length = mps.length →
      slicesBound w sq ns data (nps.map nobsOf) (mps.map Lumina.Proofs.C13.obsOf) = true := by
  intro nps rs mps data hwf hVL
  refine Lumina.Proofs.C13.slicesBound_of_loop H h w sq all ns
    (fun data nps => (∀ np ∈ nps, ∀ x ∈ np.siblings, x.WF) ∧ ∀ y ∈ shareLoopInputs h ns data nps, S y)
    ?_ nps rs mps data ⟨hwf, hVL⟩
  intro data np nps ⟨hwf, hVL⟩
  simp only [shareLoopInputs, List.mem_append] at hVL
  refine ⟨⟨fun q hq => hwf q (by simp [hq]), fun y hy => hVL y (Or.inr hy)⟩, ?_⟩
  intro idx r root hi hr hv hw
  exact hn idx r root np _ ns hi hr (hwf np (by simp)) hns
    (fun d hd => hVL _ (Or.inl (Or.inl (List.mem_map.mpr ⟨d, hd, rfl⟩)))) (fun y hy => hVL y (Or.inl (Or.inr hy))) hv hw

/-- all inputs the NMT hash is applied to when the DAH of `e` is computed and when `ShareProof::verify` checks the
    range proofs `nps` of the share groups `data` under `ns`: the explicit finite set relative to which the share-proof
    theorems of `Props/C13.lean` assume (or, in reduction form, conclude the failure of) collision-freeness -/
def shareVerifyInputs (h : HashFn) (e : Eds) (ns : Bytes) (data : List Bytes) (nps : List NsProof) : List Bytes :=
  edsInputs h e ++ shareLoopInputs h ns data nps

end Lumina.Proofs.NmtMulti

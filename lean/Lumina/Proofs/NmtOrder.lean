/-
  Namespace order and the `hash_nodes` panic ("left max namespace must be <= right min namespace").

  `MonoA`: a node list in namespace order; `Summ h seg`: `h` carries the namespace range `hash_nodes` computes for the
  contiguous segment `seg`.  Hashing the roots of two adjacent segments of an ordered list does not reach the panic and
  summarises the joined segment (`hashNodes_summ`); every no-panic statement about a hash tree is an induction with this
  step: the builder's here (`computeRoot_summ`: `compute_root` over a non-empty ordered list is computed and its root
  carries the range of the list; used by `DecodersRows`), the verifier's walk in `Proofs/DecodersWalk` (C16).  With it:
  leaf hashes of leaves in namespace order are ordered (`leaves_monoA`), so leaves pushed in order have a root
  (`computeRoot_leaves`; `EdsCode`, `BefpComplete`); that `push_leaf`'s order check passes exactly on them is
  `Nmt.pushOrderOk_iff`.
  The order vocabulary (`MonoA`, `Summ`, `hashNodes_summ`) is in the namespace `Lumina.Proofs.Decoders`, where the walk
  uses it; the rest of the file is in `Lumina.Proofs.NmtOrder`.
-/
import Lumina.Model.Nmt
import Lumina.Proofs.Nmt

namespace Lumina.Proofs.Decoders
open Lumina.Util Lumina.Model.Nmt
open Lumina.Proofs.Nmt (leB_refl leB_trans leB_of_ltB ltB_of_not_leB not_ltB_of_leB)

theorem leB_total {a b : Bytes} (h : leB a b = false) : leB b a = true :=
  leB_of_ltB (ltB_of_not_leB h)

/-- `min_namespace() <= max_namespace()` -/
def Ord1 (x : NsHash) : Prop := leB x.minNs x.maxNs = true

/-- every node covers a well-formed range and consecutive nodes are in namespace order -/
def MonoA : List NsHash → Prop
  | [] => True
  | [x] => Ord1 x
  | x :: y :: r => Ord1 x ∧ leB x.maxNs y.minNs = true ∧ MonoA (y :: r)

theorem monoA_cons {x : NsHash} {xs : List NsHash} :
    MonoA (x :: xs) ↔ Ord1 x ∧ (∀ y, xs.head? = some y → leB x.maxNs y.minNs = true) ∧ MonoA xs := by
  cases xs with
  | nil => simp [MonoA]
  | cons y r => simp [MonoA]

theorem monoA_append {xs ys : List NsHash} :
    MonoA (xs ++ ys) ↔ MonoA xs ∧ MonoA ys ∧
      (∀ a b, xs.getLast? = some a → ys.head? = some b → leB a.maxNs b.minNs = true) := by
  induction xs with
  | nil => simp [MonoA]
  | cons x xs ih =>
    rw [List.cons_append, monoA_cons, monoA_cons, ih]
    cases xs with
    | nil =>
      simp only [List.nil_append, List.getLast?_singleton, Option.some.injEq, List.head?_nil, MonoA]
      constructor
      · rintro ⟨h1, h2, _, h4, _⟩
        exact ⟨⟨h1, by simp, trivial⟩, h4, by intro a b ha hb; subst ha; exact h2 b hb⟩
      · rintro ⟨⟨h1, _, _⟩, h4, h5⟩
        exact ⟨h1, fun y hy => h5 x y rfl hy, trivial, h4, by simp⟩
    | cons z zs =>
      simp only [List.cons_append, List.head?_cons, Option.some.injEq, List.getLast?_cons_cons]
      constructor
      · rintro ⟨h1, h2, h3, h4, h5⟩
        exact ⟨⟨h1, h2, h3⟩, h4, h5⟩
      · rintro ⟨⟨h1, h2, h3⟩, h4, h5⟩
        exact ⟨h1, h2, h3, h4, h5⟩

theorem monoA_singleton {x : NsHash} : MonoA [x] ↔ Ord1 x := by simp [MonoA]

theorem monoA_head_le : ∀ {xs : List NsHash} {a y : NsHash}, MonoA xs → xs.head? = some a → y ∈ xs →
    leB a.minNs y.minNs = true ∧ leB a.minNs y.maxNs = true := by
  intro xs
  induction xs with
  | nil => intro a y _ h; simp at h
  | cons x xs ih =>
    intro a y hm ha hy
    simp only [List.head?_cons, Option.some.injEq] at ha
    subst ha
    rw [monoA_cons] at hm
    obtain ⟨h1, h2, h3⟩ := hm
    rcases List.mem_cons.mp hy with e | hy'
    · subst e; exact ⟨leB_refl _, h1⟩
    · cases xs with
      | nil => simp at hy'
      | cons z zs =>
        have hz := h2 z rfl
        have := ih h3 rfl hy'
        have hxz : leB x.minNs z.minNs = true := leB_trans h1 hz
        exact ⟨leB_trans hxz this.1, leB_trans hxz this.2⟩

theorem monoA_le_last : ∀ {xs : List NsHash} {b y : NsHash}, MonoA xs → xs.getLast? = some b → y ∈ xs →
    leB y.maxNs b.maxNs = true := by
  intro xs
  induction xs with
  | nil => intro b y _ h; simp at h
  | cons x xs ih =>
    intro b y hm hb hy
    rw [monoA_cons] at hm
    obtain ⟨h1, h2, h3⟩ := hm
    cases xs with
    | nil =>
      simp at hb hy
      subst hb; subst hy; exact leB_refl _
    | cons z zs =>
      rw [List.getLast?_cons_cons] at hb
      rcases List.mem_cons.mp hy with e | hy'
      · subst e
        have hz := h2 z rfl
        have hzl := ih h3 hb (List.mem_cons_self)
        have := (monoA_head_le h3 rfl (List.mem_cons_self (a := z) (l := zs))).2
        exact leB_trans (leB_trans hz this) hzl
      · exact ih h3 hb hy'

/-- `h` carries the namespace range that `hash_nodes` computes for the contiguous segment `seg`:
    its minimum is the first node's minimum, its maximum at most the last node's maximum -/
def Summ (h : NsHash) (seg : List NsHash) : Prop :=
  ∃ a b, seg.head? = some a ∧ seg.getLast? = some b ∧ h.minNs = a.minNs ∧ leB h.maxNs b.maxNs = true

theorem summ_singleton (x : NsHash) : Summ x [x] := ⟨x, x, rfl, rfl, rfl, leB_refl _⟩

theorem Summ.ne_nil {h : NsHash} {seg : List NsHash} (s : Summ h seg) : seg ≠ [] := by
  obtain ⟨a, _, ha, _⟩ := s
  intro e; subst e; simp at ha

/-- `hash_nodes` on the roots of two adjacent segments of an ordered node list does not panic, and
    its result carries the range of the joined segment -/
theorem hashNodes_summ {H : HashFn} {ign : Bool} {l r : NsHash} {segL segR : List NsHash}
    (hl : Summ l segL) (hr : Summ r segR) (hm : MonoA (segL ++ segR)) :
    ∃ h, hashNodes H ign l r = .ok h ∧ Summ h (segL ++ segR) := by
  obtain ⟨aL, bL, haL, hbL, hlmin, hlmax⟩ := hl
  obtain ⟨aR, bR, haR, hbR, hrmin, hrmax⟩ := hr
  have hmm := monoA_append.mp hm
  obtain ⟨hmL, hmR, hbd⟩ := hmm
  have hbnd : leB bL.maxNs aR.minNs = true := hbd bL aR hbL haR
  have hhead : (segL ++ segR).head? = some aL := by
    cases segL with
    | nil => simp at haL
    | cons x xs => simpa using haL
  have hlast : (segL ++ segR).getLast? = some bR := by
    rw [List.getLast?_append, hbR]; rfl
  have hbLmem : bL ∈ segL ++ segR := List.mem_append_left _ (List.mem_of_getLast? hbL)
  have haRmem : aR ∈ segL ++ segR := List.mem_append_right _ (List.mem_of_mem_head? haR)
  have hbRmem : bR ∈ segL ++ segR := List.mem_append_right _ (List.mem_of_getLast? hbR)
  -- no panic
  have hnp : ltB r.minNs l.maxNs = false := by
    apply not_ltB_of_leB
    rw [hrmin]
    exact leB_trans hlmax hbnd
  -- min
  have hminle : leB l.minNs r.minNs = true := by
    rw [hlmin, hrmin]; exact (monoA_head_le hm hhead haRmem).1
  have hlmaxle : leB l.maxNs bR.maxNs = true := leB_trans hlmax (monoA_le_last hm hlast hbLmem)
  unfold hashNodes
  simp only [hnp, Bool.false_eq_true, ↓reduceIte]
  refine ⟨_, rfl, aL, bR, hhead, hlast, ?_, ?_⟩
  · show minB l.minNs r.minNs = aL.minNs
    unfold minB; rw [hminle]; exact hlmin
  · show leB (if (ign && l.minNs == maxNsId) = true then maxNsId
        else if (ign && r.minNs == maxNsId) = true then l.maxNs else maxB l.maxNs r.maxNs) bR.maxNs = true
    by_cases c1 : (ign && l.minNs == maxNsId) = true
    · simp only [c1, ↓reduceIte]
      have : l.minNs = maxNsId := by
        simp only [Bool.and_eq_true, beq_iff_eq] at c1; exact c1.2
      rw [← this, hlmin]
      exact (monoA_head_le hm hhead hbRmem).2
    · simp only [c1, Bool.false_eq_true, ↓reduceIte]
      by_cases c2 : (ign && r.minNs == maxNsId) = true
      · simp only [c2, ↓reduceIte]; exact hlmaxle
      · simp only [c2, Bool.false_eq_true, ↓reduceIte]
        unfold maxB
        by_cases c3 : leB l.maxNs r.maxNs = true
        · simp only [c3, ↓reduceIte]; exact hrmax
        · simp only [c3, Bool.false_eq_true, ↓reduceIte]; exact hlmaxle

end Lumina.Proofs.Decoders

namespace Lumina.Proofs.NmtOrder
open Lumina.Util Lumina.Model.Nmt Lumina.Proofs.Nmt
open Lumina.Proofs.Decoders (MonoA Summ summ_singleton monoA_append monoA_cons hashNodes_summ)

theorem not_ltB_zeros : ∀ (n : Nat) (a : Bytes), n ≤ a.length → ltB a (List.replicate n 0) = false
  | 0, [] , _ => rfl
  | 0, _ :: _, _ => rfl
  | n + 1, [], h => by simp at h
  | n + 1, x :: xs, h => by
    simp only [List.replicate_succ, ltB]
    have hx : ¬ x < 0 := by rw [UInt8.lt_iff_toNat_lt]; simp
    simp only [hx, ↓reduceIte]
    by_cases h0 : x = 0
    · simp only [h0, ↓reduceIte]; exact not_ltB_zeros n xs (by simpa using h)
    · simp [h0]

/-- `compute_root` hashes the roots of adjacent segments only (`hashNodes_summ`) -/
theorem computeRootAux_summ (H : HashFn) (ign : Bool) : ∀ (fuel : Nat) (L : List NsHash),
    L.length < fuel → L ≠ [] → MonoA L → ∃ r, computeRootAux H ign fuel L = .ok r ∧ Summ r L := by
  intro fuel
  induction fuel with
  | zero => intro L h; omega
  | succ fuel ih =>
    intro L hf hne hm
    match L, hne with
    | [x], _ => exact ⟨x, rfl, summ_singleton x⟩
    | a :: b :: rest, _ =>
      generalize hL : a :: b :: rest = L at *
      obtain ⟨hk1, hk2⟩ := nextSmallerPo2_pos_lt (n := L.length) (by rw [← hL]; simp)
      have hstep := Lumina.Proofs.Nmt.computeRootAux_step (H := H) (ign := ign) (fuel := fuel) (L := L)
        (by rw [← hL]; simp)
      have hm' := hm
      rw [← List.take_append_drop (nextSmallerPo2 L.length) L] at hm'
      obtain ⟨hml, hmr, _⟩ := monoA_append.mp hm'
      obtain ⟨l, hl, sl⟩ := ih (L.take (nextSmallerPo2 L.length)) (by rw [List.length_take]; omega)
        (List.ne_nil_of_length_pos (by rw [List.length_take]; omega)) hml
      obtain ⟨r, hr, sr⟩ := ih (L.drop (nextSmallerPo2 L.length)) (by rw [List.length_drop]; omega)
        (List.ne_nil_of_length_pos (by rw [List.length_drop]; omega)) hmr
      obtain ⟨h, hh, sh⟩ := hashNodes_summ (H := H) (ign := ign) sl sr hm'
      rw [List.take_append_drop] at sh
      exact ⟨h, by rw [hstep, hl, hr]; exact hh, sh⟩

theorem computeRoot_summ (H : HashFn) (ign : Bool) {L : List NsHash} (hne : L ≠ []) (hm : MonoA L) :
    ∃ r, computeRoot H ign L = .ok r ∧ Summ r L :=
  computeRootAux_summ H ign (L.length + 1) L (by omega) hne hm

/-- the leaves are whatever carries a namespace `ns x` and data `d x`: shares, pairs -/
theorem leaves_monoA (H : HashFn) {α} {ns d : α → Bytes} : ∀ {l : List α},
    (l.map ns).Pairwise (fun a b => leB a b = true) → MonoA (l.map (fun x => hashLeaf H (ns x) (d x)))
  | [], _ => trivial
  | a :: t, h => by
    obtain ⟨h1, h2⟩ := List.pairwise_cons.mp h
    refine monoA_cons.mpr ⟨leB_refl (ns a), fun y hy => ?_, leaves_monoA H h2⟩
    obtain ⟨p, hp, rfl⟩ := List.mem_map.mp (List.mem_of_mem_head? hy)
    exact h1 (ns p) (List.mem_map.mpr ⟨p, hp, rfl⟩)

/-- **leaves pushed in namespace order have a root**: `MerkleTree::root()` does not reach the `hash_nodes` panic -/
theorem computeRoot_leaves (H : HashFn) (ign : Bool) {α} {ns d : α → Bytes} {l : List α} (hne : l ≠ [])
    (h : (l.map ns).Pairwise (fun a b => leB a b = true)) :
    ∃ r, computeRoot H ign (l.map (fun x => hashLeaf H (ns x) (d x))) = .ok r :=
  let ⟨r, hr, _⟩ := computeRoot_summ H ign (by simpa using hne) (leaves_monoA H h)
  ⟨r, hr⟩

end Lumina.Proofs.NmtOrder

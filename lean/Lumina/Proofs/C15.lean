/-
  Lemmas for C15: the model's three kind-indexed functions in the specification's words — `decodeK_eq_parse` (each
  `decode` is the spec's `parse`), `ofCidK_eq` (the CID conversions), `newK_eq` (`new` + `encode` write `layout`, the
  byte string that `parse` reads back: `parse_layout`) — and the CIDv1 byte framing read back (`read_toBytes`, from the
  unsigned-varint round trip).
-/
import Lumina.Model.ShwapIdK
import Lumina.Proofs.Namespace
import Lumina.Proofs.BigEndian

namespace Lumina.Proofs.C15
open Lumina.Util Lumina.Model.ShwapId Lumina.Spec.C15 Lumina.Gen.C15 Lumina.Proofs.BigEndian

def obsDecode (r : Except Err (Id × Bytes)) : Option (Id × Bytes) := r.toOption

theorem eds_decode (buf : Bytes) (h : buf.length = 8) :
    EdsId.decode buf = if beVal buf = 0 then .error .zeroBlockHeight else .ok ⟨beVal buf⟩ := by
  unfold EdsId.decode EdsId.new
  simp only [EDS_ID_SIZE, h, ne_eq, not_true_eq_false, ↓reduceIte, ofBe_eq_beVal]

theorem decodeK_eds (buf : Bytes) : obsDecode (decodeK .eds buf) = (parse .eds buf).map (fun id => (id, buf)) := by
  unfold decodeK parse
  by_cases h : buf.length = 8
  · have ht : buf.take 8 = buf := by rw [← h]; exact List.take_length
    rw [eds_decode buf h]
    simp only [Kind.size, h, ne_eq, not_true_eq_false, ↓reduceIte, ht, Kind.hasRow, Kind.hasCol, Kind.hasNs,
      Bool.false_eq_true, Bool.false_and]
    by_cases hz : beVal buf = 0
    · simp [hz, obsDecode, Except.map, Except.toOption]
    · simp only [hz, ↓reduceIte, obsDecode, Except.map, Except.toOption, idOfEds, EdsId.encode, Option.map_some]
      rw [← ofBe_eq_beVal, be_ofBe 8 buf h]
  · simp [EdsId.decode, EDS_ID_SIZE, Kind.size, h, obsDecode, Except.map, Except.toOption]

theorem row_decode (buf : Bytes) (h : buf.length = 10) :
    RowId.decode buf = if beVal (buf.take 8) = 0 then .error .zeroBlockHeight
      else .ok ⟨⟨beVal (buf.take 8)⟩, beVal ((buf.drop 8).take 2)⟩ := by
  unfold RowId.decode
  have h8 : (buf.take 8).length = 8 := by simp [h]
  simp only [ROW_ID_SIZE, h, ne_eq, not_true_eq_false, ↓reduceIte, EDS_ID_SIZE, eds_decode _ h8]
  by_cases hz : beVal (buf.take 8) = 0
  · simp [hz]
  · simp [hz, ofBe_eq_beVal]

theorem row_encode_decode (buf : Bytes) (h : 10 ≤ buf.length) :
    be 8 (beVal (buf.take 8)) ++ be 2 (beVal ((buf.drop 8).take 2)) = buf.take 10 := by
  rw [← ofBe_eq_beVal, ← ofBe_eq_beVal, be_ofBe 8 _ (by simp; omega), be_ofBe 2 _ (by simp; omega)]
  exact List.take_add.symm

theorem decodeK_row (buf : Bytes) : obsDecode (decodeK .row buf) = (parse .row buf).map (fun id => (id, buf)) := by
  unfold decodeK parse
  by_cases h : buf.length = 10
  · rw [row_decode buf h]
    have ht : buf.take 10 = buf := by rw [← h]; exact List.take_length
    simp only [Kind.size, h, ne_eq, not_true_eq_false, ↓reduceIte, Kind.hasRow, Kind.hasCol, Kind.hasNs,
      Bool.false_eq_true, Bool.false_and]
    by_cases hz : beVal (buf.take 8) = 0
    · simp [hz, obsDecode, Except.map, Except.toOption]
    · simp only [hz, ↓reduceIte, obsDecode, Except.map, Except.toOption, idOfRow, RowId.encode, EdsId.encode, Option.map_some]
      rw [row_encode_decode buf (by omega), ht]
  · simp [RowId.decode, ROW_ID_SIZE, Kind.size, h, obsDecode, Except.map, Except.toOption]

theorem drop_take_take (buf : Bytes) : ((buf.take 10).drop 8).take 2 = (buf.drop 8).take 2 := by
  rw [List.drop_take]; simp [List.take_take]

theorem decodeK_sample (buf : Bytes) :
    obsDecode (decodeK .sample buf) = (parse .sample buf).map (fun id => (id, buf)) := by
  unfold decodeK parse
  by_cases h : buf.length = 12
  · have h10 : (buf.take 10).length = 10 := by simp [h]
    have ht : buf.take 12 = buf := by rw [← h]; exact List.take_length
    unfold SampleId.decode
    simp only [SAMPLE_ID_SIZE, ROW_ID_SIZE, h, ne_eq, not_true_eq_false, ↓reduceIte, row_decode _ h10,
      List.take_take, (by decide : min 8 10 = 8), drop_take_take,
      Kind.size, Kind.hasRow, Kind.hasCol, Kind.hasNs, Bool.false_eq_true, Bool.false_and]
    by_cases hz : beVal (buf.take 8) = 0
    · simp [hz, obsDecode, Except.map, Except.toOption]
    · simp only [hz, ↓reduceIte, obsDecode, Except.map, Except.toOption, idOfSample, SampleId.encode, RowId.encode, EdsId.encode,
        Option.map_some, ofBe_eq_beVal]
      have e : be 2 (beVal ((buf.drop 10).take 2)) = (buf.drop 10).take 2 := by
        rw [← ofBe_eq_beVal, be_ofBe 2 _ (by simp; omega)]
      rw [row_encode_decode buf (by omega), e, ← List.take_add, ht]
  · simp [SampleId.decode, SAMPLE_ID_SIZE, Kind.size, h, obsDecode, Except.map, Except.toOption]

theorem decodeK_rnd (buf : Bytes) :
    obsDecode (decodeK .rowNsData buf) = (parse .rowNsData buf).map (fun id => (id, buf)) := by
  unfold decodeK parse
  by_cases h : buf.length = 39
  · have h10 : (buf.take 10).length = 10 := by simp [h]
    unfold RowNamespaceDataId.decode
    simp only [ROW_NAMESPACE_DATA_ID_SIZE, ROW_ID_SIZE, h, ne_eq, not_true_eq_false, ↓reduceIte, row_decode _ h10,
      List.take_take, (by decide : min 8 10 = 8), drop_take_take,
      Kind.size, Kind.hasRow, Kind.hasCol, Kind.hasNs, Bool.false_eq_true, Bool.true_and]
    by_cases hz : beVal (buf.take 8) = 0
    · simp [hz, obsDecode, Except.map, Except.toOption]
    · simp only [hz, ↓reduceIte]
      by_cases hv : Lumina.Spec.C14.validRaw (buf.drop 10) = true
      · rw [Lumina.Proofs.Namespace.fromRaw_ok_iff.mpr ⟨hv, rfl⟩]
        simp only [hv, ↓reduceIte, obsDecode, Except.map, Except.toOption, idOfRnd, RowNamespaceDataId.encode, RowId.encode, EdsId.encode,
          Bool.not_true, Bool.false_eq_true, Option.map_some]
        rw [row_encode_decode buf (by omega), List.take_append_drop]
      · have hv' : Lumina.Spec.C14.validRaw (buf.drop 10) = false := by simpa using hv
        obtain ⟨e, he⟩ := Lumina.Proofs.Namespace.fromRaw_error hv'
        simp [he, hv', obsDecode, Except.map, Except.toOption]
  · simp [RowNamespaceDataId.decode, ROW_NAMESPACE_DATA_ID_SIZE, Kind.size, h, obsDecode, Except.map, Except.toOption]

theorem decodeK_nd (buf : Bytes) :
    obsDecode (decodeK .nsData buf) = (parse .nsData buf).map (fun id => (id, buf)) := by
  unfold decodeK parse
  by_cases h : buf.length = 37
  · have h8 : (buf.take 8).length = 8 := by simp [h]
    unfold NamespaceDataId.decode
    simp only [NAMESPACE_DATA_ID_SIZE, EDS_ID_SIZE, h, ne_eq, not_true_eq_false, ↓reduceIte, eds_decode _ h8,
      Kind.size, Kind.hasRow, Kind.hasCol, Kind.hasNs, Bool.false_eq_true, Bool.true_and]
    by_cases hz : beVal (buf.take 8) = 0
    · simp [hz, obsDecode, Except.map, Except.toOption]
    · simp only [hz, ↓reduceIte]
      by_cases hv : Lumina.Spec.C14.validRaw (buf.drop 8) = true
      · rw [Lumina.Proofs.Namespace.fromRaw_ok_iff.mpr ⟨hv, rfl⟩]
        simp only [hv, ↓reduceIte, obsDecode, Except.map, Except.toOption, idOfNd, NamespaceDataId.encode, EdsId.encode,
          Bool.not_true, Bool.false_eq_true, Option.map_some]
        rw [← ofBe_eq_beVal, be_ofBe 8 _ h8, List.take_append_drop]
      · have hv' : Lumina.Spec.C14.validRaw (buf.drop 8) = false := by simpa using hv
        obtain ⟨e, he⟩ := Lumina.Proofs.Namespace.fromRaw_error hv'
        simp [he, hv', obsDecode, Except.map, Except.toOption]
  · simp [NamespaceDataId.decode, NAMESPACE_DATA_ID_SIZE, Kind.size, h, obsDecode, Except.map, Except.toOption]

theorem decodeK_eq_parse (k : Kind) (buf : Bytes) :
    obsDecode (decodeK k buf) = (parse k buf).map (fun id => (id, buf)) := by
  cases k
  · exact decodeK_eds buf
  · exact decodeK_row buf
  · exact decodeK_sample buf
  · exact decodeK_rnd buf
  · exact decodeK_nd buf

def obsCid (r : Option (Except CidErr Id)) : Option Id := r.bind Except.toOption

/-- `decodeK` pairs the id with its re-encoding; dropping the pair gives the kind's own `decode` against `parse` -/
theorem decode_parse_of_pair {α : Type} {d : Except Err α} {f : α → Id} {g : α → Bytes} {buf : Bytes} {o : Option Id}
    (h : obsDecode (d.map (fun x => (f x, g x))) = o.map (fun id => (id, buf))) : (d.map f).toOption = o := by
  cases d <;> cases o <;> simp_all [obsDecode, Except.map, Except.toOption]

/-- the common `TryFrom<CidGeneric>` shape accepts exactly: right codec, right multihash code and a
    digest the spec's `parse` accepts (which includes the length) -/
theorem ofCid_generic {α : Type} (k : Kind) (codec mh : Nat) (decode : Bytes → Except Err α) (f : α → Id)
    (hdec : ∀ buf, ((decode buf).map f).toOption = parse k buf) (c : Cid) :
    obsCid (some ((Lumina.Model.ShwapId.ofCid codec k.size mh decode c).map f)) =
      if c.codec = codec ∧ c.mhCode = mh then parse k c.digest else none := by
  unfold Lumina.Model.ShwapId.ofCid
  by_cases h1 : c.codec = codec
  · by_cases h2 : c.digest.length = k.size
    · by_cases h3 : c.mhCode = mh
      · have := hdec c.digest
        simp only [h1, h2, h3, ne_eq, not_true_eq_false, ↓reduceIte, and_self]
        cases hd : decode c.digest with
        | ok x => rw [hd] at this; simp [obsCid, Except.map, Except.toOption, Option.bind, ← this]
        | error e => rw [hd] at this; simp [obsCid, Except.map, Except.toOption, Option.bind, ← this]
      · simp [h1, h2, h3, obsCid, Except.map, Except.toOption, Option.bind]
    · have : parse k c.digest = none := by simp [parse, h2]
      simp [h1, h2, obsCid, Except.map, Except.toOption, Option.bind, this]
  · simp [h1, obsCid, Except.map, Except.toOption, Option.bind]

/-- `TryFrom<CidGeneric>` per kind, against the property's literal codec / multihash code numbers -/
theorem ofCidK_eq (k : Kind) (c : Cid) :
    obsCid (ofCidK k c) =
      match k.cidCodes with
      | none => none
      | some (codec, code) => if c.codec = codec ∧ c.mhCode = code then parse k c.digest else none := by
  cases k with
  | eds => rfl
  | nsData => rfl
  | row =>
    exact ofCid_generic .row ROW_ID_CODEC ROW_ID_MULTIHASH_CODE RowId.decode idOfRow
      (fun buf => decode_parse_of_pair (decodeK_eq_parse .row buf)) c
  | sample =>
    exact ofCid_generic .sample SAMPLE_ID_CODEC SAMPLE_ID_MULTIHASH_CODE SampleId.decode idOfSample
      (fun buf => decode_parse_of_pair (decodeK_eq_parse .sample buf)) c
  | rowNsData =>
    exact ofCid_generic .rowNsData ROW_NAMESPACE_DATA_CODEC ROW_NAMESPACE_DATA_ID_MULTIHASH_CODE
      RowNamespaceDataId.decode idOfRnd
      (fun buf => decode_parse_of_pair (decodeK_eq_parse .rowNsData buf)) c

/-- the varint loops, with the accumulator and the byte index of the reader: `f` bytes hold every `n < 128 ^ f`; the
    last byte written is zero only for `n = 0` at index 0, so the reader's minimality check never fires -/
theorem readVarintGo_varintGo : ∀ (f n i acc : Nat) (rest : Bytes), n < 128 ^ f → 0 < f → (0 < i → n ≠ 0) →
    readVarintGo f i acc (varintGo f n ++ rest) = some ((acc + n * 128 ^ i) % 18446744073709551616, rest) := by
  intro f
  induction f with
  | zero => intro n i acc rest _ h; omega
  | succ f ih =>
    intro n i acc rest hn _ h0
    unfold varintGo
    by_cases hs : n < 128
    · rw [if_pos hs]
      have hb : (UInt8.ofNat n).toNat = n := by rw [toNat_ofNat]; omega
      simp only [List.singleton_append, readVarintGo, hb, hs, ↓reduceIte]
      rw [if_neg (by intro ⟨a, b⟩; exact h0 b a), Nat.mod_eq_of_lt hs]
    · rw [if_neg hs]
      have hb : (UInt8.ofNat (n % 128 + 128)).toNat = n % 128 + 128 := by rw [toNat_ofNat]; omega
      have hf : 0 < f := by
        rcases f with _ | f
        · simp at hn; omega
        · omega
      simp only [List.cons_append, readVarintGo, hb]
      rw [if_neg (by omega), ih (n / 128) (i + 1) _ rest
        (by rw [Nat.pow_succ] at hn; exact Nat.div_lt_of_lt_mul (by rwa [Nat.mul_comm] at hn)) hf (fun _ => by omega)]
      have e : (n % 128 + 128) % 128 = n % 128 := by omega
      rw [e, Nat.add_assoc, Nat.pow_succ, Nat.mul_comm (128 ^ i) 128, ← Nat.mul_assoc, ← Nat.add_mul,
        Nat.mul_comm (n / 128) 128, Nat.add_comm, Nat.mod_add_div, Nat.add_comm]

/-- `unsigned_varint`: reading back what was written, for every `u64` (ten bytes hold 70 bits) -/
theorem readVarint_varint (n : Nat) (rest : Bytes) (h : n < 2 ^ 64) : readVarint (varint n ++ rest) = some (n, rest) := by
  unfold readVarint varint
  rw [readVarintGo_varintGo 10 n 0 0 rest (Nat.lt_of_lt_of_le h (by decide)) (by decide) (fun h => by cases h)]
  simp only [Nat.pow_zero, Nat.mul_one, Nat.zero_add]
  rw [Nat.mod_eq_of_lt (by simpa using h)]

/-- `CidGeneric::<64>::read_bytes ∘ to_bytes` is the identity on every CIDv1 with `u64` codec and multihash code and a
    digest of at most 64 bytes; bytes after the digest are ignored -/
theorem read_toBytes (c : Cid) (rest : Bytes) (hv : c.version = 1) (hc : c.codec < 2 ^ 64) (hm : c.mhCode < 2 ^ 64)
    (hd : c.digest.length ≤ 64) : Cid.read (c.toBytes ++ rest) = some c := by
  obtain ⟨v, codec, code, d⟩ := c
  simp only at hv hc hm hd
  subst hv
  simp only [Cid.toBytes, List.append_assoc, Cid.read, readVarint_varint 1 _ (by decide), readVarint_varint codec _ hc,
    readVarint_varint code _ hm, readVarint_varint d.length _ (by omega)]
  -- version 1 is neither the CIDv0 prefix nor an unknown version; the size fits; the digest is all there
  rw [if_neg (by omega), if_neg (by omega), if_neg (by omega), if_neg (by simp), List.take_left']
  rfl

/-- ids whose fields have the Rust types (u64 height, u16 indices, validated namespace); the
    height may be 0 -/
def WellTyped (id : Id) : Prop :=
  id.height < 2 ^ 64 ∧
  (if id.kind.hasRow then id.row < 2 ^ 16 else id.row = 0) ∧
  (if id.kind.hasCol then id.col < 2 ^ 16 else id.col = 0) ∧
  (if id.kind.hasNs then Lumina.Spec.C14.validRaw id.ns = true else id.ns = [])

/-- the model's observation of construct → encode → decode → CID → back → re-read -/
def obsNew (id : Id) : NewObs :=
  match newK id with
  | .error _ => .err
  | .ok (bytes, cid) =>
    .ok bytes ((obsDecode (decodeK id.kind bytes)).map Prod.fst) (cid.map cidObs)
      (cid.bind (fun c => obsCid (ofCidK id.kind c)))
      (cid.bind (fun c => (Cid.read c.toBytes).bind (fun c' => obsCid (ofCidK id.kind c'))))

/-- the bytes of an id: height (8, big endian) ‖ row (2) ‖ column (2) ‖ namespace, each part only for the kinds that
    have it.  The five `encode`s write it (`newK_eq`) and `parse` reads it back (`parse_layout`). -/
def layout (id : Id) : Bytes :=
  be 8 id.height ++ ((if id.kind.hasRow then be 2 id.row else []) ++
    ((if id.kind.hasCol then be 2 id.col else []) ++ if id.kind.hasNs then id.ns else []))

/-- `new` + `encode` + `From<Id> for CidGeneric` of every kind: only a zero height is refused; the fields a kind does not
    have are not looked at -/
theorem newK_eq (id : Id) : newK id =
    if id.height = 0 then .error .zeroBlockHeight
    else .ok (layout id, id.kind.cidCodes.map fun cc => ⟨1, cc.1, cc.2, layout id⟩) := by
  obtain ⟨k, h, r, c, ns⟩ := id
  by_cases h0 : h = 0
  · subst h0; cases k <;> rfl
  · cases k <;>
      simp [newK, layout, h0, EdsId.new, RowId.new, SampleId.new, RowNamespaceDataId.new, NamespaceDataId.new, Except.map,
        EdsId.encode, RowId.encode, SampleId.encode, RowNamespaceDataId.encode, NamespaceDataId.encode,
        RowId.toCid, SampleId.toCid, RowNamespaceDataId.toCid, Kind.cidCodes, Kind.hasRow, Kind.hasCol, Kind.hasNs,
        ROW_ID_CODEC, ROW_ID_MULTIHASH_CODE, SAMPLE_ID_CODEC, SAMPLE_ID_MULTIHASH_CODE, ROW_NAMESPACE_DATA_CODEC,
        ROW_NAMESPACE_DATA_ID_MULTIHASH_CODE]

theorem drop_be_append_add (w v n : Nat) (r : Bytes) : (be w n ++ r).drop (w + v) = r.drop v := by
  rw [← List.drop_drop, drop_be_append]

theorem parse_layout (id : Id) (hw : WellTyped id) (h0 : id.height ≠ 0) : parse id.kind (layout id) = some id := by
  obtain ⟨k, h, r, c, ns⟩ := id
  obtain ⟨hh, hr, hc, hn⟩ := hw
  have eh : beVal (be 8 h) = h := beVal_be 8 h (by simpa using hh)
  have er (n : Nat) (hn : n < 2 ^ 16) : beVal (be 2 n) = n := beVal_be 2 n (by simpa using hn)
  have el := @Lumina.Proofs.Namespace.validRaw_length ns
  have e10 := drop_be_append_add 8 2 h
  simp only at h0
  -- per kind the flags are literals: `layout` is a concatenation of `be` fields, which `parse` takes apart again
  cases k <;>
    simp only [Kind.hasRow, Kind.hasCol, Kind.hasNs, Bool.false_eq_true, ↓reduceIte] at hr hc hn <;>
    simp [parse, layout, Kind.size, Kind.hasRow, Kind.hasCol, Kind.hasNs, be_length, List.take_of_length_le, e10, eh, er, el, h0, hr, hc, hn]

theorem parse_length {k : Kind} {buf : Bytes} {id : Id} (h : parse k buf = some id) : buf.length = k.size :=
  Decidable.byContradiction fun hl => by rw [parse, if_pos hl] at h; cases h

/-- what `read_toBytes` asks of the CIDs of the three kinds that have one: `u64` codec and multihash code, and an id of
    at most 64 bytes as digest -/
theorem cidCodes_lt {k : Kind} {codec code : Nat} (h : k.cidCodes = some (codec, code)) : codec < 2 ^ 64 ∧ code < 2 ^ 64 := by
  cases k <;> simp [Kind.cidCodes] at h <;> obtain ⟨rfl, rfl⟩ := h <;> decide

theorem size_le (k : Kind) : k.size ≤ 64 := by cases k <;> decide

theorem back_of_parse (k : Kind) (enc : Bytes) (id : Id) (hp : parse k enc = some id) :
    (obsDecode (decodeK k enc)).map Prod.fst = some id := by
  rw [decodeK_eq_parse, hp]; rfl

theorem cidBack_of_parse (k : Kind) (codec code : Nat) (enc : Bytes) (id : Id) (hk : k.cidCodes = some (codec, code))
    (hp : parse k enc = some id) : obsCid (ofCidK k ⟨1, codec, code, enc⟩) = some id := by
  rw [ofCidK_eq, hk]
  simp [hp]


end Lumina.Proofs.C15

/-
  C08: every row and column of the extension is a codeword (`axes_codewords`; on the shares of the accepted square:
  `ExtOK.axis_codeword`; its first quadrant is the original square: `ExtOK.q0`), and the bridge to the checker of
  `Lumina/Spec/C08.lean` (`isCodeword_iff`, `rowOf_eq`, `colOf_eq`).
-/
import Lumina.Proofs.EdsLinear
import Lumina.Spec.C08
import Lumina.Spec.C09

namespace Lumina.Proofs.EdsCodeword
open Lumina.Util Lumina.Model.Nmt Lumina.Model.Eds Lumina.Model.EdsCode
open Lumina.Proofs.EdsCode Lumina.Proofs.EdsExtend Lumina.Proofs.EdsLinear
open Lumina.Spec.C08

theorem isCodeword_iff (enc : List Bytes → List Bytes) (k : Nat) (axis : List Bytes) :
    isCodeword enc k axis = true ↔ IsCodeword enc k axis := by
  simp [isCodeword, IsCodeword]

theorem rowOf_eq (w : Nat) (X : List Bytes) (i : Nat) : rowOf w X i = (lineCells w X .row i).map Share.data := by
  rw [lineCells, List.map_map]; rfl

theorem colOf_eq (w : Nat) (X : List Bytes) (i : Nat) : colOf w X i = (lineCells w X .col i).map Share.data := by
  rw [lineCells, List.map_map]; rfl

theorem axes_codewords {enc : List Bytes → List Bytes} {k len : Nat} (hs : EncShape enc k) (L : EncLinear enc k len)
    {ods : List Bytes} (hl : ods.length = k * k) (hlen : ∀ s ∈ ods, s.length = len) {i : Nat} (hi : i < 2 * k) :
    IsCodeword enc k (extRow enc k ods i) ∧ IsCodeword enc k (extCol enc k ods i) := by
  refine ⟨extRow_codeword hs hl i, ?_⟩
  by_cases hik : i < k
  · rw [extCol_left_eq hs hik]
    exact codeword_of_append (odsCol_length k ods i) (hs _ (odsCol_length k ods i))
  · rw [extCol_right_eq L hs hl hlen (by omega) hi]
    exact codeword_of_append (q1Col_length enc k ods _) (hs _ (q1Col_length enc k ods _))

/-- **every row and column of an accepted extension is a codeword**, stated on the shares of the accepted square -/
theorem _root_.Lumina.Proofs.EdsExtend.ExtOK.axis_codeword {enc : List Bytes → List Bytes} {ver : Nat} {ods : List Bytes} {e : Eds} {k : Nat}
    (x : ExtOK enc ver ods e k) (L : EncLinear enc k 512) (ax : Axis) {i : Nat} (hi : i < e.width) :
    IsCodeword enc (e.width / 2) ((lineCells e.width (extGrid enc k ods) ax i).map Share.data) := by
  have hi2 : i < 2 * k := x.width ▸ hi
  have hcw := axes_codewords x.shape L x.sq x.ods_size hi2
  have hdata : (lineCells (2 * k) (extGrid enc k ods) ax i).map Share.data =
      (match ax with | .row => extRow enc k ods i | .col => extCol enc k ods i) := by
    rw [lineCells, List.map_map]
    cases ax <;> apply List.map_congr_left <;> intro j hj <;>
      obtain ⟨h1, h2⟩ := axisCoord_lt _ hi2 (List.mem_range.mp hj)
    · exact extGrid_getD enc k ods h1 h2
    · exact extGrid_getD enc k ods h1 h2
  rw [x.width, show 2 * k / 2 = k by omega, hdata]
  cases ax
  · exact hcw.1
  · exact hcw.2

theorem quadrant0_extGrid (enc : List Bytes → List Bytes) {k : Nat} {ods : List Bytes} (hl : ods.length = k * k) :
    Lumina.Spec.C09.quadrant0 (2 * k) (extGrid enc k ods) = ods := by
  unfold Lumina.Spec.C09.quadrant0
  have hk : 2 * k / 2 = k := by omega
  rw [hk, List.flatMap_def]
  have : (List.range k).map (fun r => (List.range k).map (fun c => (extGrid enc k ods).getD (r * (2 * k) + c) [])) =
      (List.range k).map (fun r => (List.range k).map (fun c => ods.getD (r * k + c) [])) := by
    apply List.map_congr_left
    intro r hr
    apply List.map_congr_left
    intro c hc
    exact extGrid_q0 enc ods (List.mem_range.mp hr) (List.mem_range.mp hc)
  rw [this]
  exact square_eq_grid hl

theorem quadrant0_eq : Lumina.Spec.C08.quadrant0 = Lumina.Spec.C09.quadrant0 := rfl

/-- **the first quadrant of an accepted extension is the original square**, stated on the shares of the accepted square -/
theorem _root_.Lumina.Proofs.EdsExtend.ExtOK.q0 {enc : List Bytes → List Bytes} {ver : Nat} {ods : List Bytes} {e : Eds} {k : Nat}
    (x : ExtOK enc ver ods e k) : Lumina.Spec.C09.quadrant0 e.width (e.shares.map Share.data) = ods := by
  rw [x.width, x.data]
  exact quadrant0_extGrid enc x.sq

end Lumina.Proofs.EdsCodeword

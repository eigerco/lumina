/-
  Insertion into a sorted list, once.  The models transcribe several `sort` calls and sorted containers
  of the Rust code as structural insertion functions (by span key, by height, by descending vote key,
  by submission, by range, by height and name, into a duplicate-free key list).  All have the same two
  equations, `IsInsert`; what follows from the equations (same elements, still sorted, where the element
  lands) is proved here for any function that satisfies them, and each model function is an instance by `rfl`.
  Insertions that overwrite the entry with an equal key (`RedbSchema.hrInsert`, `CrashStore.mapInsert`)
  change an element of the list and are not covered.
-/
namespace Lumina.Proofs.InsertSort

variable {α : Type}

/-- `ins x` walks down the list: it puts `x` in front of the first `y` with `R x y`, gives `x` up at a
    `y` with `D x y` (a set insertion meeting a duplicate), and passes every other `y` -/
structure IsInsert (R D : α → α → Prop) [DecidableRel R] [DecidableRel D] (ins : α → List α → List α) :
    Prop where
  nil : ∀ x, ins x [] = [x]
  cons : ∀ x y ys, ins x (y :: ys) =
    if R x y then x :: y :: ys else if D x y then y :: ys else y :: ins x ys

/-- an insertion that never gives its element up -/
abbrev Never : α → α → Prop := fun _ _ => False

variable {R D : α → α → Prop} [DecidableRel R] [DecidableRel D] {ins : α → List α → List α}

theorem IsInsert.mem_of_mem (h : IsInsert R D ins) {x z : α} : ∀ {l}, z ∈ ins x l → z = x ∨ z ∈ l
  | [], hz => .inl (List.mem_singleton.mp (h.nil x ▸ hz))
  | y :: ys, hz => by
    rw [h.cons] at hz
    split at hz
    · exact List.mem_cons.mp hz
    · split at hz
      · exact .inr hz
      · rcases List.mem_cons.mp hz with rfl | hz
        · exact .inr List.mem_cons_self
        · exact (h.mem_of_mem hz).imp_right (List.mem_cons_of_mem _)

theorem IsInsert.mem_iff (h : IsInsert R D ins) (hD : ∀ x y, D x y → x = y) {x z : α} :
    ∀ {l}, z ∈ ins x l ↔ z = x ∨ z ∈ l
  | [] => by rw [h.nil, List.mem_singleton]; simp
  | y :: ys => by
    refine ⟨h.mem_of_mem, fun hz => ?_⟩
    rw [h.cons]
    split
    · exact List.mem_cons.mpr hz
    · split
      · rename_i hd
        exact hz.elim (fun e => e ▸ hD x y hd ▸ List.mem_cons_self) id
      · rcases hz with rfl | hz
        · exact List.mem_cons_of_mem _ ((h.mem_iff hD).mpr (.inl rfl))
        · rcases List.mem_cons.mp hz with rfl | hz
          · exact List.mem_cons_self
          · exact List.mem_cons_of_mem _ ((h.mem_iff hD).mpr (.inr hz))

/-- `S` is the order the list is kept in: `R x y` must allow `x` before `y`, and passing `y` must
    allow `y` before `x` -/
theorem IsInsert.sorted (h : IsInsert R D ins) {S : α → α → Prop} (h1 : ∀ x y, R x y → S x y)
    (h2 : ∀ x y, ¬ R x y → ¬ D x y → S y x) (ht : ∀ a b c, S a b → S b c → S a c) (x : α) :
    ∀ l, l.Pairwise S → (ins x l).Pairwise S
  | [], _ => h.nil x ▸ List.pairwise_singleton _ _
  | y :: ys, hs => by
    have ⟨hy, hys⟩ := List.pairwise_cons.mp hs
    rw [h.cons]
    split
    · rename_i hr
      exact List.pairwise_cons.mpr ⟨fun z hz => (List.mem_cons.mp hz).elim (· ▸ h1 x y hr)
        (fun hz => ht _ _ _ (h1 x y hr) (hy z hz)), hs⟩
    · split
      · exact hs
      · rename_i hr hd
        exact List.pairwise_cons.mpr ⟨fun z hz => (h.mem_of_mem hz).elim (· ▸ h2 x y hr hd) (hy z),
          h.sorted h1 h2 ht x ys hys⟩

/-- where the element lands: behind a prefix it passes, in front of a rest whose head it precedes -/
theorem IsInsert.append (h : IsInsert R D ins) (x : α) (r : List α) (hr : ∀ y ∈ r.head?, R x y) :
    ∀ l : List α, (∀ y ∈ l, ¬ R x y ∧ ¬ D x y) → ins x (l ++ r) = l ++ x :: r
  | [], _ => by
    cases r with
    | nil => exact h.nil x
    | cons y ys => rw [List.nil_append, h.cons, if_pos (hr y rfl), List.nil_append]
  | y :: l, hl => by
    have hy := hl y List.mem_cons_self
    rw [List.cons_append, h.cons, if_neg hy.1, if_neg hy.2,
      h.append x r hr l (fun z hz => hl z (List.mem_cons_of_mem _ hz)), List.cons_append]

theorem IsInsert.perm (h : IsInsert R Never ins) (x : α) : ∀ l, (ins x l).Perm (x :: l)
  | [] => h.nil x ▸ .refl _
  | y :: ys => by
    rw [h.cons]
    split
    · exact .refl _
    · exact ((h.perm x ys).cons y).trans (.swap x y ys)

/-! the two ways the models fold an insertion over a list -/

theorem IsInsert.foldr_perm (h : IsInsert R Never ins) : ∀ l : List α, (l.foldr ins []).Perm l
  | [] => .refl _
  | x :: xs => (h.perm x _).trans ((h.foldr_perm xs).cons x)

theorem IsInsert.foldl_perm (h : IsInsert R Never ins) : ∀ l acc : List α,
    (l.foldl (fun s x => ins x s) acc).Perm (acc ++ l)
  | [], acc => by rw [List.append_nil]; exact .refl _
  | x :: xs, acc =>
    (h.foldl_perm xs (ins x acc)).trans (((h.perm x acc).append_right xs).trans List.perm_middle.symm)

theorem IsInsert.foldr_sorted (h : IsInsert R D ins) {S : α → α → Prop} (h1 : ∀ x y, R x y → S x y)
    (h2 : ∀ x y, ¬ R x y → ¬ D x y → S y x) (ht : ∀ a b c, S a b → S b c → S a c) :
    ∀ l : List α, (l.foldr ins []).Pairwise S
  | [] => .nil
  | x :: xs => h.sorted h1 h2 ht x _ (h.foldr_sorted h1 h2 ht xs)

theorem IsInsert.foldl_sorted (h : IsInsert R D ins) {S : α → α → Prop} (h1 : ∀ x y, R x y → S x y)
    (h2 : ∀ x y, ¬ R x y → ¬ D x y → S y x) (ht : ∀ a b c, S a b → S b c → S a c) :
    ∀ l acc : List α, acc.Pairwise S → (l.foldl (fun s x => ins x s) acc).Pairwise S
  | [], _, ha => ha
  | x :: xs, acc, ha => h.foldl_sorted h1 h2 ht xs _ (h.sorted h1 h2 ht x acc ha)

theorem IsInsert.foldr_id (h : IsInsert R D ins) : ∀ l : List α, l.Pairwise R → l.foldr ins [] = l
  | [], _ => rfl
  | x :: xs, hp => by
    have ⟨hx, hxs⟩ := List.pairwise_cons.mp hp
    rw [List.foldr_cons, h.foldr_id xs hxs]
    exact h.append x xs (fun y hy => hx y (List.mem_of_mem_head? hy)) [] nofun

theorem IsInsert.ext {ins' : α → List α → List α} (h : IsInsert R D ins) (h' : IsInsert R D ins') (x : α) :
    ∀ l, ins x l = ins' x l
  | [] => (h.nil x).trans (h'.nil x).symm
  | y :: ys => by rw [h.cons, h'.cons, h.ext h' x ys]

end Lumina.Proofs.InsertSort

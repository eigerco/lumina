/-
  Proofs about the redb commit-protocol model (`Model/RedbCommit.lean`): frame property of
  verified reads, Merkle uniqueness under checksum injectivity, the invariant of partially
  applied commits (`Mixed`), what recovery shows on an arbitrary medium (`recover_onePhase`,
  `recover_twoPhase`), recovery of every crash image, and the `Crash.Backend` built from the
  protocol (`redbBackend`) with its `AtomicDurableCommit` proof.  `Example`: the hypotheses are
  satisfiable (a collision-free checksum and a one-page planner).
-/
import Lumina.Model.RedbCommit

namespace Lumina.Proofs.RedbCommit
open Lumina.Model.RedbCommit Lumina.Model.Crash

variable {α C : Type} [DecidableEq C]

omit [DecidableEq C] in
theorem readKids_congr {β : Type} (rt rt' : Ptr C → Option (List β)) (ks : List (Ptr C))
    (h : ∀ k ∈ ks, rt' k = rt k) : readKids rt' ks = readKids rt ks := by
  induction ks with
  | nil => rfl
  | cons k ks ih =>
    simp only [readKids]
    rw [h k (List.mem_cons_self ..), ih (fun k' hk' => h k' (List.mem_cons_of_mem _ hk'))]

omit [DecidableEq C] in
theorem mem_liveKids (lt : Ptr C → List Nat) (ks : List (Ptr C)) (k : Ptr C) (i : Nat)
    (hk : k ∈ ks) (hi : i ∈ lt k) : i ∈ liveKids lt ks := by
  induction ks with
  | nil => cases hk
  | cons k' ks ih =>
    simp only [liveKids, List.mem_append]
    rcases List.mem_cons.mp hk with rfl | hk'
    · exact Or.inl hi
    · exact Or.inr (ih hk')

/-- **frame**: a verified read depends only on the pages reachable from its root -/
theorem readTree_frame (H : Sums α C) (pages pages' : Nat → Page α C) (f : Nat) (p : Ptr C)
    (h : ∀ i ∈ liveTree pages f p, pages' i = pages i) :
    readTree H pages' f p = readTree H pages f p := by
  induction f generalizing p with
  | zero => rfl
  | succ f ih =>
    have hp : pages' p.page = pages p.page := h _ (by simp [liveTree])
    simp only [readTree, hp]
    rw [readKids_congr (readTree H pages f) (readTree H pages' f) (pages p.page).kids]
    intro k hk
    apply ih
    intro i hi
    apply h
    simp only [liveTree, List.mem_cons]
    exact Or.inr (mem_liveKids _ _ k i hk hi)

theorem readRoots_frame (H : Sums α C) (pages pages' : Nat → Page α C) (f : Nat) (rs : List (Ptr C))
    (h : ∀ i ∈ liveRoots pages f rs, pages' i = pages i) :
    readRoots H pages' f rs = readRoots H pages f rs := by
  unfold readRoots
  apply readKids_congr
  intro k hk
  apply readTree_frame
  intro i hi
  exact h i (mem_liveKids _ _ k i hk hi)

omit [DecidableEq C] in
theorem readKids_unique {β : Type} (rt rt' : Ptr C → Option (List β)) (ks : List (Ptr C))
    (h : ∀ k ∈ ks, ∀ a b, rt k = some a → rt' k = some b → a = b)
    (a b : List β) (ha : readKids rt ks = some a) (hb : readKids rt' ks = some b) : a = b := by
  induction ks generalizing a b with
  | nil => simp [readKids] at ha hb; rw [ha, hb]
  | cons k ks ih =>
    simp only [readKids] at ha hb
    cases h1 : rt k with
    | none => simp [h1] at ha
    | some a1 =>
      cases h2 : readKids rt ks with
      | none => simp [h1, h2] at ha
      | some a2 =>
        cases h3 : rt' k with
        | none => simp [h3] at hb
        | some b1 =>
          cases h4 : readKids rt' ks with
          | none => simp [h3, h4] at hb
          | some b2 =>
            simp [h1, h2] at ha
            simp [h3, h4] at hb
            rw [← ha, ← hb, h k (List.mem_cons_self ..) a1 b1 h1 h3,
              ih (fun k' hk' => h k' (List.mem_cons_of_mem _ hk')) a2 b2 h2 h4]

/-- **Merkle uniqueness**: with a collision-free page checksum, two media on which the same
    checksummed reference verifies hold the same tree below it -/
theorem readTree_unique (H : Sums α C) (hinj : Function.Injective H.page)
    (pages pages' : Nat → Page α C) (f f' : Nat) (p : Ptr C) (a b : List α)
    (ha : readTree H pages f p = some a) (hb : readTree H pages' f' p = some b) : a = b := by
  induction f generalizing f' p a b with
  | zero => simp [readTree] at ha
  | succ f ih =>
    cases f' with
    | zero => simp [readTree] at hb
    | succ f' =>
      simp only [readTree] at ha hb
      split at ha
      · rename_i hs
        split at hb
        · rename_i hs'
          have hpg : pages p.page = pages' p.page := hinj (hs.trans hs'.symm)
          cases h1 : readKids (readTree H pages f) (pages p.page).kids with
          | none => simp [h1] at ha
          | some l =>
            cases h2 : readKids (readTree H pages' f') (pages' p.page).kids with
            | none => simp [h2] at hb
            | some l' =>
              simp [h1] at ha
              simp [h2] at hb
              rw [← hpg] at h2
              have : l = l' := readKids_unique _ _ _ (fun k _ x y hx hy => ih f' k x y hx hy) l l' h1 h2
              rw [← ha, ← hb, this, hpg]
        · cases hb
      · cases ha

theorem readRoots_unique (H : Sums α C) (hinj : Function.Injective H.page)
    (pages pages' : Nat → Page α C) (f : Nat) (rs : List (Ptr C)) (a b : List α)
    (ha : readRoots H pages f rs = some a) (hb : readRoots H pages' f rs = some b) : a = b :=
  readKids_unique _ _ rs (fun k _ x y hx hy => readTree_unique H hinj pages pages' f f k x y hx hy) a b ha hb

omit [DecidableEq C] in
theorem applyAll_append (d : Disk α C) (a b : List (Write α C)) :
    applyAll d (a ++ b) = applyAll (applyAll d a) b := by
  simp [applyAll, List.foldl_append]

/-- the writes a one-phase commit of plan `pl` from medium `d` may issue, plus early evictions:
    a page write to a free page, a region of the first header write, a region of the second -/
def IsCommitWrite (H : Sums α C) (fuel : Nat) (d : Disk α C) (pl : Plan α C)
    (w : Write α C) : Prop :=
  FreePageWrite fuel d w ∨ w ∈ headerWrites (stage1 H d pl) ∨
    w ∈ headerWrites (stage2 false (stage1 H d pl))

/-- what every medium reachable from `d` by ANY selection of such writes looks like -/
structure Mixed (H : Sums α C) (fuel : Nat) (d : Disk α C) (pl : Plan α C)
    (x : Disk α C) : Prop where
  pslot : x.slots d.primary = d.slots d.primary
  sslot : x.slots (!d.primary) = d.slots (!d.primary) ∨
          x.slots (!d.primary) = mkSlot H pl.txid pl.roots
  god : (x.primary = d.primary ∧ x.twoPhase = d.twoPhase) ∨
        (x.primary = (!d.primary) ∧ x.twoPhase = false)
  frame : ∀ i ∈ liveRoots d.pages fuel (d.slots d.primary).roots, x.pages i = d.pages i

omit [DecidableEq C] in
theorem page_frame (L : List Nat) (x d : Disk α C) (n : Nat) (pg : Page α C) (hn : n ∉ L)
    (h : ∀ i ∈ L, x.pages i = d.pages i) :
    ∀ i ∈ L, (Write.apply x (.page n pg)).pages i = d.pages i := by
  intro i hi
  have : i ≠ n := fun e => hn (e ▸ hi)
  simp [Write.apply, this, h i hi]

omit [DecidableEq C] in
theorem mixed_refl (H : Sums α C) (fuel : Nat) (d : Disk α C) (pl : Plan α C) :
    Mixed H fuel d pl d :=
  ⟨rfl, Or.inl rfl, Or.inl ⟨rfl, rfl⟩, fun _ _ => rfl⟩

omit [DecidableEq C] in
theorem mixed_apply (H : Sums α C) (fuel : Nat) (d : Disk α C) (pl : Plan α C)
    (x : Disk α C) (w : Write α C) (hx : Mixed H fuel d pl x)
    (hw : IsCommitWrite H fuel d pl w) : Mixed H fuel d pl (Write.apply x w) := by
  obtain ⟨h1, h2, h3, h4⟩ := hx
  -- both header writes carry the same two slots: the old primary and the new secondary
  have slot : ∀ j, Mixed H fuel d pl (Write.apply x (.slot j ((stage1 H d pl).slots j))) := by
    intro j
    by_cases hj : j = d.primary
    · -- the old primary slot, rewritten with its own content
      subst hj
      exact ⟨by simp [Write.apply, stage1], by simpa [Write.apply] using h2, h3, h4⟩
    · have hj : j = !d.primary := by cases j <;> cases hp : d.primary <;> simp_all
      subst hj
      exact ⟨by simpa [Write.apply] using h1, Or.inr (by simp [Write.apply, stage1]), h3, h4⟩
  rcases hw with ⟨n, pg, rfl, hn⟩ | hw | hw
  · exact ⟨h1, h2, h3, page_frame _ x d n pg hn h4⟩
  · simp only [headerWrites, List.mem_cons, List.not_mem_nil, or_false] at hw
    rcases hw with rfl | rfl | rfl
    · exact slot false
    · exact slot true
    · exact ⟨h1, h2, Or.inl ⟨rfl, rfl⟩, h4⟩
  · simp only [headerWrites, List.mem_cons, List.not_mem_nil, or_false] at hw
    rcases hw with rfl | rfl | rfl
    · exact slot false
    · exact slot true
    · exact ⟨h1, h2, Or.inr ⟨rfl, rfl⟩, h4⟩

omit [DecidableEq C] in
theorem mixed_applyAll (H : Sums α C) (fuel : Nat) (d : Disk α C) (pl : Plan α C)
    (ws : List (Write α C)) (x : Disk α C) (hx : Mixed H fuel d pl x)
    (hw : ∀ w ∈ ws, IsCommitWrite H fuel d pl w) : Mixed H fuel d pl (applyAll x ws) :=
  ws.foldlRecOn _ hx fun y hy w hmem => mixed_apply H fuel d pl y w hy (hw w hmem)

theorem mkSlot_valid (H : Sums α C) (t : Nat) (r : List (Ptr C)) :
    (mkSlot H t r).corrupted H = false := by
  simp [Slot.corrupted, mkSlot]

/-- two-phase mode: recovery trusts the primary bit -/
theorem recover_twoPhase (H : Sums α C) (fuel : Nat) (x : Disk α C) (c : List α)
    (htp : x.twoPhase = true) (hv : (x.slots x.primary).corrupted H = false)
    (hc : verify H fuel x x.primary = some c) : recover H fuel x = some c := by
  simp [recover, recoverSlot, pickPrimary, htp, hv, hc]

/-- one-phase mode: wherever the primary bit points, a valid slot `a` whose trees verify is what
    recovery shows, unless the other slot is valid, at least as new, and verifies too
    (`pick_primary_for_repair`: "pick whichever slot is newer, assuming it has a valid checksum";
    `do_repair` falls back to the other slot when the trees do not verify) -/
theorem recover_onePhase (H : Sums α C) (fuel : Nat) (x : Disk α C) (a : Bool) (c : List α)
    (htp : x.twoPhase = false) (hv : (x.slots a).corrupted H = false)
    (hc : verify H fuel x a = some c) :
    recover H fuel x = some c ∨
    ((x.slots (!a)).corrupted H = false ∧ (x.slots a).txid ≤ (x.slots (!a)).txid ∧
      ∃ c', verify H fuel x (!a) = some c' ∧ recover H fuel x = some c') := by
  have hpa : x.primary = a ∨ x.primary = !a := by cases x.primary <;> cases a <;> simp
  rcases hpa with hp | hp
  · -- the primary bit points at `a`: the other slot is tried first only if valid and strictly newer
    simp only [recover, recoverSlot, pickPrimary, htp, hp, hv]
    by_cases hnew : (x.slots a).txid < (x.slots (!a)).txid ∧ (x.slots (!a)).corrupted H = false
    · cases hn : verify H fuel x (!a) with
      | none => left; simp [hnew, hn, hc]
      | some c' => right; exact ⟨hnew.2, Nat.le_of_lt hnew.1, c', rfl, by simp [hnew, hn]⟩
    · left
      cases hs : (x.slots (!a)).corrupted H
      · simp [show ¬ (x.slots a).txid < (x.slots (!a)).txid from fun h => hnew ⟨h, hs⟩, hc]
      · simp [hc]
  · -- it points at the other slot: that one is tried first unless corrupted or strictly older
    simp only [recover, recoverSlot, pickPrimary, htp, hp, Bool.not_not, hv]
    cases hs : (x.slots (!a)).corrupted H
    · by_cases hold : (x.slots (!a)).txid < (x.slots a).txid
      · left; simp [hold, hc]
      · cases hn : verify H fuel x (!a) with
        | none => left; simp [hold, hn, hc]
        | some c' => right; exact ⟨rfl, Nat.le_of_not_lt hold, c', rfl, by simp [hold, hn]⟩
    · left; simp [hc]

/-- all or nothing: on every medium reachable by any selection of the commit's writes,
    recovery succeeds and shows the committed content of `d` or the new state `w`.  Which slot
    recovery ends on is never computed: whichever it is, it shows old or new.  So the order of
    the transaction ids (`PlanOK.txid_gt`) plays no part here; it is what makes the new slot the
    one an open database keeps using (`commit_returned`). -/
theorem recover_mixed {σ : Type} (H : Sums α C) (hinj : Function.Injective H.page) (fuel : Nat)
    (dec : List α → σ) (d : Disk α C) (w : σ) (pl : Plan α C)
    (hc : Clean H fuel d) (hp : PlanOK H fuel dec d w pl) (x : Disk α C)
    (hx : Mixed H fuel d pl x) :
    ∃ c, recover H fuel x = some c ∧ (some c = verify H fuel d d.primary ∨ dec c = w) := by
  obtain ⟨c0, hc0⟩ := hc.verified
  have vP : verify H fuel x d.primary = some c0 := by
    simp only [verify, hx.pslot]
    rw [readRoots_frame H d.pages x.pages fuel _ hx.frame]; exact hc0
  have hPv : (x.slots d.primary).corrupted H = false := by rw [hx.pslot]; exact hc.pvalid
  cases htp : x.twoPhase
  · -- one-phase recovery: the primary bit does not matter
    rcases recover_onePhase H fuel x d.primary c0 htp hPv vP with h | ⟨hNv, hle, c', hv, h⟩
    · exact ⟨c0, h, .inl hc0.symm⟩
    · refine ⟨c', h, ?_⟩
      rcases hx.sslot with s | s
      · -- the old secondary won: it is valid and not older, so it has the same roots
        rw [s] at hNv; rw [s, hx.pslot] at hle
        rcases hc.order with o | o | o
        · rw [hNv] at o; cases o
        · omega
        · left
          rw [hc0, ← hv, ← vP]; simp only [verify, s, hx.pslot, o]
      · -- the new slot won: whatever verifies under it is the new state
        obtain ⟨c, h1, h2⟩ := hp.stored
        simp only [verify, s] at hv
        right
        rw [readRoots_unique H hinj _ _ fuel pl.roots c' c hv h1]; exact h2
  · -- the god byte still says two-phase, so it is the old one, and recovery trusts its primary bit
    rcases hx.god with ⟨g1, _⟩ | ⟨_, g2⟩
    · exact ⟨c0, recover_twoPhase H fuel x c0 htp (g1 ▸ hPv) (g1 ▸ vP), .inl hc0.symm⟩
    · rw [g2] at htp; cases htp

omit [DecidableEq C] in
theorem commitWrites_ok {σ : Type} [DecidableEq C] (H : Sums α C) (fuel : Nat) (dec : List α → σ)
    (d : Disk α C) (w : σ) (pl : Plan α C) (hp : PlanOK H fuel dec d w pl) :
    ∀ wr ∈ pl.pageWrites ++ headerWrites (stage1 H d pl) ++
      headerWrites (stage2 false (stage1 H d pl)), IsCommitWrite H fuel d pl wr := by
  intro wr hwr
  rcases List.mem_append.mp hwr with hwr | hwr
  · rcases List.mem_append.mp hwr with hwr | hwr
    · simp only [Plan.pageWrites, List.mem_map] at hwr
      obtain ⟨a, ha, rfl⟩ := hwr
      exact .inl ⟨a.1, a.2, rfl, hp.free a ha⟩
    · exact .inr (.inl hwr)
  · exact .inr (.inr hwr)

omit [DecidableEq C] in
theorem crashImg_writes (d : Disk α C) (eps : List (List (Write α C))) (x : Disk α C)
    (h : CrashImg d eps x) :
    ∃ ws, (∀ w ∈ ws, ∃ ep ∈ eps, w ∈ ep) ∧ x = applyAll d ws := by
  induction eps generalizing d with
  | nil => exact ⟨[], by simp, h⟩
  | cons ep rest ih =>
    rcases h with ⟨k, sub, hsub, rfl⟩ | h
    · refine ⟨sub, ?_, rfl⟩
      intro w hw
      exact ⟨ep, List.mem_cons_self .., List.mem_of_mem_take (hsub.subset hw)⟩
    · obtain ⟨ws, h1, rfl⟩ := ih _ h
      refine ⟨ep ++ ws, ?_, (applyAll_append d ep ws).symm⟩
      intro w hw
      rcases List.mem_append.mp hw with hw | hw
      · exact ⟨ep, List.mem_cons_self .., hw⟩
      · obtain ⟨ep', he, hw'⟩ := h1 w hw
        exact ⟨ep', List.mem_cons_of_mem _ he, hw'⟩

theorem recover_writes {σ : Type} (H : Sums α C) (hinj : Function.Injective H.page) (fuel : Nat)
    (dec : List α → σ) (d : Disk α C) (w : σ) (pl : Plan α C) (hc : Clean H fuel d)
    (hp : PlanOK H fuel dec d w pl) (ws : List (Write α C))
    (hws : ∀ wr ∈ ws, IsCommitWrite H fuel d pl wr) :
    ∃ c, recover H fuel (applyAll d ws) = some c ∧ (some c = verify H fuel d d.primary ∨ dec c = w) :=
  recover_mixed H hinj fuel dec d w pl hc hp _ (mixed_applyAll H fuel d pl ws d (mixed_refl ..) hws)

omit [DecidableEq C] in
theorem applyAll_pages_header (d : Disk α C) (ps : List (Nat × Page α C)) :
    (applyAll d (ps.map fun w => Write.page w.1 w.2)).primary = d.primary ∧
    (applyAll d (ps.map fun w => Write.page w.1 w.2)).twoPhase = d.twoPhase ∧
    (applyAll d (ps.map fun w => Write.page w.1 w.2)).slots = d.slots := by
  induction ps generalizing d with
  | nil => exact ⟨rfl, rfl, rfl⟩
  | cons a ps ih =>
    simp only [List.map_cons, applyAll, List.foldl_cons]
    exact ih (Write.apply d (.page a.1 a.2))

omit [DecidableEq C] in
theorem applyAll_headerWrites (y h : Disk α C) :
    applyAll y (headerWrites h) =
      { primary := h.primary, twoPhase := h.twoPhase, slots := h.slots, pages := y.pages } := by
  simp only [applyAll, headerWrites, List.foldl_cons, List.foldl_nil, Write.apply]
  congr 1
  funext j
  cases j <;> simp

omit [DecidableEq C] in
/-- a header write whose slots are on the medium already is, however it tears, one atomic write
    of the god byte: the slot writes change nothing -/
theorem applyAll_header_sub (y h : Disk α C) (hs : y.slots = h.slots) (sub : List (Write α C))
    (hsub : ∀ w ∈ sub, w ∈ headerWrites h) :
    applyAll y sub = y ∨ applyAll y sub = applyAll y (headerWrites h) := by
  rw [applyAll_headerWrites, ← hs]
  induction sub generalizing y with
  | nil => exact .inl rfl
  | cons w sub ih =>
    have hw := hsub w (List.mem_cons_self ..)
    have hrest := fun w' hw' => hsub w' (List.mem_cons_of_mem _ hw')
    simp only [headerWrites, List.mem_cons, List.not_mem_nil, or_false] at hw
    have slot : ∀ j, Write.apply y (.slot j (h.slots j)) = y := fun j =>
      congrArg (Disk.mk y.primary y.twoPhase · y.pages) (funext fun i => by
        rw [← hs]; split <;> simp [*])
    show applyAll (Write.apply y w) sub = _ ∨ applyAll (Write.apply y w) sub = _
    rcases hw with rfl | rfl | rfl
    · rw [slot]; exact ih y hs hrest
    · rw [slot]; exact ih y hs hrest
    · -- the god byte is written: whatever the rest of the selection does, the medium stays this one
      exact .inr ((ih (Write.apply y (.god h.primary h.twoPhase)) hs hrest).elim id id)

omit [DecidableEq C] in
theorem commitDisk_eq (H : Sums α C) (d : Disk α C) (pl : Plan α C) (tp : Bool) :
    commitDisk H d pl tp =
      { primary := !d.primary, twoPhase := tp, slots := (stage1 H d pl).slots,
        pages := (applyAll d pl.pageWrites).pages } := by
  cases tp <;>
    simp [commitDisk, commitEpochs, applyEpochs, applyAll_append, applyAll_headerWrites, stage2, stage1]

omit [DecidableEq C] in
/-- what a crash during a two-phase commit leaves: before the first sync a selection of the
    writes of the first epoch; after it the new slot and all pages are on the medium, so of the
    second header write only the god byte matters, and the medium is still the synced one or
    already the one `commit()` returns with -/
theorem crashImg_twoPhase (H : Sums α C) (d : Disk α C) (pl : Plan α C) (x : Disk α C)
    (hx : CrashImg d (commitEpochs H d pl true) x) :
    (∃ sub, (∀ wr ∈ sub, wr ∈ pl.pageWrites ++ headerWrites (stage1 H d pl)) ∧ x = applyAll d sub) ∨
      x = commitDisk H d pl true := by
  simp only [commitEpochs, ↓reduceIte, CrashImg] at hx
  rcases hx with ⟨k, sub, hsub, rfl⟩ | ⟨k, sub, hsub, rfl⟩ | rfl
  · exact .inl ⟨sub, fun wr hwr => List.mem_of_mem_take (hsub.subset hwr), rfl⟩
  · refine (applyAll_header_sub _ (stage2 true (stage1 H d pl)) ?_ sub fun wr hwr =>
      List.mem_of_mem_take (hsub.subset hwr)).imp (fun e => ⟨_, fun _ h => h, e⟩) id
    rw [applyAll_append, applyAll_headerWrites]; rfl
  · exact .inr rfl

/-- between transactions recovery shows what the open database shows: the commit of the same
    roots again, none of whose writes has reached the medium -/
theorem recover_clean (H : Sums α C) (hinj : Function.Injective H.page) (fuel : Nat)
    (d : Disk α C) (hc : Clean H fuel d) : recover H fuel d = verify H fuel d d.primary := by
  obtain ⟨c0, hc0⟩ := hc.verified
  obtain ⟨c, h, ho | hn⟩ := recover_mixed H hinj fuel id d c0
    { pages := [], roots := (d.slots d.primary).roots, txid := (d.slots d.primary).txid + 1 } hc
    ⟨Nat.lt_succ_self _, nofun, ⟨c0, hc0, rfl⟩⟩ d (mixed_refl ..)
  · exact h.trans ho
  · rw [h, hc0]; exact congrArg some hn

omit [DecidableEq C] in
theorem free_writes_inv (fuel : Nat) (d x : Disk α C) (ws : List (Write α C))
    (hws : ∀ w ∈ ws, FreePageWrite fuel d w)
    (hx : x.primary = d.primary ∧ x.twoPhase = d.twoPhase ∧ x.slots = d.slots ∧
      ∀ i ∈ liveRoots d.pages fuel (d.slots d.primary).roots, x.pages i = d.pages i) :
    (applyAll x ws).primary = d.primary ∧ (applyAll x ws).twoPhase = d.twoPhase ∧
    (applyAll x ws).slots = d.slots ∧
    ∀ i ∈ liveRoots d.pages fuel (d.slots d.primary).roots, (applyAll x ws).pages i = d.pages i := by
  induction ws generalizing x with
  | nil => exact hx
  | cons w ws ih =>
    obtain ⟨n, pg, rfl, hn⟩ := hws w (List.mem_cons_self ..)
    exact ih _ (fun w' hw' => hws w' (List.mem_cons_of_mem _ hw'))
      ⟨hx.1, hx.2.1, hx.2.2.1, page_frame _ x d n pg hn hx.2.2.2⟩

theorem clean_free_writes (H : Sums α C) (fuel : Nat) (d : Disk α C) (hc : Clean H fuel d)
    (ws : List (Write α C)) (hws : ∀ w ∈ ws, FreePageWrite fuel d w) :
    Clean H fuel (applyAll d ws) ∧
    verify H fuel (applyAll d ws) (applyAll d ws).primary = verify H fuel d d.primary := by
  obtain ⟨h1, _, h3, h4⟩ := free_writes_inv fuel d d ws hws ⟨rfl, rfl, rfl, fun _ _ => rfl⟩
  have hv : verify H fuel (applyAll d ws) (applyAll d ws).primary = verify H fuel d d.primary := by
    simp only [verify, h1, h3]
    exact readRoots_frame H d.pages _ fuel _ h4
  obtain ⟨c0, hc0⟩ := hc.verified
  refine ⟨⟨?_, ⟨c0, hv.trans hc0⟩, ?_⟩, hv⟩
  · rw [h1, h3]; exact hc.pvalid
  · rw [h1, h3]; exact hc.order

/-- dirty pages reaching the medium early (write-buffer eviction during the closure, or a
    transaction that never commits) are invisible: they only go to free pages -/
theorem recover_free_writes (H : Sums α C) (hinj : Function.Injective H.page) (fuel : Nat)
    (d : Disk α C) (hc : Clean H fuel d) (ws : List (Write α C))
    (hws : ∀ w ∈ ws, FreePageWrite fuel d w) :
    recover H fuel (applyAll d ws) = verify H fuel d d.primary :=
  have ⟨hcl, hv⟩ := clean_free_writes H fuel d hc ws hws
  (recover_clean H hinj fuel _ hcl).trans hv

theorem commit_returned {σ : Type} (H : Sums α C) (fuel : Nat) (dec : List α → σ) (d : Disk α C)
    (w : σ) (pl : Plan α C) (tp : Bool) (hp : PlanOK H fuel dec d w pl) :
    Clean H fuel (commitDisk H d pl tp) ∧
    ∃ c, verify H fuel (commitDisk H d pl tp) (commitDisk H d pl tp).primary = some c ∧ dec c = w := by
  obtain ⟨c, hc1, hc2⟩ := hp.stored
  have hv : verify H fuel (commitDisk H d pl tp) (commitDisk H d pl tp).primary = some c := by
    rw [commitDisk_eq]
    simp only [verify, stage1, ↓reduceIte]
    exact hc1
  refine ⟨⟨?_, ⟨c, hv⟩, ?_⟩, c, hv, hc2⟩
  · rw [commitDisk_eq]; simp only [stage1, ↓reduceIte]; exact mkSlot_valid ..
  · right; left
    rw [commitDisk_eq]; simp only [stage1, Bool.not_not, ↓reduceIte]
    cases hpq : d.primary <;> simp [mkSlot] <;> (have := hp.txid_gt; simp [hpq] at this; exact this)

/-- **Crash atomicity of ONE-PHASE commit** (the commit lumina uses): whatever the crash point
    and whatever subset of the unsynced writes survives, recovery succeeds and shows either
    the content committed before or the new state — never a mixture. -/
theorem commit1_crash_atomic {σ : Type} (H : Sums α C) (hinj : Function.Injective H.page)
    (fuel : Nat) (dec : List α → σ) (d : Disk α C) (w : σ) (pl : Plan α C)
    (hc : Clean H fuel d) (hp : PlanOK H fuel dec d w pl) (x : Disk α C)
    (hx : CrashImg d (commitEpochs H d pl false) x) :
    ∃ c, recover H fuel x = some c ∧ (some c = verify H fuel d d.primary ∨ dec c = w) := by
  obtain ⟨ws, hws, rfl⟩ := crashImg_writes d _ x hx
  apply recover_writes H hinj fuel dec d w pl hc hp
  intro wr hwr
  obtain ⟨ep, hep, hmem⟩ := hws wr hwr
  simp only [commitEpochs, Bool.false_eq_true, ↓reduceIte, List.mem_cons, List.not_mem_nil,
    or_false] at hep
  exact commitWrites_ok H fuel dec d w pl hp wr (hep ▸ hmem)

/-- **Crash atomicity of TWO-PHASE commit** (used by redb's own repair-on-open commit): same
    statement.  A crash leaves a selection of writes that a one-phase commit issues too, or the
    medium `commit()` returns with (`crashImg_twoPhase`). -/
theorem commit2_crash_atomic {σ : Type} (H : Sums α C) (hinj : Function.Injective H.page)
    (fuel : Nat) (dec : List α → σ) (d : Disk α C) (w : σ) (pl : Plan α C)
    (hc : Clean H fuel d) (hp : PlanOK H fuel dec d w pl) (x : Disk α C)
    (hx : CrashImg d (commitEpochs H d pl true) x) :
    ∃ c, recover H fuel x = some c ∧ (some c = verify H fuel d d.primary ∨ dec c = w) := by
  rcases crashImg_twoPhase H d pl x hx with ⟨sub, hsub, rfl⟩ | rfl
  · exact recover_writes H hinj fuel dec d w pl hc hp sub fun wr hwr =>
      commitWrites_ok H fuel dec d w pl hp wr (List.mem_append_left _ (hsub wr hwr))
  · -- the god byte says two-phase: recovery trusts its primary bit, the new slot
    obtain ⟨c, hc1, hc2⟩ := hp.stored
    refine ⟨c, ?_, .inr hc2⟩
    rw [commitDisk_eq]
    exact recover_twoPhase H fuel _ c rfl (by simp [stage1, mkSlot_valid])
      (by simp only [verify, stage1, ↓reduceIte]; exact hc1)

theorem commit_atomic {σ : Type} (H : Sums α C) (hinj : Function.Injective H.page) (fuel : Nat)
    (dec : List α → σ) (d : Disk α C) (w : σ) (pl : Plan α C) (tp : Bool) (hc : Clean H fuel d)
    (hp : PlanOK H fuel dec d w pl) :
    (∀ x, CrashImg d (commitEpochs H d pl tp) x →
      ∃ c, recover H fuel x = some c ∧ (some c = verify H fuel d d.primary ∨ dec c = w)) ∧
    Clean H fuel (commitDisk H d pl tp) ∧
    ∃ c, recover H fuel (commitDisk H d pl tp) = some c ∧ dec c = w := by
  obtain ⟨hcl, c, hv, hd⟩ := commit_returned H fuel dec d w pl tp hp
  refine ⟨fun x hx => ?_, hcl, c, by rw [recover_clean H hinj fuel _ hcl]; exact hv, hd⟩
  cases tp
  · exact commit1_crash_atomic H hinj fuel dec d w pl hc hp x hx
  · exact commit2_crash_atomic H hinj fuel dec d w pl hc hp x hx

/-- the repair is a commit of the recovered roots with no page writes -/
theorem repair_clean (H : Sums α C) (fuel : Nat) (d : Disk α C) (c : List α)
    (h : recover H fuel d = some c) :
    Clean H fuel (repair H fuel d) ∧
    verify H fuel (repair H fuel d) (repair H fuel d).primary = some c := by
  unfold recover at h
  unfold repair
  cases hq : recoverSlot H fuel d with
  | none => simp [hq] at h
  | some q =>
    simp only [hq] at h ⊢
    obtain ⟨hcl, c', hv, rfl⟩ := commit_returned H fuel id { d with primary := q } c
      { pages := [], roots := (d.slots q).roots, txid := (d.slots q).txid + 1 } true
      ⟨Nat.lt_succ_self _, (fun _ hw => nomatch hw), ⟨c, h, rfl⟩⟩
    exact ⟨hcl, hv⟩

/-- a medium together with the information whether the process has crashed since the database
    was last opened (then the next thing that happens to it is redb's repair-on-open) -/
def Good (H : Sums α C) (fuel : Nat) (x : Disk α C × Bool) : Prop :=
  if x.2 then ∃ c, recover H fuel x.1 = some c else Clean H fuel x.1

/-- media on which the database is open and idle, or from which it can be reopened -/
abbrev RD (H : Sums α C) (fuel : Nat) := { x : Disk α C × Bool // Good H fuel x }

/-- the medium once the database is open (after repair-on-open if there was a crash) -/
def opened (H : Sums α C) (fuel : Nat) (x : Disk α C × Bool) : Disk α C :=
  if x.2 then repair H fuel x.1 else x.1

/-- the tree content a database on `x` shows: what recovery finds / what the primary holds -/
def viewRaw (H : Sums α C) (fuel : Nat) (x : Disk α C × Bool) : Option (List α) :=
  if x.2 then recover H fuel x.1 else verify H fuel x.1 x.1.primary

theorem opened_clean (H : Sums α C) (fuel : Nat) (x : Disk α C × Bool) (hx : Good H fuel x) :
    Clean H fuel (opened H fuel x) ∧
    verify H fuel (opened H fuel x) (opened H fuel x).primary = viewRaw H fuel x ∧
    ∃ c, viewRaw H fuel x = some c := by
  obtain ⟨d, b⟩ := x
  cases b with
  | false =>
    have hc : Clean H fuel d := by simpa [Good] using hx
    exact ⟨hc, rfl, hc.verified⟩
  | true =>
    obtain ⟨c, hc⟩ : ∃ c, recover H fuel d = some c := by simpa [Good] using hx
    obtain ⟨h1, h2⟩ := repair_clean H fuel d c hc
    refine ⟨h1, ?_, c, hc⟩
    simp only [opened, viewRaw, ↓reduceIte]
    rw [h2, hc]

/-- **redb's commit protocol as the durable backend of `Model/Crash.lean`.**
    `plan` stands for the B-tree + allocator layer (hypothesis `hplan`: it only writes free
    pages and stores the requested state), `dec` decodes tree content into the logical state. -/
def redbBackend {σ : Type} (H : Sums α C) (fuel : Nat) (dec : List α → σ)
    (plan : Disk α C → σ → Plan α C)
    (hplan : ∀ d, Clean H fuel d → ∀ w, PlanOK H fuel dec d w (plan d w)) :
    Backend (RD H fuel) σ where
  view x := dec ((viewRaw H fuel x.1).getD [])
  commit x w :=
    ⟨(commitDisk H (opened H fuel x.1) (plan (opened H fuel x.1) w) false, false),
      (commit_returned H fuel dec _ w _ false (hplan _ (opened_clean H fuel x.1 x.2).1 w)).1⟩
  abort x := ⟨(opened H fuel x.1, false), (opened_clean H fuel x.1 x.2).1⟩
  crashInTx x y :=
    y.1.2 = true ∧ ∃ ws, (∀ w ∈ ws, FreePageWrite fuel (opened H fuel x.1) w) ∧
      y.1.1 = applyAll (opened H fuel x.1) ws
  crashInCommit x w y :=
    y.1.2 = true ∧
      CrashImg (opened H fuel x.1)
        (commitEpochs H (opened H fuel x.1) (plan (opened H fuel x.1) w) false) y.1.1
  crashInAbort x y :=
    y.1.2 = true ∧ ∃ ws, (∀ w ∈ ws, FreePageWrite fuel (opened H fuel x.1) w) ∧
      y.1.1 = applyAll (opened H fuel x.1) ws

/-- **`AtomicDurableCommit` holds for the protocol model.** -/
theorem redbBackend_atomic {σ : Type} (H : Sums α C) (hinj : Function.Injective H.page)
    (fuel : Nat) (dec : List α → σ) (plan : Disk α C → σ → Plan α C)
    (hplan : ∀ d, Clean H fuel d → ∀ w, PlanOK H fuel dec d w (plan d w)) :
    AtomicDurableCommit (redbBackend H fuel dec plan hplan) where
  commit_visible := by
    intro x w
    obtain ⟨_, c, hv, hd⟩ := commit_returned H fuel dec _ w _ false
      (hplan _ (opened_clean H fuel x.1 x.2).1 w)
    simp only [redbBackend, viewRaw, Bool.false_eq_true, ↓reduceIte]
    rw [hv]; exact hd
  abort_invisible := by
    intro x
    simp only [redbBackend]
    congr 2
    exact (opened_clean H fuel x.1 x.2).2.1
  crash_tx_invisible := by
    intro x y ⟨hy, ws, hws, he⟩
    obtain ⟨hc, hv, _⟩ := opened_clean H fuel x.1 x.2
    simp only [redbBackend]
    congr 2
    rw [← hv, ← recover_free_writes H hinj fuel _ hc ws hws, ← he]
    simp [viewRaw, hy]
  crash_commit_atomic := by
    intro x w y ⟨hy, himg⟩
    obtain ⟨hc, hv, _⟩ := opened_clean H fuel x.1 x.2
    have hrec : viewRaw H fuel y.1 = recover H fuel y.1.1 := by simp [viewRaw, hy]
    obtain ⟨c, h, ho | hn⟩ := commit1_crash_atomic H hinj fuel dec _ w _ hc (hplan _ hc w) _ himg
    · left
      simp only [redbBackend]
      rw [hrec, h, ho, hv]
    · right
      simp only [redbBackend]
      rw [hrec, h]; exact hn
  crash_abort_invisible := by
    intro x y ⟨hy, ws, hws, he⟩
    obtain ⟨hc, hv, _⟩ := opened_clean H fuel x.1 x.2
    simp only [redbBackend]
    congr 2
    rw [← hv, ← recover_free_writes H hinj fuel _ hc ws hws, ← he]
    simp [viewRaw, hy]

omit [DecidableEq C] in
theorem ptrs_injective {ka kb : List (Ptr C)}
    (h : ka.map (fun k => (k.page, k.sum)) = kb.map (fun k => (k.page, k.sum))) : ka = kb :=
  (List.map_inj_right (f := fun k : Ptr C => (k.page, k.sum))
    (fun a b e => by cases a; cases b; simp_all)).1 h

namespace Example

/-- a perfect (collision-free) Merkle checksum: the description of the whole subtree -/
inductive T where
  | node (payload : List Nat) (kids : List (Nat × T))

def sums : Sums (List Nat) T where
  page pg := .node pg.payload (pg.kids.map fun k => (k.page, k.sum))
  slot t rs := .node [t] (rs.map fun k => (k.page, k.sum))

theorem sums_injective : Function.Injective sums.page := by
  intro a b h
  obtain ⟨pa, ka⟩ := a
  obtain ⟨pb, kb⟩ := b
  simp only [sums, T.node.injEq] at h
  rw [h.1, ptrs_injective h.2]

noncomputable instance : DecidableEq T := fun _ _ => Classical.propDecidable _

def fresh (l : List Nat) : Nat := l.foldr max 0 + 1

theorem fresh_not_mem (l : List Nat) : fresh l ∉ l := by
  have key : ∀ i ∈ l, i ≤ l.foldr max 0 := by
    induction l with
    | nil => intro i h; cases h
    | cons x xs ih =>
      intro i hi
      simp only [List.foldr_cons]
      rcases List.mem_cons.mp hi with rfl | h
      · exact Nat.le_max_left ..
      · exact Nat.le_trans (ih i h) (Nat.le_max_right ..)
  intro h
  have := key _ h
  simp only [fresh] at this
  omega

/-- the simplest copy-on-write transaction: the whole new state goes into ONE fresh page,
    which becomes the only root -/
def plan (fuel : Nat) (d : Disk (List Nat) T) (w : List Nat) : Plan (List Nat) T :=
  let n := fresh (liveRoots d.pages fuel (d.slots d.primary).roots)
  { pages := [(n, ⟨w, []⟩)], roots := [⟨n, sums.page ⟨w, []⟩⟩], txid := (d.slots d.primary).txid + 1 }

theorem plan_ok (f : Nat) (d : Disk (List Nat) T) (w : List Nat) :
    PlanOK sums (f + 1) List.flatten d w (plan (f + 1) d w) := by
  refine ⟨Nat.lt_succ_self _, ?_, [w], ?_, by simp⟩
  · intro wr hwr
    simp only [plan, List.mem_cons, List.not_mem_nil, or_false] at hwr
    subst hwr
    exact fresh_not_mem _
  · simp [plan, Plan.pageWrites, applyAll, Write.apply, readRoots, readKids, readTree]

/-- a freshly created database: two equal empty slots, two-phase flag set (`DatabaseHeader::new`) -/
def emptyDisk : Disk (List Nat) T where
  primary := false
  twoPhase := true
  slots := fun _ => mkSlot sums 0 []
  pages := fun _ => ⟨[], []⟩

theorem emptyDisk_clean (fuel : Nat) : Clean sums fuel emptyDisk :=
  ⟨mkSlot_valid .., ⟨[], rfl⟩, Or.inr (Or.inr rfl)⟩

/-- a database holding `[1,2,3]` in page 1 (the medium after committing it to `emptyDisk`) -/
def disk1 : Disk (List Nat) T where
  primary := true
  twoPhase := false
  slots := fun j => if j = true then mkSlot sums 1 [⟨1, sums.page ⟨[1, 2, 3], []⟩⟩]
                    else mkSlot sums 0 []
  pages := fun m => if m = 1 then ⟨[1, 2, 3], []⟩ else ⟨[], []⟩

/-- an UPDATE IN PLACE: the new state `[9]` is written over the live page 1 -/
def inPlace : Plan (List Nat) T :=
  { pages := [(1, ⟨[9], []⟩)], roots := [⟨1, sums.page ⟨[9], []⟩⟩], txid := 2 }

end Example

end Lumina.Proofs.RedbCommit

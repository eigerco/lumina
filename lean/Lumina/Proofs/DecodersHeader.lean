/-
  For C16 `no_panic_extended_header_validate_partial`: `ExtendedHeader::validate` as modelled by
  `Lumina.Model.HeaderVerify.validate` never takes its panic outcome when the validator set is as tendermint builds it
  (`ValSet.wf`).  Here are its parts: the one arithmetic step, the `u64` tally of `verify_commit_light`, is bounded by
  `Proofs/Commit` (`verifyCommitLight_ne_panic`), and the two shapes of check in front of it cannot panic.
-/
import Lumina.Model.HeaderVerify
import Lumina.Proofs.Commit

namespace Lumina.Proofs.Decoders
open Lumina.Model.Commit Lumina.Model.HeaderVerify

/-- a basic-validation step: its error is not a panic -/
theorem basic_ne_panic {o : Option ValErr} {X : ValOut} (h : X ≠ .panic) :
    (match o with | some e => ValOut.err e | none => X) ≠ .panic := by
  cases o
  · exact h
  · nofun

theorem check_ne_panic {c : Prop} [Decidable c] {e : ValErr} {X : ValOut} (h : X ≠ .panic) :
    (if c then .err e else X) ≠ .panic := by
  split
  · nofun
  · exact h

end Lumina.Proofs.Decoders

/-
  The hash hypotheses of C01's mutation theorems (`Function.Injective P.hHeader / hValset / hDah`)
  are SATISFIABLE as stated: the digest type `Hash = Option (List UInt8)` carries no length
  bound (no "32 bytes" clause), so a self-delimiting serialisation is an injective instance.
  This file constructs one explicitly and proves the three injectivity facts.
-/
import Lumina.Model.HeaderVerify

namespace Lumina.Proofs.InjectiveWitness
open Lumina.Model.HeaderVerify

/-- self-delimiting encoding of a byte string: `1 x` per byte, `0` at the end -/
def encB : List UInt8 → List UInt8
  | [] => [0]
  | x :: xs => 1 :: x :: encB xs

/-- concatenation of self-delimiting items -/
def encL : List (List UInt8) → List UInt8
  | [] => []
  | b :: l => encB b ++ encL l

theorem encB_prefix : ∀ (a b r r' : List UInt8), encB a ++ r = encB b ++ r' → a = b ∧ r = r' := by
  intro a
  induction a with
  | nil =>
    intro b r r' h
    cases b with
    | nil => simpa [encB] using h
    | cons y ys => simp [encB] at h
  | cons x xs ih =>
    intro b r r' h
    cases b with
    | nil => simp [encB] at h
    | cons y ys =>
      simp only [encB, List.cons_append, List.cons.injEq, true_and] at h
      obtain ⟨hxy, hrest⟩ := h
      obtain ⟨h1, h2⟩ := ih ys r r' hrest
      exact ⟨by rw [hxy, h1], h2⟩

theorem encB_ne_nil (a : List UInt8) : encB a ≠ [] := by cases a <;> simp [encB]

theorem encL_inj : Function.Injective encL := by
  intro l
  induction l with
  | nil =>
    intro l' h
    cases l' with
    | nil => rfl
    | cons b l' => exact absurd (List.append_eq_nil_iff.mp h.symm).1 (encB_ne_nil b)
  | cons a l ih =>
    intro l' h
    cases l' with
    | nil => exact absurd (List.append_eq_nil_iff.mp h).1 (encB_ne_nil a)
    | cons b l' =>
      obtain ⟨h1, h2⟩ := encB_prefix a b _ _ h
      rw [h1, ih h2]

def encNat (n : Nat) : List UInt8 := List.replicate n 0

theorem encNat_inj : Function.Injective encNat := by
  intro a b h
  have := congrArg List.length h
  simpa [encNat] using this

def encInt : Int → List UInt8
  | .ofNat n => 0 :: encNat n
  | .negSucc n => 1 :: encNat n

theorem encInt_inj : Function.Injective encInt := by
  intro a b h
  cases a <;> cases b <;> simp [encInt] at h
  · rw [encNat_inj h]
  · rw [encNat_inj h]

def encHash : Hash → List UInt8
  | none => [0]
  | some b => 1 :: b

theorem encHash_inj : Function.Injective encHash := by
  intro a b h
  cases a <;> cases b <;> simp_all [encHash]

def encOHash : Option Hash → List UInt8
  | none => [0]
  | some none => [1]
  | some (some b) => 2 :: b

theorem encOHash_inj : Function.Injective encOHash := by
  intro a b h
  rcases a with _ | _ | a <;> rcases b with _ | _ | b <;> simp_all [encOHash]

def encBid (b : BlockId) : List UInt8 := encL [encHash b.hash, encNat b.pst, encHash b.psh]

theorem encBid_inj : Function.Injective encBid := by
  intro a b h
  have := encL_inj h
  simp only [List.cons.injEq, and_true] at this
  obtain ⟨h1, h2, h3⟩ := this
  cases a; cases b
  simp only [BlockId.mk.injEq]
  exact ⟨encHash_inj h1, encNat_inj h2, encHash_inj h3⟩

def encOBid : Option BlockId → List UInt8
  | none => [0]
  | some b => 1 :: encBid b

theorem encOBid_inj : Function.Injective encOBid := by
  intro a b h
  cases a <;> cases b <;> simp [encOBid] at h
  · rfl
  · rw [encBid_inj h]

/-- the 15 fields of a header, each serialised injectively -/
def fields (h : HeaderF) : List (List UInt8) :=
  [encNat h.versionBlock, encNat h.versionApp, h.chainId, encNat h.height, encInt h.time,
   encOBid h.lastBlockId, encOHash h.lastCommitHash, encOHash h.dataHash, encHash h.validatorsHash,
   encHash h.nextValidatorsHash, encHash h.consensusHash, h.appHash, encOHash h.lastResultsHash,
   encOHash h.evidenceHash, h.proposerAddress]

theorem fields_inj : Function.Injective fields := by
  intro a b h
  cases a; cases b
  simp only [fields, List.cons.injEq, and_true] at h
  obtain ⟨h1, h2, h3, h4, h5, h6, h7, h8, h9, h10, h11, h12, h13, h14, h15⟩ := h
  simp only [HeaderF.mk.injEq]
  exact ⟨encNat_inj h1, encNat_inj h2, h3, encNat_inj h4, encInt_inj h5, encOBid_inj h6,
    encOHash_inj h7, encOHash_inj h8, encHash_inj h9, encHash_inj h10, encHash_inj h11, h12,
    encOHash_inj h13, encOHash_inj h14, h15⟩

/-- an injective "header hash" -/
def hHeaderInj (h : HeaderF) : Hash := some (encL (fields h))

theorem hHeaderInj_inj : Function.Injective hHeaderInj := by
  intro a b h
  exact fields_inj (encL_inj (Option.some.inj h))

/-- an injective "DAH hash" (over `rows ++ cols`) -/
def hDahInj (l : List (List UInt8)) : Hash := some (encL l)

theorem hDahInj_inj : Function.Injective hDahInj := fun _ _ h => encL_inj (Option.some.inj h)

/-- an injective "validator-set hash" (over the (key, power) list) -/
def hValsetInj (l : List (List UInt8 × Nat)) : Hash :=
  some (encL (l.flatMap (fun p => [p.1, encNat p.2])))

theorem flat_inj : Function.Injective (fun (l : List (List UInt8 × Nat)) => l.flatMap (fun p => [p.1, encNat p.2])) := by
  intro l
  induction l with
  | nil =>
    intro l' h
    cases l' with
    | nil => rfl
    | cons b l' => simp at h
  | cons a l ih =>
    intro l' h
    cases l' with
    | nil => simp at h
    | cons b l' =>
      simp only [List.flatMap_cons, List.cons_append, List.nil_append, List.cons.injEq] at h
      obtain ⟨h1, h2, h3⟩ := h
      have : a = b := by
        cases a; cases b
        simp only [Prod.mk.injEq]
        exact ⟨h1, encNat_inj h2⟩
      rw [this, ih h3]

theorem hValsetInj_inj : Function.Injective hValsetInj := by
  intro a b h
  exact flat_inj (encL_inj (Option.some.inj h))

end Lumina.Proofs.InjectiveWitness

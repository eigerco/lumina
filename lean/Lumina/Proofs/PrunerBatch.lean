/-
  Lemmas about the pruner model (`Lumina/Model/Pruner.lean`) for C35: cached window edges,
  `get_next_prunable_batch` (`BatchSafe`, what C35 demands of a batch and of the conversation with the
  `Daser`, is the invariant of its loop: `daserLoop_safe`), the removal loop (`Removed`: the store after it),
  histories of iterations (`runOps_safe`), and the bridge to the checkers of `Spec/C35.lean`.  Core Lean only.
-/
import Lumina.Proofs.Pruner
import Lumina.Proofs.RangesOps
import Lumina.Spec.C35

namespace Lumina.Proofs.Pruner
open Lumina.Model.Ranges hiding Inv
open Lumina.Model.Pruner
open Lumina.Proofs.Ranges

open Lumina.Model.Ranges renaming Inv → RInv

attribute [local simp] ok_bind err_bind map_ok map_err pure_eq throw_eq

/-- the three tables of the store are well-formed `BlockRanges` -/
structure StoreInv (s : PStore) : Prop where
  stored : RInv s.stored
  pruned : RInv s.pruned
  sampled : RInv s.sampled

/-- header times increase with height along the chain -/
def ChainMono (T : Nat → Nat) : Prop := ∀ a b, 1 ≤ a → a < b → T a < T b

theorem ChainMono.le {T} (hm : ChainMono T) {a b : Nat} (ha : 1 ≤ a) (hab : a ≤ b) : T a ≤ T b := by
  rcases Nat.eq_or_lt_of_le hab with h | h
  · subst h; exact Nat.le_refl _
  · exact Nat.le_of_lt (hm a b ha h)

/-- a cached window edge: a height whose own header is not newer than the cutoff -/
def EdgeOK (T : Nat → Nat) (cutoff : Nat) (e : Option Nat) : Prop :=
  ∀ p, e = some p → 1 ≤ p ∧ p ≤ U64_MAX ∧ T p ≤ cutoff

/-- the cached window edges are right for the cutoffs `sc` (sampling) and `pc` (pruning) -/
structure CacheOK (T : Nat → Nat) (c : Cache) (sc pc : Nat) : Prop where
  sampling : EdgeOK T sc c.afterSampling
  pruning : EdgeOK T pc c.afterPruning

theorem EdgeOK.mono {T c c' e} (h : EdgeOK T c e) (hc : c ≤ c') : EdgeOK T c' e :=
  fun p hp => ⟨(h p hp).1, (h p hp).2.1, Nat.le_trans (h p hp).2.2 hc⟩

theorem CacheOK.mono {T c sc pc sc' pc'} (h : CacheOK T c sc pc) (h1 : sc ≤ sc') (h2 : pc ≤ pc') :
    CacheOK T c sc' pc' := ⟨h.sampling.mono h1, h.pruning.mono h2⟩

theorem cacheOK_init (T : Nat → Nat) (sc pc : Nat) : CacheOK T {} sc pc :=
  ⟨fun p hp => (by cases hp), fun p hp => (by cases hp)⟩

/-- `h` is inside the area `1..=edge`; no edge, no area -/
def InArea (e : Option Nat) (h : Nat) : Prop := 1 ≤ h ∧ h ≤ e.getD 0

theorem lookup_storeOK (s : PStore) : StoreOK s.lookup s.stored s.time := by
  intro h hm
  simp [PStore.lookup, (contains_iff_mem s.stored h).2 hm]

theorem mono_of_chain {s : PStore} (hi : RInv s.stored) (hm : ChainMono s.time) : Mono s.stored s.time :=
  fun a b ha _ hab => hm a b (mem_bounds hi ha).1 hab

theorem adm_of_edge {s : PStore} (hi : RInv s.stored) (hm : ChainMono s.time) {cutoff : Nat} {e : Option Nat}
    (he : EdgeOK s.time cutoff e) : Adm s.stored s.time cutoff e := by
  cases e with
  | none => trivial
  | some p =>
    obtain ⟨h1, _, h3⟩ := he p rfl
    exact ⟨h1, fun h hmem hle => Nat.le_trans (hm.le (mem_bounds hi hmem).1 hle) h3⟩

theorem find_edge {s : PStore} (hi : RInv s.stored) (hm : ChainMono s.time) {cutoff : Nat} {e : Option Nat}
    (he : EdgeOK s.time cutoff e) :
    ∃ a, find s.lookup s.stored cutoff e = .ok a ∧ EdgeOK s.time cutoff a := by
  obtain ⟨a, h1, h2⟩ := find_correct partitionsOK cutoff e hi (lookup_storeOK s) (mono_of_chain hi hm)
    (adm_of_edge hi hm he)
  refine ⟨a, h1, ?_⟩
  intro p hp
  subst hp
  have := mem_bounds hi h2.1
  exact ⟨this.1, this.2, h2.2.1⟩

theorem keepRight_ok {stored : Ranges} (hi : RInv stored) {T cutoff} {e : Option Nat} (he : EdgeOK T cutoff e) :
    keepRight stored e = .ok () := by
  cases e with
  | none => rfl
  | some p =>
    obtain ⟨o, h1, _⟩ := rightOf_spec (h := p) hi (he p rfl).1
    simp [keepRight, h1, liftR_ok]

theorem updateCachedData_spec {s : PStore} (hi : RInv s.stored) (hm : ChainMono s.time) {c : Cache}
    {sc pc : Nat} (hc : CacheOK s.time c sc pc) (refresh : Bool) :
    ∃ c' msgs, updateCachedData s c sc pc refresh = .ok (c', msgs) ∧ CacheOK s.time c' sc pc ∧
      ∀ m ∈ msgs, ∃ h, m = Msg.updateHighest h := by
  unfold updateCachedData
  cases refresh with
  | false => exact ⟨c, [], rfl, hc, fun m hm => by cases hm⟩
  | true =>
    obtain ⟨aS, h1, h2⟩ := find_edge hi hm hc.sampling
    obtain ⟨aP, h3, h4⟩ := find_edge hi hm hc.pruning
    simp only [Bool.not_true, Bool.false_eq_true, ↓reduceIte, h1, h3]
    -- `c1`, the cache after the sampling edge was raised (or kept); the pruning edge is the `by_cases` below
    have hc1 : CacheOK s.time (if optLt c.afterSampling aS then { c with afterSampling := aS } else c) sc pc := by
      split
      · exact ⟨h2, hc.pruning⟩
      · exact hc
    generalize (if optLt c.afterSampling aS then { c with afterSampling := aS } else c) = c1 at hc1 ⊢
    by_cases hlt : optLt c1.afterPruning aP = true
    · simp only [hlt, ↓reduceIte]
      have hc2 : CacheOK s.time { c1 with afterPruning := aP } sc pc := ⟨hc1.sampling, h4⟩
      rw [keepRight_ok hi hc2.sampling, keepRight_ok hi hc2.pruning]
      refine ⟨_, _, rfl, hc2, ?_⟩
      intro m hmm
      cases aP with
      | none => cases hmm
      | some x => exact ⟨x, by simpa using hmm⟩
    · simp only [hlt, Bool.false_eq_true, ↓reduceIte]
      rw [keepRight_ok hi hc1.sampling, keepRight_ok hi hc1.pruning]
      exact ⟨_, _, rfl, hc1, fun m hmm => by cases hmm⟩

theorem areaUpTo_spec {T cutoff} {e : Option Nat} (he : EdgeOK T cutoff e) :
    ∃ a, areaUpTo e = .ok a ∧ RInv a ∧ ∀ h, mem a h ↔ InArea e h := by
  cases e with
  | none =>
    refine ⟨[], rfl, inv_nil, fun h => ?_⟩
    simp only [mem_nil, InArea, Option.getD_none, false_iff]
    omega
  | some p =>
    obtain ⟨h1, h2, _⟩ := he p rfl
    have hv : ValidR (1, p) := ⟨Nat.le_refl _, h1, h2⟩
    obtain ⟨a, k1, k2, k3⟩ := insertRelaxed_spec inv_nil hv
    refine ⟨a, by simp [areaUpTo, ofRange, k1, expectOk_ok, liftR_ok], k2, fun h => ?_⟩
    rw [k3]
    simp [mem_nil, InArea]

/-- a "boundary" height of the synced set: the height below or above it was never synced -/
def BordersGap (s : PStore) (h : Nat) : Prop :=
  ¬ (mem s.stored (h - 1) ∨ mem s.pruned (h - 1)) ∨ ¬ (mem s.stored (h + 1) ∨ mem s.pruned (h + 1))

/-- the two sets computed by `get_next_prunable_batch` -/
theorem batchSets_spec {s : PStore} (hs : StoreInv s) {c : Cache} {sc pc : Nat} (hc : CacheOK s.time c sc pc) :
    ∃ A P, batchSets s c = .ok (A, P) ∧ RInv A ∧ RInv P ∧
      (∀ h, mem A h ↔ mem s.stored h ∧ InArea c.afterPruning h ∧ InArea c.afterSampling h) ∧
      (∀ h, mem P h ↔ mem s.stored h ∧ InArea c.afterPruning h ∧ ¬ InArea c.afterSampling h ∧
        ¬ BordersGap s h ∧ mem s.sampled h) ∧
      card A + card P ≤ U64_MAX := by
  obtain ⟨nsa, a1, a2, a3⟩ := areaUpTo_spec hc.sampling
  obtain ⟨pa, b1, b2, b3⟩ := areaUpTo_spec hc.pruning
  obtain ⟨syn, c1, c2, c3⟩ := add_spec hs.pruned hs.stored
  obtain ⟨ed, d1, d2, d3⟩ := edges_spec c2
  obtain ⟨cand, e1, e2, e3⟩ := bitAnd_spec hs.stored b2
  obtain ⟨A, f1, f2, f3⟩ := bitAnd_spec e2 a2
  obtain ⟨t1, g1, g2, g3⟩ := sub_spec e2 f2
  obtain ⟨t2, i1, i2, i3⟩ := sub_spec g2 d2
  obtain ⟨P, j1, j2, j3⟩ := bitAnd_spec i2 hs.sampled
  have hA : ∀ h, mem A h ↔ mem s.stored h ∧ InArea c.afterPruning h ∧ InArea c.afterSampling h := by
    intro h
    rw [f3, e3, b3, a3, and_assoc]
  have hP : ∀ h, mem P h ↔ mem s.stored h ∧ InArea c.afterPruning h ∧ ¬ InArea c.afterSampling h ∧
      ¬ BordersGap s h ∧ mem s.sampled h := by
    intro h
    rw [j3, i3, g3, hA, e3, b3, d3, edge_iff_boundary c2, c3, c3, c3]
    unfold BordersGap
    constructor
    · rintro ⟨⟨⟨⟨k1, k2⟩, k3⟩, k4⟩, k5⟩
      refine ⟨k1, k2, fun hc' => k3 ⟨k1, k2, hc'⟩, ?_, k5⟩
      rintro (hb | hb)
      · exact k4 ⟨Or.inr k1, Or.inl fun hx => hb hx.symm⟩
      · exact k4 ⟨Or.inr k1, Or.inr fun hx => hb hx.symm⟩
    · rintro ⟨k1, k2, k3, k4, k5⟩
      refine ⟨⟨⟨⟨k1, k2⟩, fun hx => k3 hx.2.2⟩, ?_⟩, k5⟩
      rintro ⟨_, hx | hx⟩
      · exact k4 (Or.inl fun hy => hx hy.symm)
      · exact k4 (Or.inr fun hy => hx hy.symm)
  refine ⟨A, P, ?_, f2, j2, hA, hP, ?_⟩
  · simp [batchSets, a1, b1, c1, d1, e1, f1, g1, i1, j1, liftR_ok]
  · -- `A` lives at or below the sampling edge (`0` when there is none), `P` strictly above it
    have hp : c.afterSampling.getD 0 ≤ U64_MAX := by
      cases hsamp : c.afterSampling with
      | none => exact Nat.zero_le _
      | some q => exact (hc.sampling q hsamp).2.1
    have hAb := card_between f2 1 (c.afterSampling.getD 0) (fun x hx => ((hA x).1 hx).2.2) (by omega)
    have hPb := card_between j2 (c.afterSampling.getD 0 + 1) U64_MAX (fun x hx =>
      ⟨Nat.lt_of_not_le fun hle => ((hP x).1 hx).2.2.1 ⟨(mem_bounds j2 hx).1, hle⟩, (mem_bounds j2 hx).2⟩) (by omega)
    omega

/-- what the property demands of a batch and of the conversation with the `Daser` -/
structure BatchSafe (s : PStore) (sc pc : Nat) (grant : Nat → Bool) (batch : Ranges) (tr : List Msg) : Prop where
  inv : RInv batch
  /-- stored, outside the pruning window, and either outside the sampling window and sampled or
      granted, or sampled and not bordering an unsynced gap -/
  safe : ∀ h, mem batch h → mem s.stored h ∧ s.time h ≤ pc ∧
    ((s.time h ≤ sc ∧ (mem s.sampled h ∨ Msg.wantToPrune h true ∈ tr)) ∨
     (mem s.sampled h ∧ ¬ BordersGap s h))
  /-- never a height the `Daser` refused -/
  refused : ∀ h, Msg.wantToPrune h false ∈ tr → ¬ mem batch h
  /-- the answers in the trace are the oracle's; only stored, unsampled heights are asked about -/
  asked : ∀ h a, Msg.wantToPrune h a ∈ tr → a = grant h ∧ ¬ mem s.sampled h ∧ mem s.stored h

namespace BatchSafe
variable {s : PStore} {sc pc : Nat} {grant : Nat → Bool} {batch : Ranges} {tr : List Msg}

/-- only the `Daser`'s answers in the trace matter -/
theorem congr (hb : BatchSafe s sc pc grant batch tr) {tr' : List Msg}
    (h : ∀ x a, Msg.wantToPrune x a ∈ tr' ↔ Msg.wantToPrune x a ∈ tr) : BatchSafe s sc pc grant batch tr' :=
  ⟨hb.inv, fun x hx => let ⟨k1, k2, k3⟩ := hb.safe x hx
      ⟨k1, k2, k3.imp_left (And.imp_right (Or.imp_right (h x true).2))⟩,
    fun x hx => hb.refused x ((h x false).1 hx), fun x a hx => hb.asked x a ((h x a).1 hx)⟩

/-- Asking the `Daser` about a stored, unsampled height keeps the batch safe whatever it answers: were the height in the
    batch, it would have been granted before, and the oracle gives the same answer again. -/
theorem ask (hb : BatchSafe s sc pc grant batch tr) {h : Nat} (hst : mem s.stored h) (hns : ¬ mem s.sampled h) :
    BatchSafe s sc pc grant batch (tr ++ [Msg.wantToPrune h (grant h)]) := by
  have hnew : ∀ {x a}, Msg.wantToPrune x a ∈ tr ++ [Msg.wantToPrune h (grant h)] →
      Msg.wantToPrune x a ∈ tr ∨ (x = h ∧ a = grant h) := fun hx =>
    (List.mem_append.1 hx).imp_right fun hx => by simpa using hx
  refine ⟨hb.inv, fun x hx => ?_, fun x hx hm => ?_, fun x a hx => ?_⟩
  · obtain ⟨k1, k2, k3⟩ := hb.safe x hx
    exact ⟨k1, k2, k3.imp_left (And.imp_right (Or.imp_right (List.mem_append_left _)))⟩
  · rcases hnew hx with hx | ⟨rfl, hg⟩
    · exact hb.refused x hx hm
    · rcases (hb.safe x hm).2.2 with ⟨_, k | k⟩ | ⟨k, _⟩
      · exact hns k
      · exact Bool.false_ne_true (hg.trans (hb.asked x true k).1.symm)
      · exact hns k
  · rcases hnew hx with hx | ⟨rfl, rfl⟩
    · exact hb.asked x a hx
    · exact ⟨rfl, hns, hst⟩

/-- a height beyond both windows that is sampled, or that the `Daser` has granted, may join the batch -/
theorem insert (hb : BatchSafe s sc pc grant batch tr) {h : Nat} {b : Ranges} (hi : RInv b)
    (hmem : ∀ x, mem b x ↔ mem batch x ∨ x = h) (hst : mem s.stored h) (hpc : s.time h ≤ pc) (hsc : s.time h ≤ sc)
    (hok : mem s.sampled h ∨ Msg.wantToPrune h true ∈ tr) : BatchSafe s sc pc grant b tr := by
  refine ⟨hi, fun x hx => ?_, fun x hx hm => ?_, hb.asked⟩
  · rcases (hmem x).1 hx with hx | rfl
    · exact hb.safe x hx
    · exact ⟨hst, hpc, Or.inl ⟨hsc, hok⟩⟩
  · rcases (hmem x).1 hm with hm | rfl
    · exact hb.refused x hx hm
    · obtain ⟨e, hns, _⟩ := hb.asked x false hx
      rcases hok with k | k
      · exact hns k
      · exact Bool.false_ne_true (e.trans (hb.asked x true k).1.symm)

end BatchSafe

/-- The loop over the heights beyond both windows is total and `BatchSafe` is its invariant: a sampled height joins the
    batch, an unsampled one is asked about and joins if granted. -/
theorem daserLoop_safe (limit : Nat) {s : PStore} (hi : RInv s.stored) {sc pc : Nat} (grant : Nat → Bool) :
    ∀ (hs : List Nat) (batch : Ranges) (tr : List Msg),
      (∀ h ∈ hs, mem s.stored h ∧ s.time h ≤ pc ∧ s.time h ≤ sc) → BatchSafe s sc pc grant batch tr →
      ∃ b tr', daserLoop limit s.sampled grant hs batch tr = .ok (b, tr') ∧ BatchSafe s sc pc grant b tr'
  | [], batch, tr, _, hb => ⟨batch, tr, rfl, hb⟩
  | h :: rest, batch, tr, hv, hb => by
    obtain ⟨hst, hpc, hsc⟩ := hv h (List.mem_cons_self ..)
    have hvr := fun x hx => hv x (List.mem_cons_of_mem _ hx)
    obtain ⟨h1, h2⟩ := mem_bounds hi hst
    obtain ⟨b1, k1, k2, k3⟩ := insertPoint_spec hb.inv h1 h2
    unfold daserLoop
    rw [len_spec hb.inv, liftR_ok]
    by_cases hfull : (card batch == limit) = true
    · exact ⟨batch, tr, by simp [hfull], hb⟩
    · simp only [hfull, Bool.false_eq_true, ↓reduceIte, k1, expectOk_ok, liftR_ok]
      by_cases hsam : contains s.sampled h = true
      · simp only [hsam, ↓reduceIte]
        exact daserLoop_safe limit hi grant rest b1 tr hvr
          (hb.insert k2 k3 hst hpc hsc (Or.inl ((contains_iff_mem _ h).1 hsam)))
      · have hb' := hb.ask hst fun hc => hsam ((contains_iff_mem _ h).2 hc)
        simp only [hsam, Bool.false_eq_true, ↓reduceIte]
        cases hg : grant h with
        | true =>
          rw [hg] at hb'
          exact daserLoop_safe limit hi grant rest b1 _ hvr (hb'.insert k2 k3 hst hpc hsc (Or.inr (by simp)))
        | false =>
          rw [hg] at hb'
          exact daserLoop_safe limit hi grant rest batch _ hvr hb'

theorem time_le_of_inArea {T : Nat → Nat} (hm : ChainMono T) {cutoff : Nat} {e : Option Nat}
    (he : EdgeOK T cutoff e) {h : Nat} (ha : InArea e h) : T h ≤ cutoff := by
  cases e with
  | none => exact absurd ha.2 (Nat.not_le.2 ha.1)
  | some p => exact Nat.le_trans (hm.le ha.1 ha.2) (he p rfl).2.2

theorem getNextPrunableBatch_safe (limit : Nat) {s : PStore} (hs : StoreInv s) (hm : ChainMono s.time)
    {w : Worker} {sc pc : Nat} (hc : CacheOK s.time w.cache sc pc) (refresh : Bool) (grant : Nat → Bool) :
    ∃ batch w' tr, getNextPrunableBatch limit s w sc pc refresh grant = .ok (batch, w', tr) ∧
      CacheOK s.time w'.cache sc pc ∧ BatchSafe s sc pc grant batch tr := by
  obtain ⟨c', msgs0, u1, u2, u3⟩ := updateCachedData_spec hs.stored hm hc refresh
  obtain ⟨A, P, s1, s2, s3, s4, s5, s6⟩ := batchSets_spec hs u2
  obtain ⟨out, t1, t2, ⟨pre, t3⟩, _⟩ := headn_spec s3 limit
  -- the sampled part of the batch needs no answers; the heights of `A`, beyond both windows, go through the loop
  have h0 : BatchSafe s sc pc grant out [] := by
    refine ⟨t2, fun h hh => ?_, fun _ hx => (by cases hx), fun _ _ hx => (by cases hx)⟩
    obtain ⟨k1, k2, _, k4, k5⟩ := (s5 h).1
      ((mem_heights P h).1 (by rw [t3]; exact List.mem_append_right _ ((mem_heights out h).2 hh)))
    exact ⟨k1, time_le_of_inArea hm u2.pruning k2, Or.inr ⟨k5, k4⟩⟩
  obtain ⟨b, ext, r1, r2⟩ := daserLoop_safe limit hs.stored grant (heights A).reverse out [] (fun h hh => by
    obtain ⟨k1, k2, k3⟩ := (s4 h).1 ((mem_heights A h).1 (List.mem_reverse.1 hh))
    exact ⟨k1, time_le_of_inArea hm u2.pruning k2, time_le_of_inArea hm u2.sampling k3⟩) h0
  have hadd : addU64 (card A) (card P) = .ok (card A + card P) := by simp [addU64, s6]
  obtain ⟨pn, tr1, hX, htr1⟩ : ∃ pn tr1,
      (if (w.prevNum != card A + card P) = true then (card A + card P, [Msg.updateNum (card A + card P)])
        else (w.prevNum, ([] : List Msg))) = (pn, tr1) ∧ ∀ m ∈ tr1, m = Msg.updateNum (card A + card P) := by
    by_cases hne : (w.prevNum != card A + card P) = true
    · refine ⟨card A + card P, [Msg.updateNum (card A + card P)], by simp only [hne, ↓reduceIte], ?_⟩
      intro m hm
      simpa using hm
    · refine ⟨w.prevNum, [], by simp only [hne, Bool.false_eq_true, ↓reduceIte], ?_⟩
      intro m hm
      cases hm
  refine ⟨b, { cache := c', prevNum := pn }, msgs0 ++ tr1 ++ ext, ?_, u2, r2.congr fun h a => ⟨fun hmem => ?_,
    List.mem_append_right _⟩⟩
  · simp only [getNextPrunableBatch, u1, s1, len_spec s2, len_spec s3, hadd, t1, r1, liftR_ok, ok_bind,
      pure_eq, hX]
  · rcases List.mem_append.1 hmem with hmem1 | hmem1
    · rcases List.mem_append.1 hmem1 with hmem2 | hmem2
      · obtain ⟨x, hx⟩ := u3 _ hmem2; cases hx
      · have := htr1 _ hmem2; cases this
    · exact hmem1

/-- the same for whatever the call returns -/
theorem batchSafe_of_eq (limit : Nat) {s : PStore} (hs : StoreInv s) (hm : ChainMono s.time)
    {w : Worker} {sc pc : Nat} (hc : CacheOK s.time w.cache sc pc) {refresh : Bool} {grant : Nat → Bool}
    {batch : Ranges} {w' : Worker} {msgs : List Msg}
    (hres : getNextPrunableBatch limit s w sc pc refresh grant = .ok (batch, w', msgs)) :
    BatchSafe s sc pc grant batch msgs := by
  obtain ⟨b, w1, tr, h1, _, h3⟩ := getNextPrunableBatch_safe limit hs hm hc refresh grant
  rw [hres] at h1
  cases h1
  exact h3

/-- what removing one header does: its metadata CIDs out of the blockstore, then the header -/
def stepEffs (s : PStore) (h : Nat) : List Eff := (s.cids h).map Eff.bsRemove ++ [Eff.removeHeight h]

def rangeEffs (s : PStore) (r : Range) : List Eff :=
  (List.range' r.1 (r.2 + 1 - r.1)).flatMap (stepEffs s) ++ [Eff.prunedEvent r.1 r.2]

/-- the complete effect trace of removing a batch, from the store as it was before -/
def batchEffs (s : PStore) (batch : Ranges) : List Eff := batch.flatMap (rangeEffs s)

/-- `s'` is `s` with the heights `M` moved from `stored` (and `sampled`) to `pruned`, their CIDs forgotten -/
structure Removed (s s' : PStore) (M : Nat → Prop) : Prop where
  inv : StoreInv s'
  time : s'.time = s.time
  stored : ∀ x, mem s'.stored x ↔ mem s.stored x ∧ ¬ M x
  pruned : ∀ x, mem s'.pruned x ↔ mem s.pruned x ∨ M x
  sampled : ∀ x, mem s'.sampled x ↔ mem s.sampled x ∧ ¬ M x
  cids : ∀ x, ¬ M x → s'.cids x = s.cids x

theorem Removed.trans {s s1 s2 : PStore} {M1 M2 : Nat → Prop} (h1 : Removed s s1 M1) (h2 : Removed s1 s2 M2) :
    Removed s s2 (fun x => M1 x ∨ M2 x) :=
  ⟨h2.inv, h2.time.trans h1.time, fun x => by rw [h2.stored, h1.stored, not_or, and_assoc],
    fun x => by rw [h2.pruned, h1.pruned, or_assoc], fun x => by rw [h2.sampled, h1.sampled, not_or, and_assoc],
    fun x hx => by rw [h2.cids x (fun h => hx (Or.inr h)), h1.cids x (fun h => hx (Or.inl h))]⟩

theorem Removed.congr {s s' : PStore} {M M' : Nat → Prop} (h : Removed s s' M) (hM : ∀ x, M x ↔ M' x) :
    Removed s s' M' :=
  (funext fun x => propext (hM x) : M = M') ▸ h

theorem Removed.still {s s' s0 : PStore} {M : Nat → Prop} (h : Removed s s' M) {x : Nat} (hx : ¬ M x)
    (hst : mem s.stored x ∧ s.cids x = s0.cids x) : mem s'.stored x ∧ s'.cids x = s0.cids x :=
  ⟨(h.stored x).2 ⟨hst.1, hx⟩, by rw [h.cids x hx, hst.2]⟩

theorem removeHeight_spec {s : PStore} (hs : StoreInv s) {h : Nat} (hm : mem s.stored h) :
    ∃ s', s.removeHeight h = .ok s' ∧ Removed s s' (· = h) := by
  obtain ⟨b1, b2⟩ := mem_bounds hs.stored hm
  obtain ⟨st, k1, k2, k3⟩ := removePoint_spec hs.stored b1 b2
  obtain ⟨sa, l1, l2, l3⟩ := removePoint_spec hs.sampled b1 b2
  obtain ⟨pr, m1, m2, m3⟩ := insertPoint_spec hs.pruned b1 b2
  exact ⟨{ s with stored := st, sampled := sa, pruned := pr, cids := fun x => if x = h then [] else s.cids x },
    by simp [PStore.removeHeight, (contains_iff_mem s.stored h).2 hm, k1, l1, m1, expectOk_ok, liftR_ok],
    ⟨k2, m2, l2⟩, rfl, k3, m3, l3, fun x hx => if_neg hx⟩

theorem pruneHeights_spec (s0 : PStore) :
    ∀ (hs : List Nat) (s : PStore) (acc : List Eff), StoreInv s → hs.Pairwise (· < ·) →
      (∀ x ∈ hs, mem s.stored x ∧ s.cids x = s0.cids x) →
      ∃ s', pruneHeights s hs acc = .ok (s', acc ++ hs.flatMap (stepEffs s0)) ∧ Removed s s' (· ∈ hs)
  | [], s, acc, hi, _, _ => ⟨s, by simp [pruneHeights], hi, rfl, by simp, by simp, by simp, fun _ _ => rfl⟩
  | h :: rest, s, acc, hi, hp, hall => by
    obtain ⟨hm, hc⟩ := hall h (by simp)
    obtain ⟨s1, k1, hr1⟩ := removeHeight_spec hi hm
    have hp' := List.pairwise_cons.1 hp
    obtain ⟨s', r1, hr2⟩ := pruneHeights_spec s0 rest s1 (acc ++ stepEffs s0 h) hr1.inv hp'.2
      (fun x hx => hr1.still (by have := hp'.1 x hx; omega) (hall x (List.mem_cons_of_mem _ hx)))
    refine ⟨s', ?_, (hr1.trans hr2).congr fun x => List.mem_cons.symm⟩
    simp only [pruneHeights, pruneHeight, (contains_iff_mem s.stored h).2 hm, Bool.not_true,
      Bool.false_eq_true, ↓reduceIte, k1]
    rw [show (s.cids h).map Eff.bsRemove ++ [Eff.removeHeight h] = stepEffs s0 h by simp [stepEffs, hc]]
    rw [r1]
    simp [List.flatMap_cons, List.append_assoc]

theorem pruneBatch_spec (s0 : PStore) :
    ∀ (batch : Ranges) (s : PStore) (acc : List Eff), StoreInv s → RInv batch →
      (∀ x, mem batch x → mem s.stored x ∧ s.cids x = s0.cids x) →
      ∃ s', pruneBatch s batch acc = .ok (s', acc ++ batchEffs s0 batch) ∧ Removed s s' (mem batch)
  | [], s, acc, hi, _, _ => ⟨s, by simp [pruneBatch, batchEffs], hi, rfl, by simp [mem_nil], by simp [mem_nil],
      by simp [mem_nil], fun _ _ => rfl⟩
  | r :: rest, s, acc, hi, hb, hall => by
    obtain ⟨hlt, hv, hb'⟩ := inv_cons.1 hb
    unfold ValidR at hv
    have hmr : ∀ x, x ∈ List.range' r.1 (r.2 + 1 - r.1) ↔ r.1 ≤ x ∧ x ≤ r.2 := by
      intro x; rw [List.mem_range'_1]; omega
    obtain ⟨s1, k1, hr1⟩ := pruneHeights_spec s0 _ s [] hi List.pairwise_lt_range'
      (fun x hx => hall x ((mem_cons r rest x).2 (Or.inl ((hmr x).1 hx))))
    obtain ⟨s', r1, hr2⟩ := pruneBatch_spec s0 rest s1 (acc ++ rangeEffs s0 r) hr1.inv hb'
      (fun x hx => hr1.still
        (fun hc => by obtain ⟨y, hy, hy1, _⟩ := hx; have := hlt y hy; have := (hmr x).1 hc; omega)
        (hall x ((mem_cons r rest x).2 (Or.inr hx))))
    refine ⟨s', ?_, (hr1.trans hr2).congr fun x => by rw [mem_cons, hmr]⟩
    simp only [pruneBatch, pruneRange, k1, List.nil_append, hv.2.1, ↓reduceIte]
    rw [show (List.range' r.1 (r.2 + 1 - r.1)).flatMap (stepEffs s0) ++ [Eff.prunedEvent r.1 r.2] = rangeEffs s0 r from rfl, r1]
    simp [batchEffs, List.flatMap_cons, List.append_assoc]

theorem runIteration_safe (limit : Nat) {s : PStore} (hs : StoreInv s) (hm : ChainMono s.time)
    {w : Worker} {sc pc : Nat} (hc : CacheOK s.time w.cache sc pc) (refresh : Bool) (grant : Nat → Bool) :
    ∃ s' w' batch msgs, runIteration limit s w sc pc refresh grant = .ok (s', w', batch, msgs, batchEffs s batch) ∧
      CacheOK s.time w'.cache sc pc ∧ BatchSafe s sc pc grant batch msgs ∧ Removed s s' (mem batch) := by
  obtain ⟨batch, w', tr, h1, h2, h3⟩ := getNextPrunableBatch_safe limit hs hm hc refresh grant
  obtain ⟨s', k1, k2⟩ := pruneBatch_spec s batch s [] hs h3.inv (fun x hx => ⟨(h3.safe x hx).1, rfl⟩)
  exact ⟨s', w', batch, tr, by simp [runIteration, h1, k1], h2, h3, k2⟩

/-- what happens to the pruner over time -/
inductive Op where
  /-- the rest of the node (syncer, daser, …) has changed the store: any well-formed store over
      the same chain -/
  | env (s : PStore)
  /-- one iteration of the pruner's loop: cutoffs `now − window`, whether the cached edges were
      refreshed, the `Daser`'s answers -/
  | iter (sc pc : Nat) (refresh : Bool) (grant : Nat → Bool)

structure Sys where
  store : PStore
  worker : Worker
  /-- the cutoffs of the latest iteration -/
  sc : Nat
  pc : Nat

structure Outcome where
  before : PStore
  sc : Nat
  pc : Nat
  grant : Nat → Bool
  batch : Ranges
  msgs : List Msg
  effs : List Eff

/-- run a history; `none` if some iteration fails (panic / missing header) -/
def runOps (limit : Nat) : Sys → List Op → Option (Sys × List Outcome)
  | sys, [] => some (sys, [])
  | sys, .env s' :: ops => runOps limit { sys with store := s' } ops
  | sys, .iter sc pc rf g :: ops =>
    match runIteration limit sys.store sys.worker sc pc rf g with
    | .error _ => none
    | .ok (s', w', batch, msgs, effs) =>
      match runOps limit { store := s', worker := w', sc := sc, pc := pc } ops with
      | none => none
      | some (fin, outs) => some (fin, ⟨sys.store, sc, pc, g, batch, msgs, effs⟩ :: outs)

/-- histories the property speaks about: every store the environment produces is well-formed and
    over the same chain (`time = T`); the clock does not run backwards (cutoffs never decrease) -/
def Admissible (T : Nat → Nat) : Nat → Nat → List Op → Prop
  | _, _, [] => True
  | sc, pc, .env s' :: ops => StoreInv s' ∧ s'.time = T ∧ Admissible T sc pc ops
  | sc0, pc0, .iter sc pc _ _ :: ops => sc0 ≤ sc ∧ pc0 ≤ pc ∧ Admissible T sc pc ops

def OutcomeSafe (o : Outcome) : Prop :=
  BatchSafe o.before o.sc o.pc o.grant o.batch o.msgs ∧ o.effs = batchEffs o.before o.batch

theorem runOps_safe (limit : Nat) (T : Nat → Nat) (hT : ChainMono T) :
    ∀ (ops : List Op) (sys : Sys), StoreInv sys.store → sys.store.time = T →
      CacheOK T sys.worker.cache sys.sc sys.pc → Admissible T sys.sc sys.pc ops →
      ∃ fin outs, runOps limit sys ops = some (fin, outs) ∧ ∀ o ∈ outs, OutcomeSafe o
  | [], sys, _, _, _, _ => ⟨sys, [], rfl, fun o ho => by cases ho⟩
  | .env s' :: ops, sys, _, _, hc, ha => by
    obtain ⟨a1, a2, a3⟩ := ha
    exact runOps_safe limit T hT ops { sys with store := s' } a1 a2 hc a3
  | .iter sc pc rf g :: ops, sys, hi, ht, hc, ha => by
    obtain ⟨a1, a2, a3⟩ := ha
    have hc' : CacheOK sys.store.time sys.worker.cache sc pc := by rw [ht]; exact hc.mono a1 a2
    obtain ⟨s', w', batch, msgs, k1, k4, k5, kr⟩ :=
      runIteration_safe limit hi (by rw [ht]; exact hT) hc' rf g
    obtain ⟨fin, outs, r1, r2⟩ := runOps_safe limit T hT ops { store := s', worker := w', sc := sc, pc := pc }
      kr.inv (kr.time.trans ht) (by rw [← ht]; exact k4) a3
    refine ⟨fin, ⟨sys.store, sc, pc, g, batch, msgs, batchEffs sys.store batch⟩ :: outs,
      by simp [runOps, k1, r1], ?_⟩
    intro o ho
    rcases List.mem_cons.1 ho with ho1 | ho1
    · subst ho1; exact ⟨k5, rfl⟩
    · exact r2 o ho1

open Lumina.Spec.C35

/-- the abstract view of a store: the sets as lists of heights -/
def viewOf (s : PStore) (sc pc : Nat) : View :=
  { stored := heights s.stored, pruned := heights s.pruned, sampled := heights s.sampled,
    time := s.time, sc := sc, pc := pc }

/-- the `Daser`'s answers in a message trace -/
def answersOf (tr : List Msg) : List (Nat × Bool) :=
  tr.filterMap fun m => match m with
    | .wantToPrune h a => some (h, a)
    | _ => none

theorem mem_answersOf (tr : List Msg) (h : Nat) (a : Bool) :
    (h, a) ∈ answersOf tr ↔ Msg.wantToPrune h a ∈ tr := by
  simp only [answersOf, List.mem_filterMap]
  constructor
  · rintro ⟨m, hm, he⟩
    cases m with
    | wantToPrune h' a' => simp only [Option.some.injEq, Prod.mk.injEq] at he; obtain ⟨rfl, rfl⟩ := he; exact hm
    | updateHighest _ => cases he
    | updateNum _ => cases he
  · intro hm; exact ⟨_, hm, rfl⟩

theorem containsH (rs : Ranges) (h : Nat) : (heights rs).contains h = true ↔ mem rs h := by
  rw [List.contains_iff_mem, mem_heights]

theorem containsH_false (rs : Ranges) (h : Nat) : (heights rs).contains h = false ↔ ¬ mem rs h := by
  rw [← containsH, Bool.not_eq_true]

theorem bordersGap_iff (s : PStore) (sc pc h : Nat) :
    (viewOf s sc pc).bordersGap h = true ↔ BordersGap s h := by
  simp only [View.bordersGap, View.synced, viewOf, Bool.or_eq_true, Bool.not_eq_true', Bool.or_eq_false_iff,
    containsH_false, BordersGap, not_or]

/-- the property's verdict on one height of a store's view is the clause `BatchSafe.safe`, with the grants `g` -/
theorem removable_iff (s : PStore) (sc pc : Nat) (g : Nat → Bool) (h : Nat) :
    (viewOf s sc pc).removable g h = true ↔ mem s.stored h ∧ s.time h ≤ pc ∧
      ((s.time h ≤ sc ∧ (mem s.sampled h ∨ g h = true)) ∨ (mem s.sampled h ∧ ¬ BordersGap s h)) := by
  have hp : (viewOf s sc pc).insidePruningWindow h = decide (pc < s.time h) := rfl
  have hw : (viewOf s sc pc).insideSamplingWindow h = decide (sc < s.time h) := rfl
  rw [← bordersGap_iff s sc pc h, ← containsH, ← containsH, View.removable, hp, hw]
  simp only [viewOf, Bool.and_eq_true, Bool.not_eq_true', decide_eq_false_iff_not, Nat.not_lt, and_assoc,
    decide_eq_true_eq, Bool.or_eq_true]
  refine and_congr_right fun _ => and_congr_right fun _ => ?_
  -- the checker's last conjunct `sampled ∨ granted` follows from either disjunct
  by_cases hsw : s.time h ≤ sc
  · simp only [hsw, Nat.not_lt.2 hsw, ↓reduceIte, Bool.or_eq_true, and_self, true_and]
    exact (or_iff_left_of_imp fun k => Or.inl k.1).symm
  · simp only [hsw, Nat.lt_of_not_le hsw, ↓reduceIte, Bool.and_eq_true, Bool.not_eq_true', false_and, false_or,
      Bool.not_eq_true]
    exact and_iff_left_of_imp fun k => Or.inl k.1

theorem batchOK_of_safe {s : PStore} {sc pc : Nat} {grant : Nat → Bool} {batch : Ranges} {tr : List Msg}
    (hb : BatchSafe s sc pc grant batch tr) :
    batchOK (viewOf s sc pc) (answersOf tr) (heights batch) = true := by
  simp only [batchOK, Bool.and_eq_true, List.all_eq_true, mem_heights, removable_iff, List.contains_iff_mem,
    mem_answersOf]
  refine ⟨hb.safe, fun ⟨h, a⟩ hmem => ?_⟩
  cases a with
  | true => rfl
  | false => simpa [mem_heights] using hb.refused h ((mem_answersOf tr h false).1 hmem)

/-- the store / blockstore part of an effect trace -/
def project : List Eff → List Ev
  | [] => []
  | .bsRemove c :: rest => Ev.cid c :: project rest
  | .removeHeight h :: rest => Ev.height h :: project rest
  | .prunedEvent _ _ :: rest => project rest

theorem project_eq (l : List Eff) : project l = l.filterMap fun
    | .bsRemove c => some (Ev.cid c)
    | .removeHeight h => some (Ev.height h)
    | .prunedEvent _ _ => none := by
  induction l with
  | nil => rfl
  | cons e l ih => cases e <;> simp [project, ih]

theorem project_append (a b : List Eff) : project (a ++ b) = project a ++ project b := by
  simp [project_eq]

theorem mem_of_cid_mem_project {c : Nat} {l : List Eff} (h : Ev.cid c ∈ project l) : Eff.bsRemove c ∈ l := by
  rw [project_eq, List.mem_filterMap] at h
  obtain ⟨e, he, hc⟩ := h
  cases e <;> cases hc
  exact he

/-- one header's block of events -/
def block (cids : Nat → List Nat) (h : Nat) : List Ev := (cids h).map Ev.cid ++ [Ev.height h]

theorem project_batchEffs (s : PStore) (batch : Ranges) :
    project (batchEffs s batch) = (heights batch).flatMap (block s.cids) := by
  unfold block
  simp [project_eq, batchEffs, rangeEffs, stepEffs, heights, List.filterMap_flatMap, List.flatMap_assoc,
    List.filterMap_map, Function.comp_def]

theorem orderOK_cids (cids : Nat → List Nat) (cs : List Nat) (rest : List Ev) (seen : List Nat) :
    orderOK cids (cs.map Ev.cid ++ rest) seen = orderOK cids rest (cs.reverse ++ seen) := by
  induction cs generalizing seen with
  | nil => rfl
  | cons c cs ih => simp [orderOK, ih]

theorem removedHeights_cids (cs : List Nat) (rest : List Ev) :
    removedHeights (cs.map Ev.cid ++ rest) = removedHeights rest := by
  induction cs with
  | nil => rfl
  | cons c cs ih => simpa [removedHeights] using ih

theorem orderOK_blocks (cids : Nat → List Nat) : ∀ (hs : List Nat) (seen : List Nat),
    orderOK cids (hs.flatMap (block cids)) seen = true
  | [], _ => rfl
  | h :: hs, seen => by
    simp only [List.flatMap_cons, block, List.append_assoc, orderOK_cids, List.singleton_append, orderOK,
      Bool.and_eq_true, List.all_eq_true]
    refine ⟨fun c hc => ?_, orderOK_blocks cids hs _⟩
    simp [hc]

theorem removedHeights_blocks (cids : Nat → List Nat) (hs : List Nat) :
    removedHeights (hs.flatMap (block cids)) = hs := by
  induction hs with
  | nil => rfl
  | cons h hs ih => simp [block, removedHeights_cids, removedHeights, ih]

/-- the effects of removing a batch: for each height its CIDs first, and exactly the batch's heights go -/
theorem batchEffs_spec (s : PStore) (batch : Ranges) :
    orderOK s.cids (project (batchEffs s batch)) [] = true ∧
      removedHeights (project (batchEffs s batch)) = heights batch := by
  rw [project_batchEffs]
  exact ⟨orderOK_blocks _ _ _, removedHeights_blocks _ _⟩

/-- what the order checker checks: a `height h` in an accepted log comes after `cid c`, for each `c` recorded for `h`
    (or `c` was seen before the log began) -/
theorem orderOK_sound (cids : Nat → List Nat) (h : Nat) (post : List Ev) : ∀ (pre : List Ev) (seen : List Nat),
    orderOK cids (pre ++ Ev.height h :: post) seen = true → ∀ c ∈ cids h, c ∈ seen ∨ Ev.cid c ∈ pre
  | [], seen, hok, c, hc => by
    simp only [List.nil_append, orderOK, Bool.and_eq_true, List.all_eq_true] at hok
    exact Or.inl (by simpa using hok.1 c hc)
  | .cid c' :: pre, seen, hok, c, hc => by
    rcases orderOK_sound cids h post pre (c' :: seen) hok c hc with h1 | h1
    · rcases List.mem_cons.1 h1 with rfl | h1
      · exact Or.inr (by simp)
      · exact Or.inl h1
    · exact Or.inr (List.mem_cons_of_mem _ h1)
  | .height h' :: pre, seen, hok, c, hc => by
    simp only [List.cons_append, orderOK, Bool.and_eq_true] at hok
    exact (orderOK_sound cids h post pre seen hok.2 c hc).imp_right (List.mem_cons_of_mem _)

end Lumina.Proofs.Pruner

/-
  Helper lemmas for C39 (model `Lumina/Model/PeerTracker.lean`): the invariant, preserved once per
  way an event changes the peer list (`inv_map`, `inv_ensure`, `inv_setProt`, `inv_gc`).
-/
import Lumina.Model.PeerTrackerView
import Lumina.Proofs.Util

namespace Lumina.Proofs.PeerTracker
open Lumina.Model.PeerTracker

variable {ps : List Peer} {id : Nat} {p : Peer} {f g : Peer → Peer} {q : Peer → Bool}
  {s : State} {i : Info}

def stats (ps : List Peer) : Info :=
  { connected := ps.countP (fun p => p.isConnected),
    trusted := ps.countP (fun p => p.isConnected && p.trusted),
    full := ps.countP (fun p => p.isConnected && p.isFull),
    archival := ps.countP (fun p => p.isConnected && p.archival) }

theorem foldl_recountStep (ps : List Peer) (acc : Info) :
    ps.foldl recountStep acc =
      ⟨acc.connected + (stats ps).connected, acc.trusted + (stats ps).trusted,
       acc.full + (stats ps).full, acc.archival + (stats ps).archival⟩ := by
  induction ps generalizing acc with
  | nil => simp [stats]
  | cons p ps ih =>
    rw [List.foldl_cons, ih]
    simp only [stats, List.countP_cons, recountStep]
    cases hc : p.isConnected
    · simp
    · cases ht : p.trusted <;> cases hf : p.isFull <;> cases ha : p.archival <;> simp [Nat.add_assoc, Nat.add_comm, Nat.add_left_comm]

theorem recount_eq_stats (ps : List Peer) : recount ps = stats ps := by
  unfold recount
  rw [foldl_recountStep]
  simp only [Nat.zero_add]

def StatPreds : List (Peer → Bool) :=
  [fun p => p.isConnected, fun p => p.isConnected && p.trusted,
   fun p => p.isConnected && p.isFull, fun p => p.isConnected && p.archival]

theorem stats_congr {ps qs : List Peer}
    (h : ∀ q ∈ StatPreds, qs.countP q = ps.countP q) : stats qs = stats ps := by
  simp only [StatPreds, List.mem_cons, List.not_mem_nil, or_false, forall_eq_or_imp, forall_eq] at h
  simp only [stats, h.1, h.2.1, h.2.2.1, h.2.2.2]

theorem statPreds_congr {p' : Peer} (hc : p'.isConnected = p.isConnected) (ht : p'.trusted = p.trusted)
    (hk : p'.kind = p.kind) (ha : p'.archival = p.archival) : ∀ q ∈ StatPreds, q p' = q p := by
  simp [StatPreds, Peer.isFull, hc, ht, hk, ha]

theorem statPreds_connected (hq : q ∈ StatPreds) (h : q p = true) : p.isConnected = true := by
  simp only [StatPreds, List.mem_cons, List.not_mem_nil, or_false] at hq
  rcases hq with rfl | rfl | rfl | rfl <;> simp_all

theorem countP_map_same (hq : ∀ p, q (g p) = q p) : (ps.map g).countP q = ps.countP q := by
  rw [List.countP_map]
  exact List.countP_congr fun p _ => by simp [hq p]

theorem countP_filter_of_imp {keep : Peer → Bool} (himp : ∀ p, q p = true → keep p = true) :
    (ps.filter keep).countP q = ps.countP q := by
  rw [List.countP_filter]
  refine List.countP_congr fun p _ => ?_
  cases hq : q p <;> simp
  exact himp p hq

theorem stats_map (hg : ∀ p, ∀ q ∈ StatPreds, q (g p) = q p) : stats (ps.map g) = stats ps :=
  stats_congr fun q hq => countP_map_same fun p => hg p q hq

def ids (ps : List Peer) : List Nat := ps.map (·.id)

theorem hasPeer_iff : hasPeer ps id = true ↔ id ∈ ids ps := by
  simp [hasPeer, ids]

theorem hasPeer_eq_isSome : hasPeer ps id = (findPeer ps id).isSome := by
  rw [Bool.eq_iff_iff]
  simp [hasPeer, findPeer]

theorem findPeer_some (h : findPeer ps id = some p) : p ∈ ps ∧ p.id = id :=
  Util.find?_key_some _ h

theorem modify_apply {β} (h : Peer → β) (id : Nat) (hf : ∀ p, h (f p) = h p) (p : Peer) :
    h (if p.id == id then f p else p) = h p := by
  split
  · exact hf p
  · rfl

theorem ids_map (hg : ∀ p, (g p).id = p.id) : ids (ps.map g) = ids ps := by
  simp only [ids, List.map_map]
  exact List.map_congr_left fun p _ => hg p

theorem modify_ids (hf : ∀ p, (f p).id = p.id) : ids (modifyPeer ps id f) = ids ps :=
  ids_map (modify_apply Peer.id id hf)

theorem ids_sub_modify {x : Nat} (hx : x ∈ ids ps) (hf : ∀ p, (f p).id = p.id) :
    x ∈ ids (modifyPeer ps id f) :=
  (modify_ids hf).symm ▸ hx

theorem modify_of_not_mem (h : id ∉ ids ps) : modifyPeer ps id f = ps := by
  conv => rhs; rw [← List.map_id ps]
  refine List.map_congr_left fun p hp => ?_
  have : p.id ≠ id := fun e => h (e ▸ List.mem_map_of_mem hp)
  simp [this]

theorem stats_modify_all (hf : ∀ p, ∀ q ∈ StatPreds, q (f p) = q p) :
    stats (modifyPeer ps id f) = stats ps :=
  stats_map fun p q hq => modify_apply q id (fun p => hf p q hq) p

/-- with unique ids, modifying the peer found under `id` changes any count exactly by that peer -/
theorem countP_modify (q : Peer → Bool) (f : Peer → Peer) (hn : (ids ps).Nodup) (h : findPeer ps id = some p) :
    (modifyPeer ps id f).countP q + (if q p then 1 else 0) = ps.countP q + (if q (f p) then 1 else 0) := by
  induction ps with
  | nil => cases h
  | cons x xs ih =>
    have ⟨hx, hn⟩ : x.id ∉ ids xs ∧ (ids xs).Nodup := List.nodup_cons.1 hn
    simp only [findPeer, List.find?_cons] at h
    simp only [modifyPeer, List.map_cons, List.countP_cons]
    split at h
    · rename_i e
      cases h
      have := modify_of_not_mem (f := f) (beq_iff_eq.1 e ▸ hx)
      simp only [modifyPeer] at this
      rw [this, if_pos e]
      omega
    · rename_i e
      have := ih hn h
      simp only [modifyPeer] at this
      rw [if_neg (ne_true_of_eq_false e)]
      omega

theorem stats_modify (hn : (ids ps).Nodup) (h : findPeer ps id = some p)
    (hq : ∀ q ∈ StatPreds, q (f p) = q p) : stats (modifyPeer ps id f) = stats ps :=
  stats_congr fun q hq' => by
    have := countP_modify q f hn h
    rw [hq q hq'] at this
    omega

/-- `entry(id).or_insert_with(|| Peer::new(id))`, before the mutation -/
def ensure (ps : List Peer) (id : Nat) : List Peer := if hasPeer ps id then ps else ps ++ [Peer.new id]

theorem upsert_eq : upsertPeer ps id f = modifyPeer (ensure ps id) id f := by
  unfold upsertPeer ensure
  split
  · rfl
  · rename_i h
    have := modify_of_not_mem (f := f) (mt hasPeer_iff.2 h)
    simp_all [modifyPeer, Peer.new]

theorem find_ensure (ps : List Peer) (id : Nat) : findPeer (ensure ps id) id = some (entryPeer ps id) := by
  unfold ensure entryPeer
  cases hf : findPeer ps id with
  | none =>
    simp only [hasPeer_eq_isSome, hf]
    simp only [findPeer] at hf ⊢
    simp [List.find?_append, hf, Peer.new]
  | some p => simp [hasPeer_eq_isSome, hf]

theorem ids_sub_upsert {x : Nat} (hx : x ∈ ids ps) (hf : ∀ p, (f p).id = p.id) :
    x ∈ ids (upsertPeer ps id f) := by
  rw [upsert_eq, modify_ids hf]
  unfold ensure
  split
  · exact hx
  · simp only [ids, List.map_append, List.mem_append]; exact Or.inl hx

def getC (c : List (Nat × Nat)) (tag : Nat) : Nat := (counterGet c tag).getD 0

def cnt (ps : List Peer) (tag : Nat) : Nat := ps.countP (fun p => p.prot.contains tag)

theorem counterGet_update (c : List (Nat × Nat)) (tag tag' : Nat) (v : Nat → Nat) :
    counterGet (c.map fun e => if e.1 == tag then (e.1, v e.2) else e) tag' =
      if tag' = tag then (counterGet c tag').map v else counterGet c tag' := by
  simp only [counterGet]
  rw [Util.find?_map_key (fun e : Nat × Nat => e.1) (fun e : Nat × Nat => e.1) _ (fun e => by split <;> rfl)]
  cases hf : c.find? (fun e => e.1 == tag') with
  | none => simp
  | some e =>
    have he : e.1 = tag' := by simpa using List.find?_some hf
    by_cases ht : tag' = tag <;> simp [he, ht]

theorem counterGet_isSome (c : List (Nat × Nat)) (tag : Nat) :
    (counterGet c tag).isSome = c.any (fun e => e.1 == tag) := by
  rw [Bool.eq_iff_iff]
  simp [counterGet]

theorem getC_incr (c : List (Nat × Nat)) (tag tag' : Nat) :
    getC (counterIncr c tag) tag' = getC c tag' + (if tag' = tag then 1 else 0) := by
  unfold counterIncr getC
  rw [← counterGet_isSome]
  split
  · rw [counterGet_update c tag tag' (· + 1)]
    split
    · rename_i hs e
      subst e
      obtain ⟨n, hn⟩ := Option.isSome_iff_exists.1 hs
      simp [hn]
    · simp
  · rename_i hs
    have hs : c.find? (fun e => e.1 == tag) = none :=
      Option.map_eq_none_iff.1 (Option.not_isSome_iff_eq_none.1 hs)
    simp only [counterGet, List.find?_append]
    by_cases e : tag' = tag
    · subst e; simp [hs]
    · cases c.find? (fun e => e.1 == tag') <;> simp [e, Ne.symm e]

theorem counterDecr_some (c : List (Nat × Nat)) (tag : Nat) (h : 0 < getC c tag) :
    ∃ c', counterDecr c tag = some c' ∧
      ∀ tag', getC c' tag' + (if tag' = tag then 1 else 0) = getC c tag' := by
  unfold counterDecr
  unfold getC at h
  cases hg : counterGet c tag with
  | none => simp [hg] at h
  | some n =>
    cases n with
    | zero => simp [hg] at h
    | succ n =>
      refine ⟨_, rfl, fun tag' => ?_⟩
      unfold getC
      rw [counterGet_update c tag tag' (· - 1)]
      split
      · rename_i e; subst e; simp [hg]
      · simp

theorem contains_setInsert (l : List Nat) (tag tag' : Nat) :
    (setInsert l tag).contains tag' = (l.contains tag' || tag' == tag) := by
  rw [Bool.eq_iff_iff]
  unfold setInsert
  split <;> simp_all

theorem contains_setRemove (l : List Nat) (tag tag' : Nat) :
    (setRemove l tag).contains tag' = (l.contains tag' && tag' != tag) := by
  unfold setRemove
  by_cases hm : tag' ∈ l <;> by_cases e : tag' = tag <;> simp [List.contains_eq_mem, List.mem_filter, hm, e]

structure Inv (s : State) : Prop where
  info : s.info = stats s.peers
  nodup : (ids s.peers).Nodup
  counts : ∀ tag, getC s.protectCounter tag = cnt s.peers tag

theorem inv_init : Inv init := ⟨by simp [init, stats], by simp [init, ids], by
  intro tag; simp [init, getC, counterGet, cnt]⟩

/-- `i`: the recount, or `s.info` where the method leaves the statistics alone -/
theorem inv_map (h : Inv s) (hid : ∀ p, (g p).id = p.id)
    (hprot : ∀ p, (g p).prot = p.prot) (hi : i = stats (s.peers.map g)) :
    Inv ⟨s.peers.map g, s.protectCounter, i⟩ :=
  ⟨hi, (ids_map hid).symm ▸ h.nodup, fun tag =>
    (h.counts tag).trans (countP_map_same fun p => by rw [hprot]).symm⟩

theorem inv_modify (h : Inv s) (hid : ∀ p, (f p).id = p.id)
    (hprot : ∀ p, (f p).prot = p.prot) (hi : i = stats (modifyPeer s.peers id f)) :
    Inv ⟨modifyPeer s.peers id f, s.protectCounter, i⟩ :=
  inv_map h (modify_apply Peer.id id hid) (modify_apply Peer.prot id hprot) hi

theorem inv_ensure (h : Inv s) (id : Nat) : Inv ⟨ensure s.peers id, s.protectCounter, s.info⟩ := by
  unfold ensure
  split
  · exact h
  · rename_i hh
    have h' : id ∉ ids s.peers := mt hasPeer_iff.2 hh
    refine ⟨h.info.trans (stats_congr fun q hq => ?_).symm, ?_, fun tag => ?_⟩
    · have : q (Peer.new id) = false :=
        Bool.eq_false_iff.2 fun hn => by simpa [Peer.new, Peer.isConnected] using statPreds_connected hq hn
      simp [List.countP_append, this]
    · simpa [ids, List.nodup_append, Peer.new] using ⟨h.nodup, fun a ha e => h' (e ▸ List.mem_map_of_mem ha)⟩
    · simp [h.counts tag, cnt, List.countP_append, Peer.new]

theorem inv_upsert (h : Inv s) (hid : ∀ p, (f p).id = p.id)
    (hprot : ∀ p, (f p).prot = p.prot) (hi : i = stats (upsertPeer s.peers id f)) :
    Inv ⟨upsertPeer s.peers id f, s.protectCounter, i⟩ := by
  rw [upsert_eq] at hi ⊢
  exact inv_modify (inv_ensure h id) hid hprot hi

/-- `hc`: each tag's count and counter entry move together -/
theorem inv_setProt (h : Inv s) (hf : findPeer s.peers id = some p)
    (g : List Nat → List Nat) {c' : List (Nat × Nat)}
    (hc : ∀ tag, getC c' tag + (if p.prot.contains tag then 1 else 0) =
      getC s.protectCounter tag + (if (g p.prot).contains tag then 1 else 0)) :
    Inv ⟨modifyPeer s.peers id fun p => { p with prot := g p.prot }, c', s.info⟩ := by
  refine ⟨h.info.trans (stats_modify h.nodup hf (statPreds_congr rfl rfl rfl rfl)).symm, ?_, fun tag => ?_⟩
  · show (ids (modifyPeer _ _ _)).Nodup
    rw [modify_ids]
    · exact h.nodup
    · exact fun _ => rfl
  · have := countP_modify (fun p => p.prot.contains tag) (fun p => { p with prot := g p.prot }) h.nodup hf
    have := hc tag
    have := h.counts tag
    simp only [cnt] at *
    omega

theorem addPeerId_ok (h : Inv s) :
    Inv (addPeerId s id).1 ∧ (addPeerId s id).2.panic = false := by
  have := inv_ensure h id
  unfold addPeerId
  unfold ensure at this
  split <;> simp_all

theorem inv_protect {tag : Nat} (h : Inv s) : Inv (protect s id tag).1 := by
  unfold protect
  simp only [upsert_eq]
  refine inv_setProt (inv_ensure h id) (find_ensure _ id) (setInsert · tag) fun tag' => ?_
  simp only [contains_setInsert]
  cases hc : (entryPeer s.peers id).prot.contains tag <;> by_cases e : tag' = tag <;>
    simp_all [getC_incr]

theorem unprotect_ok {tag : Nat} (h : Inv s) :
    Inv (unprotect s id tag).1 ∧ (unprotect s id tag).2.panic = false := by
  unfold unprotect
  cases hf : findPeer s.peers id with
  | none => exact ⟨h, rfl⟩
  | some p =>
    simp only
    cases hc : p.prot.contains tag
    · simp only [Bool.false_eq_true, ↓reduceIte, and_true]
      refine inv_setProt h hf (setRemove · tag) fun tag' => ?_
      simp only [contains_setRemove]
      by_cases e : tag' = tag <;> simp_all
    · -- the peer carries the tag, so the tag's count, hence its counter entry, is positive
      have hpos : 0 < getC s.protectCounter tag := by
        rw [h.counts tag]
        exact List.countP_pos_iff.2 ⟨p, (findPeer_some hf).1, hc⟩
      obtain ⟨c', hdec, hget⟩ := counterDecr_some _ _ hpos
      simp only [hdec, ↓reduceIte, and_true]
      refine inv_setProt h hf (setRemove · tag) fun tag' => ?_
      have := hget tag'
      simp only [contains_setRemove]
      by_cases e : tag' = tag <;> simp_all <;> omega

theorem connInsert_nonempty (l : List (Nat × Option Nat)) (c : Nat) : (connInsert l c).isEmpty = false := by
  unfold connInsert
  split
  · rename_i h
    cases l with
    | nil => simp at h
    | cons => simp
  · simp

theorem addConnection_ok {conn : Nat} (h : Inv s) :
    Inv (addConnection s id conn).1 ∧ (addConnection s id conn).2.panic = false := by
  have h' := inv_ensure h id
  unfold addConnection
  simp only [upsert_eq]
  split
  · rename_i hprev
    refine ⟨inv_modify h' (fun _ => rfl) (fun _ => rfl) (h'.info.trans (Eq.symm ?_)), rfl⟩
    refine stats_modify h'.nodup (find_ensure _ id) (statPreds_congr ?_ rfl rfl rfl)
    simp [Peer.isConnected, connInsert_nonempty, ← hprev]
  · exact ⟨inv_modify h' (fun _ => rfl) (fun _ => rfl) (recount_eq_stats _), rfl⟩

theorem removeConnection_ok {conn : Nat} (h : Inv s) :
    Inv (removeConnection s id conn).1 ∧ (removeConnection s id conn).2.panic = false := by
  unfold removeConnection
  cases hf : findPeer s.peers id with
  | none => exact ⟨h, rfl⟩
  | some p =>
    simp only
    split
    · exact ⟨inv_modify h (fun _ => rfl) (fun _ => rfl) (recount_eq_stats _), rfl⟩
    · rename_i hne
      -- a connection is left, so the peer was and stays connected
      refine ⟨inv_modify h (fun _ => rfl) (fun _ => rfl) (h.info.trans (Eq.symm ?_)), rfl⟩
      refine stats_modify h.nodup hf (statPreds_congr ?_ rfl rfl rfl)
      cases hpc : p.conns with
      | nil => simp [hpc] at hne
      | cons => simpa [Peer.isConnected, hpc] using hne

theorem onAgentVersion_ok {a : String} (h : Inv s) :
    Inv (onAgentVersion s id a).1 ∧ (onAgentVersion s id a).2.panic = false := by
  unfold onAgentVersion
  cases hf : findPeer s.peers id with
  | none => exact ⟨h, rfl⟩
  | some p =>
    simp only
    split
    · exact ⟨inv_modify h (fun _ => rfl) (fun _ => rfl) (recount_eq_stats _), rfl⟩
    · exact ⟨h, rfl⟩

theorem gcKeeps_of_connected (h : p.isConnected = true) : gcKeeps p = true := by
  simp [gcKeeps, h]

theorem gcKeeps_of_protected (h : p.isProtected = true) : gcKeeps p = true := by
  simp [gcKeeps, h]

theorem inv_gc (h : Inv s) : Inv (gc s).1 := by
  refine ⟨h.info.trans (stats_congr fun q hq => ?_).symm, ?_, fun tag => ?_⟩
  · exact countP_filter_of_imp fun p hp => gcKeeps_of_connected (statPreds_connected hq hp)
  · exact (List.filter_sublist.map _).nodup h.nodup
  · refine (h.counts tag).trans (countP_filter_of_imp fun p hp => gcKeeps_of_protected ?_).symm
    cases hpp : p.prot with
    | nil => simp [hpp] at hp
    | cons => simp [Peer.isProtected, hpp]

/-- the only `panic` in the model is the missing or zero counter entry in `unprotect` -/
theorem step_ok (s : State) (e : Event) (h : Inv s) : Inv (step s e).1 ∧ (step s e).2.panic = false := by
  cases e with
  | addPeerId id => exact addPeerId_ok h
  | setTrusted id v => exact ⟨inv_upsert h (fun _ => rfl) (fun _ => rfl) (recount_eq_stats _), rfl⟩
  | protect id tag => exact ⟨inv_protect h, rfl⟩
  | unprotect id tag => exact unprotect_ok h
  | addConnection id c => exact addConnection_ok h
  | removeConnection id c => exact removeConnection_ok h
  | agentVersion id a => exact onAgentVersion_ok h
  | ping id c r =>
    refine ⟨inv_modify h (fun _ => rfl) (fun _ => rfl) (h.info.trans (Eq.symm ?_)), rfl⟩
    exact stats_modify_all fun _ => statPreds_congr (by simp [Peer.isConnected]) rfl rfl rfl
  | markArchival id => exact ⟨inv_upsert h (fun _ => rfl) (fun _ => rfl) (recount_eq_stats _), rfl⟩
  | gc => exact ⟨inv_gc h, rfl⟩
  | advance secs =>
    refine ⟨inv_map h (fun _ => rfl) (fun _ => rfl) (h.info.trans (Eq.symm ?_)), rfl⟩
    exact stats_map fun _ => statPreds_congr rfl rfl rfl rfl

theorem inv_run (s : State) (evs : List Event) (h : Inv s) : Inv (run s evs) :=
  evs.foldlRecOn _ h fun s h e _ => (step_ok s e h).1

open Lumina.Spec.C39

theorem view_connected (p : Peer) : (viewPeer p).connected = p.isConnected := by
  cases hc : p.conns <;> simp [viewPeer, ObsPeer.connected, Peer.isConnected, hc]

theorem recountObs_view (ps : List Peer) : recountObs (ps.map viewPeer) = viewInfo (stats ps) := by
  simp only [recountObs, ← List.countP_eq_length_filter, List.countP_map, Function.comp_def, view_connected]
  rfl

end Lumina.Proofs.PeerTracker

/-
  `BlockRanges::tailn`, `BlockRanges::headn` and `BlockRanges::partitions`: the loops by their
  invariants, the results characterised through the ascending list `heights`; the set-level reading
  of `partitions`.
-/
import Lumina.Proofs.RangesOps

namespace Lumina.Proofs.Ranges
open Lumina.Model.Ranges hiding Inv

open Lumina.Model.Ranges renaming Inv → RInv

attribute [local simp] ok_bind err_bind map_ok map_err pure_eq throw_eq

theorem insertRelaxed_append_end {t : Ranges} {r : Range} (hi : RInv t) (hv : ValidR r)
    (hg : ∀ x ∈ t, x.2 + 1 < r.1) : insertRelaxed t r = .ok (t ++ [r]) ∧ RInv (t ++ [r]) := by
  have hi' : RInv (t ++ [r]) := inv_append.2 ⟨hi, inv_singleton.2 hv, fun x hx y hy => by
    rw [List.mem_singleton.1 hy]; exact hg x hx⟩
  exact ⟨(insertRelaxed_spec hi hv).eq_ok hi' fun h => by rw [mem_append, mem_singleton], hi'⟩

theorem insertRelaxed_prepend {t : Ranges} {r : Range} (hi : RInv t) (hv : ValidR r)
    (hg : ∀ x ∈ t, r.2 + 1 < x.1) : insertRelaxed t r = .ok (r :: t) ∧ RInv (r :: t) := by
  have hi' : RInv (r :: t) := inv_cons.2 ⟨hg, hv, hi⟩
  exact ⟨(insertRelaxed_spec hi hv).eq_ok hi' fun h => by rw [mem_cons]; exact Or.comm, hi'⟩

theorem rangeTailn_cut {x : Range} (hv : ValidR x) (k : Nat) :
    ∃ r, Range.tailn x (k + 1) = r ∧ ValidR r ∧ r.1 = x.1 ∧
      (r.2 = x.2 ∧ x.2 ≤ x.1 + k ∨ r.2 = x.1 + k ∧ r.2 < x.2) := by
  have ⟨h1, h2, h3⟩ := hv
  have he : Range.isEmpty x = false := by simp [Range.isEmpty, h2]
  refine ⟨(x.1, min x.2 (x.1 + k)), ?_, ?_⟩
  · simp only [Range.tailn, he, Bool.false_eq_true, ↓reduceIte, checkedSub, Nat.le_add_left,
      Nat.add_sub_cancel, satAdd]
    split
    · rfl
    · congr 1; omega
  by_cases c : x.2 ≤ x.1 + k
  · rw [Nat.min_eq_left c]
    exact ⟨hv, rfl, Or.inl ⟨rfl, c⟩⟩
  · rw [Nat.min_eq_right (by omega)]
    exact ⟨⟨h1, by show x.1 ≤ x.1 + k; omega, by show x.1 + k ≤ U64_MAX; omega⟩, rfl,
      Or.inr ⟨rfl, by show x.1 + k < x.2; omega⟩⟩

theorem rangeHeadn_cut {x : Range} (hv : ValidR x) (k : Nat) :
    ∃ r, Range.headn x (k + 1) = r ∧ ValidR r ∧ r.2 = x.2 ∧
      (r.1 = x.1 ∧ x.2 ≤ x.1 + k ∨ r.1 + k = x.2 ∧ x.1 < r.1) := by
  have ⟨h1, h2, h3⟩ := hv
  have he : Range.isEmpty x = false := by simp [Range.isEmpty, h2]
  have hc : checkedAdd (satSub x.2 (k + 1)) 1 = some (x.2 - (k + 1) + 1) := by
    simp [checkedAdd, satSub, show x.2 - (k + 1) + 1 ≤ U64_MAX by omega]
  refine ⟨(max x.1 (x.2 - k), x.2), ?_, ?_⟩
  · simp only [Range.headn, he, Bool.false_eq_true, ↓reduceIte, hc]
    congr 1; omega
  by_cases c : x.2 ≤ x.1 + k
  · rw [Nat.max_eq_left (by omega)]
    exact ⟨hv, rfl, Or.inl ⟨rfl, c⟩⟩
  · rw [Nat.max_eq_right (by omega)]
    exact ⟨⟨by show 1 ≤ x.2 - k; omega, by show x.2 - k ≤ x.2; omega, h3⟩, rfl,
      Or.inr ⟨by show x.2 - k + k = x.2; omega, by show x.1 < x.2 - k; omega⟩⟩

theorem truncGo_full (pick : Range → Nat → Range) (limit : Nat) (rest acc : Ranges) :
    truncGo pick limit rest acc limit = .ok acc := by
  cases rest <;> simp [truncGo]

theorem truncGo_step {pick : Range → Nat → Range} {limit k : Nat} {x r : Range} {rest acc acc' : Ranges}
    (hk : card acc + (k + 1) = limit) (hr : pick x (k + 1) = r) (hv : ValidR r)
    (hins : insertRelaxed acc r = .ok acc' ∧ RInv acc')
    (hcard : card acc' = card acc + (r.2 + 1 - r.1)) (hle : card acc' ≤ limit) :
    truncGo pick limit (x :: rest) acc (card acc) = truncGo pick limit rest acc' (card acc') := by
  have hne : (card acc == limit) = false := by simp only [beq_eq_false_iff_ne]; omega
  have hsub : subU64 limit (card acc) = .ok (k + 1) := by
    simp only [subU64, show card acc ≤ limit by omega, ↓reduceIte]; congr 1; omega
  have hadd : addU64 (card acc) (r.2 + 1 - r.1) = .ok (card acc') := by
    have := card_le hins.2
    simp only [addU64, ← hcard, this, ↓reduceIte]
  rw [truncGo]
  simp only [hne, Bool.false_eq_true, ↓reduceIte, hsub, ok_bind, hr, rangeLen_ok hv, hadd, hins.1,
    expectOk_ok, len_spec hins.2, debugAssert, beq_self_eq_true, hle, decide_true]

/-- the loop of `tailn`: ranges visited in ascending order, pieces appended -/
theorem truncGo_tailn {limit : Nat} : ∀ {rest pre : Ranges}, RInv (pre ++ rest) → card pre ≤ limit →
    ∃ out, truncGo Range.tailn limit rest pre (card pre) = .ok out ∧ RInv out ∧
      (∃ post, heights (pre ++ rest) = heights out ++ post) ∧
      card out = min limit (card (pre ++ rest))
  | [], pre, hi, hle => by
    rw [List.append_nil] at hi ⊢
    exact ⟨pre, rfl, hi, ⟨[], (List.append_nil _).symm⟩, by omega⟩
  | x :: rest, pre, hi, hle => by
    obtain ⟨hpre, hxr, hc⟩ := inv_append.1 hi
    obtain ⟨_, hvx, _⟩ := inv_cons.1 hxr
    by_cases ceq : card pre = limit
    · refine ⟨pre, ?_, hpre, ⟨_, heights_append _ _⟩, by rw [card_append]; omega⟩
      rw [ceq]; exact truncGo_full ..
    · -- `k + 1` heights still wanted; the piece `r` taken from `x` starts where `x` starts
      obtain ⟨k, hk⟩ : ∃ k, card pre + (k + 1) = limit := ⟨limit - card pre - 1, by omega⟩
      obtain ⟨r, hr, hrv, hr1, hcut⟩ := rangeTailn_cut hvx k
      have hins := insertRelaxed_append_end hpre hrv fun y hy => hr1 ▸ hc y hy x (List.mem_cons_self ..)
      have hcard := card_concat pre r
      rcases hcut with ⟨hr2, hlen⟩ | ⟨hr2, hlt⟩
      · obtain rfl : r = x := Prod.ext hr1 hr2
        rw [truncGo_step hk hr hrv hins hcard (by omega)]
        have ih := truncGo_tailn (limit := limit) (rest := rest) (pre := pre ++ [r])
          (by rwa [List.append_assoc]) (by omega)
        rwa [List.append_assoc] at ih
      · -- the limit is reached inside `x`
        have hfull : card (pre ++ [r]) = limit := by omega
        have hp : piece x.1 r.2 = [r] := by rw [← hr1]; exact if_pos hrv.2.1
        rw [truncGo_step hk hr hrv hins hcard (Nat.le_of_eq hfull), hfull]
        exact ⟨pre ++ [r], truncGo_full .., hins.2, ⟨_, hp ▸ (inv_cut hi (by omega) (Nat.le_of_lt hlt)).2.2⟩,
          by rw [hfull, card_append, card_cons]; omega⟩

/-- `tailn` (`Range.tailn` is `BlockRange::tailn` with its `fix:` commit applied, `Range.tailnPreFix`
    the code before it): never panics on an `Inv` value; `Inv` result holding the
    `min limit (card rs)` least members -/
theorem tailn_spec {rs : Ranges} (hi : RInv rs) (limit : Nat) :
    ∃ out, tailn rs limit = .ok out ∧ RInv out ∧
      (∃ post, heights rs = heights out ++ post) ∧ card out = min limit (card rs) :=
  truncGo_tailn (rest := rs) (pre := []) hi (Nat.zero_le _)

/-- the loop of `headn`: ranges visited in descending order, pieces prepended -/
theorem truncGo_headn {limit : Nat} : ∀ {rest post : Ranges}, RInv (rest.reverse ++ post) →
    card post ≤ limit →
    ∃ out, truncGo Range.headn limit rest post (card post) = .ok out ∧ RInv out ∧
      (∃ pre, heights (rest.reverse ++ post) = pre ++ heights out) ∧
      card out = min limit (card (rest.reverse ++ post))
  | [], post, hi, hle => by
    rw [List.reverse_nil, List.nil_append] at hi ⊢
    exact ⟨post, rfl, hi, ⟨[], rfl⟩, by omega⟩
  | x :: rest, post, hi, hle => by
    rw [List.reverse_cons, List.append_assoc, List.singleton_append] at hi ⊢
    obtain ⟨_, hxp, _⟩ := inv_append.1 hi
    obtain ⟨hx1, hvx, hpost⟩ := inv_cons.1 hxp
    by_cases ceq : card post = limit
    · refine ⟨post, ?_, hpost, ⟨heights rest.reverse ++ heights [x], ?_⟩, by rw [card_append, card_cons]; omega⟩
      · rw [ceq]; exact truncGo_full ..
      · rw [← heights_append, ← heights_append, List.append_assoc, List.singleton_append]
    · -- `k + 1` heights still wanted; the piece `r` taken from `x` ends where `x` ends
      obtain ⟨k, hk⟩ : ∃ k, card post + (k + 1) = limit := ⟨limit - card post - 1, by omega⟩
      obtain ⟨r, hr, hrv, hr2, hcut⟩ := rangeHeadn_cut hvx k
      have hins := insertRelaxed_prepend hpost hrv fun y hy => hr2 ▸ hx1 y hy
      have hcard : card (r :: post) = card post + (r.2 + 1 - r.1) := by rw [card_cons, Nat.add_comm]
      rcases hcut with ⟨hr1, hlen⟩ | ⟨hr1, hlt⟩
      · obtain rfl : r = x := Prod.ext hr1 hr2
        rw [truncGo_step hk hr hrv hins hcard (by omega)]
        exact truncGo_headn (limit := limit) (rest := rest) (post := r :: post) hi (by omega)
      · -- the limit is reached inside `x`
        have hfull : card (r :: post) = limit := by omega
        have hp : piece (r.1 - 1 + 1) x.2 = [r] := by
          rw [show r.1 - 1 + 1 = r.1 by omega, ← hr2]; exact if_pos hrv.2.1
        rw [truncGo_step hk hr hrv hins hcard (Nat.le_of_eq hfull), hfull]
        exact ⟨r :: post, truncGo_full .., hins.2, ⟨_, hp ▸ (inv_cut hi (by omega) (by omega)).2.2⟩,
          by rw [hfull, card_append, card_cons]; omega⟩

/-- `headn`: never panics on an `Inv` value; `Inv` result holding the `min limit (card rs)`
    greatest members -/
theorem headn_spec {rs : Ranges} (hi : RInv rs) (limit : Nat) :
    ∃ out, headn rs limit = .ok out ∧ RInv out ∧
      (∃ pre, heights rs = pre ++ heights out) ∧ card out = min limit (card rs) := by
  have := truncGo_headn (limit := limit) (rest := rs.reverse) (post := [])
    (by rwa [List.reverse_reverse, List.append_nil]) (Nat.zero_le _)
  rwa [List.reverse_reverse, List.append_nil] at this

/-- second phase of the `partitions` loop: once `left_len ≥ middle` every range goes right -/
theorem partitionsGo_right {middle ll : Nat} {left : Ranges} (hll : middle ≤ ll) :
    ∀ {rest right : Ranges}, RInv (right ++ rest) → ll + card rest ≤ U64_MAX →
      partitionsGo middle rest left right ll = .ok (left, right ++ rest, ll)
  | [], right, _, _ => by simp [partitionsGo]
  | x :: rest, right, hi, hb => by
    obtain ⟨hr, hxr, hc⟩ := inv_append.1 hi
    obtain ⟨hx1, hvx, hrest⟩ := inv_cons.1 hxr
    have hvv := hvx
    unfold ValidR at hvv
    rw [card_cons] at hb
    have h1 : ll + (x.2 + 1 - x.1) ≤ U64_MAX := by omega
    have h2 : ¬ ll + (x.2 + 1 - x.1) ≤ middle := by omega
    have h3 : ¬ ll < middle := by omega
    have hins := (insertRelaxed_append_end hr hvx (fun y hy => hc y hy x (by simp))).1
    have hi2 : RInv ((right ++ [x]) ++ rest) := by simpa [List.append_assoc] using hi
    have ih := partitionsGo_right (left := left) hll (rest := rest) (right := right ++ [x]) hi2 (by omega)
    rw [partitionsGo]
    simp only [rangeLen_ok hvx, ok_bind, addU64, h1, ↓reduceIte, h2, h3, hins, expectOk_ok, ih]
    simp [List.append_assoc]

/-- first phase of the `partitions` loop (while `left_len ≤ middle`, `right` still empty): `left` ends
    up with `middle` heights, or with `middle + 1` when a range straddles the middle -/
theorem partitionsGo_left {middle : Nat} : ∀ {rest left : Ranges}, RInv (left ++ rest) →
    card left ≤ middle → 2 * middle ≤ card (left ++ rest) →
    ∃ L R, partitionsGo middle rest left [] (card left) = .ok (L, R, card L) ∧ RInv L ∧ RInv R ∧
      heights L ++ heights R = heights (left ++ rest) ∧ middle ≤ card L ∧ card L ≤ middle + 1
  | [], left, hi, hle, htot => by
    rw [List.append_nil] at hi htot ⊢
    exact ⟨left, [], rfl, hi, inv_nil, List.append_nil _, by omega, by omega⟩
  | x :: rest, left, hi, hle, htot => by
    obtain ⟨hl, hxr, hc⟩ := inv_append.1 hi
    obtain ⟨hx1, hvx, hrest⟩ := inv_cons.1 hxr
    have ⟨_, _, _⟩ := hvx
    have htotal := card_le hi
    rw [card_append, card_cons] at htot htotal
    have h1 : card left + (x.2 + 1 - x.1) ≤ U64_MAX := by omega
    have hgap : ∀ y ∈ left, y.2 + 1 < x.1 := fun y hy => hc y hy x (List.mem_cons_self ..)
    by_cases c1 : card left + (x.2 + 1 - x.1) ≤ middle
    · -- the whole range goes left
      have hins := insertRelaxed_append_end hl hvx hgap
      have hcard2 := card_concat left x
      obtain ⟨L, R, e, k1, k2, k3, k4⟩ := partitionsGo_left (middle := middle) (rest := rest)
        (left := left ++ [x]) (by rwa [List.append_assoc]) (by omega)
        (by rw [card_append, hcard2]; omega)
      refine ⟨L, R, ?_, k1, k2, by rwa [List.append_assoc] at k3, k4⟩
      rw [partitionsGo]
      simp only [rangeLen_ok hvx, ok_bind, addU64, h1, ↓reduceIte, c1, hins.1, expectOk_ok]
      rwa [← hcard2]
    · by_cases c2 : card left < middle
      · -- the range straddles the middle: `x.1 ..= le` goes left, the rest of it right
        have hb := card_bound hxr x.1 (fun r hr => (inv_head_le hxr r hr).1) (by omega)
        rw [card_cons] at hb
        obtain ⟨j, hj⟩ : ∃ j, card left + (j + 1) = middle := ⟨middle - card left - 1, by omega⟩
        obtain ⟨le, hle'⟩ : ∃ le, le = x.1 + (j + 1) := ⟨_, rfl⟩
        have hvl : ValidR (x.1, le) := ⟨‹_›, by show x.1 ≤ le; omega, by show le ≤ U64_MAX; omega⟩
        have hinsl := insertRelaxed_append_end hl hvl hgap
        have hcardl : card (left ++ [(x.1, le)]) = middle + 1 := by
          rw [card_concat]; show card left + (le + 1 - x.1) = _; omega
        obtain ⟨-, hiR, hh⟩ := inv_cut (c := le) hi (by omega) (by omega)
        rw [show piece x.1 le = [(x.1, le)] from if_pos (by omega)] at hh
        have hB := partitionsGo_right (middle := middle) (ll := middle + 1)
          (left := left ++ [(x.1, le)]) (by omega) hiR (by omega)
        refine ⟨left ++ [(x.1, le)], piece (le + 1) x.2 ++ rest, ?_, hinsl.2, hiR, hh.symm,
          hcardl ▸ Nat.le_succ _, Nat.le_of_eq hcardl⟩
        · have hsub : subU64 (x.1 + middle) (card left) = .ok le := by
            simp only [subU64, show card left ≤ x.1 + middle by omega, ↓reduceIte]; congr 1; omega
          have hrl : Range.len (x.1, le) = .ok (j + 2) := by
            rw [rangeLen_ok hvl]; congr 1; show le + 1 - x.1 = _; omega
          rw [partitionsGo]
          simp only [rangeLen_ok hvx, ok_bind, addU64, h1, ↓reduceIte, c1, c2,
            show x.1 + middle ≤ U64_MAX by omega, hsub, hrl,
            show card left + (j + 2) ≤ U64_MAX by omega, hinsl.1, expectOk_ok]
          rw [show card left + (j + 2) = middle + 1 by omega, hcardl]
          by_cases c3 : le < x.2
          · have hp : piece (le + 1) x.2 = [(le + 1, x.2)] := if_pos (by omega)
            have hins2 := (insertRelaxed_append_end (t := []) (r := (le + 1, x.2)) inv_nil
              ⟨by show 1 ≤ le + 1; omega, by show le + 1 ≤ x.2; omega, ‹_›⟩ (by simp)).1
            simp only [c3, ↓reduceIte, show le + 1 ≤ U64_MAX by omega, ok_bind, hins2, expectOk_ok]
            rw [hp] at hB ⊢; exact hB
          · have hp : piece (le + 1) x.2 = [] := if_neg (by omega)
            simp only [c3, ↓reduceIte, ok_bind, pure_eq]
            rw [hp] at hB ⊢; exact hB
      · -- exactly `middle` heights are on the left: everything else goes right
        have hB := partitionsGo_right (middle := middle) (ll := card left) (left := left)
          (by omega) (rest := x :: rest) (right := []) hxr (by rw [card_cons]; omega)
        exact ⟨left, x :: rest, hB, hl, hxr, (heights_append _ _).symm, Nat.le_of_not_lt c2,
          Nat.le_succ_of_le hle⟩

/-- **`partitions`**: `None` exactly for the empty value; otherwise `(left, middle, right)` with
    `heights left ++ middle :: heights right = heights rs` (so `left < middle < right` and together
    they are the set) and sizes differing by at most one.  No arithmetic overflow (in particular
    not in `start + middle - left_len`), no failed `expect`. -/
theorem partitions_spec {rs : Ranges} (hi : RInv rs) :
    (rs = [] ∧ partitions rs = .ok none) ∨
    (rs ≠ [] ∧ ∃ l m r, partitions rs = .ok (some (l, m, r)) ∧ RInv l ∧ RInv r ∧
      heights l ++ m :: heights r = heights rs ∧ card l ≤ card r + 1 ∧ card r ≤ card l + 1) := by
  by_cases hnil : rs = []
  · subst hnil
    exact Or.inl ⟨rfl, by simp [partitions, len, lenGo]⟩
  · right
    refine ⟨hnil, ?_⟩
    have hpos : card rs ≠ 0 := fun h => hnil ((card_eq_zero_iff hi).1 h)
    obtain ⟨L, R, e, hL, hR, hh, hlo, hup⟩ := partitionsGo_left (middle := card rs / 2) (rest := rs)
      (left := []) (by simpa using hi) (by simp) (by simp only [List.nil_append]; omega)
    simp only [List.nil_append, card_nil] at e hh
    have hlen : card L + card R = card rs := by
      have := congrArg List.length hh
      simpa [length_heights] using this
    have hne : (card rs == 0) = false := by simpa using hpos
    simp only [partitions, len_spec hi, ok_bind, hne, Bool.false_eq_true, ↓reduceIte, e, len_spec hR]
    by_cases clt : card L < card R
    · -- the middle is the tail of `right`
      simp only [clt, ↓reduceIte]
      cases R with
      | nil => simp at clt
      | cons r R' =>
        obtain ⟨rs', p1, p2, p3, p4⟩ := popTail_heights hR
        exact ⟨L, r.1, rs', by simp [p1], hL, p2, by rw [← hh, p3], by omega, by omega⟩
    · -- the middle is the head of `left`, which holds at least half of the heights
      simp only [clt, ↓reduceIte]
      rcases List.eq_nil_or_concat L with rfl | ⟨ys, z, h⟩
      · rw [card_nil] at hlen clt; omega
      · rw [List.concat_eq_append] at h
        subst h
        obtain ⟨rs', p1, p2, p3, p4⟩ := popHead_heights hL
        exact ⟨rs', z.2, R, by simp [p1], p2, hR, by rw [← hh, p3, List.append_assoc]; rfl,
          by omega, by omega⟩

theorem partitions_mem {rs l r : Ranges} {m : Nat} (hh : heights l ++ m :: heights r = heights rs) (h : Nat) :
    mem rs h ↔ mem l h ∨ h = m ∨ mem r h := by
  rw [← mem_heights, ← hh, List.mem_append, List.mem_cons, mem_heights, mem_heights]

theorem partitions_order {rs l r : Ranges} {m : Nat} (hi : RInv rs)
    (hh : heights l ++ m :: heights r = heights rs) :
    (∀ a, mem l a → a < m) ∧ (∀ b, mem r b → m < b) := by
  have hs := heights_sorted hi
  rw [← hh, List.pairwise_append] at hs
  obtain ⟨_, h2, h3⟩ := hs
  constructor
  · intro a ha
    exact h3 a ((mem_heights l a).2 ha) m (by simp)
  · intro b hb
    exact (List.pairwise_cons.1 h2).1 b ((mem_heights r b).2 hb)

theorem partitions_card {rs l r : Ranges} {m : Nat} (hh : heights l ++ m :: heights r = heights rs) :
    card l + 1 + card r = card rs := by
  have := congrArg List.length hh
  simp only [List.length_append, List.length_cons, length_heights] at this
  omega

end Lumina.Proofs.Ranges

/-
  C16: the specification predicate `Sat` every decoder is read through (where it may panic, what a value it returns
  satisfies), what `TryFrom<RawProof>` fixes, and lumina's wrappers around nmt-rs never reaching a panic (from the
  walk theorem).  The nmt-rs layer keeps the model's own type: its functions return `Except Nmt.Err`, of which `.panic` is
  one error among others and nothing is asked of a value, so "never panics" stays `≠ .error .panic` there
  (`guard_ne_panic`, `error_ne_panic` in `DecodersWalk`) and becomes a `Sat` statement where a decoder reads the result
  (`sat_ofNmt`); `ExtendedHeader::validate` likewise keeps C01's `ValOut` (`DecodersHeader`).
-/
import Lumina.Proofs.DecodersWalk

namespace Lumina.Proofs.Decoders
open Lumina.Util Lumina.Model.Eds Lumina.Model.Decoders
open Lumina.Model.Nmt hiding validateShape

/-- `x` panics only at sites in `A`, and a value it returns satisfies `Q`; errors are always allowed.
    The no-panic facts of this property depend on what earlier steps of the same computation established
    (the `u32` indices of a decoded proof, the order of pushed leaves, …), so one predicate carries both. -/
def Sat {α} (A : Site → Prop) (Q : α → Prop) : Out α → Prop
  | .ok a => Q a
  | .err => True
  | .panic s => A s

/-- no site: the computation never panics -/
abbrev Never : Site → Prop := fun _ => False

/-- never panics, nothing said about the value -/
abbrev Safe {α} (x : Out α) : Prop := Sat Never (fun _ => True) x

namespace Sat
variable {α β : Type} {A A' : Site → Prop} {Q Q' : α → Prop} {x : Out α}

theorem of_ok (h : Sat A Q x) {a : α} (e : x = .ok a) : Q a := by subst e; exact h

theorem of_panic (h : Sat A Q x) {s : Site} (e : x = .panic s) : A s := by subst e; exact h

theorem noPanic (h : Sat Never Q x) : x.isPanic = false := by
  cases x with
  | panic s => exact h.elim
  | _ => rfl

theorem of_noPanic (h : x.isPanic = false) : Sat A (fun _ => True) x := by
  cases x with
  | panic s => cases h
  | _ => trivial

theorem mono (h : Sat A Q x) (hA : ∀ s, A s → A' s) (hQ : ∀ a, x = .ok a → Q a → Q' a) : Sat A' Q' x := by
  cases x with
  | ok a => exact hQ a rfl h
  | err => trivial
  | panic s => exact hA s h

theorem weaken (h : Sat Never Q x) : Sat A Q x := h.mono (fun _ f => f.elim) fun _ _ q => q

theorem safe (h : Sat Never Q x) : Safe x := h.mono (fun _ f => f) fun _ _ _ => trivial

theorem bind {P : α → Prop} {R : β → Prop} {f : α → Out β} (hx : Sat A P x) (hf : ∀ a, P a → Sat A R (f a)) :
    Sat A R (x.bind f) := by
  cases x with
  | ok a => exact hf a hx
  | err => trivial
  | panic s => exact hx

theorem guard {c : Prop} [Decidable c] (h : ¬c → Sat A Q x) : Sat A Q (if c then .err else x) := by
  split
  · trivial
  · exact h ‹_›

end Sat

theorem Safe.noPanic {α} {x : Out α} (h : Safe x) : x.isPanic = false := Sat.noPanic h

theorem bind_eq_ok {α β} {x : Out α} {f : α → Out β} {b : β} : x.bind f = .ok b ↔ ∃ a, x = .ok a ∧ f a = .ok b := by
  cases x <;> simp [Out.bind]

/-- `collect::<Result<Vec<_>>>()`: every element of the result comes from a call that met its postcondition -/
theorem sat_collectOut {α β} {A : Site → Prop} {f : α → Out β} {P : α → β → Prop} :
    ∀ {l : List α}, (∀ x ∈ l, Sat A (P x) (f x)) → Sat A (fun ys => ∀ y ∈ ys, ∃ x ∈ l, P x y) (collectOut f l)
  | [], _ => fun y hy => by cases hy
  | x :: xs, h => by
    have hx := h x List.mem_cons_self
    have hxs := sat_collectOut (l := xs) fun y hy => h y (List.mem_cons_of_mem _ hy)
    unfold collectOut
    cases hfx : f x with
    | err => trivial
    | panic s => exact hx.of_panic hfx
    | ok y =>
      simp only
      cases hc : collectOut f xs with
      | err => trivial
      | panic s => exact hxs.of_panic hc
      | ok ys =>
        intro z hz
        rcases List.mem_cons.mp hz with rfl | hz
        · exact ⟨x, List.mem_cons_self, hx.of_ok hfx⟩
        · obtain ⟨x', hx', hp⟩ := hxs.of_ok hc z hz
          exact ⟨x', List.mem_cons_of_mem _ hx', hp⟩

theorem ofNmt_eq_ok {α} {r : Except Lumina.Model.Nmt.Err α} {a : α} : ofNmt r = .ok a ↔ r = .ok a := by
  rcases r with e | b
  · cases e <;> simp [ofNmt]
  · simp [ofNmt]

theorem sat_ofNmt {α} {r : Except Lumina.Model.Nmt.Err α} (h : r ≠ .error .panic) : Safe (ofNmt r) := by
  rcases r with e | a
  · cases e <;> first | trivial | exact absurd rfl h
  · trivial

/-- `start` and `end` are `u32` in Rust -/
def U32 (p : NsProof) : Prop := p.start < 2 ^ 32 ∧ p.end_ < 2 ^ 32

/-- `start`/`end` are cast to `u32`: hence `% 2 ^ 32` -/
theorem ofRaw_eq_some {st en : Nat} {nodes : List Bytes} {lf : Bytes} {ign : Bool} {p : NsProof}
    (h : NsProof.ofRaw st en nodes lf ign = some p) :
    parseNodes nodes = some p.siblings ∧ p.start = st % 2 ^ 32 ∧ p.end_ = en % 2 ^ 32 ∧
      ∀ l, p.leaf = some l → NsHash.ofBytes? lf = some l := by
  unfold NsProof.ofRaw at h
  split at h
  · cases h
  · rename_i sibs hs
    split at h
    · cases h; exact ⟨hs, rfl, rfl, fun l hl => by cases hl⟩
    · split at h
      · cases h
      · rename_i l hl; cases h; exact ⟨hs, rfl, rfl, fun l' e => by cases e; exact hl⟩

theorem ofRaw_u32 {st en : Nat} {nodes : List Bytes} {lf : Bytes} {ign : Bool} {p : NsProof}
    (h : NsProof.ofRaw st en nodes lf ign = some p) : U32 p := by
  obtain ⟨_, hs, he, _⟩ := ofRaw_eq_some h
  exact ⟨hs ▸ Nat.mod_lt _ (by decide), he ▸ Nat.mod_lt _ (by decide)⟩

theorem proofFromRaw_eq_ok {rp : RawProof} {p : NsProof} :
    proofFromRaw rp = .ok p ↔ NsProof.ofRaw rp.start rp.end_ rp.nodes rp.leafHash rp.ign = some p := by
  unfold proofFromRaw
  split <;> simp [*]

theorem proofFromRaw_u32 {rp : RawProof} {p : NsProof} (h : proofFromRaw rp = .ok p) : U32 p :=
  ofRaw_u32 (proofFromRaw_eq_ok.mp h)

/-- the postcondition is the decoded value itself -/
theorem proofFromRaw_sat (rp : RawProof) : Sat Never (fun p => proofFromRaw rp = .ok p) (proofFromRaw rp) := by
  cases h : proofFromRaw rp with
  | ok p => exact rfl
  | err => trivial
  | panic s =>
    unfold proofFromRaw at h
    split at h <;> cases h

/-- the shape-validated `check_range_proof` call shared by all wrappers -/
theorem checkRangeProof_shape_ne_panic (H : HashFn) {p : NsProof} {first last : Bytes}
    (hv : validateShape p first last = true) (root : NsHash) (leaves : List NsHash)
    (he : p.start + leaves.length ≤ 2 ^ 32) (hm : MonoA leaves)
    (hfirst : ∀ x, leaves.head? = some x → x.minNs = first)
    (hlast : ∀ x, leaves.getLast? = some x → x.maxNs = last) :
    checkRangeProof H p.ignoreMaxNs root leaves p.siblings p.start ≠ .error .panic :=
  checkRangeProof_ne_panic _ _ _ _ _ _ he (validateShape_chain hv hm hfirst hlast)

theorem checkRangeProof_leaves_ne_panic (H : HashFn) {p : NsProof} {ns : Bytes} (hv : validateShape p ns ns = true)
    (hu : U32 p) (root : NsHash) {rawLeaves : List Bytes} (hl : rawLeaves.length = p.rangeLen) :
    checkRangeProof H p.ignoreMaxNs root (rawLeaves.map (hashLeaf H ns)) p.siblings p.start ≠ .error .panic := by
  have hmem : ∀ x ∈ rawLeaves.map (hashLeaf H ns), x.minNs = ns ∧ x.maxNs = ns := by
    intro x hx; obtain ⟨d, _, rfl⟩ := List.mem_map.mp hx; exact ⟨rfl, rfl⟩
  apply checkRangeProof_shape_ne_panic H hv
  · rw [List.length_map, hl]; unfold NsProof.rangeLen; have := hu.1; have := hu.2; omega
  · exact Lumina.Proofs.NmtOrder.leaves_monoA H (ns := fun _ => ns) (d := id)
      (List.pairwise_map.mpr (List.pairwise_of_forall fun _ _ => Lumina.Proofs.Nmt.leB_refl ns))
  · exact fun x hx => (hmem x (List.mem_of_mem_head? hx)).1
  · exact fun x hx => (hmem x (List.mem_of_getLast? hx)).2

theorem safeVerifyRange_ne_panic (H : HashFn) (p : NsProof) (hu : U32 p) (root : NsHash) (rawLeaves : List Bytes)
    (ns : Bytes) : safeVerifyRange H p root rawLeaves ns ≠ .error .panic := by
  unfold safeVerifyRange
  refine guard_ne_panic nofun fun hv => ?_
  unfold verifyRange
  refine guard_ne_panic nofun fun _ => guard_ne_panic nofun fun hl => ?_
  exact checkRangeProof_leaves_ne_panic H (by simpa using hv) hu root (by simpa using hl)

/-- `NamespaceMerkleTree::check_range_proof` adds only the completeness check, whose index is in bounds once
    there are enough siblings -/
theorem nmtCheckRangeProof_ne_panic {H : HashFn} {ign : Bool} {root : NsHash} {leaves proof : List NsHash} {start : Nat}
    (hnl : computeNumLeftSiblings start ≤ proof.length)
    (hc : checkRangeProof H ign root leaves proof start ≠ .error .panic) :
    nmtCheckRangeProof H ign root leaves proof start ≠ .error .panic := by
  unfold nmtCheckRangeProof
  refine guard_ne_panic (guard_ne_panic nofun fun _ => nofun) fun _ => ?_
  refine guard_ne_panic (guard_ne_panic nofun fun _ => nofun) fun _ => ?_
  refine guard_ne_panic nofun fun _ => ?_
  unfold checkProofCompleteness
  simp only
  rw [if_neg (by omega)]
  simp only
  split
  · rename_i e he; exact error_ne_panic hc he
  · nofun

theorem safeVerifyCompleteNamespace_ne_panic (H : HashFn) (p : NsProof) (hu : U32 p) (root : NsHash)
    (rawLeaves : List Bytes) (ns : Bytes) :
    safeVerifyCompleteNamespace H p root rawLeaves ns ≠ .error .panic := by
  unfold safeVerifyCompleteNamespace
  refine guard_ne_panic nofun fun hso => ?_
  replace hso : completeNsShapeOk p ns = true := by simpa using hso
  unfold completeNsShapeOk at hso
  unfold verifyCompleteNamespace
  refine guard_ne_panic nofun fun hlen => ?_
  unfold verifyNamespace
  refine guard_ne_panic nofun fun _ => ?_
  by_cases ha : p.isAbsence = true
  · -- absence: the shape was validated against the leaf's own range
    rw [if_pos ha]
    refine guard_ne_panic nofun fun _ => ?_
    split; · nofun
    rename_i leaf hleaf
    refine guard_ne_panic nofun fun _ => guard_ne_panic nofun fun _ => ?_
    rw [ha, hleaf] at hso
    simp only [↓reduceIte] at hso
    split at hso; · cases hso
    rename_i hord
    have hnl := (validateShape_ok hso).1
    have key : checkRangeProof H p.ignoreMaxNs root [leaf] p.siblings p.start ≠ .error .panic := by
      apply checkRangeProof_shape_ne_panic H hso
      · have := hu.1; simp only [List.length_singleton]; omega
      · exact Lumina.Proofs.Nmt.leB_of_not_ltB (by simpa using hord)
      · intro x hx; cases hx; rfl
      · intro x hx; cases hx; rfl
    simp only
    split; · omega
    repeat' split
    all_goals first | exact key | simp
  · -- presence
    rw [if_neg ha]
    refine guard_ne_panic nofun fun _ => ?_
    rw [if_neg ha] at hso
    simp only [ha, Bool.not_false, Bool.true_and, decide_eq_true_eq, Decidable.not_not] at hlen
    have := nmtCheckRangeProof_ne_panic (root := root) (validateShape_ok hso).1
      (checkRangeProof_leaves_ne_panic H hso hu root hlen)
    simp only
    split
    · rename_i e he; exact error_ne_panic this he
    · split <;> simp

end Lumina.Proofs.Decoders

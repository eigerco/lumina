/-
  C42 — helper lemmas: a step spawns a task, cancels a token, or moves the one task its label
  addresses (`Step.of_step`); the invariants are facts about `Move`.
-/
import Lumina.Model.TasksObs

namespace Lumina.Proofs.Tasks
open Lumina.Model.Tasks
open Lumina.Spec.C42 (Ev specSafe specLive)

/-- the model's task record (core Lean also has a `Task`) -/
abbrev MTask := Lumina.Model.Tasks.Task

inductive Reachable : State → Prop
  | init : Reachable init
  | step {s s' : State} {l : Label} : Reachable s → step s l = some s' → Reachable s'

variable {s s' : State} {l : Label} {ls : List Label} {i j : Nat} {t t' u : MTask} {seen evs tr : List Ev}

theorem getElem?_setTask :
    (setTask s i t).tasks[j]? = if i = j then (if j < s.tasks.length then some t else none) else s.tasks[j]? := by
  simp only [setTask, List.getElem?_set]
  split <;> simp_all

theorem getElem?_setTask_self (h : s.tasks[i]? = some u) :
    (setTask s i t).tasks[i]? = some t := by
  simp [getElem?_setTask, (List.getElem?_eq_some_iff.1 h).1]

theorem isEnded_iff {pc : Pc} : isEnded pc = true ↔ ∃ how, pc = .ended how := by
  cases pc <;> simp [isEnded]

theorem joinResolves_iff :
    joinResolves s i = true ↔ ∃ t, s.tasks[i]? = some t ∧ t.triggered = true := by
  unfold joinResolves
  cases s.tasks[i]? <;> simp

theorem forall_append {P : Nat → MTask → Prop} {ts : List MTask} {n : MTask}
    (hP : ∀ j u, ts[j]? = some u → P j u) (hn : P ts.length n) :
    ∀ j u, (ts ++ [n])[j]? = some u → P j u := by
  intro j u hj
  rw [List.getElem?_append] at hj
  split at hj
  · exact hP j u hj
  · have : j = ts.length := by
      have := (List.getElem?_eq_some_iff.1 hj).1
      simp only [List.length_singleton] at this
      omega
    subst this
    simp only [Nat.sub_self, List.getElem?_cons_zero, Option.some.injEq] at hj
    exact hj ▸ hn

theorem forall_setTask {P : Nat → MTask → Prop}
    (hP : ∀ j u, s.tasks[j]? = some u → P j u) (hn : P i t') :
    ∀ j u, (setTask s i t').tasks[j]? = some u → P j u := by
  intro j u hj
  rw [getElem?_setTask] at hj
  split at hj
  · rename_i hij
    subst hij
    split at hj
    · cases hj; exact hn
    · cases hj
  · exact hP j u hj

inductive Move (s : State) (i : Nat) (t : MTask) : Label → MTask → Prop
  | cancelled : t.pc = .ready → isCancelled s t = true → Move s i t (.begin i) { t with pc := .ended .cancelled }
  | checked : t.pc = .ready → isCancelled s t = false → Move s i t (.begin i) { t with pc := .checked }
  | inner (b : Beh) : t.pc = .checked →
      Move s i t (.inner i b)
        { t with polls := t.polls + 1,
                 latePolls := if isCancelled s t then t.latePolls + 1 else t.latePolls,
                 pc := match b with
                   | .pending => .ready
                   | .ready => .ended .finished
                   | .panic => .ended .panicked }
  | abort : t.pc = .ready → Move s i t (.abort i) { t with pc := .ended .aborted }
  | dropGuard {how : End} : t.pc = .ended how → t.triggered = false →
      Move s i t (.dropGuard i) { t with triggered := true }

inductive Step (s : State) : Label → State → Prop
  | spawn (c : Bool) (tok : Nat) :
      Step s (.spawn c tok) { s with tasks := s.tasks ++ [⟨c, tok, .ready, false, 0, 0⟩] }
  | cancel (tok : Nat) : Step s (.cancel tok) { s with cancelled := tok :: s.cancelled }
  | move {i : Nat} {t t' : MTask} {l : Label} : s.tasks[i]? = some t → Move s i t l t' → Step s l (setTask s i t')

theorem Step.of_step (hs : step s l = some s') : Step s l s' := by
  cases l with
  | spawn c tok => cases hs; exact .spawn c tok
  | cancel tok => cases hs; exact .cancel tok
  | begin i =>
    simp only [step] at hs
    split at hs
    · rename_i t ht
      split at hs
      · rename_i hpc
        split at hs
        · rename_i hc; cases hs; exact .move ht (.cancelled hpc hc)
        · rename_i hc; cases hs; exact .move ht (.checked hpc (by simpa using hc))
      · cases hs
    · cases hs
  | inner i b =>
    simp only [step] at hs
    split at hs
    · rename_i t ht
      split at hs
      · rename_i hpc
        cases b <;> cases hs <;> exact .move ht (.inner _ hpc)
      · cases hs
    · cases hs
  | abort i =>
    simp only [step] at hs
    split at hs
    · rename_i t ht
      split at hs
      · rename_i hpc; cases hs; exact .move ht (.abort hpc)
      · cases hs
    · cases hs
  | dropGuard i =>
    simp only [step] at hs
    split at hs
    · rename_i t ht
      split at hs
      · rename_i how hpc
        split at hs
        · cases hs
        · rename_i hn; cases hs; exact .move ht (.dropGuard hpc (by simpa using hn))
      · cases hs
    · cases hs

theorem Step.keeps {P : MTask → Prop} (h : Step s l s') (hP : ∀ {i t t'}, Move s i t l t' → P t → P t')
    (hj : s.tasks[j]? = some u) (hu : P u) : ∃ u', s'.tasks[j]? = some u' ∧ P u' := by
  cases h with
  | spawn c tok => exact ⟨u, by rw [List.getElem?_append_left (List.getElem?_eq_some_iff.1 hj).1]; exact hj, hu⟩
  | cancel tok => exact ⟨u, hj, hu⟩
  | @move i t t' _ ht hm =>
    by_cases hij : i = j
    · subst hij
      cases ht.symm.trans hj
      exact ⟨t', getElem?_setTask_self hj, hP hm hu⟩
    · exact ⟨u, by simp [getElem?_setTask, hij, hj], hu⟩

theorem Step.moved (h : Step s l s')
    (hl : l = .begin i ∨ (∃ b, l = .inner i b) ∨ l = .abort i ∨ l = .dropGuard i)
    (ht : s.tasks[i]? = some t) (ht' : s'.tasks[i]? = some t') : Move s i t l t' := by
  cases h with
  | spawn c tok => simp at hl
  | cancel tok => simp at hl
  | @move j u u' _ hu hm =>
    have : j = i := by cases hm <;> simp_all
    subst this
    cases hu.symm.trans ht
    cases (getElem?_setTask_self ht).symm.trans ht'
    exact hm

namespace Move

theorem triggered (hm : Move s i t l t') (h : t.triggered = true) : t'.triggered = true := by
  cases hm <;> first | exact h | rfl

/-- after the end nothing but the guard drop happens to a task -/
theorem of_ended {how : End} {n : Nat} (hm : Move s i t l t') (h : t.pc = .ended how ∧ t.polls = n) :
    t'.pc = .ended how ∧ t'.polls = n := by
  cases hm <;> simp_all

theorem ended (hm : Move s i t l t') (h : isEnded t.pc = true) : isEnded t'.pc = true :=
  have ⟨how, hpc⟩ := isEnded_iff.1 h
  isEnded_iff.2 ⟨how, (hm.of_ended ⟨hpc, rfl⟩).1⟩

theorem remaining_lt (hm : Move s i t l t') (hc : isCancelled s t = true) : remaining t' < remaining t := by
  cases hm with
  | cancelled hpc _ => simp only [remaining, hpc]; split <;> omega
  | checked _ h => cases hc.symm.trans h
  | inner b hpc => cases b <;> simp only [remaining, hpc] <;> (try split) <;> omega
  | abort hpc => simp only [remaining, hpc]; split <;> omega
  | dropGuard hpc hn => simp [remaining, hpc, hn]

/-! a move emits `ended i` exactly when the task becomes ended, `joined i` exactly when its handle
    becomes triggered -/

theorem ended_of_ev (hm : Move s i t l t') (ht : s.tasks[i]? = some t)
    (he : Ev.ended j ∈ evOf s l) : j = i ∧ isEnded t'.pc = true := by
  cases hm with
  | inner b hpc => cases b <;> simp_all [evOf, isEnded]
  | _ => simp_all [evOf, isEnded]

theorem ended_cases (hm : Move s i t l t') (ht : s.tasks[i]? = some t) (he : isEnded t'.pc = true) :
    isEnded t.pc = true ∨ Ev.ended i ∈ evOf s l := by
  cases hm with
  | inner b hpc => cases b <;> simp_all [evOf, isEnded]
  | _ => simp_all [evOf, isEnded]

theorem joined_cases (hm : Move s i t l t') (h : t'.triggered = true) :
    t.triggered = true ∨ Ev.joined i ∈ evOf s l := by
  cases hm <;> simp_all [evOf]

/-- the only `joined` event comes from the guard drop, which needs an ended task -/
theorem safe (hm : Move s i t l t') (ht : s.tasks[i]? = some t)
    (hseen : isEnded t.pc = true → Ev.ended i ∈ seen) : specSafe seen (evOf s l) = true := by
  cases hm with
  | inner b hpc => cases b <;> simp [evOf, specSafe]
  | _ => simp_all [evOf, specSafe, isEnded]

end Move

structure Good (s : State) (t : MTask) : Prop where
  trigEnded : t.triggered = true → isEnded t.pc = true
  lateZero : isCancelled s t = false → t.latePolls = 0
  /-- after the cancellation at most one poll of the inner future begins … -/
  lateLe : t.latePolls ≤ 1
  /-- … namely the one whose cancellation check came before the cancellation -/
  lateChecked : isCancelled s t = true → t.pc = .checked → t.latePolls = 0

def Inv (s : State) : Prop := ∀ (j : Nat) (t : MTask), s.tasks[j]? = some t → Good s t

/-- `Good` looks at the state only through `cancelled` -/
theorem good_same (g : Good s t) (hc : s'.cancelled = s.cancelled) : Good s' t := by
  have : isCancelled s' t = isCancelled s t := by simp [isCancelled, hc]
  exact ⟨g.trigEnded, by rw [this]; exact g.lateZero, g.lateLe, by rw [this]; exact g.lateChecked⟩

theorem good_cancel (tok : Nat) (g : Good s t) :
    Good { s with cancelled := tok :: s.cancelled } t := by
  refine ⟨g.trigEnded, fun hn => g.lateZero ?_, g.lateLe, fun _ hpc => ?_⟩
  · simp only [isCancelled, List.contains_cons, Bool.and_eq_false_imp, Bool.or_eq_false_iff] at hn ⊢
    exact fun hc => (hn hc).2
  · cases hold : isCancelled s t
    · exact g.lateZero hold
    · exact g.lateChecked hold hpc

theorem Move.good (hm : Move s i t l t') (g : Good s t) :
    Good s t' := by
  cases hm with
  | cancelled hpc hc => exact ⟨fun _ => rfl, fun h => (by cases hc.symm.trans h), g.lateLe, by simp⟩
  | checked hpc hc =>
    refine ⟨fun h => ?_, fun _ => g.lateZero hc, g.lateLe, fun h => (by cases hc.symm.trans h)⟩
    simpa [hpc, isEnded] using g.trigEnded h
  | inner b hpc =>
    -- a poll that is not the first after the cancellation would start from `checked` with the count at 1
    have hlate : (if isCancelled s t = true then t.latePolls + 1 else t.latePolls) ≤ 1 := by
      split
      · rename_i hc; have := g.lateChecked hc hpc; omega
      · exact g.lateLe
    have hzero : isCancelled s t = false →
        (if isCancelled s t = true then t.latePolls + 1 else t.latePolls) = 0 := fun hc => by
      simpa [hc] using g.lateZero hc
    refine ⟨fun h => ?_, hzero, hlate, by cases b <;> simp⟩
    simpa [hpc, isEnded] using g.trigEnded h
  | abort hpc => exact ⟨fun _ => rfl, g.lateZero, g.lateLe, by simp⟩
  | dropGuard hpc hn => exact ⟨fun _ => by simp [hpc, isEnded], g.lateZero, g.lateLe, g.lateChecked⟩

theorem inv_step (hi : Inv s) (hs : step s l = some s') : Inv s' := by
  cases Step.of_step hs with
  | spawn c tok =>
    exact forall_append (fun j u hj => good_same (hi j u hj) rfl) ⟨by simp, by simp, by simp, by simp⟩
  | cancel tok => exact fun j u hj => good_cancel tok (hi j u hj)
  | move ht hm =>
    exact forall_setTask (fun j u hj => good_same (hi j u hj) rfl) (good_same (hm.good (hi _ _ ht)) rfl)

theorem inv_reachable (h : Reachable s) : Inv s := by
  induction h with
  | init => intro j t h; simp [init] at h
  | step _ hs ih => exact inv_step ih hs

theorem run_cons :
    run s (l :: ls) = some s' ↔ ∃ s1, step s l = some s1 ∧ run s1 ls = some s' := by
  simp only [run, runWith]
  cases step s l <;> simp

theorem reachable_run {s s' : State} {ls : List Label} (h : Reachable s) (hr : run s ls = some s') :
    Reachable s' := by
  induction ls generalizing s with
  | nil => cases hr; exact h
  | cons l ls ih =>
    obtain ⟨s1, h1, hr⟩ := run_cons.mp hr
    exact ih (h.step h1) hr

theorem traceOf_cons
    (h : traceOf s (l :: ls) = some (s', tr)) :
    ∃ s1 tr1, step s l = some s1 ∧ traceOf s1 ls = some (s', tr1) ∧ tr = evOf s l ++ tr1 := by
  simp only [traceOf] at h
  split at h
  · cases h
  · rename_i s1 hs1
    split at h
    · cases h
    · rename_i s2 tr1 htr1
      cases h
      exact ⟨s1, tr1, hs1, htr1, rfl⟩

theorem specSafe_append (seen es tr : List Ev) :
    specSafe seen (es ++ tr) = (specSafe seen es && specSafe (es.reverse ++ seen) tr) := by
  induction es generalizing seen with
  | nil => simp [specSafe]
  | cons e es ih =>
    cases e <;> simp [specSafe, ih, Bool.and_assoc]

/-- every task that has ended has its `ended` event among the events seen so far -/
def SeenInv (s : State) (seen : List Ev) : Prop :=
  ∀ (i : Nat) (t : MTask), s.tasks[i]? = some t → isEnded t.pc = true → Ev.ended i ∈ seen

theorem seenInv_mono {s : State} {seen more : List Ev} (h : SeenInv s seen) : SeenInv s (more ++ seen) :=
  fun i t ht he => List.mem_append_right _ (h i t ht he)

theorem step_safe (hi : SeenInv s seen)
    (hs : step s l = some s') :
    specSafe seen (evOf s l) = true ∧ SeenInv s' ((evOf s l).reverse ++ seen) := by
  cases Step.of_step hs with
  | spawn c tok => exact ⟨rfl, forall_append (seenInv_mono hi) (by simp [isEnded])⟩
  | cancel tok => exact ⟨rfl, seenInv_mono hi⟩
  | move ht hm =>
    refine ⟨hm.safe ht (hi _ _ ht), forall_setTask (seenInv_mono hi) fun he => ?_⟩
    rw [List.mem_append, List.mem_reverse]
    exact (hm.ended_cases ht he).symm.imp_right (hi _ _ ht)

theorem trace_safe {ls : List Label} : ∀ {s s' : State} {seen tr : List Ev}, SeenInv s seen →
    traceOf s ls = some (s', tr) → specSafe seen tr = true := by
  induction ls with
  | nil => intro s s' seen tr _ h; cases h; rfl
  | cons l ls ih =>
    intro s s' seen tr hi h
    obtain ⟨s1, tr1, hs1, htr1, rfl⟩ := traceOf_cons h
    obtain ⟨h1, h2⟩ := step_safe hi hs1
    rw [specSafe_append, h1, Bool.true_and]
    exact ih h2 htr1

/-- the events so far and the state agree: an `ended` event only for ended tasks, and a `joined`
    event for every triggered handle -/
structure LiveInv (s : State) (evs : List Ev) : Prop where
  endedOnly : ∀ i, Ev.ended i ∈ evs → ∃ t : MTask, s.tasks[i]? = some t ∧ isEnded t.pc = true
  joinedAll : ∀ (i : Nat) (t : MTask), s.tasks[i]? = some t → t.triggered = true → Ev.joined i ∈ evs

theorem live_step (hi : LiveInv s evs)
    (hs : step s l = some s') : LiveInv s' (evs ++ evOf s l) := by
  have hst := Step.of_step hs
  have old : ∀ i (t : MTask), s.tasks[i]? = some t → t.triggered = true → Ev.joined i ∈ evs ++ evOf s l :=
    fun i t ht htr => List.mem_append_left _ (hi.joinedAll i t ht htr)
  constructor
  · intro j hm
    rcases List.mem_append.1 hm with hm | hm
    · obtain ⟨u, hu, he⟩ := hi.endedOnly j hm
      exact hst.keeps Move.ended hu he
    · cases hst with
      | spawn c tok => simp [evOf] at hm
      | cancel tok => simp [evOf] at hm
      | move ht hmv =>
        obtain ⟨rfl, he⟩ := hmv.ended_of_ev ht hm
        exact ⟨_, getElem?_setTask_self ht, he⟩
  · cases hst with
    | spawn c tok => exact forall_append old (by simp)
    | cancel tok => exact old
    | move ht hmv =>
      refine forall_setTask old fun htr => List.mem_append.2 ?_
      exact (hmv.joined_cases htr).imp_left (hi.joinedAll _ _ ht)

theorem live_run {ls : List Label} : ∀ {s s' : State} {pre tr : List Ev}, LiveInv s pre →
    traceOf s ls = some (s', tr) → LiveInv s' (pre ++ tr) := by
  induction ls with
  | nil => intro s s' pre tr hi h; cases h; simpa using hi
  | cons l ls ih =>
    intro s s' pre tr hi h
    obtain ⟨s1, tr1, hs1, htr1, rfl⟩ := traceOf_cons h
    simpa [List.append_assoc] using ih (live_step hi hs1) htr1

/-- once every ended task's guard has been dropped, every `ended` event has its `joined` -/
theorem LiveInv.specLive (inv : LiveInv s tr)
    (hq : ∀ (i : Nat) (t : MTask), s.tasks[i]? = some t → isEnded t.pc = true → t.triggered = true) :
    specLive tr = true := by
  unfold Lumina.Spec.C42.specLive
  rw [List.all_eq_true]
  intro e he
  cases e with
  | ended i =>
    obtain ⟨t, ht, hend⟩ := inv.endedOnly i he
    simpa using inv.joinedAll i t ht (hq i t ht hend)
  | _ => rfl

end Lumina.Proofs.Tasks

/-
  Lemmas for C06 (namespace data): soundness of `RowNamespaceData::verify` and `NamespaceData::verify` against
  the DAH of a square, the bridge between the model and the model-free spec `Lumina/Spec/C06.lean`.
-/
import Lumina.Proofs.Sample
import Lumina.Proofs.NmtRange
import Lumina.Model.NsData
import Lumina.Spec.C06

namespace Lumina.Proofs.NsData
open Lumina.Util Lumina.Model.Nmt Lumina.Model.Eds Lumina.Model.NsData
open Lumina.Proofs.Nmt Lumina.Proofs.NmtRange Lumina.Proofs.Eds Lumina.Proofs.Sample

/-- sizes that the Rust types guarantee for a proof: namespaced hashes are 29+29+32 bytes, indices are `u32` -/
def ProofOK (p : NsProof) : Prop :=
  (∀ x ∈ p.siblings, x.WF) ∧ (∀ l, p.leaf = some l → l.WF) ∧ p.start ≤ U32_MAX ∧ p.end_ ≤ U32_MAX

/-- the data bytes of the shares of namespace `ns` in row `r` of the square (model side) -/
def rowNsData (e : Eds) (ns : Bytes) (r : Nat) : List Bytes :=
  match e.axis? .row r with
  | some shares => (shares.filter (fun sh => sh.ns == ns)).map Share.data
  | none => []

open Lumina.Spec.C06 (ltBytes leBytes nsAt rowShares rowCovers expected)

theorem ltBytes_eq : ∀ (a b : Bytes), ltBytes a b = ltB a b := by
  intro a
  induction a with
  | nil => intro b; cases b <;> rfl
  | cons x t ih =>
    intro b
    cases b with
    | nil => rfl
    | cons y u => simp only [ltBytes, ltB, ih u]

theorem leBytes_eq (a b : Bytes) : leBytes a b = leB a b := by
  unfold leBytes leB; rw [ltBytes_eq]

theorem filterMap_eq_map_of {α β} {f : α → Option β} {g : α → β} : ∀ {l : List α}, (∀ x ∈ l, f x = some (g x)) →
    l.filterMap f = l.map g := by
  intro l
  induction l with
  | nil => intro _; rfl
  | cons a t ih =>
    intro h
    simp only [List.filterMap_cons, h a (by simp), List.map_cons]
    rw [ih (fun x hx => h x (by simp [hx]))]

theorem specParity_eq : Lumina.Spec.C06.parityNs = maxNsId := rfl

/-- quadrant flags + share sizes: what `ExtendedDataSquare::new` establishes (as far as namespaces are concerned) -/
structure SquareShape (e : Eds) : Prop where
  flags : ∀ r c sh, r < e.width → c < e.width → e.share? r c = some sh → sh.isParity = !isOdsSquare r c e.width
  size : ∀ sh ∈ e.shares, NS_SIZE ≤ sh.data.length

theorem _root_.Lumina.Proofs.Sample.ValidSquare.shape {e : Eds} {k : Nat} (hv : ValidSquare e k) : SquareShape e :=
  ⟨hv.flags, hv.hsz⟩

/-- the spec's view of a row = the model's row -/
theorem rowShares_eq {e : Eds} (hsq : SquareShape e) {row : Nat} (hrow : row < e.width) {shares : List Share}
    (hax : e.axis? .row row = some shares) :
    rowShares e.width (rawSquare e) row = shares.map (fun sh => (sh.ns, sh.data)) := by
  obtain ⟨hlen, hg⟩ := axis?_some hax
  unfold rowShares
  apply List.ext_getElem?
  intro i
  by_cases hi : i < e.width
  · obtain ⟨sh, _, hshi⟩ := hg i hi
    have hcongr : (List.range e.width).filterMap (fun c => ((rawSquare e)[row * e.width + c]?).map (fun d => (nsAt e.width row c d, d)))
        = (List.range e.width).map (fun c => match shares[c]? with
            | some s => (s.ns, s.data)
            | none => ([], [])) := by
      apply filterMap_eq_map_of
      intro c hc
      have hc' : c < e.width := List.mem_range.mp hc
      obtain ⟨s, hs1, hs2⟩ := hg c hc'
      simp only [axisCoord] at hs1
      have hf := hsq.flags row c s hrow hc' hs1
      unfold Eds.share? at hs1
      simp only [rawSquare, List.getElem?_map, hs1, Option.map_some, hs2, Option.some.injEq,
        Prod.mk.injEq, and_true]
      exact ns_of_quadrant hf
    rw [hcongr]
    simp [List.getElem?_map, List.getElem?_range hi, hshi]
  · have h1 : ((List.range e.width).filterMap (fun c => ((rawSquare e)[row * e.width + c]?).map (fun d => (nsAt e.width row c d, d))))[i]? = none := by
      rw [List.getElem?_eq_none_iff]
      have := List.length_filterMap_le (fun c => ((rawSquare e)[row * e.width + c]?).map (fun d => (nsAt e.width row c d, d))) (List.range e.width)
      simp at this; omega
    rw [h1]
    symm
    rw [List.getElem?_eq_none_iff]; simp; omega

theorem filterMap_ite {α β} (p : α → Bool) (g : α → β) : ∀ (l : List α),
    l.filterMap (fun r => if p r then some (g r) else none) = (l.filter p).map g := by
  intro l
  induction l with
  | nil => rfl
  | cons a t ih =>
    by_cases h : p a = true
    · simp [h, ih]
    · have h' : p a = false := by simpa using h
      simp [h', ih]

/-- on a namespace-sorted row the scan of `get_namespace_data` is the filter -/
theorem scanRow_eq_filter (ns : Bytes) : ∀ (l : List Share), (l.map Share.ns).Pairwise (fun a b => leB a b = true) →
    scanRow ns l = l.filter (fun sh => sh.ns == ns) := by
  intro l
  induction l with
  | nil => intro _; rfl
  | cons s t ih =>
    intro hs
    simp only [List.map_cons, List.pairwise_cons] at hs
    obtain ⟨hst, hst'⟩ := hs
    unfold scanRow
    by_cases h1 : ltB s.ns ns = true
    · have hne : (s.ns == ns) = false := by
        apply Bool.eq_false_iff.mpr
        intro he
        have : s.ns = ns := by simpa using he
        rw [this, ltB_irrefl] at h1; cases h1
      simp only [h1, ↓reduceIte, List.filter_cons, hne, Bool.false_eq_true]
      exact ih hst'
    · simp only [h1, Bool.false_eq_true, ↓reduceIte]
      by_cases h2 : (s.ns == ns) = true
      · simp only [h2, ↓reduceIte, List.filter_cons]
        rw [ih hst']
      · simp only [h2, Bool.false_eq_true, ↓reduceIte, List.filter_cons]
        -- s.ns > ns, and everything after is ≥ s.ns
        symm
        rw [List.filter_eq_nil_iff]
        intro x hx he
        have hxe : x.ns = ns := by simpa using he
        have hle := hst x.ns (List.mem_map.mpr ⟨x, hx, rfl⟩)
        rw [hxe] at hle
        rcases ltB_trichotomy s.ns ns with h | h | h
        · exact h1 h
        · exact h2 (by simp [h])
        · rw [not_ltB_of_leB hle] at h; cases h

/-- what `get_namespace_data` returns (when it returns): for the rows whose root covers `ns`, in order, the shares of `ns` -/
theorem getNamespaceDataAux_data {H : HashFn} {e : Eds} {dah : Dah} {ns : Bytes} :
    ∀ (l : List Nat) (rows : List (Nat × RowNsData)), getNamespaceDataAux H e ns dah l = .ok rows →
      rows.map (fun p => (p.1, p.2.shares.map Share.data)) =
        (l.filter (fun r => (dah.rowContains? H r ns).getD false)).map (fun r => (r, rowNsData e ns r)) := by
  intro l
  induction l with
  | nil => intro rows h; simp [getNamespaceDataAux] at h; subst h; rfl
  | cons r t ih =>
    intro rows h
    unfold getNamespaceDataAux at h
    cases hc : dah.rowContains? H r ns with
    | none => simp [hc] at h
    | some b =>
      cases b with
      | false =>
        simp only [hc] at h
        simp only [List.filter_cons, hc, Option.getD_some, Bool.false_eq_true, ↓reduceIte]
        exact ih rows h
      | true =>
        simp only [hc] at h
        cases hax : e.axis? .row r with
        | none => simp [hax] at h
        | some shares =>
          simp only [hax] at h
          cases hp : pushLeaves H (shares.map Share.leaf) with
          | none => simp [hp] at h
          | some hs =>
            simp only [hp] at h
            cases hg : getNamespaceProof H true (shares.map Share.leaf) ns with
            | error er => simp [hg] at h
            | ok proof =>
              simp only [hg] at h
              cases hrest : getNamespaceDataAux H e ns dah t with
              | error er => simp [hrest] at h
              | ok more =>
                simp only [hrest, Except.ok.injEq] at h
                subst h
                simp only [List.map_cons, List.filter_cons, hc, Option.getD_some, ↓reduceIte, List.cons.injEq, Prod.mk.injEq,
                  true_and]
                refine ⟨?_, ih more hrest⟩
                unfold rowNsData
                rw [hax]
                rw [scanRow_eq_filter ns shares (pushLeaves_sorted_ns hp)]

/-- first conjunct: shares with a presence proof, none with an absence proof -/
theorem rowVerify_ok_iff {H : HashFn} {d : RowNsData} {ns : Bytes} {row : Nat} {dah : Dah} :
    rowVerify H d ns row dah = .ok () ↔ d.shares.isEmpty = d.proof.isAbsence ∧
      ∃ root, dah.rowRoot? row = some root ∧
        luminaVerifyCompleteNamespace H d.proof root (d.shares.map Share.data) ns = .ok () := by
  unfold rowVerify
  rcases dah.rowRoot? row with _ | root
  · cases d.shares.isEmpty <;> cases d.proof.isAbsence <;> simp
  · cases hv : luminaVerifyCompleteNamespace H d.proof root (d.shares.map Share.data) ns <;>
      cases d.shares.isEmpty <;> cases d.proof.isAbsence <;> simp [hv]

/-! The lemmas below assume collision-freeness on a set `S` of inputs that contains the byte strings hashed for the square's
trees (`edsInputs`) and by the verifier (`vcnInputs`) (see `Proofs/Nmt.lean` for why not on all byte strings). -/

/-- the inputs hashed by `NamespaceData::verify` over the given rows -/
def nsDataInputs (H : HashFn) (rows : List RowNsData) (ns : Bytes) : List Bytes :=
  rows.flatMap (fun d => vcnInputs H d.proof (d.shares.map Share.data) ns)

/-- `NamespacedHash::contains` of the root of a namespace-sorted tree, computed from the leaves' namespaces (the formula of
    the spec's `rowCovers`): some leaf is at most `ns`, and all leaves are parity or some non-parity leaf is at least `ns` -/
theorem contains_char_on {H : HashFn} {S : Bytes → Prop} (hi : NoCollOn H S) (hE : S []) {L : List NsHash}
    {root : NsHash} {ns : Bytes} (hne : L ≠ []) (al : AllLeafOn H S L) (hs : SortedNs L)
    (hroot : computeRoot H true L = .ok root) (hT : ∀ y ∈ rootInputs H true (L.length + 1) L, S y)
    (hns : ns.length = NS_SIZE) :
    root.contains H ns = (L.any (fun x => leB x.minNs ns) &&
      (L.all (fun x => x.minNs == maxNsId) || L.any (fun x => x.minNs != maxNsId && leB ns x.minNs))) := by
  have R := computeRoot_range hne (AllLeaf.leafNs al.allLeaf) hs hroot
  have hnotempty : root.isEmptyRoot H = false := by
    unfold NsHash.isEmptyRoot
    have := computeRoot_ne_empty_on hi hE hne al hT hroot
    simpa using this
  unfold NsHash.contains
  rw [Bool.eq_iff_iff]
  simp only [hnotempty, Bool.not_false, Bool.and_true, Bool.and_eq_true, Bool.or_eq_true, List.any_eq_true,
    List.all_eq_true, beq_iff_eq, bne_iff_ne, ne_eq]
  constructor
  · rintro ⟨h1, h2⟩
    refine ⟨?_, ?_⟩
    · obtain ⟨x, hx, hxe⟩ := R.minMem
      exact ⟨x, hx, by rw [← hxe]; exact h1⟩
    · by_cases hall : ∀ x ∈ L, x.minNs = maxNsId
      · exact Or.inl hall
      · right
        have hex : ∃ x ∈ L, x.minNs ≠ maxNsId := Classical.byContradiction fun hno =>
          hall fun x hx => Decidable.byContradiction fun hne' => hno ⟨x, hx, hne'⟩
        obtain ⟨y, hy, hyn, hyl⟩ := R.maxMemNon hex
        exact ⟨y, hy, hyn, leB_trans h2 hyl⟩
  · rintro ⟨⟨x, hx, hxl⟩, h2⟩
    refine ⟨leB_trans (R.minLe x hx) hxl, ?_⟩
    rcases h2 with hall | ⟨y, hy, hyn, hyl⟩
    · rw [R.maxAll hall]; exact leB_maxNsId hns
    · exact leB_trans hyl (R.maxGe y hy hyn)

/-- **soundness of `RowNamespaceData::verify`** for a row whose root range covers the namespace; the hash collision-free
    on `S` ⊇ the square's inputs and the inputs of this verification -/
theorem rowVerify_sound_on {H : HashFn} {S : Bytes → Prop} (hk : HashOKOn H S) {e : Eds} {dah : Dah}
    (hd : Dah.ofEds H e = .ok dah) (hsz : ∀ sh ∈ e.shares, NS_SIZE ≤ sh.data.length) {d : RowNsData} {ns : Bytes}
    {row : Nat} (hS : ∀ y ∈ edsInputs H e, S y)
    (hV : ∀ y ∈ vcnInputs H d.proof (d.shares.map Share.data) ns, S y)
    (hns : ns.length = NS_SIZE) (hp : ProofOK d.proof) (hcont : dah.rowContains? H row ns = some true)
    (h : rowVerify H d ns row dah = .ok ()) :
    ∃ shares, e.axis? .row row = some shares ∧
      d.shares.map Share.data = (shares.filter (fun sh => sh.ns == ns)).map Share.data := by
  obtain ⟨-, root, hroot?, hv⟩ := rowVerify_ok_iff.mp h
  have hc : root.contains H ns = true := by simpa [dah_rowContains?_eq H hroot? ns] using hcont
  obtain ⟨hrow, haxr⟩ := (dah_root?_iff (ax := .row) hd).mp hroot?
  obtain ⟨shares, T⟩ := axisTree_of_root haxr
  obtain ⟨al, hT, hL⟩ := T.inputs_on hsz fun y hy => hS y (axisInputs_mem_eds hrow hy)
  obtain ⟨w1, w2, w3, w4⟩ := hp
  have := vcn_sound_on hk (by simpa using T.ne_nil hrow) al T.sortedNs T.root hT hV
    w1 w2 w3 w4 hns hc (luminaVCN_ok hv)
  rw [List.filter_map] at this
  have := (map_hashLeaf_inj_on hk.inj (n := Share.ns) (d := Share.data) (n' := fun _ => ns) (d' := id)
    (fun sh hsh => hL sh (List.mem_filter.mp hsh).1)
    (fun x hx => hV _ (List.mem_append_left _ (List.mem_map.mpr ⟨x, hx, rfl⟩))) this).2
  rw [List.map_id] at this
  exact ⟨shares, T.axis, this.symm⟩

theorem verifyRows_sound_on {H : HashFn} {S : Bytes → Prop} (hk : HashOKOn H S) {e : Eds} {dah : Dah}
    (hd : Dah.ofEds H e = .ok dah) (hsz : ∀ sh ∈ e.shares, NS_SIZE ≤ sh.data.length) {ns : Bytes}
    (hns : ns.length = NS_SIZE) (hS : ∀ y ∈ edsInputs H e, S y) :
    ∀ (rows : List RowNsData) (idxs : List Nat), rows.length = idxs.length →
      (∀ y ∈ nsDataInputs H rows ns, S y) →
      (∀ r ∈ idxs, dah.rowContains? H r ns = some true) → (∀ d ∈ rows, ProofOK d.proof) →
      verifyRows H ns dah rows idxs = .ok () →
      rows.map (fun d => d.shares.map Share.data) = idxs.map (rowNsData e ns) := by
  intro rows
  induction rows with
  | nil => intro idxs hl _ _ _ _; cases idxs with
    | nil => rfl
    | cons a t => simp at hl
  | cons d ds ih =>
    intro idxs hl hV hc hp h
    cases idxs with
    | nil => simp at hl
    | cons r rs =>
      unfold verifyRows at h
      cases hv : rowVerify H d ns r dah with
      | error er => simp [hv] at h
      | ok u =>
        simp only [hv] at h
        have hV1 : ∀ y ∈ vcnInputs H d.proof (d.shares.map Share.data) ns, S y := fun y hy =>
          hV y (by unfold nsDataInputs; rw [List.flatMap_cons]; exact List.mem_append_left _ hy)
        have hV2 : ∀ y ∈ nsDataInputs H ds ns, S y := fun y hy =>
          hV y (by unfold nsDataInputs; rw [List.flatMap_cons]; exact List.mem_append_right _ hy)
        obtain ⟨shares, hax, hdat⟩ := rowVerify_sound_on hk hd hsz hS hV1 hns (hp d (by simp)) (hc r (by simp)) hv
        simp only [List.map_cons, List.cons.injEq]
        refine ⟨?_, ih rs (by simpa using hl) hV2 (fun x hx => hc x (by simp [hx])) (fun x hx => hp x (by simp [hx])) h⟩
        unfold rowNsData; rw [hax]; exact hdat

/-- **model-level soundness of `NamespaceData::verify`** -/
theorem verify_sound_model_on {H : HashFn} {S : Bytes → Prop} (hk : HashOKOn H S) {e : Eds} {dah : Dah}
    (hd : Dah.ofEds H e = .ok dah) (hsz : ∀ sh ∈ e.shares, NS_SIZE ≤ sh.data.length) {ns : Bytes}
    (hns : ns.length = NS_SIZE) {rows : List RowNsData} (hS : ∀ y ∈ edsInputs H e, S y)
    (hV : ∀ y ∈ nsDataInputs H rows ns, S y) (hp : ∀ d ∈ rows, ProofOK d.proof)
    (h : verify H rows ns dah = .ok ()) :
    rows.map (fun d => d.shares.map Share.data) =
      ((List.range e.width).filter (fun r => (dah.rowContains? H r ns).getD false)).map (rowNsData e ns) := by
  obtain ⟨hrl, _, _, _⟩ := dah_ofEds_roots hd
  unfold verify at h
  split at h
  · cases h
  · split at h
    · cases h
    · simp only [hrl] at h
      by_cases hlen : (List.filter (fun r => (dah.rowContains? H r ns).getD false) (List.range e.width)).length = rows.length
      · simp only [hlen, ne_eq, not_true_eq_false, ↓reduceIte] at h
        refine verifyRows_sound_on hk hd hsz hns hS rows _ hlen.symm hV ?_ hp h
        intro r hr
        have := (List.mem_filter.mp hr).2
        cases hc : dah.rowContains? H r ns with
        | none => simp [hc] at this
        | some b => simp [hc] at this; rw [this]
      · simp [hlen] at h

theorem rowCovers_eq_on {H : HashFn} {S : Bytes → Prop} (hk : HashOKOn H S) {e : Eds} (hsq : SquareShape e)
    {dah : Dah} (hd : Dah.ofEds H e = .ok dah) (hS : ∀ y ∈ edsInputs H e, S y) {row : Nat} (hrow : row < e.width)
    {ns : Bytes} (hns : ns.length = NS_SIZE) :
    rowCovers e.width (rawSquare e) row ns = (dah.rowContains? H row ns).getD false := by
  obtain ⟨shares, root, hroot?, T⟩ := dah_axisTree hd .row hrow
  obtain ⟨al, hT, _⟩ := T.inputs_on hsq.size fun y hy => hS y (axisInputs_mem_eds hrow hy)
  unfold rowCovers
  rw [dah_rowContains?_eq H hroot? ns, rowShares_eq hsq hrow T.axis, Option.getD_some,
    contains_char_on hk.inj (hS [] (nil_mem_edsInputs H e)) (by simpa using T.ne_nil hrow) al T.sortedNs T.root hT hns]
  -- both sides are the same formula over the row's shares
  simp only [List.map_map, List.any_map, List.all_map, Function.comp_def, leBytes_eq, specParity_eq, Share.leafHash,
    hashLeaf]

/-- the spec's expected answer, computed from the model's rows -/
theorem expected_eq'_on {H : HashFn} {S : Bytes → Prop} (hk : HashOKOn H S) {e : Eds} (hsq : SquareShape e)
    {dah : Dah} (hd : Dah.ofEds H e = .ok dah) (hS : ∀ y ∈ edsInputs H e, S y) {ns : Bytes}
    (hns : ns.length = NS_SIZE) :
    expected e.width (rawSquare e) ns =
      ((List.range e.width).filter (fun r => (dah.rowContains? H r ns).getD false)).map (fun r => (r, rowNsData e ns r)) := by
  unfold expected
  rw [filterMap_ite (fun r => rowCovers e.width (rawSquare e) r ns)
    (fun r => (r, ((rowShares e.width (rawSquare e) r).filter (fun p => p.1 == ns)).map Prod.snd))]
  have hf : (List.range e.width).filter (fun r => rowCovers e.width (rawSquare e) r ns) =
      (List.range e.width).filter (fun r => (dah.rowContains? H r ns).getD false) := by
    apply List.filter_congr
    intro r hr
    exact rowCovers_eq_on hk hsq hd hS (List.mem_range.mp hr) hns
  rw [hf]
  apply List.map_congr_left
  intro r hr
  have hr' : r < e.width := List.mem_range.mp (List.mem_filter.mp hr).1
  obtain ⟨shares, _, _, T⟩ := dah_axisTree (H := H) hd .row hr'
  unfold rowNsData
  rw [T.axis, rowShares_eq hsq hr' T.axis, List.filter_map, List.map_map]
  rfl

theorem expected_eq_on {H : HashFn} {S : Bytes → Prop} (hk : HashOKOn H S) {e : Eds} (hsq : SquareShape e)
    {dah : Dah} (hd : Dah.ofEds H e = .ok dah) (hS : ∀ y ∈ edsInputs H e, S y) {ns : Bytes}
    (hns : ns.length = NS_SIZE) :
    (expected e.width (rawSquare e) ns).map Prod.snd =
      ((List.range e.width).filter (fun r => (dah.rowContains? H r ns).getD false)).map (rowNsData e ns) := by
  rw [expected_eq'_on hk hsq hd hS hns, List.map_map]; rfl

end Lumina.Proofs.NsData

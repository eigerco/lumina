/-
  Lemmas for C10: the sequential macro body (`hashBlock`) against the declarative conjunction (`Kind.allowed`).
-/
import Lumina.Model.ShwapHasher

namespace Lumina.Proofs.ShwapHasher
open Lumina.Util Lumina.Model.Nmt Lumina.Model.Eds Lumina.Model.ShwapId Lumina.Model.Decoders Lumina.Model.ShwapHasher
open Lumina.Spec.C10 (allows)

/-- the macro body taken apart once.  The conjunction is its success: the hash when it yields one, nothing when it
    reports an error or panics; it never reports `UnknownMultihashCode`; and a hash means every step succeeded, in the
    macro's order, the hash being the identifier's multihash -/
theorem hashBlock_spec {Id C : Type} (K : Kind Id C) (db : Bytes → Option (Bytes × Bytes)) (store : Nat → Option Dah)
    (input : Bytes) :
    (K.allowed db store input = (hashBlock K db store input).toOption ∧
      hashBlock K db store input ≠ .error .unknownCode) ∧
    ∀ h, hashBlock K db store input = .ok h →
      ∃ cidB cont cid id c dah, db input = some (cidB, cont) ∧ Cid.read cidB = some cid ∧ K.ofCid cid = .ok id ∧
        K.decode id cont = .ok c ∧ store (K.height id) = some dah ∧ K.verify c id dah = .ok () ∧
        h = mhBytes (K.toCid id) := by
  unfold hashBlock Kind.allowed allows
  cases hdb : db input with
  | none => exact ⟨⟨rfl, nofun⟩, nofun⟩
  | some blk =>
    obtain ⟨cidB, cont⟩ := blk
    simp only
    cases hcid : Cid.read cidB with
    | none => exact ⟨⟨rfl, nofun⟩, nofun⟩
    | some cid =>
      simp only [Option.bind_some]
      cases hid : K.ofCid cid with
      | error e => exact ⟨⟨rfl, nofun⟩, nofun⟩
      | ok id =>
        simp only [Except.toOption]
        cases hdec : K.decode id cont with
        | err => exact ⟨⟨rfl, nofun⟩, nofun⟩
        | panic s => exact ⟨⟨rfl, nofun⟩, nofun⟩
        | ok c =>
          simp only [outOpt]
          cases hst : store (K.height id) with
          | none => exact ⟨⟨rfl, nofun⟩, nofun⟩
          | some dah =>
            simp only
            cases hv : K.verify c id dah with
            | err => exact ⟨⟨rfl, nofun⟩, nofun⟩
            | panic s => exact ⟨⟨rfl, nofun⟩, nofun⟩
            | ok u =>
              exact ⟨⟨rfl, nofun⟩, fun _ e => ⟨cidB, cont, cid, id, c, dah, rfl, hcid, hid, hdec, hst, hv, by cases e; rfl⟩⟩

/-- a call with a known code runs the macro body of the kind the code selects -/
theorem multihash_allowed (H : HashFn) (P : Params) (store : Nat → Option Dah) (code : Nat) (input : Bytes)
    (hk : knownCode code = true) :
    allowed H P store code input = (multihash H P store code input).toOption ∧
    multihash H P store code input ≠ .error .unknownCode := by
  unfold multihash allowed
  split; · exact (hashBlock_spec _ _ _ _).1
  split; · exact (hashBlock_spec _ _ _ _).1
  rw [if_pos (by simpa [knownCode, *] using hk)]
  exact (hashBlock_spec _ _ _ _).1

end Lumina.Proofs.ShwapHasher

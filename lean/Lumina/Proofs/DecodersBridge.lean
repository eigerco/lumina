/-
  Bridge between the two transcriptions of lumina's `NamespaceProof` wrappers (fix 07cb5f3): `Model/Nmt`'s
  `Nmt.validateShape` / `luminaVerifyRange` / `luminaVerifyCompleteNamespace` and `Model/Decoders`'
  `Decoders.validateShape` / `safeVerifyRange` / `safeVerifyCompleteNamespace` are the same functions, so the
  C16 no-panic theorems transfer, and what is proved about the `Nmt` functions (C04–C06, used by C10; the honest
  share proofs of C13) applies to the decoders' verifiers.
-/
import Lumina.Proofs.DecodersMain

namespace Lumina.Proofs.Decoders
open Lumina.Util Lumina.Model.Eds
open Lumina.Model

theorem adjacentBad_eq : ∀ l : List Nmt.NsHash, Nmt.adjacentBad l = !Decoders.siblingsOrdered l
  | [] | [_] => rfl
  | a :: b :: r => by
    simp only [Nmt.adjacentBad, Decoders.siblingsOrdered, adjacentBad_eq (b :: r), Nmt.leB, Bool.not_and, Bool.not_not]

/-- a check that both transcriptions make: an error on one side, `false` on the other -/
theorem shapeStep {c : Prop} [Decidable c] {X : Except Nmt.Err Unit} {Y : Bool}
    (h : ¬c → X = if Y = true then .ok () else .error .malformedProof) :
    (if c then .error .malformedProof else X) =
      if (if c then false else Y) = true then Except.ok () else .error .malformedProof := by
  split
  · rfl
  · exact h ‹_›

/-- the tail of both transcriptions: namespace comparisons as error tests, and as a conjunction of their negations -/
theorem shapeTail (x y : Bool) :
    (if x = true then Except.error Nmt.Err.malformedProof else if y = true then .error .malformedProof else .ok ()) =
      if (!x && !y) = true then Except.ok () else .error .malformedProof := by
  cases x <;> cases y <;> rfl

theorem validateShape_bridge (p : Nmt.NsProof) (a b : Bytes) :
    Nmt.validateShape p a b = if Decoders.validateShape p a b then .ok () else .error .malformedProof := by
  unfold Nmt.validateShape Decoders.validateShape
  simp only [adjacentBad_eq, Nmt.leB]
  generalize Nmt.computeNumLeftSiblings p.start = nl
  -- the first three checks are the same tests in the same order
  refine shapeStep fun _ => shapeStep fun _ => shapeStep fun _ => ?_
  -- the two namespace comparisons: error tests on one side, their negations in a conjunction on the other
  rcases p.siblings[nl - 1]? with _ | l <;> rcases p.siblings[nl]? with _ | r <;> by_cases h0 : nl = 0 <;>
    simp only [h0, ne_eq, not_true_eq_false, not_false_eq_true, ↓reduceIte, Bool.false_eq_true, Bool.and_true,
      Bool.true_and, Bool.and_self]
  all_goals first | exact shapeTail _ _ | exact shapeTail _ false | exact shapeTail false _

theorem luminaVerifyRange_eq (H : Nmt.HashFn) (p : Nmt.NsProof) (root : Nmt.NsHash) (leaves : List Bytes) (ns : Bytes) :
    Nmt.luminaVerifyRange H p root leaves ns = Decoders.safeVerifyRange H p root leaves ns := by
  unfold Nmt.luminaVerifyRange Decoders.safeVerifyRange
  rw [validateShape_bridge]
  cases Decoders.validateShape p ns ns <;> simp

theorem completeNamespaceShape_bridge (p : Nmt.NsProof) (ns : Bytes) :
    Nmt.completeNamespaceShape p ns = if Decoders.completeNsShapeOk p ns then .ok () else .error .malformedProof := by
  unfold Nmt.completeNamespaceShape Decoders.completeNsShapeOk
  cases (if p.isAbsence = true then p.leaf else none) with
  | none => simp only [validateShape_bridge]
  | some leaf =>
    simp only [validateShape_bridge]
    by_cases h : Nmt.ltB leaf.maxNs leaf.minNs = true
    · simp [h]
    · simp [h]

theorem luminaVerifyCompleteNamespace_eq (H : Nmt.HashFn) (p : Nmt.NsProof) (root : Nmt.NsHash) (leaves : List Bytes)
    (ns : Bytes) :
    Nmt.luminaVerifyCompleteNamespace H p root leaves ns = Decoders.safeVerifyCompleteNamespace H p root leaves ns := by
  unfold Nmt.luminaVerifyCompleteNamespace Decoders.safeVerifyCompleteNamespace
  rw [completeNamespaceShape_bridge]
  cases Decoders.completeNsShapeOk p ns <;> simp

theorem luminaVerifyRange_ne_panic (H : Nmt.HashFn) (p : Nmt.NsProof) (hu : U32 p) (root : Nmt.NsHash)
    (leaves : List Bytes) (ns : Bytes) : Nmt.luminaVerifyRange H p root leaves ns ≠ .error .panic := by
  rw [luminaVerifyRange_eq]; exact safeVerifyRange_ne_panic H p hu root leaves ns

theorem luminaVerifyCompleteNamespace_ne_panic (H : Nmt.HashFn) (p : Nmt.NsProof) (hu : U32 p) (root : Nmt.NsHash)
    (leaves : List Bytes) (ns : Bytes) : Nmt.luminaVerifyCompleteNamespace H p root leaves ns ≠ .error .panic := by
  rw [luminaVerifyCompleteNamespace_eq]; exact safeVerifyCompleteNamespace_ne_panic H p hu root leaves ns

end Lumina.Proofs.Decoders

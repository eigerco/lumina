/-
  Lemmas about the EDS / DAH model (`Lumina/Model/Eds.lean`): what the collected axes and roots are, and the byte
  strings hashed when the DAH of a square is computed (`axisInputs`, `edsInputs`), which collision-freeness is stated
  relative to (`HashOKOn`, `Proofs/Nmt.lean`).
-/
import Lumina.Proofs.Nmt
import Lumina.Model.Eds

namespace Lumina.Proofs.Eds
open Lumina.Util Lumina.Model.Nmt Lumina.Proofs.Nmt Lumina.Model.Eds

theorem optAll_eq_some_iff {α} : ∀ {l : List (Option α)} {r : List α}, optAll l = some r ↔ l = r.map some
  | [], r => by cases r <;> simp [optAll]
  | none :: t, r => by cases r <;> simp [optAll]
  | some x :: t, r => by
    cases h : optAll t with
    | none =>
      have ht : ∀ r' : List α, t ≠ r'.map some := fun r' e => by rw [optAll_eq_some_iff.mpr e] at h; cases h
      cases r <;> simp [optAll, h, ht]
    | some xs =>
      obtain rfl := optAll_eq_some_iff.mp h
      cases r <;> simp [optAll, h, List.map_inj_right fun _ _ => Option.some.inj]

theorem exceptAll_eq_ok_iff {ε α} : ∀ {l : List (Except ε α)} {r : List α}, exceptAll l = .ok r ↔ l = r.map .ok
  | [], r => by cases r <;> simp [exceptAll]
  | .error e :: t, r => by cases r <;> simp [exceptAll]
  | .ok x :: t, r => by
    cases h : exceptAll t with
    | error e =>
      have ht : ∀ r' : List α, t ≠ r'.map .ok := fun r' e => by rw [exceptAll_eq_ok_iff.mpr e] at h; cases h
      cases r <;> simp [exceptAll, h, ht]
    | ok xs =>
      obtain rfl := exceptAll_eq_ok_iff.mp h
      cases r <;> simp [exceptAll, h, List.map_inj_right fun _ _ => Except.ok.inj]

theorem exceptAll_all_ok {ε α} : ∀ (l : List (Except ε α)), (∀ x ∈ l, ∃ v, x = .ok v) → ∃ r, exceptAll l = .ok r
  | [], _ => ⟨[], rfl⟩
  | a :: t, h => by
    obtain ⟨v, rfl⟩ := h a (by simp)
    obtain ⟨r, hr⟩ := exceptAll_all_ok t (fun x hx => h x (by simp [hx]))
    exact ⟨v :: r, by simp [exceptAll, hr]⟩

theorem map_range_eq_map {α β} {f : Nat → β} {c : α → β} {r : List α} {n : Nat} (h : (List.range n).map f = r.map c) :
    r.length = n ∧ ∀ i, i < n → ∃ x, f i = c x ∧ r[i]? = some x := by
  have hl : r.length = n := by
    have := congrArg List.length h
    simp only [List.length_map, List.length_range] at this
    exact this.symm
  subst hl
  refine ⟨rfl, fun i hi => ⟨r[i], ?_, List.getElem?_eq_getElem hi⟩⟩
  have : ((List.range r.length).map f)[i]? = (r.map c)[i]? := by rw [h]
  rw [List.getElem?_map, List.getElem?_map, List.getElem?_range hi, List.getElem?_eq_getElem hi] at this
  exact Option.some.inj this

theorem axis?_some {e : Eds} {ax : Axis} {index : Nat} {shares : List Share} (h : e.axis? ax index = some shares) :
    shares.length = e.width ∧ ∀ i, i < e.width →
      ∃ sh, e.share? (axisCoord ax index i).1 (axisCoord ax index i).2 = some sh ∧ shares[i]? = some sh :=
  map_range_eq_map (optAll_eq_some_iff.mp h)

theorem axis?_mem {e : Eds} {ax : Axis} {index : Nat} {shares : List Share} (h : e.axis? ax index = some shares) :
    ∀ x ∈ shares, x ∈ e.shares := by
  obtain ⟨hlen, hget⟩ := axis?_some h
  intro x hx
  obtain ⟨n, hn, rfl⟩ := List.getElem_of_mem hx
  obtain ⟨y, hy1, hy2⟩ := hget n (by omega)
  rw [List.getElem?_eq_getElem hn] at hy2
  cases hy2
  exact List.mem_of_getElem? hy1

/-- the last conjunct: the leaves of the axis passed the order check of `push_leaf` -/
theorem axisRoot_ok {H : HashFn} {e : Eds} {ax : Axis} {index : Nat} {root : NsHash}
    (h : e.axisRoot H ax index = .ok root) :
    ∃ shares, e.axis? ax index = some shares ∧ computeRoot H true (shares.map (Share.leafHash H)) = .ok root ∧
      pushLeaves H (shares.map Share.leaf) = some (shares.map (Share.leafHash H)) := by
  unfold Eds.axisRoot Eds.axisLeafHashes at h
  cases ha : e.axis? ax index with
  | none => simp [ha] at h
  | some shares =>
    simp only [ha] at h
    cases hp : pushLeaves H (shares.map Share.leaf) with
    | none => simp [hp] at h
    | some hs =>
      simp only [hp] at h
      have hmap : hs = shares.map (Share.leafHash H) := by
        rw [pushLeaves_some hp]; simp [List.map_map, Share.leaf, Share.leafHash, Function.comp_def]
      subst hmap
      cases hc : computeRoot H true (shares.map (Share.leafHash H)) with
      | error er => simp [hc] at h
      | ok r =>
        simp only [hc, Except.ok.injEq] at h
        exact ⟨shares, rfl, h ▸ hc, hp⟩

theorem dah_rowContains?_eq (H : HashFn) {dah : Dah} {row : Nat} {root : NsHash} (h : dah.rowRoot? row = some root)
    (ns : Bytes) : dah.rowContains? H row ns = some (root.contains H ns) := by
  simp [Dah.rowContains?, h]

theorem dah_ofEds_roots {H : HashFn} {e : Eds} {dah : Dah} (h : Dah.ofEds H e = .ok dah) :
    dah.rowRoots.length = e.width ∧ dah.colRoots.length = e.width ∧
    (∀ i, i < e.width → ∃ r, e.axisRoot H .row i = .ok r ∧ dah.rowRoots[i]? = some r) ∧
    (∀ i, i < e.width → ∃ r, e.axisRoot H .col i = .ok r ∧ dah.colRoots[i]? = some r) := by
  unfold Dah.ofEds at h
  cases hr : exceptAll ((List.range e.width).map (fun i => e.rowRoot H i)) with
  | error er => simp [hr] at h
  | ok rs =>
    cases hc : exceptAll ((List.range e.width).map (fun i => e.colRoot H i)) with
    | error er => simp [hr, hc] at h
    | ok cs =>
      simp only [hr, hc, Except.ok.injEq] at h
      subst h
      obtain ⟨r1, r2⟩ := map_range_eq_map (exceptAll_eq_ok_iff.mp hr)
      obtain ⟨c1, c2⟩ := map_range_eq_map (exceptAll_eq_ok_iff.mp hc)
      exact ⟨r1, c1, r2, c2⟩

theorem dah_root?_iff {H : HashFn} {e : Eds} {dah : Dah} (hd : Dah.ofEds H e = .ok dah) {ax : Axis} {i : Nat}
    {root : NsHash} : dah.root? ax i = some root ↔ i < e.width ∧ e.axisRoot H ax i = .ok root := by
  obtain ⟨hrl, hcl, hrows, hcols⟩ := dah_ofEds_roots hd
  have key : ∀ (l : List NsHash), l.length = e.width →
      (∀ j, j < e.width → ∃ r, e.axisRoot H ax j = .ok r ∧ l[j]? = some r) →
      (l[i]? = some root ↔ i < e.width ∧ e.axisRoot H ax i = .ok root) := by
    intro l hl hall
    constructor
    · intro h
      have hi : i < e.width := by have := (List.getElem?_eq_some_iff.mp h).1; omega
      obtain ⟨r, hr1, hr2⟩ := hall i hi
      rw [h] at hr2; cases hr2
      exact ⟨hi, hr1⟩
    · rintro ⟨hi, hr⟩
      obtain ⟨r, hr1, hr2⟩ := hall i hi
      rw [hr] at hr1; cases hr1
      exact hr2
  cases ax
  · exact key _ hrl hrows
  · exact key _ hcl hcols

/-- inputs hashed for one axis tree: the leaf preimages `0x00 ‖ ns ‖ share` and the inner-node preimages -/
def axisInputs (H : HashFn) (e : Eds) (ax : Axis) (i : Nat) : List Bytes :=
  match e.axis? ax i with
  | none => []
  | some shares =>
    shares.map (fun sh => leafInput sh.ns sh.data) ++
      rootInputs H true (shares.length + 1) (shares.map (Share.leafHash H))

/-- all inputs hashed when the DAH of the square is computed (every row and column tree), plus the empty string
    (the preimage of the constant `EMPTY_ROOT` the verifiers compare against) -/
def edsInputs (H : HashFn) (e : Eds) : List Bytes :=
  [] :: (List.range e.width).flatMap (fun i => axisInputs H e .row i ++ axisInputs H e .col i)

theorem nil_mem_edsInputs (H : HashFn) (e : Eds) : ([] : Bytes) ∈ edsInputs H e := by simp [edsInputs]

theorem axisInputs_mem_eds {H : HashFn} {e : Eds} {ax : Axis} {i : Nat} (hi : i < e.width) {y : Bytes}
    (hy : y ∈ axisInputs H e ax i) : y ∈ edsInputs H e := by
  unfold edsInputs
  apply List.mem_cons_of_mem
  rw [List.mem_flatMap]
  refine ⟨i, List.mem_range.mpr hi, ?_⟩
  cases ax
  · exact List.mem_append_left _ hy
  · exact List.mem_append_right _ hy

theorem _root_.Lumina.Proofs.Sample.share_ns_length {sh : Share} (h : NS_SIZE ≤ sh.data.length) :
    sh.ns.length = NS_SIZE := by
  unfold Share.ns
  split
  · simp [parityNs, maxNsId]
  · simp [List.length_take]; omega

/-- a share flagged by its quadrant is committed under its own prefix inside the original-data quadrant and under the
    parity namespace elsewhere -/
theorem ns_of_quadrant {sh : Share} {r c w : Nat} (hf : sh.isParity = !isOdsSquare r c w) :
    (if r < w / 2 ∧ c < w / 2 then sh.data.take 29 else List.replicate 29 255) = sh.ns := by
  unfold Share.ns
  by_cases hq : r < w / 2 ∧ c < w / 2
  · have : sh.isParity = false := by rw [hf]; simp [isOdsSquare, hq]
    simp [hq, this, NS_SIZE]
  · have : sh.isParity = true := by rw [hf]; simp [isOdsSquare]; omega
    simp [hq, this, parityNs, maxNsId, NS_SIZE]

theorem axis_leafInput_mem {H : HashFn} {e : Eds} {ax : Axis} {i : Nat} {shares : List Share}
    (hax : e.axis? ax i = some shares) {sh : Share} (hsh : sh ∈ shares) :
    leafInput sh.ns sh.data ∈ axisInputs H e ax i := by
  unfold axisInputs; rw [hax]
  exact List.mem_append_left _ (List.mem_map.mpr ⟨sh, hsh, rfl⟩)

theorem axis_allLeafOn {H : HashFn} {e : Eds} {ax : Axis} {i : Nat} {shares : List Share}
    (hax : e.axis? ax i = some shares) (hsz : ∀ sh ∈ shares, NS_SIZE ≤ sh.data.length) :
    AllLeafOn H (fun y => y ∈ axisInputs H e ax i) (shares.map (Share.leafHash H)) := by
  intro x hx
  obtain ⟨sh, hsh, rfl⟩ := List.mem_map.mp hx
  exact ⟨sh.ns, sh.data, Sample.share_ns_length (hsz sh hsh), rfl, axis_leafInput_mem hax hsh⟩

theorem axis_rootInputs_mem {H : HashFn} {e : Eds} {ax : Axis} {i : Nat} {shares : List Share}
    (hax : e.axis? ax i = some shares) {y : Bytes}
    (hy : y ∈ rootInputs H true ((shares.map (Share.leafHash H)).length + 1) (shares.map (Share.leafHash H))) :
    y ∈ axisInputs H e ax i := by
  unfold axisInputs; rw [hax]
  apply List.mem_append_right
  simpa using hy

end Lumina.Proofs.Eds
